-- Root of the `B6` library: every property module (models, specifications and lemma files come in transitively; each `Driver.Cxx` is the root of its own executable).
import B6.Props.C01
import B6.Props.C02
import B6.Props.C03
import B6.Props.C04
import B6.Props.C05
import B6.Props.C06
import B6.Props.C07
import B6.Props.C08
import B6.Props.C09
import B6.Props.C10
import B6.Props.C11
import B6.Props.C12
import B6.Props.C13
import B6.Props.C14
import B6.Props.C15
import B6.Props.C16
import B6.Props.C17
import B6.Props.C18
import B6.Props.C19
import B6.Props.C20
import B6.Props.C21
import B6.Props.C22
import B6.Props.C23
import B6.Props.C24
import B6.Props.C25
import B6.Props.C26
import B6.Props.C27
import B6.Props.C28
import B6.Props.C29
import B6.Props.C30
import B6.Props.C31
import B6.Props.C32
import B6.Props.C33
import B6.Props.C34
import B6.Props.C35
import B6.Props.C36
import B6.Props.C37
import B6.Props.C38
import B6.Props.C39
import B6.Props.C40
