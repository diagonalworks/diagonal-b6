import B6.Model.Varint
/-!
# L0 bits — hand-written `BitVec` models of the bit packings used in IDs and encodings (core Lean only)

Used by the drivers (which must not import `B6/Gen`).  `B6/Props/C10.lean` proves each definition equal to its twin
regenerated from the Go source by `tools/go2lean` (`B6/Gen/Bits.lean`), so it is tied to the code text on every run;
`decodeValueType`, `layoutOK`, `bucketBitsForCount`, the string packings have no twin.  Go `int`/`uint` are 64-bit here.

| Go | model |
|---|---|
| encoding.ZigzagEncode/ZigzagDecode | `Varint.zigzagEncode/zigzagDecode` (in `Model/Varint.lean`) |
| renderer.zigzagEncode/zigzagDecode | `zigzagEncode32/zigzagDecode32` (+ the `int` wrappers) |
| compact.CombineTypeAndNamespace / TypeAndNamespace.Split | `combineTypeNs/splitTypeNs` |
| compact.EncodeValueType / DecodeValue | `encodeValueType/decodeValue` |
| compact.EncodeGeometry / DecodeGeometryLen / DecodeGeometryEncoding | `encodeGeometry/decodeGeometryLen/decodeGeometryEncoding` |
| encoding.uint64MapBucketHeader.Marshal/Unmarshal (the `idAndTag` word), Uint64MapLayout.BucketForID, NewUint64MapBuilder's layout | `headerPack/headerUnpackID/headerUnpackTag/bucketForID/builderLayout` |
| b6.TileIDFromXYZ / TileID.ToXYZ | `tileIDFromXYZ/tileIDToXYZ` |
| ingest.NewLatLngID / LatLngFromID (integer part) | `newLatLngID/latLngFromID` |
| b6.PointIDFromGBPostcode / PostcodeFromPointID | `pointIDFromGBPostcode/postcodeFromPointID` (ASCII strings) |
| b6.FeatureIDFromUKONSCode / UKONSCodeFromFeatureID | `featureIDFromUKONSCode/ukONSCodeFromFeatureID` (ASCII strings) |
-/
namespace B6.Model.Bits
open B6.Model.Varint

/-! ## 32-bit zigzag of the tile encoder (renderer/encoder.go) -/

def zigzagEncode32 (x : BitVec 32) : BitVec 32 := (x <<< 1) ^^^ (x.sshiftRight 31)
def zigzagDecode32 (v : BitVec 32) : BitVec 32 := (v >>> 1) ^^^ (-(v &&& 1#32))
/-- the code before the repair (`int32(value) >> 1`, arithmetic) -/
def zigzagDecode32Arith (v : BitVec 32) : BitVec 32 := (v.sshiftRight 1) ^^^ (-(v &&& 1#32))

/-- `zigzagEncode(value int) uint32` — the `int` is first truncated to `int32`. -/
def rendererZigzagEncode (value : BitVec 64) : BitVec 32 := zigzagEncode32 (value.setWidth 32)
/-- `zigzagDecode(value uint32) int` — the `int32` result is sign-extended to `int`. -/
def rendererZigzagDecode (v : BitVec 32) : BitVec 64 := (zigzagDecode32 v).signExtend 64

/-! ## type + namespace in 16 bits (ingest/compact/encoding.go) -/

/-- `TypeAndNamespace(t<<13) | TypeAndNamespace(ns)`; `t : b6.FeatureType` (an `int`), `ns : Namespace` (`uint16`). -/
def combineTypeNs (t : BitVec 64) (ns : BitVec 16) : BitVec 16 := (t <<< 13).setWidth 16 ||| ns
/-- `(b6.FeatureType(t >> 13), Namespace(t & (1<<13 - 1)))` -/
def splitTypeNs (tn : BitVec 16) : BitVec 64 × BitVec 16 := ((tn >>> 13).setWidth 64, tn &&& 8191#16)

/-! ## value type in the low 2 bits -/

/-- `EncodeValueType(t, v)`; `none` = the Go code panics ("Can't encode value type"). -/
def encodeValueType (t : BitVec 64) (v : BitVec 64) : Option (BitVec 64) :=
  if ((v <<< 2) >>> 2) != v then none else some ((v <<< 2) ||| t)
/-- value part of `DecodeValue`: `v >> ValueTypeBits` -/
def decodeValue (v : BitVec 64) : BitVec 64 := v >>> 2
/-- type part, as read by `UnmarshalValue`-style code: `v & (1<<ValueTypeBits - 1)` -/
def decodeValueType (v : BitVec 64) : BitVec 64 := v &&& 3#64

/-! ## geometry encoding + length -/

/-- `EncodeGeometry(e, l)`; encodings 0 = references, 1 = lat/lngs, 2 = mixed; anything else panics. -/
def encodeGeometry (e : BitVec 8) (l : BitVec 64) : Option (BitVec 64) :=
  if e == 0#8 then some (l <<< 1)
  else if e == 1#8 then some ((l <<< 2) ||| 1#64)
  else if e == 2#8 then some ((l <<< 2) ||| 3#64)
  else none
def decodeGeometryLen (v : BitVec 64) : BitVec 64 :=
  if (v &&& 1#64) == 0#64 then v >>> 1 else v >>> 2
def decodeGeometryEncoding (v : BitVec 64) : BitVec 8 :=
  if (v &&& 1#64) == 0#64 then 0#8 else if (v &&& 2#64) == 0#64 then 1#8 else 2#8

/-! ## Uint64Map bucket header (encoding/uint64map.go); `b` = BucketBits, `t` = TagBits -/

/-- `idAndTag := ((ID >> BucketBits) << TagBits) | uint64(Tag)` -/
def headerPack (id tag b t : BitVec 64) : BitVec 64 := ((id >>> b) <<< t) ||| tag
/-- `ID = uint64(bucket) | ((idAndTag >> TagBits) << BucketBits)` -/
def headerUnpackID (bucket v b t : BitVec 64) : BitVec 64 := bucket ||| ((v >>> t) <<< b)
/-- `Tag = idAndTag & (1<<TagBits - 1)` -/
def headerUnpackTag (v t : BitVec 64) : BitVec 64 := v &&& ((1#64 <<< t) - 1#64)
/-- `BucketForID(id) = id & (1<<BucketBits - 1)` -/
def bucketForID (id b : BitVec 64) : BitVec 64 := id &&& ((1#64 <<< b) - 1#64)
/-- the layout `NewUint64MapBuilder(bucketBits, tagBits)` really uses (repaired code: at least `tagBits` bucket bits). -/
def builderLayout (b t : BitVec 64) : BitVec 64 × BitVec 64 := if BitVec.slt b t then (t, t) else (b, t)
/-- the code before the repair used the requested layout unchanged. -/
def builderLayoutOld (b t : BitVec 64) : BitVec 64 × BitVec 64 := (b, t)

/-- executable form of the domain of `header_roundtrip`: a layout whose header keeps every id bit. -/
def layoutOK (b t : BitVec 64) : Bool := decide (t ≤ b) && decide (b ≤ 63#64)

/-! ## the bucket bits the index builder asks for (ingest/compact/build.go)

`bucketBitsForCount(count) = int(math.Ceil(math.Log(float64(count)) / math.Log(2.0)))`, at least 1.  The Go
code computes this in floating point; the model is the exact integer function (smallest `b` with
`2^b ≥ count`, at least 1).  Measured against the real function (harness `bbsweep`/`bbits`): identical for
every `count < 2^29` (exhaustively); from `count = 2^29` on the float result can be off by one next to a power of two
(2^29 ↦ 30, 2^49+1 ↦ 49, …) — see notes/C10.md.  `bucketBitsClose` is that measured tolerance. -/

def ceilLog2 (n : Nat) : Nat := if n ≤ 1 then 0 else Nat.log2 (n - 1) + 1

def bucketBitsForCount (n : Nat) : Nat := max 1 (ceilLog2 n)

/-- what the correspondence run accepts as the Go result `g` for a count `n`: exact below 2^29, within one
(and still ≥ 1) above. -/
def bucketBitsClose (n g : Nat) : Bool :=
  if n < 2 ^ 29 then g == bucketBitsForCount n
  else decide (1 ≤ g) && (g == bucketBitsForCount n || g + 1 == bucketBitsForCount n || g == bucketBitsForCount n + 1)

/-- `var tagBits` of build.go by feature type (point, path, area, relation). -/
def tagBitsOfType : Nat → Option Nat
  | 0 => some 2 | 1 => some 0 | 2 => some 0 | 3 => some 0 | _ => none

/-! ## tile ids (tiles.go) -/

def tileIDFromXYZ (x y z : BitVec 64) : BitVec 64 := ((z <<< 59) ||| (y <<< z)) ||| x
def tileIDToXYZ (t : BitVec 64) : BitVec 64 × BitVec 64 × BitVec 64 :=
  let z := t >>> 59
  (t &&& ((1#64 <<< z) - 1#64), (t >>> z) &&& ((1#64 <<< z) - 1#64), z)

/-! ## lat/lng point ids (ingest/ids.go), on the E7 integers -/

def newLatLngID (latE7 lngE7 : BitVec 32) : BitVec 64 := ((latE7.setWidth 64) <<< 32) ||| lngE7.setWidth 64
def latLngFromID (v : BitVec 64) : BitVec 32 × BitVec 32 :=
  (((v >>> 32) &&& 4294967295#64).setWidth 32, (v &&& 4294967295#64).setWidth 32)

/-! ## GB postcodes (ids.go) — ASCII strings as `List Char`

`PointIDFromGBPostcode`: drop spaces, upper-case, 5..7 characters of `[0-9A-Z]`, 6 bits each, then 2 bits
of (length − 5).  7·6+2 = 44 bits, so the `uint64` never wraps and `Nat` arithmetic is exact
(`id <<= 6; id |= v` = `id*64 + v` because `v < 64`). -/

def upperAscii (c : Char) : Char := if 'a' ≤ c ∧ c ≤ 'z' then Char.ofNat (c.toNat - 32) else c

/-- `strings.ToUpper(strings.Replace(s, " ", "", -1))` on ASCII input -/
def normalizePostcode (s : List Char) : List Char := (s.filter (· ≠ ' ')).map upperAscii

def postcodeCharValue (c : Char) : Option Nat :=
  if '0' ≤ c ∧ c ≤ '9' then some (c.toNat - '0'.toNat)
  else if 'A' ≤ c ∧ c ≤ 'Z' then some (c.toNat - 'A'.toNat + 10)
  else none

def postcodeFold : List Char → Nat → Option Nat
  | [], acc => some acc
  | c :: cs, acc => match postcodeCharValue c with
    | some v => postcodeFold cs (acc * 64 + v)
    | none => none

/-- `PointIDFromGBPostcode(s).Value`; `none` = `FeatureIDInvalid`. -/
def pointIDFromGBPostcode (s : List Char) : Option Nat :=
  let p := normalizePostcode s
  if p.length < 5 ∨ p.length > 7 then none
  else match postcodeFold p 0 with
    | some id => some (id * 4 + (p.length - 5))
    | none => none

def postcodeValueChar (v : Nat) : Option Char :=
  if v < 10 then some (Char.ofNat ('0'.toNat + v))
  else if v < 36 then some (Char.ofNat ('A'.toNat + (v - 10)))
  else none

def postcodeUnfold : (n : Nat) → (v : Nat) → (acc : List Char) → Option (List Char)
  | 0, _, acc => some acc
  | n + 1, v, acc => match postcodeValueChar (v % 64) with
    | some c => postcodeUnfold n (v / 64) (c :: acc)
    | none => none

/-- `PostcodeFromPointID` on the id value (namespace test left to the caller); `none` = `("", false)`. -/
def postcodeFromPointID (v : Nat) : Option (List Char) :=
  postcodeUnfold (5 + v % 4) (v / 4) []

/-! ## UK ONS codes (ids.go) — ASCII strings as `List Char`

`FeatureIDFromUKONSCode(code, year, t).Value`: 9 bytes, `strconv.Atoi(code[1:])` (which accepts a sign!),
`uint8(code[0]) << 40 | uint8(year-1900) << 32 | uint64(n)`. -/

def digitValue (c : Char) : Option Nat :=
  if '0' ≤ c ∧ c ≤ '9' then some (c.toNat - '0'.toNat) else none

def atoiDigits : List Char → Nat → Option Nat
  | [], acc => some acc
  | c :: cs, acc => match digitValue c with
    | some d => atoiDigits cs (acc * 10 + d)
    | none => none

/-- `strconv.Atoi` on a short (< 19 bytes) ASCII string: optional sign, at least one digit. -/
def atoi (s : List Char) : Option Int :=
  match s with
  | [] => none
  | '-' :: ds => if ds.isEmpty then none else (atoiDigits ds 0).map fun n => -(n : Int)
  | '+' :: ds => if ds.isEmpty then none else (atoiDigits ds 0).map fun n => (n : Int)
  | ds => (atoiDigits ds 0).map fun n => (n : Int)

def featureIDFromUKONSCode (code : List Char) (year : Int) : Option (BitVec 64) :=
  match code with
  | c0 :: rest =>
    if rest.length ≠ 8 then none
    else match atoi rest with
      | none => none
      | some n =>
        let codeBits : BitVec 64 := (BitVec.ofNat 64 (c0.toNat % 256)) <<< 40
        let yearBits : BitVec 64 := ((BitVec.ofInt 8 (year - 1900)).setWidth 64) <<< 32
        some (codeBits ||| yearBits ||| BitVec.ofInt 64 n)
  | [] => none

def digitChar (d : Nat) : Char := Char.ofNat ('0'.toNat + d % 10)

/-- `%08d` of a value `< 2^32`: eight zero-padded digits, more when the number needs them. -/
def fmt08 (n : Nat) : List Char :=
  if n < 100000000 then
    [digitChar (n / 10000000), digitChar (n / 1000000), digitChar (n / 100000), digitChar (n / 10000),
     digitChar (n / 1000), digitChar (n / 100), digitChar (n / 10), digitChar n]
  else (Nat.repr n).toList

/-- `UKONSCodeFromFeatureID` on the id value: (code, year).  The letter is `string(byte(..))`; for bytes
≥ 0x80 Go produces the 2-byte UTF-8 form of U+0080..U+00FF, which as a `Char` is the same code point. -/
def ukONSCodeFromFeatureID (v : BitVec 64) : List Char × Int :=
  let year : Int := (((v >>> 32) &&& 255#64).toNat : Int) + 1900
  let letter := Char.ofNat ((v >>> 40) &&& 255#64).toNat
  (letter :: fmt08 (v &&& 4294967295#64).toNat, year)

end B6.Model.Bits
