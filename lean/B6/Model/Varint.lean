/-!
# L0 varint — Go `encoding/binary` varints, fixed-width little-endian integers, zigzag (core Lean only)

Shared layer.  Executable, total, structural
recursion only (so `decide`/`rfl` can run the definitions on literals).

* `putUvarint v`            = the bytes `binary.PutUvarint(buf, v)` writes (`v : Nat`, meant for `v < 2^64`).
* `uvarintRaw bs`           = exactly what `binary.Uvarint(bs)` returns: `(value, n)` with `n > 0` bytes read,
                              `n = 0` buffer too small (value 0), `n < 0` overflow after `-n` bytes (value 0).
* `uvarint bs`              = `some (value, bytesRead)` on success, `none` on truncation / overflow.
* `putVarint x` / `varint`  = `binary.PutVarint` / `binary.Varint` on `BitVec 64` (two's-complement int64).
* `marshalUint64 v l`, `unmarshalUint64 l buf`, `uint64Length v` = `encoding.MarshalUint64` etc. (ints.go).
* `zigzagEncode` / `zigzagDecode` on `BitVec 64` = `encoding.ZigzagEncode/ZigzagDecode` (ints.go; the decode
  mirrors the repaired code: logical shift, see fixes/C10-zigzag-decode.patch).

The lemmas (prefix-code property etc.) are in `B6/Lemmas/Varint.lean`.
-/
namespace B6.Model.Varint

abbrev Bytes := List UInt8

/-! ## Uvarint -/

/-- `binary.PutUvarint` with `fuel` continuation bytes still allowed.  `putUvarint` uses fuel 9, which
is exact for every `v < 2^64` (at most 9 continuation bytes + 1 final byte). -/
def putUvarintFuel : (fuel : Nat) → (v : Nat) → Bytes
  | 0, v => [v.toUInt8]
  | f + 1, v => if v < 128 then [v.toUInt8] else (v % 128 + 128).toUInt8 :: putUvarintFuel f (v / 128)

/-- bytes written by `binary.PutUvarint(buf, v)` for `v < 2^64`. -/
def putUvarint (v : Nat) : Bytes := putUvarintFuel 9 v

/-- `binary.MaxVarintLen64` -/
def maxVarintLen64 : Nat := 10

/-- loop of `binary.Uvarint`: `s` = shift, `x` = accumulator, `i` = index of the byte looked at. -/
def uvarintRawAux : Bytes → (s x i : Nat) → Nat × Int
  | [], _, _, _ => (0, 0)
  | b :: bs, s, x, i =>
    if i = 10 then (0, -((i : Int) + 1))
    else if b.toNat < 128 then
      if i = 9 ∧ b.toNat > 1 then (0, -((i : Int) + 1)) else (x + b.toNat * 2 ^ s, (i : Int) + 1)
    else uvarintRawAux bs (s + 7) (x + (b.toNat - 128) * 2 ^ s) (i + 1)

/-- exactly the pair `binary.Uvarint(bs)` returns. -/
def uvarintRaw (bs : Bytes) : Nat × Int := uvarintRawAux bs 0 0 0

/-- `binary.Uvarint` as an option: `(value, bytes read)`; `none` = buffer too small or 64-bit overflow. -/
def uvarint (bs : Bytes) : Option (Nat × Nat) :=
  let r := uvarintRaw bs
  if r.2 > 0 then some (r.1, r.2.toNat) else none

/-! ## Varint (signed) on two's-complement 64-bit values -/

/-- the `uint64` that `binary.PutVarint` hands to `PutUvarint`: `ux := uint64(x) << 1; if x < 0 { ux = ^ux }` -/
def varintZig (x : BitVec 64) : BitVec 64 :=
  if x.msb then ~~~(x <<< 1) else x <<< 1

/-- what `binary.Varint` does to the decoded `uint64`: `x := int64(ux >> 1); if ux&1 != 0 { x = ^x }` -/
def varintZag (ux : BitVec 64) : BitVec 64 :=
  if ux &&& 1#64 ≠ 0#64 then ~~~(ux >>> 1) else ux >>> 1

def putVarint (x : BitVec 64) : Bytes := putUvarint (varintZig x).toNat

/-- exactly `binary.Varint(bs)` (it continues in the presence of an error, like the Go code). -/
def varintRaw (bs : Bytes) : BitVec 64 × Int :=
  let r := uvarintRaw bs
  (varintZag (BitVec.ofNat 64 r.1), r.2)

def varint (bs : Bytes) : Option (BitVec 64 × Nat) :=
  match uvarint bs with
  | some (ux, n) => some (varintZag (BitVec.ofNat 64 ux), n)
  | none => none

/-- `int64` argument given as an `Int` (wraps like a Go conversion). -/
def putVarintInt (x : Int) : Bytes := putVarint (BitVec.ofInt 64 x)

def varintInt (bs : Bytes) : Option (Int × Nat) :=
  match varint bs with
  | some (x, n) => some (x.toInt, n)
  | none => none

/-! ## Fixed-width little-endian integers (encoding/ints.go) -/

/-- `encoding.Uint64Length`: bytes needed for `v` (1..8). -/
def uint64Length (v : Nat) : Nat :=
  if v < 2 ^ 8 then 1 else if v < 2 ^ 16 then 2 else if v < 2 ^ 24 then 3 else if v < 2 ^ 32 then 4
  else if v < 2 ^ 40 then 5 else if v < 2 ^ 48 then 6 else if v < 2 ^ 56 then 7 else 8

/-- the `l` bytes `encoding.MarshalUint64(v, l, buffer)` writes: `byte(v & 0xff); v >>= 8`, `l` times. -/
def marshalUint64 (v : Nat) : (l : Nat) → Bytes
  | 0 => []
  | l + 1 => (v % 256).toUInt8 :: marshalUint64 (v / 256) l

/-- little-endian value of a byte list (unbounded). -/
def leValue : Bytes → Nat
  | [] => 0
  | b :: bs => b.toNat + 256 * leValue bs

/-- `encoding.UnmarshalUint64(l, buffer)`; `none` = Go panics (`l = 0` indexes `buffer[-1]`, `l > len`
indexes past the end).  The Go accumulator is a `uint64`, hence the `% 2^64` (only visible for `l > 8`). -/
def unmarshalUint64 (l : Nat) (buf : Bytes) : Option Nat :=
  if l = 0 ∨ buf.length < l then none else some (leValue (buf.take l) % 2 ^ 64)

/-! ## Zigzag (encoding/ints.go) -/

/-- `ZigzagEncode(value int64) uint64 = uint64(value<<1) ^ uint64(value>>63)` (`>>` arithmetic on int64). -/
def zigzagEncode (x : BitVec 64) : BitVec 64 := (x <<< 1) ^^^ (x.sshiftRight 63)

/-- `ZigzagDecode(value uint64) int64 = int64(value>>1) ^ -int64(value&1)` (repaired code: logical shift). -/
def zigzagDecode (v : BitVec 64) : BitVec 64 := (v >>> 1) ^^^ (-(v &&& 1#64))

/-- the code before the repair: `(int64(value) >> 1) ^ (-(int64(value) & 1))` — arithmetic shift. -/
def zigzagDecodeArith (v : BitVec 64) : BitVec 64 := (v.sshiftRight 1) ^^^ (-(v &&& 1#64))

/-! ## `BitVec 64` conveniences -/

def putUvarint64 (v : BitVec 64) : Bytes := putUvarint v.toNat

def uvarint64 (bs : Bytes) : Option (BitVec 64 × Nat) :=
  match uvarint bs with
  | some (v, n) => some (BitVec.ofNat 64 v, n)
  | none => none

end B6.Model.Varint
