/-!
# Model of feature validation and of the builders that apply it — C37

ingest/validate.go (`ValidateFeature`, `ValidatePath`, `ValidatePathForArea`, `ValidateArea`),
ingest/basic.go (`BasicWorldBuilder.Finish`, after fixes/C37-finish-validate-paths-before-areas.patch:
everything except areas is validated and the broken features deleted before areas are validated;
`finishOld` is the single pass before the repair), ingest/mutable.go (`BasicMutableWorld.AddFeature`:
validate the feature, then every referrer with the feature swapped in), ingest/compact/build.go
(`Validator`: streaming validation of paths and areas).

Geometry is a skeleton: a point has a location *slot* or none; everything S2 decides about a closed
path (is the loop valid? is it counter-clockwise?) is an oracle over the list of slots.
-/
namespace B6.Model.Validate

abbrev Id := Nat × Nat

inductive Geo where
  | point (loc : Option Nat)
  | path (refs : List Id)
  | area (polys : List (List Id))
  | other (refs : List Id)
deriving DecidableEq, Repr

structure Feat where
  id : Id
  geo : Geo
deriving DecidableEq, Repr

abbrev World := List Feat

/-- S2: `loop.Validate() == nil` and `loop.Area() <= 2π` on the loop through the given slots -/
structure Oracle where
  loopValid : List Nat → Bool
  ccw : List Nat → Bool

def find (w : World) (id : Id) : Option Feat := List.find? (fun f => decide (f.id = id)) w

/-- An element of a path is a point reference or an inline lat/lng. Inline points are carried in the
reference list as pseudo-IDs of type 9: `(9, slot)` is "the point at location `slot`", never a feature. -/
def isInline (id : Id) : Bool := decide (id.1 = 9)

/-- `FindLocationByID` of a referenced point — or, for an inline element, the point itself
(`pathPoints` / `ValidateArea` read `PointAt(i)` first and only look up references). Inline slots are
numbered from 1000: the harness places inline points on a ring of their own, since the location of a
point FEATURE goes through the point tag's text form and may lose its last digits: the two never coincide. -/
def locOf (w : World) (id : Id) : Option Nat :=
  if id.1 = 9 then some (1000 + id.2) else
  match find w id with
  | some ⟨_, .point (some k)⟩ => some k
  | _ => none

/-- `pathPoints`: the locations of all points, or `none` when one is missing -/
def pathSlots (w : World) (refs : List Id) : Option (List Nat) := refs.mapM (locOf w)

/-- `Tags.ClosedPath`: `Reference(0) == Reference(len(References()) - 1)` and valid — the second index
is the NUMBER OF ID REFERENCES minus one (the last position only when every element is a reference);
an inline element has no valid ID, so a path that starts with one is never "closed". -/
def closedRefs (refs : List Id) : Bool :=
  let k := (refs.filter fun r => !isInline r).length
  match refs.head?, (if k = 0 then none else refs[k - 1]?) with
  | some a, some b => decide (a = b) && !isInline a
  | _, _ => false

inductive PathVerdict where
  | invalid
  | ok
  | clockwise   -- a valid closed loop ordered clockwise: inverted or rejected, the caller decides
deriving DecidableEq, Repr

/-- `ValidatePath` up to the decision about clockwise loops -/
def validatePath (O : Oracle) (w : World) (refs : List Id) : PathVerdict :=
  if refs.length < 2 then .invalid else
  match pathSlots w refs with
  | none => .invalid
  | some slots =>
    if closedRefs refs then
      if !O.loopValid slots.dropLast then .invalid
      else if !O.ccw slots.dropLast then .clockwise
      else .ok
    else .ok

/-- `ValidateArea`'s check of one path (after fixes/C37-validate-area-unresolved-point.patch: the end
points must resolve — an error, no longer a panic in `PointAt`) followed by `ValidatePathForArea`:
at least three points, first and last at the same location. -/
def pathForArea (w : World) (refs : List Id) : Option Bool :=
  if refs.length < 3 then
    -- the end points are looked up first: an unresolvable one is an error either way
    some false
  else
  match refs.head?, refs.getLast? with
  | some a, some b =>
    match locOf w a, locOf w b with
    | some x, some y => some (decide (x = y))
    | _, _ => some false
  | _, _ => some false

/-- before that repair: `PointAt` panics (`none`) on an end point that cannot be resolved -/
def pathForAreaOld (w : World) (refs : List Id) : Option Bool :=
  if refs.length < 3 then some false else
  match refs.head?, refs.getLast? with
  | some a, some b =>
    match locOf w a, locOf w b with
    | some x, some y => some (decide (x = y))
    | _, _ => none
  | _, _ => some false

/-- `ValidateArea`: every path ID resolves to a path that passes; the loop returns at the first
error. `none` = panic (`path.(b6.PhysicalFeature)` on a feature that is not physical). -/
def validatePathsWith (pfa : World → List Id → Option Bool) (w : World) : List Id → Option Bool
  | [] => some true
  | pid :: rest =>
    match find w pid with
    | some ⟨_, .path refs⟩ =>
      (match pfa w refs with
       | none => none
       | some false => some false
       | some true => validatePathsWith pfa w rest)
    | some _ => none
    | none => some false

def validatePaths (w : World) : List Id → Option Bool
  | [] => some true
  | pid :: rest =>
    match find w pid with
    | some ⟨_, .path refs⟩ =>
      (match pathForArea w refs with
       | none => none
       | some false => some false     -- the loop returns at the first error
       | some true => validatePaths w rest)
    | some _ => none                  -- `path.(b6.PhysicalFeature)` on another kind of feature
    | none => some false

def validateArea (w : World) (polys : List (List Id)) : Option Bool := validatePaths w polys.flatten

/-- `ValidateFeature` with `InvertClockwisePaths` = `invert`. Result: `none` = panic; `some (ok, f')`
where `f'` is the feature after validation (a clockwise closed path is reversed in place when
`invert`). -/
def validateFeature (O : Oracle) (invert : Bool) (w : World) (f : Feat) : Option (Bool × Feat) :=
  match f.geo with
  | .path refs =>
    match validatePath O w refs with
    | .invalid => some (false, f)
    | .ok => some (true, f)
    | .clockwise => if invert then some (true, ⟨f.id, .path refs.reverse⟩) else some (false, f)
  | .area polys =>
    match validateArea w polys with
    | some b => some (b, f)
    | none => none
  | _ => some (true, f)

def isArea (f : Feat) : Bool := match f.geo with | .area _ => true | _ => false

/-- one validation stage of `Finish` over the features selected by `sel`: validate each against the
whole map `w`, keep the survivors (with inversions applied), drop the broken ones. Unselected
features pass through. `none` = a validation panicked (fatal: it runs in a goroutine). -/
def stageOn (O : Oracle) (invert : Bool) (sel : Feat → Bool) (ctx : World) : World → Option World
  | [] => some []
  | f :: l =>
    match stageOn O invert sel ctx l with
    | none => none
    | some rest =>
      if sel f then
        match validateFeature O invert ctx f with
        | none => none
        | some (true, f') => some (f' :: rest)
        | some (false, _) => some rest
      else some (f :: rest)

def stage (O : Oracle) (invert : Bool) (sel : Feat → Bool) (w : World) : Option World :=
  stageOn O invert sel w w

/-- `BasicWorldBuilder.Finish` after the repair: non-areas first, then areas against what is left. -/
def finish (O : Oracle) (invert : Bool) (src : World) : Option World :=
  match stage O invert (fun f => !isArea f) src with
  | none => none
  | some w1 => stage O invert isArea w1

/-- `ValidateFeature` before the two repairs (areas: `PointAt` may panic) -/
def validateFeatureOld (O : Oracle) (invert : Bool) (w : World) (f : Feat) : Option (Bool × Feat) :=
  match f.geo with
  | .area polys =>
    match validatePathsWith pathForAreaOld w polys.flatten with
    | some b => some (b, f)
    | none => none
  | _ => validateFeature O invert w f

def stageOld (O : Oracle) (invert : Bool) (ctx : World) : World → Option World
  | [] => some []
  | f :: l =>
    match stageOld O invert ctx l with
    | none => none
    | some rest =>
      match validateFeatureOld O invert ctx f with
      | none => none
      | some (true, f') => some (f' :: rest)
      | some (false, _) => some rest

/-- before the repairs: one pass over everything, then the deletions -/
def finishOld (O : Oracle) (invert : Bool) (src : World) : Option World := stageOld O invert src src

/-- what inverting a clockwise loop is supposed to achieve, for the closed paths of `src`: the reversed
path is a valid counter-clockwise loop. S2 breaks this for degenerate loops (two points of the path
at the same location: the loop and its reversal are the same vertex sequence and both "clockwise"). -/
def invertContract (O : Oracle) (pts : World) (src : World) : Bool :=
  src.all fun f => match f.geo with
    | .path refs =>
      (match validatePath O pts refs with
       | .clockwise => (match pathSlots pts refs.reverse with
          | some slots => O.loopValid slots.dropLast && O.ccw slots.dropLast
          | none => false)
       | _ => true)
    | _ => true

/-! ## the property: every feature of a world is valid in that world -/

/-- a path ID of an area names a closed path of at least three points (closed: same end locations) -/
def areaPathOk (w : World) (pid : Id) : Bool :=
  match find w pid with
  | some ⟨_, .path refs⟩ =>
    decide (3 ≤ refs.length) &&
    (match refs.head?, refs.getLast? with
     | some a, some b => (match locOf w a, locOf w b with
        | some x, some y => decide (x = y)
        | _, _ => false)
     | _, _ => false)
  | _ => false

/-- C37's "`f` is valid in the world `w`" -/
def valid (O : Oracle) (w : World) (f : Feat) : Bool :=
  match f.geo with
  | .path refs =>
    decide (2 ≤ refs.length) &&
    (match pathSlots w refs with
     | none => false
     | some slots => !closedRefs refs || (O.loopValid slots.dropLast && O.ccw slots.dropLast))
  | .area polys => polys.flatten.all (areaPathOk w)
  | _ => true

def allValid (O : Oracle) (w : World) : Bool := w.all (valid O w)

/-! ## BasicMutableWorld.AddFeature -/

def put : World → Feat → World
  | [], f => [f]
  | g :: rest, f => if g.id = f.id then f :: rest else g :: put rest f

def refsOf (f : Feat) : List Id :=
  match f.geo with
  | .point _ => []
  | .path refs => refs.filter fun r => !isInline r     -- `Tags.References()`: ID elements only
  | .area polys => polys.flatten
  | .other refs => refs

/-- IDs of the features that reference `id` or a member of `S` -/
def directRefs (w : World) (id : Id) (S : List Id) : List Id :=
  (w.filter fun f => (refsOf f).any fun t => decide (t = id) || decide (t ∈ S)).map (·.id)

def closure (w : World) (id : Id) : Nat → List Id → Option (List Id)
  | 0, _ => none
  | k + 1, S =>
    let new := (directRefs w id S).filter (fun s => decide (s ∉ S))
    if new.isEmpty then some S else closure w id k (S ++ new)

/-- `allReferences(f, w)`: the transitive referrers (C15 `find_refs_spec`: `FindReferences` returns
exactly the set closed under "references a member"). The iteration answers only with a set it has
found closed; `none` (round bound exceeded) does not occur in practice and is treated as a panic. -/
def referrers (w : World) (id : Id) : Option (List Id) := closure w id (w.length + 2) []

inductive AddResult where
  | ok (w : World)
  | rejected
  | panic
deriving Repr

/-- `BasicMutableWorld.AddFeature` (validation part; `InvertClockwisePaths` = false):
validate `f`; when it replaces an existing feature, validate every referrer with `f` swapped in. -/
def addFeature (O : Oracle) (w : World) (f : Feat) : AddResult :=
  match validateFeature O false w f with
  | none => .panic
  | some (false, _) => .rejected
  | some (true, _) =>
    let w' := put w f
    if (find w f.id).isSome then
      match referrers w f.id with
      | none => .panic
      | some R =>
        match (R.filterMap (find w')).foldl (fun acc g => match acc with
            | some true => (validateFeature O false w' g).map (·.1)
            | other => other) (some true) with
        | none => .panic
        | some false => .rejected
        | some true => .ok w'
    else .ok w'

/-- `MutableOverlayWorld.AddFeature` seen through the layered view `w` (the current features of the
world): validate `f`, then every feature of the referrer set `R` the world's `FindReferences` returned
(C15: the transitive referrers in the layered world) with `f` swapped in — whether or not `f` replaces
a feature of the overlay (fix "skipped referrer validation for base features"). The copies the overlay
makes do not change the layered view, which becomes `put w f`. -/
def addFeatureWith (O : Oracle) (w : World) (f : Feat) (R : List Id) : AddResult :=
  match validateFeature O false w f with
  | none => .panic
  | some (false, _) => .rejected
  | some (true, _) =>
    match (R.filterMap (find (put w f))).foldl (fun acc g => match acc with
        | some true => (validateFeature O false (put w f) g).map (·.1)
        | other => other) (some true) with
    | none => .panic
    | some false => .rejected
    | some true => .ok (put w f)

/-! ## compact.Validator (streaming) -/

inductive VState where
  | valid | invalid | unknown | validNotLoop
deriving DecidableEq, Repr

structure Validator where
  points : World                       -- the locations (points only)
  paths : List (Id × VState)
  queue : List Feat                    -- areas waiting for a path
deriving Repr

def Validator.state (v : Validator) (id : Id) : Option VState := (v.paths.find? (fun p => decide (p.1 = id))).map (·.2)

def Validator.set (v : Validator) (id : Id) (s : VState) : Validator :=
  { v with paths := (id, s) :: v.paths.filter (fun p => decide (p.1 ≠ id)) }

/-- `Validator.validateArea` (marks unseen paths as unknown) -/
def Validator.checkArea (v : Validator) (polys : List (List Id)) : Validator × VState :=
  polys.flatten.foldl (fun (acc : Validator × VState) pid =>
    let (v, st) := acc
    match v.state pid with
    | some s =>
      if s = .invalid || s = .validNotLoop then (v, .invalid)
      else if s = .unknown && st = .valid then (v, .unknown)
      else (v, st)
    | none => (v.set pid .unknown, if st = .valid then .unknown else st)) (v, .valid)

/-- one iteration of the loop of `Validator.validateQueue` over the state (validator, kept, emitted) -/
def drainStep (acc : Validator × List Feat × List Feat) (a : Feat) : Validator × List Feat × List Feat :=
  match a.geo with
  | .area polys =>
    if (acc.1.checkArea polys).2 = .valid then ((acc.1.checkArea polys).1, acc.2.1, acc.2.2 ++ [a])
    else if (acc.1.checkArea polys).2 = .unknown then ((acc.1.checkArea polys).1, acc.2.1 ++ [a], acc.2.2)
    else ((acc.1.checkArea polys).1, acc.2.1, acc.2.2)
  | _ => acc

/-- `Validator.validateQueue`: emits the queued areas that became valid, keeps the unknown ones -/
def Validator.drainQueue (v : Validator) : Validator × List Feat :=
  ({ (v.queue.foldl drainStep (v, [], [])).1 with queue := (v.queue.foldl drainStep (v, [], [])).2.1 },
    (v.queue.foldl drainStep (v, [], [])).2.2)

/-- `isLoop` of compact/build.go -/
def isLoop (w : World) (refs : List Id) : Bool :=
  decide (3 ≤ refs.length) &&
  (match refs.head?, refs.getLast? with
   | some a, some b => (match locOf w a, locOf w b with
      | some x, some y => decide (x = y)
      | _, _ => false)
   | _, _ => false)

/-- `Validator.ValidatePath` / `Validator.ValidateArea`: returns the features emitted by the call -/
def Validator.feed (O : Oracle) (v : Validator) (f : Feat) : Validator × List Feat :=
  match f.geo with
  | .path refs =>
    let (st, out) : VState × List Feat :=
      match validatePath O v.points refs with
      | .invalid => (.invalid, [])
      | .ok => (if isLoop v.points refs then .valid else .validNotLoop, [f])
      | .clockwise =>
        let f' : Feat := ⟨f.id, .path refs.reverse⟩
        (if isLoop v.points refs.reverse then .valid else .validNotLoop, [f'])
    let seen := (v.state f.id).isSome
    let v1 := v.set f.id st
    if seen then
      let (v2, more) := v1.drainQueue
      (v2, out ++ more)
    else (v1, out)
  | .area polys =>
    let (v1, st) := v.checkArea polys
    if st = .valid then (v1, [f])
    else if st = .unknown then ({ v1 with queue := v1.queue ++ [f] }, [])
    else (v1, [])
  | _ => (v, [f])

def Validator.run (O : Oracle) (v : Validator) : List Feat → Validator × List Feat
  | [] => (v, [])
  | f :: fs =>
    let (v1, out1) := v.feed O f
    let (v2, out2) := Validator.run O v1 fs
    (v2, out1 ++ out2)

end B6.Model.Validate
