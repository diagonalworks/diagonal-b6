import B6.Model.Varint
/-!
# L3 posting lists — `ingest/compact/encoding.go` (core Lean only, executable, total)

Mirrors, line by line, the code that exists in /repo/src/diagonal.works/b6/ingest/compact/encoding.go:

* `combine` / `splitTN`            = `CombineTypeAndNamespace` / `TypeAndNamespace.Split` (uint16: 3 type bits, 13 namespace bits)
* `Table`, `fillFromNamespaces`    = `NamespaceTable.FillFromNamespaces` (`""` prepended, sorted; `ToEncoded` = last index of a name)
* `appendStep`, `encodeFrom`, `fill` = `PostingListEncoder.Append` folded by `PostingList.Fill`
  (namespace switch → pad to the 64-byte block and record `NamespaceIndex`; a block start resets `previous`;
  a varint that would cross the block end → pad and re-encode the absolute value; padding byte `0x80`)
* `marshal` / `unmarshal`          = `PostingList.Marshal` / `NewIterator` (`PostingListHeader.Unmarshal`, ids = the rest)
* `next`                           = `Iterator.Next` (padding skip by the trailing `0x80`s of the block, namespace walk,
                                     absolute value at a block start, delta otherwise)
* `advance`                        = `Iterator.Advance` **as repaired by fixes/C08-advance-absent-namespace.patch**
                                     (`advanceOld` keeps the code before the repair for the counterexample)
* `search`                         = `sort.Search` (the loop of the Go standard library)

The encoder only ever looks at `len(p.PostingList.IDs)`, never at the bytes already written, so the model
carries the length and produces the bytes to be appended (`encodeFrom` threads `appendStep` through the list).

An id is a pair `(TypeAndNamespace, Value)`; `Value` is a `uint64` (`< 2^64`, the arithmetic wraps like Go's).
Go panics are `.error .panic`; a varint that does not decode (`binary.Uvarint` returns `n <= 0`, impossible on
encoder output) is `.error .corrupt` — the Go code would go on with `i.i += n`, which is not modelled.
-/
namespace B6.Model.Posting
open B6.Model.Varint

inductive Err where
  | panic     -- the Go code panics (index out of range, `nt.Encode` / `nt.Decode` of an unknown namespace)
  | corrupt   -- `binary.Uvarint` failed (`n <= 0`): never on encoder output; Go's continuation is not modelled
  | fuel      -- a loop did not finish within the model's bound (never happens: see `Lemmas/Posting*`)
  deriving Repr, DecidableEq

/-- `(TypeAndNamespace, Value)` -/
abbrev Id := Nat × Nat
/-- `NamespaceIndex{TypeAndNamespace, Index}` -/
abbrev NsIndex := Nat × Nat

/-- `PostingListBlockSize` (the definitions below use the literal so that `omega` sees it) -/
def blockSize : Nat := 64
/-- `Padding = byte(128)` -/
def paddingByte : UInt8 := 128

/-! ## TypeAndNamespace -/

/-- `TypeAndNamespace(t<<13) | TypeAndNamespace(ns)` — both conversions truncate to `uint16`. -/
def combine (t ns : Nat) : Nat := ((t <<< 13) % 65536) ||| (ns % 65536)

/-- `b6.FeatureType(t >> 13), Namespace(t & ((1 << 13) - 1))` -/
def splitTN (tn : Nat) : Nat × Nat := (tn >>> 13, tn % 8192)

/-! ## Namespace table -/

/-- `NamespaceTable`: `names` = `FromEncoded`; `ToEncoded` is the map built from it (last index wins). -/
structure Table where
  names : List String
  deriving Repr

def insertSorted (s : String) : List String → List String
  | [] => [s]
  | x :: xs => if s < x then s :: x :: xs else x :: insertSorted s xs

/-- `sort.Sort(b6.Namespaces)`: the sorted sequence (equal strings are indistinguishable). -/
def sortNames : List String → List String
  | [] => []
  | x :: xs => insertSorted x (sortNames xs)

/-- `FillFromNamespaces`: `FromEncoded[0] = ""`, then the given namespaces; sorted. -/
def fillFromNamespaces (nss : List String) : Table := ⟨sortNames ("" :: nss)⟩

def lastIdxAux (s : String) : List String → Nat → Option Nat → Option Nat
  | [], _, acc => acc
  | x :: xs, i, acc => lastIdxAux s xs (i + 1) (if x = s then some i else acc)

/-- `nt.Encode(ns)`: `ToEncoded[ns]` (`for i, ns := range FromEncoded { ToEncoded[ns] = Namespace(i) }`), panic if absent. -/
def Table.encode (t : Table) (s : String) : Except Err Nat :=
  match lastIdxAux s t.names 0 none with
  | some i => .ok (i % 65536)
  | none => .error .panic

/-- `nt.Decode(e)`: panics when `e >= len(FromEncoded)`. -/
def Table.decode (t : Table) (e : Nat) : Except Err String :=
  match t.names[e]? with
  | some s => .ok s
  | none => .error .panic

/-- `b6.FeatureID` -/
structure Key where
  type : Nat
  ns : String
  value : Nat
  deriving Repr, DecidableEq

/-- `b6.FeatureID.Less` -/
def Key.less (a b : Key) : Bool :=
  if a.type = b.type then
    if a.ns = b.ns then decide (a.value < b.value) else decide (a.ns < b.ns)
  else decide (a.type < b.type)

/-- `nt.EncodeID` + `CombineTypeAndNamespace`: what the harness hands to `PostingList.Fill`. -/
def Table.encodeKey (t : Table) (k : Key) : Except Err Id :=
  match t.encode k.ns with
  | .ok e => .ok (combine k.type e, k.value)
  | .error e => .error e

/-- `Split` + `nt.Decode`: the `b6.FeatureID` the iterator reports for `(tn, value)`. -/
def Table.decodeId (t : Table) (id : Id) : Except Err Key :=
  match t.decode (splitTN id.1).2 with
  | .ok s => .ok ⟨(splitTN id.1).1, s, id.2⟩
  | .error e => .error e

/-! ## Encoder -/

/-- state of `PostingListEncoder`; `len` = `len(p.PostingList.IDs)` (`ni` is always `len(Namespaces)-1`). -/
structure Enc where
  len : Nat
  tn : Nat
  start : Nat
  previous : Nat
  deriving Repr, DecidableEq

/-- `NewPostingListEncoder` (`tn = TypeAndNamespaceInvalid`) -/
def Enc.init : Enc := ⟨0, 0, 0, 0⟩

/-- number of bytes `padIDBlock` appends -/
def padLen (len : Nat) : Nat := if len % 64 ≠ 0 then 64 - len % 64 else 0

def padBytes (len : Nat) : Bytes := List.replicate (padLen len) 128

/-- `if tnn != p.tn { … }`: bytes appended, the `NamespaceIndex` recorded, state. -/
def nsSwitch (s : Enc) (tnn : Nat) : Bytes × Option NsIndex × Enc :=
  if tnn ≠ s.tn then
    (padBytes s.len, some (tnn, s.len + padLen s.len), { s with tn := tnn, len := s.len + padLen s.len })
  else ([], none, s)

/-- `if len(IDs)%PostingListBlockSize == 0 { p.start = len(IDs); p.previous = 0 }` -/
def blockReset (s : Enc) : Enc :=
  if s.len % 64 = 0 then { s with start := s.len, previous := 0 } else s

/-- `id.Value - p.previous` on `uint64` (wraps around when `previous > value`, i.e. on unsorted input).
For `v, prev < 2^64` this is `(v + 2^64 - prev) % 2^64` (`wrapSub_eq_mod` in Lemmas/Posting); it is written
without the addition of a huge literal because the kernel's unfolding of `Nat.add _ 2^64` does not terminate
in practice. -/
def wrapSub (v prev : Nat) : Nat := if prev ≤ v then v - prev else 2 ^ 64 - (prev - v)

/-- the rest of `Append`: delta varint, or pad + absolute varint when it would cross the block end. -/
def emit (s : Enc) (v : Nat) : Bytes × Enc :=
  let d := putUvarint (wrapSub v s.previous)
  if (s.len - s.start) + d.length > 64 then
    let a := putUvarint v
    (padBytes s.len ++ a,
      { s with len := s.len + padLen s.len + a.length, start := s.len + padLen s.len, previous := v })
  else
    (d, { s with len := s.len + d.length, previous := v })

/-- `PostingListEncoder.Append(id)` -/
def appendStep (s : Enc) (id : Id) : Bytes × Option NsIndex × Enc :=
  let r1 := nsSwitch s id.1
  let r3 := emit (blockReset r1.2.2) id.2
  (r1.1 ++ r3.1, r1.2.1, r3.2)

/-- the bytes and namespace entries appended by `Append`ing `ids` one after the other from state `s`. -/
def encodeFrom : Enc → List Id → Bytes × List NsIndex
  | _, [] => ([], [])
  | s, id :: rest =>
    let r := appendStep s id
    let t := encodeFrom r.2.2 rest
    (r.1 ++ t.1, r.2.1.toList ++ t.2)

/-- `PostingListHeader` -/
structure Header where
  token : Bytes
  features : Nat
  namespaces : List NsIndex
  deriving Repr, DecidableEq

/-- `PostingList` -/
structure PostingList where
  header : Header
  ids : Bytes
  deriving Repr, DecidableEq

/-- `PostingList.Fill(token, iterator over ids)` -/
def fill (token : Bytes) (ids : List Id) : PostingList :=
  let r := encodeFrom Enc.init ids
  ⟨⟨token, ids.length, r.2⟩, r.1⟩

/-- the `(Header, bytes)` pair of DESIGN §5 -/
def encode (ids : List Id) : Header × Bytes := ((fill [] ids).header, (fill [] ids).ids)

/-! ## Marshal / Unmarshal -/

def marshalNss (nss : List NsIndex) : Bytes :=
  putUvarint nss.length ++ nss.flatMap fun e => putUvarint e.1 ++ putUvarint e.2

/-- `PostingListHeader.Marshal`: `MarshalString(Token)`, `Features`, `Namespaces`. -/
def marshalHeader (h : Header) : Bytes :=
  putUvarint h.token.length ++ h.token ++ putUvarint h.features ++ marshalNss h.namespaces

/-- `PostingList.Marshal` -/
def marshal (p : PostingList) : Bytes := marshalHeader p.header ++ p.ids

def unmarshalNss : Nat → Bytes → Option (List NsIndex × Bytes)
  | 0, bs => some ([], bs)
  | n + 1, bs =>
    match uvarint bs with
    | none => none
    | some (tn, a) =>
      match uvarint (bs.drop a) with
      | none => none
      | some (idx, b) =>
        match unmarshalNss n ((bs.drop a).drop b) with
        | none => none
        | some (r, rest) => some ((tn % 65536, idx) :: r, rest)

/-- `NewIterator`: `header.Unmarshal(buffer)`, `ids = buffer[start:]`; `none` = malformed buffer (Go: garbage or panic). -/
def unmarshal (buf : Bytes) : Option PostingList :=
  match uvarint buf with
  | none => none
  | some (l, a) =>
    let b1 := buf.drop a
    if b1.length < l then none else
    match uvarint (b1.drop l) with
    | none => none
    | some (features, b) =>
      let b2 := (b1.drop l).drop b
      match uvarint b2 with
      | none => none
      | some (n, c) =>
        match unmarshalNss n (b2.drop c) with
        | none => none
        | some (nss, rest) => some ⟨⟨b1.take l, features, nss⟩, rest⟩

/-! ## Iterator -/

/-- the mutable fields of `Iterator` (`header`, `ids`, `nt` never change) -/
structure It where
  ns : Nat
  i : Nat
  value : Nat
  deriving Repr, DecidableEq

/-- `NewIterator`: `ns: 0, i: 0` -/
def It.start : It := ⟨0, 0, 0⟩

/-- `for i.ids[end-1] == Padding { end-- }` started at `end` -/
def scanBack (ids : Bytes) : Nat → Except Err Nat
  | 0 => .error .panic
  | e + 1 =>
    match ids[e]? with
    | none => .error .panic
    | some b => if b = 128 then scanBack ids e else .ok (e + 1)

def walkIndexAux (i : Nat) : List NsIndex → Nat → Nat
  | [], ns => ns
  | e :: rest, ns => if i ≥ e.2 then walkIndexAux i rest (ns + 1) else ns

/-- `for i.ns+1 < len(Namespaces) && i.i >= Namespaces[i.ns+1].Index { i.ns++ }` -/
def walkIndex (nss : List NsIndex) (i ns : Nat) : Nat := walkIndexAux i (nss.drop (ns + 1)) ns

/-- `Iterator.Next` -/
def next (p : PostingList) (it : It) : Except Err (Bool × It) :=
  let len := p.ids.length
  if it.i ≥ len then .ok (false, it) else
  let blockEnd := (it.i / 64 + 1) * 64
  match (if blockEnd < len then scanBack p.ids blockEnd else .ok blockEnd) with
  | .error e => .error e
  | .ok end_ =>
    let i1 := if it.i = end_ then blockEnd else it.i
    if it.i = end_ ∧ blockEnd ≥ len then .ok (false, { it with i := blockEnd }) else
    let ns := walkIndex p.header.namespaces i1 it.ns
    let r := uvarintRaw (p.ids.drop i1)
    if r.2 ≤ 0 then .error .corrupt else
    let value := if i1 % 64 = 0 then r.1 else (it.value + r.1) % 2 ^ 64
    .ok (true, ⟨ns, i1 + r.2.toNat, value⟩)

/-- `(Namespaces[i.ns].TypeAndNamespace, i.value)`: what `FeatureID()` decodes; panics when `i.ns` is out of range. -/
def cur (p : PostingList) (it : It) : Except Err Id :=
  match p.header.namespaces[it.ns]? with
  | some e => .ok (e.1, it.value)
  | none => .error .panic

/-- `Iterator.FeatureID()` -/
def featureID (p : PostingList) (t : Table) (it : It) : Except Err Key :=
  match cur p it with
  | .ok id => t.decodeId id
  | .error e => .error e

def walkTNAux (nn : Nat) : List NsIndex → Nat → Nat
  | [], ns => ns
  | e :: rest, ns => if e.1 < nn then walkTNAux nn rest (ns + 1) else ns

/-- `for ns < len(Namespaces) && Namespaces[ns].TypeAndNamespace < nn { ns++ }` -/
def walkTN (nss : List NsIndex) (nn ns : Nat) : Nat := walkTNAux nn (nss.drop ns) ns

/-- loop of `sort.Search(n, f)`: `for i < j { h := int(uint(i+j) >> 1); if !f(h) { i = h + 1 } else { j = h } }` -/
def searchLoop (f : Nat → Except Err Bool) : Nat → Nat → Nat → Except Err Nat
  | 0, _, _ => .error .fuel
  | fuel + 1, i, j =>
    if i < j then
      let h := (i + j) / 2
      match f h with
      | .error e => .error e
      | .ok false => searchLoop f fuel (h + 1) j
      | .ok true => searchLoop f fuel i h
    else .ok i

/-- `sort.Search(n, f)` (`n ≤ 0` gives 0) -/
def search (n : Nat) (f : Nat → Except Err Bool) : Except Err Nat := searchLoop f (n + 1) 0 n

/-- the predicate handed to `sort.Search`: first varint of block `block+start` is `>= id.Value`
(slicing `ids[pos:]` panics when `pos > len`). -/
def blockPred (ids : Bytes) (start v : Nat) (block : Nat) : Except Err Bool :=
  if (block + start) * 64 > ids.length then .error .panic
  else .ok (decide ((uvarintRaw (ids.drop ((block + start) * 64))).1 ≥ v))

/-- `for i.Next() { if !i.FeatureID().Less(id) { return true } }`; `none` = the loop ended (`Next` returned false). -/
def scan (p : PostingList) (t : Table) (key : Key) : Nat → It → Except Err (Option It)
  | 0, _ => .error .fuel
  | fuel + 1, it =>
    match next p it with
    | .error e => .error e
    | .ok (false, _) => .ok none
    | .ok (true, it') =>
      match featureID p t it' with
      | .error e => .error e
      | .ok c => if !c.less key then .ok (some it') else scan p t key fuel it'

/-- `end` of `Advance`'s block range: `Namespaces[ns+1].Index / 64`, or `((len(ids) - 1) / 64) + 1` for the last namespace -/
def nsEndBlock (p : PostingList) (ns : Nat) : Nat :=
  match p.header.namespaces[ns + 1]? with
  | some e' => e'.2 / 64
  | none => (p.ids.length - 1) / 64 + 1

/-- the end of `Advance`: true on the id the scan stopped on, or false with the iterator restored
(`i.ns, i.i, i.value = ons, oi, ovalue`) -/
def scanResult (it : It) : Except Err (Option It) → Except Err (Bool × It)
  | .error e => .error e
  | .ok (some it') => .ok (true, it')
  | .ok none => .ok (false, it)

/-- the last part of `Advance` (the target's namespace `ns` is in the list): binary search for the block,
then scan; `e = Namespaces[ns]`. -/
def advanceSearch (p : PostingList) (t : Table) (key : Key) (it : It) (ns : Nat) (e : NsIndex) :
    Except Err (Bool × It) :=
  let ii := if ns ≠ it.ns then e.2 else it.i
  let start := ii / 64
  let end_ := nsEndBlock p ns
  match search (end_ - start) (blockPred p.ids start key.value) with
  | .error e => .error e
  | .ok j =>
    let ii' := if j > 0 then (j + start - 1) * 64 else (j + start) * 64
    scanResult it (scan p t key (p.ids.length + 1) { it with i := ii' })

/-- `Advance` after the optional first `Next`: `it` holds a current value. -/
def advanceFrom (fixed : Bool) (p : PostingList) (t : Table) (key : Key) (it : It) : Except Err (Bool × It) :=
  match featureID p t it with
  | .error e => .error e
  | .ok current =>
    -- if current := i.FeatureID(); id.Less(current) || id == current { return true }
    if key.less current || key = current then .ok (true, it) else
    match t.encode key.ns with
    | .error e => .error e
    | .ok enc =>
      let nss := p.header.namespaces
      let nn := combine key.type enc
      let ns := walkTN nss nn it.ns
      match nss[ns]? with
      | none => .ok (false, it)          -- ns == len(Namespaces)
      | some e =>
        if e.1 > nn then
          -- i.ns = ns; i.i = Namespaces[ns].Index; i.value, n = Uvarint(ids[i.i:]); (repaired: i.i += n)
          if e.2 > p.ids.length then .error .panic else
          let r := uvarintRaw (p.ids.drop e.2)
          if fixed then
            if r.2 ≤ 0 then .error .corrupt else .ok (true, ⟨ns, e.2 + r.2.toNat, r.1⟩)
          else .ok (true, ⟨ns, e.2, r.1⟩)
        else advanceSearch p t key it ns e

/-- `Iterator.Advance(key)`; `fixed = false` is the code before fixes/C08-advance-absent-namespace.patch
(the branch for a namespace that is in the table but not in the list left `i.i` on the value it had just read). -/
def advanceWith (fixed : Bool) (p : PostingList) (t : Table) (key : Key) (it0 : It) : Except Err (Bool × It) :=
  -- if i.i == 0 { if !i.Next() { return false } }
  match (if it0.i = 0 then next p it0 else .ok (true, it0)) with
  | .error e => .error e
  | .ok (false, it) => .ok (false, it)
  | .ok (true, it) => advanceFrom fixed p t key it

/-- `Iterator.Advance` (repaired code) -/
def advance (p : PostingList) (t : Table) (key : Key) (it : It) : Except Err (Bool × It) :=
  advanceWith true p t key it

/-- `Iterator.Advance` before the repair -/
def advanceOld (p : PostingList) (t : Table) (key : Key) (it : It) : Except Err (Bool × It) :=
  advanceWith false p t key it

/-! ## Draining -/

/-- call `Next` until it returns false, collecting `(TypeAndNamespace, value)`; `none` = error / out of fuel -/
def drainFuel (p : PostingList) : Nat → It → Option (List Id)
  | 0, _ => none
  | fuel + 1, it =>
    match next p it with
    | .error _ => none
    | .ok (false, _) => some []
    | .ok (true, it') =>
      match cur p it', drainFuel p fuel it' with
      | .ok id, some rest => some (id :: rest)
      | _, _ => none

/-- every successful `Next` consumes at least one byte, so `len + 1` calls suffice -/
def drain (p : PostingList) : Option (List Id) := drainFuel p (p.ids.length + 1) It.start

/-! ## The order the property speaks about -/

/-- an id as one number: `(TypeAndNamespace, value)` lexicographically (`value < 2^64`) -/
def keyNat (id : Id) : Nat := id.1 * 2 ^ 64 + id.2

/-- strictly increasing in `(TypeAndNamespace, value)` — linear-time check used by the driver -/
def sortedChain : List Id → Bool
  | [] => true
  | [_] => true
  | a :: b :: rest => decide (keyNat a < keyNat b) && sortedChain (b :: rest)

/-- the property's domain for an id list: values are `uint64`, `TypeAndNamespace` is a non-zero `uint16`
(zero = point with the invalid namespace `""`, which the encoder takes for "no namespace yet"). -/
def validId (id : Id) : Bool := decide (id.2 < 2 ^ 64) && decide (id.1 ≠ 0) && decide (id.1 < 65536)

end B6.Model.Posting
