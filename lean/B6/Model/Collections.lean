/-!
# Model of the collection functions (property C24)

Go sources mirrored: `api/functions/collections.go` (pairCollection, takeCollection, top, filterCollection,
sumByKey, countValues, countKeys, countValidKeys, flattenCollection, joinMissingCollection),
`api/functions/map.go` (mapCollection, mapItemsCollection), `collections.go` (ArrayCollection, `b6.Count`,
adaptIterator's type assertion), `values.go` (`b6.Less`, `b6.Equal`, `b6.Greater`),
`ingest/features.go` (`CollectionFeature.FindValue/FindValues`, `sort.Search`), `container/heap` (up/down).
The model follows the code AFTER the fixes `C24-take-negative-count` (take clamps n < 0 to 0) and
`C24-top-empty` (top starts from an empty heap); `takeCountOld` / `topOld` keep the unrepaired behaviour
for the counterexample theorems.

Iterator style: every lazy collection is a `next` function on an explicit state, mirroring the Go `Next()`
body; the inner iterator a Go iterator wraps is seen through `Src` = "items still to come + how the
iteration ends" (nothing else of an inner iterator is observable through Next/Key/Value).
`drain` calls `next` until it stops, one unit of fuel per call.
-/
namespace B6.Model.Collections

/-! ## values -/

/-- b6 values that occur as keys and values here.  A float64 is carried as an order-preserving integer code
(`+0`,`-0` ↦ 0; positive x ↦ bits(x); negative x ↦ −bits(|x|)); NaN does not occur. -/
inductive Val where
  | int (i : Int)
  | float (c : Int)
  | str (s : String)
  | fid (t : Nat) (ns : String) (v : Nat)
  | bool (b : Bool)
  deriving DecidableEq, Repr

/-- Go `int` arithmetic wraps at 64 bits -/
def wrap64 (i : Int) : Int := Int.bmod i (2 ^ 64)

/-- the code of `float64(i)` for a Go int: exact up to 53 significant bits, beyond that IEEE
round-to-nearest-even on the bits that do not fit (a carry out of the mantissa lands in the exponent field) -/
def floatCodeOfInt (i : Int) : Option Int :=
  if i = 0 then some 0 else
  let n := i.natAbs
  let k := Nat.log2 n
  let q : Nat :=
    if k ≤ 52 then n * 2 ^ (52 - k)
    else
      let sh := k - 52
      let q0 := n / 2 ^ sh
      let rem := n % 2 ^ sh
      let half := 2 ^ (sh - 1)
      if rem > half || (rem == half && q0 % 2 == 1) then q0 + 1 else q0
  let bits : Nat := (1023 + k) * 2 ^ 52 + (q - 2 ^ 52)
  some (if i < 0 then -(bits : Int) else (bits : Int))

/-- the float code of an int or float value.  Comparison outcome of `goLess` / `goEqual` / `goGreater` below: `some b`, or
`none` = the Go function returned an error (or the model does not cover it) -/
def toFloatCode : Val → Option Int
  | .float c => some c
  | .int i => floatCodeOfInt i
  | _ => none

def fidLess (t1 : Nat) (n1 : String) (v1 : Nat) (t2 : Nat) (n2 : String) (v2 : Nat) : Bool :=
  if t1 = t2 then (if n1 = n2 then decide (v1 < v2) else decide (n1 < n2)) else decide (t1 < t2)

/-- `b6.Less(a, b)`; note the if/else-if chain: an int `a` with a non-int `b` is an error even when `b` is a float -/
def goLess (a b : Val) : Option Bool :=
  match a with
  | .int x => match b with
    | .int y => some (decide (x < y))
    | _ => none
  | .float x => match toFloatCode b with
    | some y => some (decide (x < y))
    | none => none
  | .str x => match b with
    | .str y => some (decide (x < y))
    | _ => none
  | .fid t1 n1 v1 => match b with
    | .fid t2 n2 v2 => some (fidLess t1 n1 v1 t2 n2 v2)
    | _ => none
  | .bool _ => none

/-- `b6.Equal(a, b)` -/
def goEqual (a b : Val) : Option Bool :=
  match a with
  | .int x => match b with
    | .int y => some (decide (x = y))
    | _ => none
  | .float x => match toFloatCode b with
    | some y => some (decide (x = y))
    | none => none
  | .str x => match b with
    | .str y => some (decide (x = y))
    | _ => none
  | .fid t1 n1 v1 => match b with
    | .fid t2 n2 v2 => some (decide (t1 = t2 ∧ n1 = n2 ∧ v1 = v2))
    | _ => none
  | .bool _ => none

/-- `b6.Greater(a, b)`: `Less` must be false, then `Equal` must be false -/
def goGreater (a b : Val) : Option Bool :=
  match goLess a b with
  | none => none
  | some true => some false
  | some false => match goEqual a b with
    | none => none
    | some e => some (!e)

/-! ## iterators -/

abbrev Item := Val × Val

inductive End where
  | done    -- Next returned (false, nil)
  | err     -- Next returned an error
  deriving DecidableEq, Repr

/-- what a consumer can still observe of an inner iterator -/
structure Src where
  rest : List Item
  fin : End
  deriving DecidableEq, Repr

inductive Step (σ : Type) where
  | yield (it : Item) (s : σ)   -- Next = (true, nil); Key(), Value() = it
  | stop                        -- Next = (false, nil)
  | fail                        -- Next = (_, err)

/-- arrayIterator / pairCollection / any inner iterator -/
def Src.next (s : Src) : Step Src :=
  match s.rest with
  | x :: xs => .yield x ⟨xs, s.fin⟩
  | [] => match s.fin with
    | .done => .stop
    | .err => .fail

inductive Fin where
  | done | err | nofuel
  deriving DecidableEq, Repr

/-- `for { ok, err := i.Next(); if err != nil → err; if !ok → done; collect Key(), Value() }` -/
def drain {σ : Type} (next : σ → Step σ) : Nat → σ → List Item × Fin
  | 0, _ => ([], .nofuel)
  | f + 1, s =>
    match next s with
    | .yield it s' => (it :: (drain next f s').1, (drain next f s').2)
    | .stop => ([], .done)
    | .fail => ([], .err)

/-! ### take -/

/-- `takeCollection.Next`: `if t.r > 0 { t.r--; return t.i.Next() }; return false, nil` -/
def takeNext (s : Src × Int) : Step (Src × Int) :=
  if s.2 > 0 then
    match s.1.next with
    | .yield it s' => .yield it (s', s.2 - 1)
    | .stop => .stop
    | .fail => .fail
  else .stop

/-- `takeCollection.Count` as written: `min(n_inner, t.n)` when the inner count is known -/
def takeCountRaw (inner : Option Int) (n : Int) : Option Int :=
  inner.map fun c => if c < n then c else n

/-- `take(collection, n)` after the fix: `if n < 0 { n = 0 }` -/
def takeArg (n : Int) : Int := if n < 0 then 0 else n

/-- the unrepaired `take`: n is used as given -/
def takeCountOld (inner : Option Int) (n : Int) : Option Int := takeCountRaw inner n

/-! ### filter, map, map-items
`f v = none` stands for "the VM call returned an error". -/

/-- `filterCollection.Next`: loop over the inner iterator until the function answers `true` -/
def filterGo (p : Val → Option Val) (fin : End) : List Item → Step Src
  | [] => (match fin with
    | .done => .stop
    | .err => .fail)
  | (k, v) :: xs =>
    match p v with
    | none => .fail
    | some (.bool true) => .yield (k, v) ⟨xs, fin⟩
    | some (.bool false) => filterGo p fin xs
    | some _ => .fail                                  -- "expected bool, found %T"

def filterNext (p : Val → Option Val) (s : Src) : Step Src := filterGo p s.fin s.rest

/-- `mapCollection.Next` -/
def mapNext (f : Val → Option Val) (s : Src) : Step Src :=
  match s.next with
  | .yield (k, v) s' =>
    match f v with
    | some v' => .yield (k, v') s'
    | none => .fail
  | .stop => .stop
  | .fail => .fail

/-- `mapItemsCollection.Next`; `g k v = none` = error, or the result is not a pair -/
def mapItemsNext (g : Val → Val → Option Item) (s : Src) : Step Src :=
  match s.next with
  | .yield (k, v) s' =>
    match g k v with
    | some kv => .yield kv s'
    | none => .fail
  | .stop => .stop
  | .fail => .fail

/-! ### flatten -/

/-- `flattenCollection.Next` with `f.ii == nil`: advance the outer iterator until an inner collection
yields something -/
def flattenOuter (ofin : End) : List Src → Step (List Src × Option Src)
  | [] => (match ofin with
    | .done => .stop
    | .err => .fail)
  | c :: cs =>
    match c.rest with
    | x :: xs => .yield x (cs, some ⟨xs, c.fin⟩)
    | [] => match c.fin with
      | .err => .fail
      | .done => flattenOuter ofin cs                 -- f.ii = nil; next round of the loop

def flattenNext (ofin : End) (s : List Src × Option Src) : Step (List Src × Option Src) :=
  match s.2 with
  | none => flattenOuter ofin s.1
  | some ii =>
    match ii.rest with
    | x :: xs => .yield x (s.1, some ⟨xs, ii.fin⟩)
    | [] => match ii.fin with
      | .err => .fail
      | .done => flattenOuter ofin s.1

/-! ### join-missing -/

/-- `ok, err = i.Next()` with the current item: `none` = error -/
def adv (s : Src) : Option (Option Item × Src) :=
  match s.rest with
  | x :: xs => some (some x, ⟨xs, s.fin⟩)
  | [] => match s.fin with
    | .done => some (none, s)
    | .err => none

/-- joinMissingCollection: `bcur`/`jcur` are the current items while `bok`/`jok` hold -/
structure JM where
  started : Bool
  b : Src
  j : Src
  bcur : Option Item
  jcur : Option Item

/-- the loop `for j.bok && j.jok && err == nil { equal → j.ji.Next() }` for a fixed base key -/
def jmSkip (bk : Val) (jfin : End) : Item → List Item → Option (Option Item × Src)
  | (jk, jv), rest =>
    match goEqual jk bk with
    | none => none
    | some false => some (some (jk, jv), ⟨rest, jfin⟩)
    | some true =>
      match rest with
      | x :: xs => jmSkip bk jfin x xs
      | [] => match jfin with
        | .done => some (none, ⟨[], jfin⟩)
        | .err => none

/-- first half of `Next`: start both iterators, or advance the one with the lesser key -/
def jmAdvance (s : JM) : Option JM :=
  if !s.started then
    match adv s.b with
    | none => none
    | some (bc, b') =>
      match adv s.j with
      | none => none
      | some (jc, j') => some { started := true, b := b', j := j', bcur := bc, jcur := jc }
  else
    match s.bcur, s.jcur with
    | some bi, some ji =>
      match goLess ji.1 bi.1 with
      | none => none
      | some true => (adv s.j).map fun (jc, j') => { s with j := j', jcur := jc }
      | some false => (adv s.b).map fun (bc, b') => { s with b := b', bcur := bc }
    | some _, none => (adv s.b).map fun (bc, b') => { s with b := b', bcur := bc }
    | none, some _ => (adv s.j).map fun (jc, j') => { s with j := j', jcur := jc }
    | none, none => some s

/-- `joinMissingCollection.Next` followed by `Key()`/`Value()` (= `iterator()`) -/
def jmNext (s : JM) : Step JM :=
  match jmAdvance s with
  | none => .fail
  | some s1 =>
    match s1.bcur, s1.jcur with
    | some bi, some ji =>
      match jmSkip bi.1 s1.j.fin ji s1.j.rest with
      | none => .fail
      | some (jc, j') =>
        let s2 : JM := { s1 with j := j', jcur := jc }
        match jc with
        | some ji' =>
          -- iterator(): `less, _ := b6.Less(ji.Key(), bi.Key())` — an error reads as false
          if (goLess ji'.1 bi.1).getD false then .yield ji' s2 else .yield bi s2
        | none => .yield bi s2
    | some bi, none => .yield bi s1
    | none, some ji => .yield ji s1
    | none, none => .stop

/-! ## eager functions -/

/-- association-list version of the Go `map[interface{}]int` the counting functions fill
(first-occurrence order; the Go result order is random and is canonicalised by sorting on both sides) -/
def bump (k : Val) (d : Int) : List (Val × Int) → List (Val × Int)
  | [] => [(k, wrap64 d)]
  | (k', c) :: rest => if k' = k then (k', wrap64 (c + d)) :: rest else (k', c) :: bump k d rest

/-- `sumByKey`: `none` = the `Collection[any,int]` adaptor met a non-int value (or the inner iteration failed) -/
def sumByKey (items : List Item) (fin : End) : Option (List (Val × Int)) :=
  let rec go (acc : List (Val × Int)) : List Item → Option (List (Val × Int))
    | [] => (match fin with
      | .done => some acc
      | .err => none)
    | (k, .int v) :: xs => go (bump k v acc) xs
    | _ :: _ => none
  go [] items

def countBy (keyOf : Item → Val) (delta : Item → Int) (items : List Item) (fin : End) :
    Option (List (Val × Int)) :=
  match fin with
  | .err => none
  | .done => some (items.foldl (fun acc it => bump (keyOf it) (delta it) acc) [])

def countValues (items : List Item) (fin : End) := countBy (·.2) (fun _ => 1) items fin
def countKeys (items : List Item) (fin : End) := countBy (·.1) (fun _ => 1) items fin
/-- `FeatureID.IsValid`: `Namespace != NamespaceInvalid ("") && Type != FeatureTypeInvalid (= 4 in world.go)` -/
def fidValid (t : Nat) (ns : String) : Bool := ns != "" && t != 4

/-- `countValidKeys`: an invalid feature ID adds 0 but still creates the key -/
def validDelta : Item → Int
  | (_, .fid t ns _) => if fidValid t ns then 1 else 0
  | _ => 1
def countValidKeys (items : List Item) (fin : End) := countBy (·.1) validDelta items fin

/-- `b6.Count`: the reported count when there is one, else the number of items (error → `none`) -/
def goCount (reported : Option Int) (items : List Item) (fin : Fin) : Option Int :=
  match reported with
  | some n => some n
  | none => match fin with
    | .done => some items.length
    | _ => none

/-! ### top: container/heap on a slice -/

/-- value order of topIntHeap / topFloatHeap (`h[i][1] < h[j][1]`): ints and float codes compare as integers -/
def valNum : Val → Option Int
  | .int i => some i
  | .float c => some c
  | _ => none

def itemLess (a b : Item) : Bool :=
  match valNum a.2, valNum b.2 with
  | some x, some y => decide (x < y)
  | _, _ => false

def aswap (h : Array Item) (i j : Nat) : Array Item :=
  match h[i]?, h[j]? with
  | some a, some b => (h.setIfInBounds i b).setIfInBounds j a
  | _, _ => h

def aless (h : Array Item) (i j : Nat) : Bool :=
  match h[i]?, h[j]? with
  | some a, some b => itemLess a b
  | _, _ => false

/-- `heap.up(h, j)` -/
def heapUp : Nat → Array Item → Nat → Array Item
  | 0, h, _ => h
  | f + 1, h, j =>
    let i := (j - 1) / 2
    if i = j || !aless h j i then h else heapUp f (aswap h i j) i

/-- `heap.down(h, i, n)` -/
def heapDown : Nat → Array Item → Nat → Nat → Array Item
  | 0, h, _, _ => h
  | f + 1, h, i, n =>
    let j1 := 2 * i + 1
    if j1 ≥ n then h else
    let j := if j1 + 1 < n && aless h (j1 + 1) j1 then j1 + 1 else j1
    if !aless h j i then h else heapDown f (aswap h i j) j n

/-- `heap.Push(h, x)` -/
def heapPush (h : Array Item) (x : Item) : Array Item :=
  let h := h.push x
  heapUp (h.size + 1) h (h.size - 1)

/-- `heap.Pop(h)`: swap(0, n), down(0, n), remove the last -/
def heapPop (h : Array Item) : Option (Item × Array Item) :=
  if h.size = 0 then none else
  let n := h.size - 1
  let h1 := aswap h 0 n
  let h2 := heapDown (h.size + 1) h1 0 n
  match h2[n]? with
  | some x => some (x, h2.pop)
  | none => none

/-- an abstract priority queue: what `top` needs from container/heap -/
structure PQ where
  Q : Type
  empty : Q
  push : Q → Item → Q
  pop : Q → Option (Item × Q)
  size : Q → Nat

def goHeap : PQ := { Q := Array Item, empty := #[], push := heapPush, pop := heapPop, size := Array.size }

inductive TopRes where
  | ok (items : List Item)
  | error                 -- "Can't order values of type …" / "Expected float64, found …" / inner iteration error
  | panic                 -- nil heap.Interface (unrepaired code, empty input)
  deriving DecidableEq, Repr

/-- kind of the first value decides the heap; later values must be of the same kind -/
def sameKind : Val → Val → Bool
  | .int _, .int _ => true
  | .float _, .float _ => true
  | _, _ => false

/-- pop everything: `r[len-1-j] = heap.Pop(h)` fills the result from the back -/
def popAll (pq : PQ) : Nat → pq.Q → List Item → List Item
  | 0, _, acc => acc
  | f + 1, q, acc =>
    match pq.pop q with
    | none => acc
    | some (x, q') => popAll pq f q' (x :: acc)

/-- the main loop of `top` after the first item fixed the kind -/
def topLoop (pq : PQ) (n : Int) (first : Val) : List Item → pq.Q → Option pq.Q
  | [], q => some q
  | (k, v) :: xs, q =>
    if !sameKind first v then none else
    let q := pq.push q (k, v)
    let q := if (pq.size q : Int) > n then (match pq.pop q with
      | some (_, q') => q'
      | none => q) else q
    topLoop pq n first xs q

/-- `top(collection, n)` (repaired: the heap starts empty instead of nil) -/
def top (pq : PQ) (items : List Item) (fin : End) (n : Int) : TopRes :=
  match items with
  | [] => (match fin with
    | .done => .ok []
    | .err => .error)
  | (k, v) :: xs =>
    match valNum v with
    | none => .error
    | some _ =>
      match topLoop pq n v ((k, v) :: xs) pq.empty with
      | none => .error
      | some q =>
        match fin with
        | .err => .error          -- `return r.Collection(), err`
        | .done => .ok (popAll pq (pq.size q) q [])

/-- the unrepaired `top`: `var h heap.Interface` stays nil on an empty collection and `h.Len()` panics -/
def topOld (pq : PQ) (items : List Item) (fin : End) (n : Int) : TopRes :=
  match items with
  | [] => .panic
  | _ => top pq items fin n

/-! ## CollectionFeature.FindValue / FindValues -/

/-- `sort.Search(n, f)`: `for i < j { h := int(uint(i+j) >> 1); if !f(h) { i = h + 1 } else { j = h } }` -/
def searchGo (f : Nat → Bool) : Nat → Nat → Nat → Nat
  | 0, i, _ => i
  | fuel + 1, i, j =>
    if i < j then
      let h := (i + j) / 2
      if !f h then searchGo f fuel (h + 1) j else searchGo f fuel i h
    else i

def sortSearch (n : Nat) (f : Nat → Bool) : Nat := searchGo f (n + 1) 0 n

/-- `greater, _ := b6.Less(c.Keys[i], key); return !greater` -/
def notLess (keys : Array Val) (key : Val) (i : Nat) : Bool :=
  match keys[i]? with
  | some k => !((goLess k key).getD false)
  | none => true

def eqAt (keys : Array Val) (key : Val) (i : Nat) : Bool :=
  match keys[i]? with
  | some k => (goEqual k key).getD false
  | none => false

def findValue (sorted : Bool) (keys vals : Array Val) (key : Val) : Option Val :=
  if sorted then
    let i := sortSearch keys.size (notLess keys key)
    if i < keys.size && eqAt keys key i then vals[i]? else none
  else
    match (List.range keys.size).find? (eqAt keys key) with
    | some i => vals[i]?
    | none => none

/-- the `for i < len(c.Keys)` loop of the sorted branch of FindValues -/
def collectRun (keys vals : Array Val) (key : Val) : Nat → Nat → List Val
  | 0, _ => []
  | fuel + 1, i =>
    if i < keys.size && eqAt keys key i then
      match vals[i]? with
      | some v => v :: collectRun keys vals key fuel (i + 1)
      | none => []
    else []

def findValues (sorted : Bool) (keys vals : Array Val) (key : Val) : List Val :=
  if sorted then
    collectRun keys vals key keys.size (sortSearch keys.size (notLess keys key))
  else
    ((List.range keys.size).filter (eqAt keys key)).filterMap (vals[·]?)

/-! ## a collection feature inside a mutable world -/

/-- `ingest.CollectionFeature`: keys, values and the `sorted` flag (set by `Sort()`, read by FindValue) -/
structure CF where
  keys : Array Val
  vals : Array Val
  sorted : Bool
  deriving DecidableEq, Repr

/-- `MergeFromCollectionFeature`: keys and values are copied from `other`, and so is `other.sorted` -/
def CF.mergeFrom (_c other : CF) : CF := { keys := other.keys, vals := other.vals, sorted := other.sorted }

/-- `Clone` -/
def CF.clone (c : CF) : CF := { keys := c.keys, vals := c.vals, sorted := c.sorted }

/-- `AddFeature` of a collection feature on BasicMutableWorld / MutableOverlayWorld (`ModifiedFeatures.Update`):
a feature already stored under the ID (in this world / this overlay) is merged into, otherwise a clone is stored.
A feature that only lives in an overlay's base is not touched: the overlay stores a clone that shadows it. -/
def worldAdd (stored : Option CF) (f : CF) : Option CF :=
  match stored with
  | some e => some (e.mergeFrom f)
  | none => some f.clone

def CF.findValue (c : CF) (key : Val) : Option Val := B6.Model.Collections.findValue c.sorted c.keys c.vals key
def CF.findValues (c : CF) (key : Val) : List Val := B6.Model.Collections.findValues c.sorted c.keys c.vals key

end B6.Model.Collections
