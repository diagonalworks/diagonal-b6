/-!
# L8 — interleaving transition systems (shared by the protocol models of C25, C28, C35 and C40)

A protocol model is a state type with `step : σ → List σ` (ALL enabled successors of a state: one entry per
enabled process step; an unbuffered send is a rendezvous with a receiver blocked in receive, a buffered
channel a bounded queue, `select` the union of its enabled arms) and a `terminal` predicate.  Granularity:
one channel operation / callback / lock region = one atomic step (the modelling assumption of DESIGN §3/§8).

`Reachable` is the reflexive-transitive closure of `step` from the initial state; positive results are
invariants over `Reachable` (induction over steps, `Reachable.invariant`), negative ones an explicit
schedule (`runSched`: a list of indices into the successor lists) checked by `decide`.
-/
namespace B6.Model.Proto

/-- states reachable from `init` by `step` (reflexive-transitive closure) -/
inductive Reachable {σ : Type} (step : σ → List σ) (init : σ) : σ → Prop
  | refl : Reachable step init init
  | tail {s s' : σ} : Reachable step init s → s' ∈ step s → Reachable step init s'

/-- induction principle: a predicate that holds initially and is preserved by every step holds in every
reachable state -/
theorem Reachable.invariant {σ : Type} {step : σ → List σ} {init : σ} (P : σ → Prop)
    (h0 : P init) (hs : ∀ s s', P s → s' ∈ step s → P s') : ∀ s, Reachable step init s → P s := by
  intro s h
  induction h with
  | refl => exact h0
  | tail _ hm ih => exact hs _ _ ih hm

/-- the same with the reachability of the pre-state available (to use earlier invariants) -/
theorem Reachable.invariant' {σ : Type} {step : σ → List σ} {init : σ} (P : σ → Prop)
    (h0 : P init) (hs : ∀ s s', Reachable step init s → P s → s' ∈ step s → P s') :
    ∀ s, Reachable step init s → P s := by
  intro s h
  induction h with
  | refl => exact h0
  | tail hr hm ih => exact hs _ _ hr ih hm

/-- follow a schedule: the `c`-th enabled successor at every step -/
def runSched {σ : Type} (step : σ → List σ) : σ → List Nat → Option σ
  | s, [] => some s
  | s, c :: cs => match (step s)[c]? with
    | some s' => runSched step s' cs
    | none => none

theorem Reachable.of_runSched {σ : Type} {step : σ → List σ} {init : σ} :
    ∀ (sched : List Nat) (s s' : σ), Reachable step init s → runSched step s sched = some s' →
      Reachable step init s' := by
  intro sched s s' hr h
  fun_induction runSched step s sched with
  | case1 s => cases h; exact hr
  | case2 s c cs s1 hs1 ih => exact ih (hr.tail (List.mem_of_getElem? hs1)) h
  | case3 s c cs hs1 => cases h

/-- a counterexample by schedule: the run is evaluated once, together with what is claimed of its last state -/
theorem exists_reachable {σ : Type} {step : σ → List σ} {init : σ} (sched : List Nat) (Q : σ → Prop)
    [DecidablePred Q] (h : ((runSched step init sched).any fun s => decide (Q s)) = true) :
    ∃ s, Reachable step init s ∧ Q s := by
  cases hs : runSched step init sched with
  | none => rw [hs] at h; cases h
  | some s =>
    rw [hs] at h
    exact ⟨s, Reachable.of_runSched sched _ _ Reachable.refl hs, of_decide_eq_true h⟩

/-- no step is enabled although the run is not over -/
def deadlocked {σ : Type} (step : σ → List σ) (terminal : σ → Bool) (s : σ) : Bool :=
  (step s).isEmpty && !terminal s

theorem deadlocked_eq_false {σ : Type} {step : σ → List σ} {terminal : σ → Bool} {s : σ}
    (h : terminal s = false → step s ≠ []) : deadlocked step terminal s = false := by
  unfold deadlocked
  cases ht : terminal s
  · cases hst : step s with
    | nil => exact absurd hst (h ht)
    | cons _ _ => rfl
  · simp

/-- all successors produced by the workers: `f i w` lists the steps worker `i` can take in state `w` -/
def forWorkers {ω σ : Type} (ws : List ω) (f : Nat → ω → List σ) : List σ :=
  (List.range ws.length).flatMap fun i => match ws[i]? with
    | some w => f i w
    | none => []

theorem mem_forWorkers {ω σ : Type} {ws : List ω} {f : Nat → ω → List σ} {s' : σ} :
    s' ∈ forWorkers ws f ↔ ∃ i w, ws[i]? = some w ∧ s' ∈ f i w := by
  simp only [forWorkers, List.mem_flatMap, List.mem_range]
  constructor
  · rintro ⟨i, _, h⟩
    split at h
    · next w hw => exact ⟨i, w, hw, h⟩
    · simp at h
  · rintro ⟨i, w, hw, h⟩
    refine ⟨i, ?_, ?_⟩
    · exact (List.getElem?_eq_some_iff.mp hw).1
    · simp [hw, h]

theorem forWorkers_eq_nil {ω σ : Type} {ws : List ω} {f : Nat → ω → List σ} :
    forWorkers ws f = [] ↔ ∀ i w, ws[i]? = some w → f i w = [] := by
  simp only [List.eq_nil_iff_forall_not_mem, mem_forWorkers, not_exists, not_and]
  exact ⟨fun h i w hw x => h x i w hw, fun h x i w hw => h i w hw x⟩

/-- a step that is enabled iff `p` holds -/
def guard {σ : Type} (p : Prop) [Decidable p] (x : σ) : List σ := if p then [x] else []

@[simp] theorem mem_guard {σ : Type} {p : Prop} [Decidable p] {x y : σ} : y ∈ guard p x ↔ p ∧ y = x := by
  unfold guard; split <;> simp_all

theorem guard_eq_nil {σ : Type} {p : Prop} [Decidable p] {x : σ} : guard p x = [] ↔ ¬ p := by
  unfold guard; split <;> simp_all

/-- stated for variables: the branches of the models are large record updates, on which `split` is slow -/
theorem mem_ite {σ : Type} {p : Prop} [Decidable p] {a b : List σ} {x : σ} :
    x ∈ (if p then a else b) ↔ p ∧ x ∈ a ∨ ¬ p ∧ x ∈ b := by
  split <;> simp_all

theorem ite_ne_nil {σ : Type} {p : Prop} [Decidable p] {a b : List σ} (ha : a ≠ []) (hb : b ≠ []) :
    (if p then a else b) ≠ [] := by
  split <;> assumption

/-! ### worker lists: `ws.set i w` -/

theorem getElem?_set_some {α : Type} {l : List α} {i j : Nat} {x y : α} (h : (l.set i x)[j]? = some y) :
    (j = i ∧ y = x) ∨ (j ≠ i ∧ l[j]? = some y) := by
  rw [List.getElem?_set] at h
  by_cases hij : i = j
  · subst hij
    simp only [↓reduceIte] at h
    split at h
    · left; exact ⟨rfl, by simpa using h.symm⟩
    · simp at h
  · right; simp only [hij, ↓reduceIte] at h; exact ⟨fun e => hij e.symm, h⟩

theorem getElem?_set_self' {α : Type} {l : List α} {i : Nat} {w x : α} (h : l[i]? = some w) :
    (l.set i x)[i]? = some x :=
  List.getElem?_set_self (List.getElem?_eq_some_iff.mp h).1

/-- every element of `ws.set i x` other than `x` was already there, at an index other than `i` -/
theorem mem_set_other {α : Type} {l : List α} {i : Nat} {x y : α} (h : y ∈ l.set i x) :
    y = x ∨ ∃ j, j ≠ i ∧ l[j]? = some y := by
  rcases List.mem_iff_getElem?.mp h with ⟨j, hj⟩
  rcases getElem?_set_some hj with ⟨_, e⟩ | ⟨n, e⟩
  · exact Or.inl e
  · exact Or.inr ⟨j, n, e⟩

/-- counting over a worker list after one worker moved from `w` to `x` (no truncated subtraction) -/
theorem countP_set_of_getElem? {α : Type} {p : α → Bool} {l : List α} {i : Nat} {w x : α} (h : l[i]? = some w) :
    (l.set i x).countP p + (if p w = true then 1 else 0) = l.countP p + (if p x = true then 1 else 0) := by
  obtain ⟨hi, e⟩ := List.getElem?_eq_some_iff.mp h
  rw [List.countP_set hi, e]
  by_cases hp : p w = true
  · have : 0 < l.countP p := List.countP_pos_iff.mpr ⟨w, List.mem_of_getElem? h, hp⟩
    simp only [hp, ↓reduceIte]; omega
  · simp only [hp]; simp

end B6.Model.Proto
