import B6.Model.Proto.Basic
/-!
# Lock-protocol model of the b6 gRPC service — C40

Anchors: `grpc/service.go` (`service.Evaluate`, `ListWorlds`, `DeleteWorld`), `ingest/worlds.go`
(`MutableWorlds`), `api/evaluator.go` (same upgrade sequence).

    func (s *service) Evaluate(...) {
        s.lock.RLock(); defer s.lock.RUnlock()                    -- rlock … finalRUnlock
        w := s.worlds.FindOrCreateWorld(root)                      -- find   (under MutableWorlds.lock)
        v, err := api.Evaluate(simplified, &context)               -- eval   (reads w; computes the change)
        if change, ok := v.(ingest.Change); ok {
            s.lock.RUnlock(); s.lock.Lock()                        -- upRUnlock, wlock
            v, err = apply(change)                                 -- apply  (writes w)
            s.lock.Unlock(); s.lock.RLock()                        -- wunlock, rlock2
        } … }

* Clients: one request each — `query wid` (evaluate, non-change value), `change wid rules` (evaluate to a
  change), `delete wid`, `list`.
* A world is a spec map `key ↦ value` (a key stands for one (feature, tag key) pair).  A change-producing
  expression is a list of rules `guard → write`: the guard is evaluated on the world **as read under the
  read lock**, the resulting writes are applied **later under the write lock** — this is the upgrade gap.
* `MutableWorlds` is a heap of world objects plus a map world-ID ↦ object; `FindOrCreateWorld`, `DeleteWorld`
  and `ListWorlds` are atomic steps here (their bodies run under `MutableWorlds.lock` and contain no blocking
  operation; the mutex itself is the model `B6.Model.Proto.Worlds`).  A deleted world object stays in the
  heap (an evaluate that fetched it earlier still writes to it — the orphan).
* `sync.RWMutex`: `RLock` needs no writer holding; with `pref = true` it is also refused while a writer waits
  (Go's writer preference); `Lock` needs no holder at all.  Every theorem is for both values of `pref`,
  `B6.Props.C40.add_world_writes_during_read_phase` (stated for `pref = true`) apart.
* Ghost state (never read by a real transition): `log` — the requests in the order in which they take effect,
  `logged` per client.  A `query` is logged at `find`; a `change` at `apply`, or — if its world object is
  deleted first — just before that `delete` (its writes can no longer be seen); `delete`/`list` at their step.
-/
namespace B6.Model.Proto.Service

abbrev Key := Nat
abbrev Val := Nat
/-- a world: spec map (association list; first match wins) -/
abbrev World := List (Key × Val)

def wget (w : World) (k : Key) : Option Val :=
  match w with
  | [] => none
  | (k', v) :: rest => if k' = k then some v else wget rest k

def wset (w : World) (k : Key) (v : Val) : World :=
  match w with
  | [] => [(k, v)]
  | (k', v') :: rest => if k' = k then (k, v) :: rest else (k', v') :: wset rest k v

def wdel (w : World) (k : Key) : World := w.filter (fun p => p.1 != k)

inductive Write where
  | set (k : Key) (v : Val)
  | del (k : Key)
  | fail (k : Key)      -- an element that fails when applied (add-tag on a missing feature `k`, an invalid feature)
  deriving DecidableEq, Repr, Hashable

def Write.key : Write → Key
  | .set k _ => k
  | .del k => k
  | .fail k => k

def Write.isFail : Write → Bool
  | .fail _ => true
  | _ => false

/-- `guard = some (k, true)`: only if `k` is present in the world read; `some (k, false)`: only if absent. -/
structure Rule where
  guard : Option (Key × Bool)
  write : Write
  deriving DecidableEq, Repr, Hashable

def guardHolds (w : World) : Option (Key × Bool) → Bool
  | none => true
  | some (k, present) => (wget w k).isSome == present

/-- evaluating the expression on the world read: the change (a list of writes) -/
def evalRules (w : World) (rs : List Rule) : List Write :=
  match rs with
  | [] => []
  | r :: rest => if guardHolds w r.guard then r.write :: evalRules w rest else evalRules w rest

def applyWrite (w : World) : Write → World
  | .set k v => wset w k v
  | .del k => wdel w k
  | .fail _ => w

/-- `Change.Apply`: the elements in order, stopping at the first one that fails (what was applied stays) -/
def applyWrites (w : World) : List Write → World
  | [] => w
  | .fail _ :: _ => w
  | wr :: rest => applyWrites (applyWrite w wr) rest

/-- `Apply` returns an error -/
def applyFails (ws : List Write) : Bool := ws.any Write.isFail

inductive Req where
  | query (wid : Nat)
  | change (wid : Nat) (rules : List Rule)
  | delete (wid : Nat)
  | list
  deriving DecidableEq, Repr, Hashable

/-! ## The reference: requests one at a time -/

/-- world ID ↦ world -/
abbrev View := List (Nat × World)

def vfind (v : View) (wid : Nat) : Option World :=
  match v with
  | [] => none
  | (i, w) :: rest => if i = wid then some w else vfind rest wid

def vset (v : View) (wid : Nat) (w : World) : View :=
  match v with
  | [] => [(wid, w)]
  | (i, w') :: rest => if i = wid then (wid, w) :: rest else (i, w') :: vset rest wid w

def verase (v : View) (wid : Nat) : View := v.filter (fun p => p.1 != wid)

/-- one request executed alone; `base` is the content of a freshly created world -/
def serialStep (base : World) (v : View) : Req → View
  | .query wid => match vfind v wid with
    | some _ => v
    | none => vset v wid base
  | .change wid rs => match vfind v wid with
    | some w => vset v wid (applyWrites w (evalRules w rs))
    | none => vset v wid (applyWrites base (evalRules base rs))
  | .delete wid => verase v wid
  | .list => v

def serialRun (base : World) (v : View) (rs : List Req) : View := rs.foldl (serialStep base) v

/-- what a request answers (as far as the tie observes it) -/
inductive Resp where
  | nothing                   -- delete-world
  | err                       -- the change failed while being applied
  | ids (fs : List Nat)       -- the features the applied change modified (key / 8), in order
  | count (n : Nat)           -- a query: how many keys the world has
  | worlds (ws : List Nat)    -- list-worlds ([] = only the default world is reported)
  deriving DecidableEq, Repr

/-- the answer of a request executed alone on view `v` -/
def respOf (base : World) (v : View) : Req → Resp
  | .query wid => .count (match vfind v wid with | some w => w.length | none => base.length)
  | .change wid rs =>
    let w := match vfind v wid with | some w => w | none => base
    let ws := evalRules w rs
    if applyFails ws then .err else .ids (ws.map (fun x => x.key / 8))
  | .delete _ => .nothing
  | .list => .worlds (v.map (·.1))

/-- requests one at a time, with their answers -/
def serialRunResp (base : World) (v : View) : List Req → View × List Resp
  | [] => (v, [])
  | r :: rest =>
    let out := serialRunResp base (serialStep base v r) rest
    (out.1, respOf base v r :: out.2)

/-! ## The concurrent system -/

inductive Pc where
  | rlock | find | eval | upRUnlock | wlock | apply | wunlock | rlock2 | finalRUnlock
  | mapop   -- delete / list: the one step under `MutableWorlds.lock`
  | done
  deriving DecidableEq, Repr, Hashable

structure Client where
  req : Req
  pc : Pc
  obj : Option Nat := none       -- the world object `FindOrCreateWorld` returned
  change : List Write := []      -- the change computed under the read lock
  logged : Bool := false         -- ghost
  deriving DecidableEq, Repr, Hashable

structure State where
  base : World
  readers : Nat
  writer : Bool
  heap : List World
  map : List (Nat × Nat)         -- world ID ↦ heap index
  clients : List Client
  log : List Req                 -- ghost
  deriving DecidableEq, Repr, Hashable

def mfind (m : List (Nat × Nat)) (wid : Nat) : Option Nat :=
  match m with
  | [] => none
  | (i, o) :: rest => if i = wid then some o else mfind rest wid

def merase (m : List (Nat × Nat)) (wid : Nat) : List (Nat × Nat) := m.filter (fun p => p.1 != wid)

def startPc : Req → Pc
  | .query _ => .rlock
  | .change _ _ => .rlock
  | .delete _ => .mapop
  | .list => .mapop

/-- the `i`-th world of the initial view is heap object `start + i` -/
def initMap : View → Nat → List (Nat × Nat)
  | [], _ => []
  | (wid, _) :: rest, o => (wid, o) :: initMap rest (o + 1)

/-- initial state: the worlds of `v0` exist, every client is about to start -/
def init (base : World) (v0 : View) (reqs : List Req) : State :=
  { base := base, readers := 0, writer := false,
    heap := v0.map (·.2),
    map := initMap v0 0,
    clients := reqs.map (fun r => { req := r, pc := startPc r }),
    log := [] }

def writerWaiting (s : State) : Bool := s.clients.any (fun c => c.pc == Pc.wlock)

def canRLock (pref : Bool) (s : State) : Bool := !s.writer && !(pref && writerWaiting s)

def canLock (s : State) : Bool := !s.writer && s.readers == 0

def setClient (s : State) (i : Nat) (c : Client) : State := { s with clients := s.clients.set i c }

/-- ghost: the unlogged holders of object `o` are logged (their writes are doomed) -/
def flushHolders (cs : List Client) (o : Nat) : List Client :=
  cs.map (fun c => if c.obj = some o ∧ c.logged = false then { c with logged := true } else c)

def doomed (cs : List Client) (o : Nat) : List Req :=
  (cs.filter (fun c => c.obj = some o ∧ c.logged = false)).map (·.req)

/-- the steps client `i` (currently `c`) can take: at most one -/
def clientStep (pref : Bool) (s : State) (i : Nat) (c : Client) : List State :=
  match c.pc with
  | .rlock =>
    guard (canRLock pref s = true) (setClient { s with readers := s.readers + 1 } i { c with pc := .find })
  | .find =>
    match c.req with
    | .query wid =>
      match mfind s.map wid with
      | some o => [setClient { s with log := s.log ++ [c.req] } i { c with pc := .eval, obj := some o, logged := true }]
      | none =>
        [setClient { s with heap := s.heap ++ [s.base], map := s.map ++ [(wid, s.heap.length)], log := s.log ++ [c.req] }
          i { c with pc := .eval, obj := some s.heap.length, logged := true }]
    | .change wid _ =>
      match mfind s.map wid with
      | some o => [setClient s i { c with pc := .eval, obj := some o }]
      | none =>
        [setClient { s with heap := s.heap ++ [s.base], map := s.map ++ [(wid, s.heap.length)] }
          i { c with pc := .eval, obj := some s.heap.length }]
    | _ => []
  | .eval =>
    match c.req, c.obj with
    | .query _, _ => [setClient s i { c with pc := .finalRUnlock }]
    | .change _ rs, some o =>
      match s.heap[o]? with
      | some w => [setClient s i { c with pc := .upRUnlock, change := evalRules w rs }]
      | none => []
    | _, _ => []
  | .upRUnlock => [setClient { s with readers := s.readers - 1 } i { c with pc := .wlock }]
  | .wlock => guard (canLock s = true) (setClient { s with writer := true } i { c with pc := .apply })
  | .apply =>
    match c.obj with
    | some o =>
      match s.heap[o]? with
      | some w =>
        [setClient { s with heap := s.heap.set o (applyWrites w c.change),
                            log := if c.logged then s.log else s.log ++ [c.req] }
          i { c with pc := .wunlock, logged := true }]
      | none => []
    | none => []
  | .wunlock => [setClient { s with writer := false } i { c with pc := .rlock2 }]
  | .rlock2 =>
    guard (canRLock pref s = true) (setClient { s with readers := s.readers + 1 } i { c with pc := .finalRUnlock })
  | .finalRUnlock => [setClient { s with readers := s.readers - 1 } i { c with pc := .done }]
  | .mapop =>
    match c.req with
    | .delete wid =>
      match mfind s.map wid with
      | some o =>
        [setClient { s with map := merase s.map wid, clients := flushHolders s.clients o,
                            log := s.log ++ doomed s.clients o ++ [c.req] }
          i { c with pc := .done, logged := true }]
      | none => [setClient { s with log := s.log ++ [c.req] } i { c with pc := .done, logged := true }]
    | .list => [setClient { s with log := s.log ++ [c.req] } i { c with pc := .done, logged := true }]
    | _ => []
  | .done => []

/-- all enabled successors -/
def step (pref : Bool) (s : State) : List State := forWorkers s.clients (clientStep pref s)

/-- A variant of the code in which the error of `apply` is looked at BEFORE the read lock is taken again:

    s.lock.Unlock(); if err != nil { return nil, err }; s.lock.RLock()

so a change that fails while being applied goes from `Unlock` straight to the deferred `RUnlock`. (The order in
`service.go` is `Unlock(); RLock(); if err != nil { return }`: there the failing path takes exactly the lock
steps of the succeeding one, which is what `clientStep` models.) -/
def clientStepEarlyReturn (pref : Bool) (s : State) (i : Nat) (c : Client) : List State :=
  match c.pc with
  | .wunlock =>
    [setClient { s with writer := false } i { c with pc := if applyFails c.change then .finalRUnlock else .rlock2 }]
  | _ => clientStep pref s i c

def stepEarlyReturn (pref : Bool) (s : State) : List State := forWorkers s.clients (clientStepEarlyReturn pref s)

def terminal (s : State) : Bool := s.clients.all (fun c => c.pc == Pc.done)

/-- what a caller of the service can observe afterwards: world ID ↦ content -/
def lookupWorld (s : State) (wid : Nat) : Option World :=
  match mfind s.map wid with
  | some o => s.heap[o]?
  | none => none

/-- the worlds as a view, in map order (for the driver) -/
def viewOf (s : State) : View :=
  s.map.filterMap (fun (wid, o) => match s.heap[o]? with | some w => some (wid, w) | none => none)

/-- `add-world-with-change id change` (`api/functions/change.go: addWorldWithChange`), evaluated INSIDE a read
phase — under the caller's `RLock` only, no upgrade:

    c.Worlds.DeleteWorld(id); return change.Apply(c.Worlds.FindOrCreateWorld(id))

the effect on the worlds of a client that is at `eval`: world `target` is unmapped, a fresh object is mapped and
written.  Not a client kind of `clientStep` (it would break `writer_excludes_readers` by construction); kept as
the effect function for the counterexample `B6.Props.C40.add_world_writes_during_read_phase`. -/
def addWorldEffect (s : State) (target : Nat) (ws : List Write) : State :=
  { s with map := merase s.map target ++ [(target, s.heap.length)], heap := s.heap ++ [applyWrites s.base ws] }

/-! ## The conflict class -/

def guardKeys (rs : List Rule) : List Key :=
  rs.filterMap (fun r => r.guard.map (·.1))

def writeKeys (rs : List Rule) : List Key := rs.map (·.write.key)

/-- `a`'s change reads (in a guard) a key of the same world that `b`'s change writes -/
def conflicts (a b : Req) : Bool :=
  match a, b with
  | .change w1 r1, .change w2 r2 => w1 == w2 && (guardKeys r1).any (fun k => (writeKeys r2).contains k)
  | _, _ => false

/-- no request's change depends on state another request writes -/
def conflictFree : List Req → Bool
  | [] => true
  | r :: rest => rest.all (fun r' => !conflicts r r' && !conflicts r' r) && conflictFree rest

end B6.Model.Proto.Service
