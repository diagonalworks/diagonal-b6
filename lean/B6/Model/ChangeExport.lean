import B6.Model.Mutable
/-!
# Model of the change export / import (ingest/yaml.go, expression.go, world.go) — C18

Part A — the text layer, as functions on strings.
* `infer` mirrors `b6.ExpressionFromString`: a string containing `;` is a list of parts, each part (and a
  string without `;`) is a lat,lng (`LatLngFromString`: split at the first comma, `strings.TrimSpace`,
  `strconv.ParseFloat` on both halves), else a feature id (`FeatureIDFromString` + `IsValid`), else a string.
* `encode` / `decode` mirror `Expression.MarshalYAML` / `UnmarshalYAML` (after
  `fixes/C18-export-values-explicit.patch`): ints natively, floats natively unless integral, strings bare only
  if `infer` reads them back as a string, lists as their `;`-joined rendering, everything else (and the
  exceptions) in the explicit one-key form `{string: …}`, `{float: …}`, `{point: …}`, `{id: …}`.  YAML itself
  is the identity on typed scalars, except for the slip of yaml.v2 that a bare or quoted scalar `null` / `~`
  is never handed to an `Unmarshaler` (`prepare`), which makes the document undecodable — the reason the
  strings `null` and `~` are written in the explicit form too (`fixes/C18-export-null-string.patch`).
* coordinates are E7 integers (`nan`, `±inf`, `big` beyond 1e10 degrees): the model does not follow float
  rounding below that.

Part B — the documents: `exportDocs` (one `{id, add, remove}` document per feature with modified tags, then the
overlay's features sorted by the number of transitive referrers), `importDocs` (per document `AddFeature`,
then `AddTag*`, `RemoveTag*`) on a state machine `St` for `MutableOverlayWorld` restricted to what the export
reads and the import writes: the overlay's feature table and `ModifiedTags`, over an arbitrary base.
Features carry ALL their tags (the `point` / `path` geometry lives in tags, as in the code) plus a body for
areas, relations and collections.  The search index is not part of this model (C12's); `m.references` is taken
to be the references of the current overlay features (C15's).  Validation enters as the structural skeleton
`validateFeature` with S2 (loop validity, orientation) left open (`Verd.s2`).
-/
namespace B6.Model.ChangeExport
open B6.Model.Mutable (Id Key)

/-! ## Part A: values and the text layer -/

/-- a scalar tag value / collection literal -/
inductive Atom where
  | str (s : String)
  | int (n : Int)
  /-- IEEE bits as 16 hex digits, or `nan` -/
  | flt (bits : String)
  /-- E7 coordinate tokens -/
  | pt (lat lng : String)
  /-- raw `b6.FeatureType` number, namespace, value -/
  | fid (t : Nat) (ns : String) (v : Nat)
  | other (s : String)
deriving DecidableEq, Repr, Inhabited

/-- a tag value: a scalar or a `b6.Expressions` list -/
inductive V where
  | atom (a : Atom)
  | list (as : List Atom)
deriving DecidableEq, Repr, Inhabited

/-- three-valued parse results: `unknown` = outside what the model decides (never generated) -/
inductive Parse (α : Type) where
  | ok (a : α)
  | no
  | unknown
deriving DecidableEq, Repr

/-- `unicode.IsSpace` -/
def isGoSpace (c : Char) : Bool :=
  c == '\t' || c == '\n' || c.toNat == 0x0b || c.toNat == 0x0c || c == '\r' || c == ' ' ||
  c.toNat == 0x85 || c.toNat == 0xa0 || c.toNat == 0x1680 || (0x2000 ≤ c.toNat && c.toNat ≤ 0x200a) ||
  c.toNat == 0x2028 || c.toNat == 0x2029 || c.toNat == 0x202f || c.toNat == 0x205f || c.toNat == 0x3000

def dropSpace : List Char → List Char
  | [] => []
  | c :: r => if isGoSpace c then dropSpace r else c :: r

/-- `strings.TrimSpace` -/
def trimSpace (l : List Char) : List Char := (dropSpace (dropSpace l).reverse).reverse

def isDigit (c : Char) : Bool := '0' ≤ c && c ≤ '9'
def digitVal (c : Char) : Nat := c.toNat - '0'.toNat

def lowerAscii (c : Char) : Char := if 'A' ≤ c && c ≤ 'Z' then Char.ofNat (c.toNat + 32) else c

/-- leading digits: (value accumulated onto `acc`, number of digits, rest) -/
def takeDigits : List Char → Nat → Nat → Nat × Nat × List Char
  | [], acc, n => (acc, n, [])
  | c :: r, acc, n => if isDigit c then takeDigits r (acc * 10 + digitVal c) (n + 1) else (acc, n, c :: r)

/-- a float literal as `strconv.ParseFloat` reads it -/
inductive FloatLit where
  /-- (-1)^neg · mant · 10^exp10 -/
  | num (neg : Bool) (mant : Nat) (exp10 : Int)
  | inf (neg : Bool)
  | nan
deriving DecidableEq, Repr

def splitSign : List Char → Bool × Bool × List Char
  | '+' :: r => (true, false, r)
  | '-' :: r => (true, true, r)
  | l => (false, false, l)

/-- the decimal grammar of `readFloat`: digits with at most one `.`, at least one digit, then optionally
`e`/`E`, a sign and at least one digit; the whole string must be consumed -/
def parseDecimal (neg : Bool) (l : List Char) : Option FloatLit :=
  let (m1, n1, r1) := takeDigits l 0 0
  let (m2, n2, r2) := match r1 with
    | '.' :: r => takeDigits r m1 0
    | _ => (m1, 0, r1)
  if n1 + n2 == 0 then none else
  match r2 with
  | [] => some (.num neg m2 (-(n2 : Int)))
  | c :: r =>
    if c == 'e' || c == 'E' then
      let (_, eneg, r3) := splitSign r
      let (e, ne, r4) := takeDigits r3 0 0
      if ne == 0 || !r4.isEmpty then none
      else some (.num neg m2 ((if eneg then -(e : Int) else (e : Int)) - (n2 : Int)))
    else none

/-- `strconv.ParseFloat(s, 64)` accepting the string: decimal literals, `inf` / `infinity` with an optional
sign, `nan` without one (all case-insensitive). Hex floats and `_` separators are `unknown`; out-of-range
values are rejected like Go (`ErrRange`), undecided within a factor 10 of the limit. -/
def parseFloat (l : List Char) : Parse FloatLit :=
  let (signed, neg, body) := splitSign l
  let low := body.map lowerAscii
  if low == "inf".toList || low == "infinity".toList then .ok (.inf neg)
  else if !signed && low == "nan".toList then .ok .nan
  else match parseDecimal neg body with
    | some (.num n m e) =>
      if m == 0 then .ok (.num n m e) else
      let adj : Int := ((Nat.toDigits 10 m).length : Int) + e
      if adj ≥ 310 then .no else if adj == 309 then .unknown else .ok (.num n m e)
    | some f => .ok f
    | none =>
      if l.contains '_' || low.take 2 == "0x".toList then .unknown else .no

/-- round-half-away-from-zero of mant · 10^(exp10+7) -/
def e7OfNum (mant : Nat) (exp10 : Int) : Nat :=
  let e := exp10 + 7
  if e ≥ 0 then mant * 10 ^ e.toNat
  else
    let d := 10 ^ (-e).toNat
    (2 * mant + d) / (2 * d)

/-- the coordinate token the harness prints for the parsed degrees -/
def coordTok : FloatLit → String
  | .nan => "nan"
  | .inf false => "+inf"
  | .inf true => "-inf"
  | .num neg m e =>
    let n := e7OfNum m e
    if n > 10 ^ 17 then "big"
    else if neg && n != 0 then "-" ++ toString n else toString n

/-- split at the first comma -/
def splitComma : List Char → Option (List Char × List Char)
  | [] => none
  | c :: r => if c == ',' then some ([], r) else (splitComma r).map (fun (a, b) => (c :: a, b))

/-- `b6.LatLngFromString` -/
def latLng (l : List Char) : Parse (String × String) :=
  match splitComma l with
  | none => .no
  | some (a, b) =>
    match parseFloat (trimSpace a) with
    | .no => .no
    | .unknown => .unknown
    | .ok la =>
      match parseFloat (trimSpace b) with
      | .no => .no
      | .unknown => .unknown
      | .ok lo => .ok (coordTok la, coordTok lo)

/-- `FeatureType.String()` by number; 4 is `FeatureTypeInvalid` -/
def typeNames : List (String × Nat) :=
  [("point", 0), ("path", 1), ("area", 2), ("relation", 3), ("collection", 5), ("expression", 6)]

def typeOfName (s : String) : Option Nat := Mutable.AMap.get typeNames s

def typeName (t : Nat) : String :=
  match typeNames.find? (fun e => e.2 == t) with
  | some e => e.1
  | none => "invalid"

/-- split at the first `/` -/
def splitSlash : List Char → Option (List Char × List Char)
  | [] => none
  | c :: r => if c == '/' then some ([], r) else (splitSlash r).map (fun (a, b) => (c :: a, b))

/-- split at the last `/` -/
def splitLastSlash (l : List Char) : Option (List Char × List Char) :=
  (splitSlash l.reverse).map (fun (a, b) => (b.reverse, a.reverse))

/-- `strconv.ParseUint(s, 10, 64)` -/
def parseUint (l : List Char) : Option Nat :=
  if l.isEmpty || !l.all isDigit then none
  else
    let n := (takeDigits l 0 0).1
    if n < 2 ^ 64 then some n else none

/-- `b6.FeatureIDFromString` followed by `IsValid` -/
def featureId (l : List Char) : Option (Nat × String × Nat) :=
  let l := match l with
    | '/' :: r => r
    | _ => l
  match splitSlash l with
  | none => none
  | some (ty, rest) =>
    match splitLastSlash rest with
    | none => none
    | some (ns, v) =>
      match typeOfName (String.ofList ty), parseUint v with
      | some t, some n => if ns.isEmpty then none else some (t, String.ofList ns, n)
      | _, _ => none

/-- `ExpressionFromString` on a string without `;` -/
def inferAtom (l : List Char) : Parse Atom :=
  match latLng l with
  | .ok (la, lo) => .ok (.pt la lo)
  | .unknown => .unknown
  | .no =>
    match featureId l with
    | some (t, ns, v) => .ok (.fid t ns v)
    | none => .ok (.str (String.ofList l))

/-- `strings.Split(s, ";")` -/
def splitSemi : List Char → List (List Char)
  | [] => [[]]
  | c :: r =>
    if c == ';' then [] :: splitSemi r
    else match splitSemi r with
      | [] => [[c]]
      | p :: ps => (c :: p) :: ps

def parseAll {α : Type} : List (Parse α) → Parse (List α)
  | [] => .ok []
  | .ok a :: r => match parseAll r with
    | .ok as => .ok (a :: as)
    | .no => .no
    | .unknown => .unknown
  | .no :: _ => .no
  | .unknown :: _ => .unknown

/-- `b6.ExpressionFromString` -/
def infer (s : String) : Parse V :=
  if s.toList.contains ';' then
    match parseAll ((splitSemi s.toList).map inferAtom) with
    | .ok as => .ok (.list as)
    | .no => .no
    | .unknown => .unknown
  else match inferAtom s.toList with
    | .ok a => .ok (.atom a)
    | .no => .no
    | .unknown => .unknown

/-- E7 token as a decimal literal with seven fractional digits (what the model uses for
`LatLngToString`; the code prints the shortest float, which reads back to the same E7 value) -/
def coordText (tok : String) : String :=
  if tok == "nan" then "NaN" else if tok == "+inf" then "+Inf" else if tok == "-inf" then "-Inf"
  else if tok == "big" then "1e300"
  else
    let (neg, digits) := match tok.toList with
      | '-' :: r => (true, r)
      | l => (false, l)
    let padded := List.replicate (8 - digits.length) '0' ++ digits
    let ip := padded.take (padded.length - 7)
    let fp := padded.drop (padded.length - 7)
    String.ofList ((if neg then ['-'] else []) ++ ip ++ ['.'] ++ fp)

/-- `AnyExpression.String()` -/
def renderAtom : Atom → String
  | .str s => s
  | .int n => toString n
  | .flt b => "f" ++ b
  | .pt la lo => coordText la ++ "," ++ coordText lo
  | .fid t ns v => typeName t ++ "/" ++ ns ++ "/" ++ toString v
  | .other s => s

def render : V → String
  | .atom a => renderAtom a
  | .list as => ";".intercalate (as.map renderAtom)

/-- a YAML value as the decoder sees it: native scalars or the explicit one-key map -/
inductive YVal where
  | plain (s : String)
  | int (n : Int)
  | flt (bits : String)
  | explicit (field : String) (a : Atom)
deriving DecidableEq, Repr

/-- whether IEEE bits (16 hex digits) denote an integral value or an infinity (`f == math.Trunc(f)`) -/
def hexVal (c : Char) : Nat :=
  if isDigit c then digitVal c else if 'a' ≤ c && c ≤ 'f' then c.toNat - 'a'.toNat + 10 else 0

def integralBits (b : String) : Bool :=
  if b == "nan" then false else
  let n := b.toList.foldl (fun acc c => acc * 16 + hexVal c) 0
  let ex := (n / 2 ^ 52) % 2048
  let frac := n % 2 ^ 52
  if ex == 2047 then frac == 0
  else if ex == 0 then frac == 0
  else
    -- value = (2^52 + frac) · 2^(ex - 1075)
    if ex ≥ 1075 then true
    else if 1075 - ex > 52 then false
    else (2 ^ 52 + frac) % 2 ^ (1075 - ex) == 0

/-- yaml.v2 `prepare`: a scalar whose text is `null` or `~` is treated as null and never reaches
`Expression.UnmarshalYAML`, even when it was written quoted; the
explicit form `{string: …}` is read from the generic value instead (`explicitStringYAML`) -/
def yamlNull (s : String) : Bool := s == "null" || s == "~"

/-- `Expression.MarshalYAML` -/
def encode : V → YVal
  | .atom (.str s) =>
    match infer s with
    | .ok (.atom (.str _)) => if yamlNull s then .explicit "string" (.str s) else .plain s
    | _ => .explicit "string" (.str s)
  | .atom (.int n) => .int n
  | .atom (.flt b) => if integralBits b then .explicit "float" (.flt b) else .flt b
  | .atom (.pt la lo) => .explicit "point" (.pt la lo)
  | .atom (.fid t ns v) => .explicit "id" (.fid t ns v)
  | .atom (.other s) => .explicit "other" (.other s)
  | .list as => .plain (render (.list as))

/-- `Expression.UnmarshalYAML`; `none` = the document cannot be decoded -/
def decode : YVal → Option (Parse V)
  | .plain s => if yamlNull s then none else some (infer s)
  | .int n => some (.ok (.atom (.int n)))
  | .flt b => some (.ok (.atom (.flt b)))
  | .explicit _ a => some (.ok (.atom a))

def unrendered : Atom → Bool
  | .flt _ => true
  | .other _ => true
  | _ => false

/-- a value through export and import (the `%f` rendering of a float inside a list is not modelled) -/
def reinfer (v : V) : Option (Parse V) :=
  match v with
  | .list as => if as.any unrendered then some .unknown else decode (encode v)
  | _ => decode (encode v)

/-- the same for a collection key / value (`Literal.MarshalYAML` / `UnmarshalYAML`) -/
def reinferAtom (a : Atom) : Option (Parse V) := reinfer (.atom a)

/-- what the text layer did before the fix (every string written bare, every float natively) -/
def encodeBare : V → YVal
  | .atom (.str s) => .plain s
  | .atom (.flt b) => .flt b
  | v => encode v

/-- what a bare float did before the fix: YAML writes an integral float without a decimal point and reads it
back as an int (`none` = the model does not say: magnitudes of 2^63 and above) -/
def bareFloatReadsAsInt (b : String) : Bool := integralBits b && b != "7ff0000000000000" && b != "fff0000000000000"

/-! ## Part B: features, the overlay state, export and import -/

abbrev Tag := Key × V

inductive Poly where
  /-- the closed paths of one polygon -/
  | ids (ps : List Id)
  /-- a literal polygon: loops of E7 vertices -/
  | lit (loops : List (List (String × String)))
deriving DecidableEq, Repr

inductive Body where
  /-- `GenericFeature` (points, paths): everything is in the tags -/
  | generic
  | area (ps : List Poly)
  | relation (ms : List (Id × String))
  | collection (es : List (Atom × Atom))
deriving DecidableEq, Repr, Inhabited

/-- an `ingest.Feature` -/
structure Feat where
  id : Id
  tags : List Tag
  body : Body
deriving DecidableEq, Repr

/-- the feature ids of the harness: digit · 1000 + value in one namespace; digit 0 point, 1 path, 2 area,
3 relation, 4 collection -/
def NS : String := "diagonal.works/ns/verif"
def idType (id : Id) : Nat := id / 1000
def outsideId : Id := 900000

def digitOfType (t : Nat) : Option Nat :=
  if t ≤ 3 then some t else if t == 5 then some 4 else none

/-- the model id of a feature id (`outsideId` when it is not one of the universe's) -/
def fidId (t : Nat) (ns : String) (v : Nat) : Id :=
  match digitOfType t with
  | some d => if ns == NS && v < 1000 then d * 1000 + v else outsideId
  | none => outsideId

/-- `FeatureID.IsValid` -/
def fidValid (t : Nat) (ns : String) : Bool := ns != "" && t != 4

/-! ### tags (`b6.Tags`) and `ModifiedTags` -/

/-- `Tags.ModifyOrAddTag` -/
def tagSet : List Tag → Tag → List Tag
  | [], t => [t]
  | (k, v) :: r, t => if k = t.1 then (k, t.2) :: r else (k, v) :: tagSet r t

/-- `Tags.RemoveTag` (key-distinct lists) -/
def tagRemove (ts : List Tag) (k : Key) : List Tag := Mutable.AMap.erase ts k

inductive VMod where
  | set (v : V)
  | del
deriving DecidableEq, Repr

abbrev VMods := List (Key × VMod)

def modExisting (mods : VMods) (t : Tag) : Option Tag :=
  match Mutable.AMap.get mods t.1 with
  | some (.set v) => some (t.1, v)
  | some .del => none
  | none => some t

def modNew (mods : VMods) (orig : List Tag) (e : Key × VMod) : Option Tag :=
  match Mutable.AMap.get mods e.1 with
  | some (.set v) => if (Mutable.AMap.get orig e.1).isNone then some (e.1, v) else none
  | _ => none

/-- `modifyTags` -/
def applyMods (mods : VMods) (orig : List Tag) : List Tag :=
  orig.filterMap (modExisting mods) ++ mods.filterMap (modNew mods orig)

/-- `modifyTag` -/
def modLookup : Option VMod → Option V → Option V
  | some (.set v), _ => some v
  | some .del, _ => none
  | none, o => o

def modsOf (mods : List (Id × VMods)) (id : Id) : VMods :=
  match Mutable.AMap.get mods id with
  | some m => m
  | none => []

def modsSet (mods : List (Id × VMods)) (id : Id) (k : Key) (m : VMod) : List (Id × VMods) :=
  Mutable.AMap.set mods id (Mutable.AMap.set (modsOf mods id) k m)

/-! ### references -/

/-- the elements of the `path` tag (`Tags.Get(PathTag)` valid and a list) -/
def pathElems (tags : List Tag) : Option (List Atom) :=
  match Mutable.AMap.get tags "path" with
  | some (.list as) => some as
  | _ => none

def atomRef : Atom → Option Id
  | .fid t ns v => if fidValid t ns then some (fidId t ns v) else none
  | _ => none

/-- the path ids of one polygon of an area (none for a literal polygon) -/
def polyPaths : Poly → List Id
  | .ids l => l
  | .lit _ => []

/-- `Feature.References()` as ids -/
def refsOf (f : Feat) : List Id :=
  match f.body with
  | .generic => match pathElems f.tags with
    | some as => as.filterMap atomRef
    | none => []
  | .area ps => ps.flatMap polyPaths
  | .relation ms => ms.map (·.1)
  | .collection es => es.filterMap fun e => match e.1 with
    | .fid t ns v => some (fidId t ns v)
    | _ => none

/-- whether the references of the feature are `IndexedFeatureID`s (one map key per target) -/
def indexedRefs (f : Feat) : Bool :=
  match f.body with
  | .generic => true
  | _ => false

/-! ### the world -/

/-- the base world: lookup and `FindReferences` (transitive referrers that exist) -/
structure Base where
  find : Id → Option Feat
  refs : Id → List Id

/-- the private tables of one `MutableOverlayWorld` the export reads -/
structure St where
  feats : List (Id × Feat)
  mods : List (Id × VMods)
deriving Repr

def St.empty : St := ⟨[], []⟩

/-- `MutableOverlayWorld.FindFeatureByID` -/
def St.find (b : Base) (s : St) (id : Id) : Option Feat :=
  match Mutable.AMap.get s.feats id with
  | some f => some f
  | none => (b.find id).map fun f => { f with tags := applyMods (modsOf s.mods id) f.tags }

/-- `FindLocationByID` succeeds: the feature is a generic one with a `point` tag -/
def hasLoc (find : Id → Option Feat) (id : Id) : Bool :=
  match find id with
  | some f => (Mutable.AMap.get f.tags "point").isSome && f.body == .generic
  | none => false

def dedupIds : List Id → List Id
  | [] => []
  | x :: r => if r.contains x then dedupIds r else x :: dedupIds r

/-- the sources `m.references` records for a target: overlay features that refer to it -/
def direct (s : St) (tgt : Id) : List Id :=
  s.feats.filterMap fun e => if (refsOf e.2).contains tgt then some e.2.id else none

/-- `FeatureReferencesByID.FindReferences` as source ids -/
def closure (s : St) : Nat → Id → List Id
  | 0, _ => []
  | n + 1, id => direct s id ++ (direct s id).flatMap (closure s n)

def St.fuel (s : St) : Nat := s.feats.length + 1

/-- `MutableOverlayWorld.FindReferences(id)`, untyped -/
def St.referrers (b : Base) (s : St) (id : Id) : List Id :=
  let br := (b.refs id).filter (fun r => !Mutable.AMap.contains s.feats r)
  let all := br ++ br.flatMap (closure s s.fuel) ++ closure s s.fuel id
  (dedupIds all).filter (fun r => (s.find b r).isSome)

/-! ### validation (validate.go), S2 left open -/

inductive Verd where
  | ok
  /-- a reference of the feature itself cannot be resolved -/
  | missing
  /-- the feature itself is structurally invalid -/
  | fail
  /-- a feature that refers to it would become invalid -/
  | referrer
  /-- structurally fine; S2 decides (loop validity, orientation) -/
  | s2
deriving DecidableEq, Repr

def isPt : Atom → Bool
  | .pt _ _ => true
  | _ => false

/-- `Tags.ClosedPath`: the first element and the element at index (number of id elements − 1) are the same
valid id -/
def closedPath (as : List Atom) : Bool :=
  let n := (as.filterMap atomRef).length
  match as.head?, as[n - 1]? with
  | some a, some z => (atomRef a).isSome && atomRef a == atomRef z && n ≥ 1
  | _, _ => false

/-- a path element that is an id without a location -/
def missingRef (loc : Id → Bool) (a : Atom) : Bool :=
  match atomRef a with
  | some id => !loc id
  | none => false

/-- `ValidatePath` -/
def validatePath (loc : Id → Bool) (tags : List Tag) : Verd :=
  if (Mutable.AMap.get tags "point").isSome then .fail else
  match pathElems tags with
  | none => .fail
  | some as =>
    if as.length < 2 then .fail
    else if as.any (fun a => !isPt a && (atomRef a).isNone) then .fail
    else if as.any (missingRef loc) then .missing
    else if closedPath as then .s2 else .ok

/-- `ValidateArea` on one path id: the path exists, its end points resolve, `ValidatePathForArea` -/
def validateAreaPath (find : Id → Option Feat) (id : Id) : Verd :=
  match find id with
  | none => .missing
  | some p =>
    if (Mutable.AMap.get p.tags "point").isSome then .fail else
    match pathElems p.tags with
    | none => .fail
    | some as =>
      let ends := [as.head?, as.getLast?].filterMap (fun a => a.bind atomRef)
      if ends.any (fun r => !hasLoc find r) then .fail
      else if as.length < 3 then .fail
      else if as.head? != as.getLast? then .fail
      else .ok

def Verd.isErr : Verd → Bool
  | .missing => true
  | .fail => true
  | .referrer => true
  | _ => false

def validateArea (find : Id → Option Feat) (ps : List Poly) : Verd :=
  let vs := (ps.flatMap polyPaths).map (validateAreaPath find)
  if vs.contains .missing then .missing else if vs.contains .fail then .fail else .ok

/-- `ValidateFeature` -/
def validateFeature (find : Id → Option Feat) (f : Feat) : Verd :=
  if idType f.id == 1 then validatePath (hasLoc find) f.tags
  else if idType f.id == 2 then
    match f.body with
    | .area ps => validateArea find ps
    | _ => .ok
  else .ok

/-- the answer of `AddFeature`: the feature in the current world, then its referrers in the world where it
has replaced the existing one -/
def St.validateAdd (b : Base) (s : St) (f : Feat) : Verd :=
  match validateFeature (s.find b) f with
  | .missing => .missing
  | .fail => .fail
  | own =>
    let find' : Id → Option Feat := fun id => if id = f.id then some f else s.find b id
    let rs := ((s.referrers b f.id).filterMap (s.find b)).map (validateFeature find')
    if rs.any Verd.isErr then .referrer
    else if own == .s2 || rs.contains .s2 then .s2 else .ok

/-! ### mutations -/

/-- `MutableOverlayWorld.AddTag`; the error (no such feature) leaves the world unchanged -/
def St.addTag (b : Base) (s : St) (id : Id) (t : Tag) : St :=
  match Mutable.AMap.get s.feats id with
  | some f => { s with feats := Mutable.AMap.set s.feats id { f with tags := tagSet f.tags t } }
  | none =>
    match s.find b id with
    | none => s
    | some f =>
      if Mutable.indexedKey t.1 || (idType id == 0 && f.tags.length == 1) then
        { feats := Mutable.AMap.set s.feats id { f with tags := tagSet f.tags t },
          mods := Mutable.AMap.erase s.mods id }
      else { s with mods := modsSet s.mods id t.1 (.set t.2) }

/-- `MutableOverlayWorld.RemoveTag` -/
def St.removeTag (b : Base) (s : St) (id : Id) (k : Key) : St :=
  match Mutable.AMap.get s.feats id with
  | some f => { s with feats := Mutable.AMap.set s.feats id { f with tags := tagRemove f.tags k } }
  | none =>
    match s.find b id with
    | none => s
    | some f =>
      match Mutable.AMap.get f.tags k with
      | none => s
      | some _ =>
        if Mutable.indexedKey k || (idType id == 0 && f.tags.length == 2) then
          { feats := Mutable.AMap.set s.feats id { f with tags := tagRemove f.tags k },
            mods := Mutable.AMap.erase s.mods id }
        else { s with mods := modsSet s.mods id k .del }

/-- whether `AddTag` / `RemoveTag` answer with an error -/
def St.tagErr (b : Base) (s : St) (id : Id) : Bool := (s.find b id).isNone

/-- `NewModifiedFeaturesWithCopies`: a referrer that only lives in the base is copied into the overlay as
the world shows it -/
def copyStep (newId : Id) (feats : List (Id × Feat)) (r : Feat) : List (Id × Feat) :=
  if Mutable.AMap.contains feats r.id || r.id == newId then feats else Mutable.AMap.set feats r.id r

/-- an accepted `AddFeature`: copies, replacement, `delete(m.tags, id)` -/
def St.commit (s : St) (f : Feat) (referrers : List Feat) : St :=
  { feats := Mutable.AMap.set (referrers.foldl (copyStep f.id) s.feats) f.id f,
    mods := Mutable.AMap.erase s.mods f.id }

def St.addFeature (b : Base) (s : St) (f : Feat) : St :=
  s.commit f ((s.referrers b f.id).filterMap (s.find b))

/-! ### export (`ExportChangesAsYAML`) -/

inductive Doc where
  /-- `{id, add, remove}` -/
  | mods (id : Id) (add : List Tag) (remove : List Key)
  /-- a feature: `{id, tags}`, `{id, area, tags}`, `{id, relation, tags}`, `{id, collection, tags}` -/
  | feat (f : Feat)
deriving DecidableEq, Repr

def sets (m : VMods) : List Tag :=
  m.filterMap fun e => match e.2 with
    | .set v => some (e.1, v)
    | .del => none

def dels (m : VMods) : List Key :=
  m.filterMap fun e => match e.2 with
    | .set _ => none
    | .del => some e.1

def exportMods (ms : List (Id × VMods)) : List Doc :=
  ms.filterMap fun e => if e.2.isEmpty then none else some (.mods e.1 (sets e.2) (dels e.2))

def exportFeats (s : St) (ord : List Id) : List Doc :=
  ord.filterMap fun id => (Mutable.AMap.get s.feats id).map Doc.feat

/-- the exported documents for an order of the overlay's features -/
def exportDocs (s : St) (ord : List Id) : List Doc := exportMods s.mods ++ exportFeats s ord

/-- the keys of the map `FindReferences` fills: one per (target, source) for indexed references, one per
source otherwise -/
abbrev RefKey := Id × Option Id

def directKeys (s : St) (tgt : Id) : List RefKey :=
  s.feats.filterMap fun e =>
    if (refsOf e.2).contains tgt then some (e.2.id, if indexedRefs e.2 then some tgt else none) else none

def reach (s : St) : Nat → Id → List RefKey
  | 0, _ => []
  | n + 1, t => directKeys s t ++ (directKeys s t).flatMap (fun k => reach s n k.1)

def dedupKeys : List RefKey → List RefKey
  | [] => []
  | x :: r => if r.contains x then dedupKeys r else x :: dedupKeys r

/-- the sort key of `feedFeatures` with `FeedReferencesFirst`: `len(r.FindReferences(id))` -/
def rank (s : St) (id : Id) : Nat := (dedupKeys (reach s s.fuel id)).length

def insertByRank (s : St) (id : Id) : List Id → List Id
  | [] => [id]
  | y :: r =>
    if rank s id > rank s y || (rank s id == rank s y && id < y) then id :: y :: r
    else y :: insertByRank s id r

/-- one of the orders the export can produce: rank descending, ties by id -/
def exportOrder (s : St) : List Id :=
  (Mutable.AMap.keys s.feats).foldl (fun acc id => insertByRank s id acc) []

/-! ### the text layer on documents -/

inductive TextErr where
  /-- yaml.v2 cannot decode the document: `Apply` stops with an error -/
  | undecodable
  /-- outside what the model of the text layer decides -/
  | unknown
deriving DecidableEq, Repr

def textValue (v : V) : Except TextErr V :=
  match reinfer v with
  | none => .error .undecodable
  | some (.ok v') => .ok v'
  | some _ => .error .unknown

def textTags : List Tag → Except TextErr (List Tag)
  | [] => .ok []
  | t :: r => do
    let v ← textValue t.2
    let r' ← textTags r
    pure ((t.1, v) :: r')

def textAtom (a : Atom) : Except TextErr Atom :=
  match textValue (.atom a) with
  | .ok (.atom a') => .ok a'
  | .ok (.list _) => .error .unknown
  | .error e => .error e

def textPairs : List (Atom × Atom) → Except TextErr (List (Atom × Atom))
  | [] => .ok []
  | e :: r => do
    let k ← textAtom e.1
    let v ← textAtom e.2
    let r' ← textPairs r
    pure ((k, v) :: r')

def textBody : Body → Except TextErr Body
  | .collection es => do
    let es' ← textPairs es
    pure (.collection es')
  | b => .ok b

/-- a document through `yaml.Encoder` and `yaml.Decoder` -/
def textDoc : Doc → Except TextErr Doc
  | .mods id add rm => do
    let add' ← textTags add
    pure (.mods id add' rm)
  | .feat f => do
    let tags ← textTags f.tags
    let body ← textBody f.body
    pure (.feat { f with tags := tags, body := body })

/-! ### whether an ingested collection is sorted by key (`newCollectionFeatureFromYAML`) -/

/-- a finite float or an infinity as m · 2^e (`none` for NaN) -/
def fltVal (b : String) : Option (Int × Int) :=
  if b == "nan" then none else
  let n : Nat := b.toList.foldl (fun acc c => acc * 16 + hexVal c) 0
  let neg : Bool := n / 2 ^ 63 == 1
  let ex : Nat := (n / 2 ^ 52) % 2048
  let frac : Nat := n % 2 ^ 52
  let sign : Int := if neg then -1 else 1
  if ex == 2047 then (if frac == 0 then some (sign, 5000) else none)
  else if ex == 0 then some (sign * Int.ofNat frac, -1074)
  else some (sign * Int.ofNat (2 ^ 52 + frac), Int.ofNat ex - 1075)

/-- m1 · 2^e1 < m2 · 2^e2 -/
def scaledLt (a b : Int × Int) : Bool :=
  let e := min a.2 b.2
  a.1 * 2 ^ (a.2 - e).toNat < b.1 * 2 ^ (b.2 - e).toNat

/-- `b6.Less` on collection literals; `none` = the error "can't compare": an int compares with ints only,
a float with floats and ints, a string with strings, a feature id with feature ids, nothing else at all -/
def atomLess (a b : Atom) : Option Bool :=
  match a, b with
  | .int x, .int y => some (x < y)
  | .flt x, .flt y => match fltVal x, fltVal y with
    | some u, some v => some (scaledLt u v)
    | _, _ => some false
  | .flt x, .int y => match fltVal x with
    | some u => some (scaledLt u (y, 0))
    | none => some false
  | .str x, .str y => some (x < y)
  | .fid t ns v, .fid t' ns' v' =>
    some (if t == t' then (if ns == ns' then v < v' else ns < ns') else t < t')
  | _, _ => none

/-- the `sorted` flag of an ingested collection (after `fixes/C18-collection-sorted-mixed-keys.patch`): no
key is less than its predecessor, and neighbours compare in either order -/
def keysSorted : List Atom → Bool
  | a :: b :: r =>
    (match atomLess b a, atomLess a b with
      | some false, some _ => true
      | _, _ => false) && keysSorted (b :: r)
  | _ => true

/-! ### import (`ingestedYAML.Apply`) -/

/-- one document: `AddFeature` (its answer is `acc`), then `AddTag` for every added tag, `RemoveTag` for
every removed key (their errors are ignored). `none` = `Apply` returns the error. -/
def importDoc (b : Base) (acc : St → Feat → Bool) (s : St) : Doc → Option St
  | .feat f => if acc s f then some (s.addFeature b f) else none
  | .mods id add rm =>
    some (rm.foldl (fun s k => s.removeTag b id k) (add.foldl (fun s t => s.addTag b id t) s))

def importDocs (b : Base) (acc : St → Feat → Bool) : St → List Doc → Option St
  | s, [] => some s
  | s, d :: r =>
    match importDoc b acc s d with
    | some s' => importDocs b acc s' r
    | none => none

/-- one document with `AddFeature` accepted -/
def rebuildDoc (b : Base) (s : St) : Doc → St
  | .feat f => s.addFeature b f
  | .mods id add rm => rm.foldl (fun s k => s.removeTag b id k) (add.foldl (fun s t => s.addTag b id t) s)

/-- the world rebuilt from a list of documents: the base plus what they say -/
def rebuild (b : Base) (s : St) (docs : List Doc) : St := docs.foldl (rebuildDoc b) s

/-- **when `Apply` gets through**: every feature document is accepted by `AddFeature` in the world rebuilt
from the documents before it -/
def docsValid (b : Base) (acc : St → Feat → Bool) : St → List Doc → Bool
  | _, [] => true
  | s, .feat f :: r => acc s f && docsValid b acc (s.addFeature b f) r
  | s, .mods id add rm :: r => docsValid b acc (rebuildDoc b s (.mods id add rm)) r

/-- the same as a condition on the exporting world `s` (and the order its features are listed in) -/
def applyGetsThrough (b : Base) (acc : St → Feat → Bool) (s : St) (ord : List Id) : Bool :=
  docsValid b acc St.empty (exportDocs s ord)

/-! ### validation with an oracle for S2 -/

/-- the coordinates of a path element: a literal, or the `point` tag of the feature referred to -/
def elemCoord (find : Id → Option Feat) : Atom → Option (String × String)
  | .pt la lo => some (la, lo)
  | a => match atomRef a with
    | some id => match find id with
      | some f => match Mutable.AMap.get f.tags "point" with
        | some (.atom (.pt la lo)) => some (la, lo)
        | _ => none
      | none => none
    | none => none

/-- the vertices `ValidatePath` hands to S2 for a closed path: all but the last element -/
def loopCoords (find : Id → Option Feat) (tags : List Tag) : Option (List (String × String)) :=
  match pathElems tags with
  | some as => as.dropLast.mapM (elemCoord find)
  | none => none

/-- `ValidateFeature` with `loopOK` answering for S2 (`loop.Validate() == nil && loop.Area() <= 2π`) -/
def validateFeatureO (loopOK : List (String × String) → Bool) (find : Id → Option Feat) (f : Feat) : Verd :=
  match validateFeature find f with
  | .s2 => match loopCoords find f.tags with
    | some cs => if loopOK cs then .ok else .fail
    | none => .fail
  | v => v

/-- `AddFeature`'s answer with the oracle: `ok`, or why not -/
def St.validateAddO (loopOK : List (String × String) → Bool) (b : Base) (s : St) (f : Feat) : Verd :=
  match validateFeatureO loopOK (s.find b) f with
  | .ok =>
    let find' : Id → Option Feat := fun id => if id = f.id then some f else s.find b id
    let rs := ((s.referrers b f.id).filterMap (s.find b)).map (validateFeatureO loopOK find')
    if rs.all (· == .ok) then .ok else .referrer
  | v => v

def St.accepts (loopOK : List (String × String) → Bool) (b : Base) (s : St) (f : Feat) : Bool :=
  s.validateAddO loopOK b f == .ok

/-! ### a concrete base: `BasicMutableWorld` filled with features -/

def baseTable (fs : List Feat) : List (Id × Feat) := fs.foldl (fun m f => Mutable.AMap.set m f.id f) []

def baseOf (fs : List Feat) : Base :=
  let st : St := ⟨baseTable fs, []⟩
  { find := fun id => Mutable.AMap.get st.feats id,
    refs := fun id => (dedupIds (closure st st.fuel id)).filter (fun r => Mutable.AMap.contains st.feats r) }

end B6.Model.ChangeExport
