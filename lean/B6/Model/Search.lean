import B6.Spec.SearchQuery
import B6.Model.Posting
/-!
# Model of the search iterators (C06, shared layer L4)

Mirrors /repo/src/diagonal.works/b6/search: `array.go` (`arrayIndexIterator`), `search.go` (`emptyIterator`,
`All`), `union.go` (`union`), `intersection.go` (`intersection`), `range.go` (`keyRange`), `prefix.go`
(`tokenPrefix`), and `merged.go` (`mergedFeatures`, the k-way merge of b6.Features used by C03).

Values and keys are naturals (b6 uses feature IDs; the drivers embed them order-preservingly).

What is abstracted:
* `sort.Search` in `arrayIndexIterator.Advance` is "least index at or after the cursor whose element is
  `≥ key`" (`lowerBound`) — `sort.Search` itself is trusted (DESIGN §3).
* the binary heap of `union`/`mergedFeatures` is a list of the live children; the heap top is the first
  child with the least value (ties between equal values are not observable: they carry the same key).
* the tree-index leaf (`treeListIterator`) is the same sorted-list cursor with `EstimateLength` = list
  length; its pointer structure is C07's model.  The compact posting-list leaf (`compact.Iterator`) is not
  abstracted: `Iter.pleaf` runs C08's byte-level model `B6.Model.Posting` (`Lemmas/SearchPosting.lean`).
* loops of the Go code run on explicit fuel; running out is the explicit outcome `Err.fuel`
  (`intersection_terminates`, `union_refines` show it never happens when the children behave).
Go panics are the explicit outcome `Err.panic`; `Value()` is `none` where Go panics or returns nil.
-/
namespace B6.Model.Search
open B6.Spec.Cursor B6.Spec.SearchQuery

/-! ## Leaves: `arrayIndexIterator` (and the tree-index iterator, by its contract) -/

/-- `pos = i + 1` of the Go field `i` (`i = -1` before the first call). -/
structure Leaf where
  kind : LeafKind
  xs : List Nat
  pos : Nat
  deriving Repr, DecidableEq

/-- least index `j ≥ i` with `xs[j] ≥ k` (`xs.length` if none) — what `sort.Search` returns on a sorted list -/
def lowerBound (xs : List Nat) (i : Nat) (k : Nat) : Nat :=
  i + ((xs.drop i).takeWhile (· < k)).length

namespace Leaf

/-- `if a.i+1 >= len(a.list) { return false }; a.i++; return true` -/
def next (l : Leaf) : Bool × Leaf :=
  if l.pos ≥ l.xs.length then (false, l) else (true, { l with pos := l.pos + 1 })

/-- `if a.i < 0 { a.i = 0 }; a.i += sort.Search(...); return a.i < len(a.list)` -/
def advance (k : Nat) (l : Leaf) : Bool × Leaf :=
  let j := lowerBound l.xs (l.pos - 1) k
  (decide (j < l.xs.length), { l with pos := j + 1 })

/-- `a.list[a.i]` — panics (`none`) before the first call and past the end -/
def value (l : Leaf) : Option Nat := if l.pos = 0 then none else l.xs[l.pos - 1]?

/-- array: `len(a.list) - a.i`; tree: `t.list.length` -/
def estimate (l : Leaf) : Nat :=
  match l.kind with
  | .array => l.xs.length + 1 - l.pos
  | .tree => l.xs.length
  | .compact => l.xs.length     -- not used: compact indices hand out `Iter.pleaf`

def ops : IterOps Leaf where
  next l := .ok l.next
  advance k l := .ok (l.advance k)
  value := value
  estimate := estimate

end Leaf

/-- `emptyIterator` -/
def emptyOps : IterOps Unit where
  next _ := .ok (false, ())
  advance _ _ := .ok (false, ())
  value _ := none
  estimate _ := 0

/-! ## Union -/

/-- split a list at its first element with the least key (the heap top) -/
def splitMin {α : Type} (key : α → Nat) : List α → Option (List α × α × List α)
  | [] => none
  | a :: l =>
    match splitMin key l with
    | none => some ([], a, [])
    | some (pre, m, post) => if key a ≤ key m then some ([], a, l) else some (a :: pre, m, post)

/-- `union`: before `start()` the slice holds every child; afterwards the heap of the children that are
still live, each with the value it is on. -/
inductive UnionState (σ : Type) where
  | fresh (its : List σ)
  | live (l : List (σ × Nat))
  deriving Repr

namespace Union
variable {σ : Type}

/-- `union.start`: call `Next` on every child, keep those that returned true -/
def start (ops : IterOps σ) : List σ → Except Err (List (σ × Nat))
  | [] => .ok []
  | s :: rest =>
    match ops.next s with
    | .ok (true, s') =>
      match ops.value s' with
      | some v =>
        match start ops rest with
        | .ok l => .ok ((s', v) :: l)
        | .error e => .error e
      | none => .error .panic
    | .ok (false, _) => start ops rest
    | .error e => .error e

/-- the two heap loops of `union.Next` / `union.Advance`: while the heap is not empty and `cond` holds of
the top's value, `step` the top and `heap.Fix` it, or `heap.Pop` it when it is exhausted -/
def loop (ops : IterOps σ) (cond : Nat → Bool) (step : σ → Res σ) :
    Nat → List (σ × Nat) → Except Err (List (σ × Nat))
  | 0, _ => .error .fuel
  | f + 1, l =>
    match splitMin (·.2) l with
    | none => .ok []
    | some (pre, (s, v), post) =>
      if cond v then
        match step s with
        | .ok (true, s') =>
          match ops.value s' with
          | some v' => loop ops cond step f (pre ++ (s', v') :: post)
          | none => .error .panic
        | .ok (false, _) => loop ops cond step f (pre ++ post)
        | .error e => .error e
      else .ok l

def finish (r : Except Err (List (σ × Nat))) : Res (UnionState σ) :=
  match r with
  | .ok l => .ok (!l.isEmpty, .live l)
  | .error e => .error e

def next (ops : IterOps σ) : UnionState σ → Res (UnionState σ)
  | .fresh its => finish (start ops its)
  | .live l =>
    match splitMin (·.2) l with
    | none => .ok (false, .live [])
    | some (_, (_, cur), _) => finish (loop ops (· == cur) ops.next (l.length + 1) l)

def advanceLive (ops : IterOps σ) (to : Nat) (l : List (σ × Nat)) : Res (UnionState σ) :=
  finish (loop ops (· < to) (ops.advance to) (l.length + 1) l)

def advance (ops : IterOps σ) (to : Nat) : UnionState σ → Res (UnionState σ)
  | .fresh its =>
    match start ops its with
    | .ok l => advanceLive ops to l
    | .error e => .error e
  | .live l => advanceLive ops to l

/-- `u.iterators[0].Value()`; before `start()` the children have no value yet -/
def value : UnionState σ → Option Nat
  | .fresh _ => none
  | .live l => (splitMin (·.2) l).map (·.2.1.2)

/-- maximum of the children's estimates (0 when there is none) -/
def estimate (ops : IterOps σ) : UnionState σ → Nat
  | .fresh its => its.foldl (fun m s => max m (ops.estimate s)) 0
  | .live l => l.foldl (fun m s => max m (ops.estimate s.1)) 0

def ops (o : IterOps σ) : IterOps (UnionState σ) where
  next := next o
  advance := advance o
  value := value
  estimate := estimate o
  dom := o.dom

end Union

/-! ## Intersection -/

inductive ScanRes (σ : Type) where
  | allEqual (others : List σ)                 -- every other child sits on the lead's value
  | exhausted (lead : σ) (others : List σ)     -- some `Advance` returned false
  | restart (lead : σ) (others : List σ)       -- a child was ahead; the lead was advanced to it (`break`)
  | err (e : Err)

namespace Inter
variable {σ : Type}

/-- stable insertion sort by `EstimateLength` (`sort.Stable(byEstimatedLength(iterators))`; the result of
a stable sort does not depend on the algorithm) -/
def insertBy (est : σ → Nat) (a : σ) : List σ → List σ
  | [] => [a]
  | b :: l => if est b < est a then b :: insertBy est a l else a :: b :: l

def sortBy (est : σ → Nat) : List σ → List σ
  | [] => []
  | a :: l => insertBy est a (sortBy est l)

/-- the inner `for i := 1; i < len(in.iterators); i++` of `advanceToNextIntersecion`; `v` is the lead's value -/
def scan (ops : IterOps σ) (lead : σ) (v : Nat) : List σ → ScanRes σ
  | [] => .allEqual []
  | c :: rest =>
    match ops.advance v c with
    | .ok (false, c') => .exhausted lead (c' :: rest)
    | .ok (true, c') =>
      match ops.value c' with
      | none => .err .panic
      | some w =>
        if w = v then
          match scan ops lead v rest with
          | .allEqual r => .allEqual (c' :: r)
          | .exhausted l r => .exhausted l (c' :: r)
          | .restart l r => .restart l (c' :: r)
          | .err e => .err e
        else
          match ops.advance w lead with
          | .ok (false, l') => .exhausted l' (c' :: rest)
          | .ok (true, l') => .restart l' (c' :: rest)
          | .error e => .err e
    | .error e => .err e

/-- the outer `for {}` of `advanceToNextIntersecion` -/
def leapfrog (ops : IterOps σ) : Nat → σ → List σ → Res (List σ)
  | 0, _, _ => .error .fuel
  | f + 1, lead, others =>
    match ops.value lead with
    | none => .error .panic
    | some v =>
      match scan ops lead v others with
      | .allEqual o => .ok (true, lead :: o)
      | .exhausted l o => .ok (false, l :: o)
      | .restart l o => leapfrog ops f l o
      | .err e => .error e

/-- `in.iterators[0]` panics on an intersection without children -/
def next (ops : IterOps σ) (fuel : Nat) : List σ → Res (List σ)
  | [] => .error .panic
  | lead :: others =>
    match ops.next lead with
    | .ok (true, l') => leapfrog ops fuel l' others
    | .ok (false, l') => .ok (false, l' :: others)
    | .error e => .error e

def advance (ops : IterOps σ) (fuel : Nat) (to : Nat) : List σ → Res (List σ)
  | [] => .error .panic
  | lead :: others =>
    match ops.advance to lead with
    | .ok (true, l') => leapfrog ops fuel l' others
    | .ok (false, l') => .ok (false, l' :: others)
    | .error e => .error e

def value (ops : IterOps σ) : List σ → Option Nat
  | [] => none
  | lead :: _ => ops.value lead

def estimate (ops : IterOps σ) : List σ → Nat
  | [] => 0
  | lead :: _ => ops.estimate lead

/-- `newIntersection` -/
def new (ops : IterOps σ) (its : List σ) : List σ := sortBy ops.estimate its

def ops (o : IterOps σ) (fuel : Nat) : IterOps (List σ) where
  next := next o fuel
  advance := advance o fuel
  value := value o
  estimate := estimate o
  dom := o.dom

end Inter

/-! ## Key range -/

structure RangeState (σ : Type) where
  it : σ
  b : Nat
  e : Nat
  started : Bool
  deriving Repr

namespace Range
variable {σ : Type}

/-- `ok && CompareKey(k.iterator.Value(), k.end) == ComparisonLess` -/
def finish (ops : IterOps σ) (st : RangeState σ) (r : Res σ) : Res (RangeState σ) :=
  match r with
  | .ok (true, it') =>
    match ops.value it' with
    | some v => .ok (decide (v < st.e), { st with it := it', started := true })
    | none => .error .panic
  | .ok (false, it') => .ok (false, { st with it := it', started := true })
  | .error e => .error e

def next (ops : IterOps σ) (st : RangeState σ) : Res (RangeState σ) :=
  if st.started then finish ops st (ops.next st.it) else finish ops st (ops.advance st.b st.it)

def advance (ops : IterOps σ) (k : Nat) (st : RangeState σ) : Res (RangeState σ) :=
  if st.started then finish ops st (ops.advance k st.it)
  else
    match ops.advance st.b st.it with
    | .ok (true, it') => finish ops st (ops.advance k it')
    | .ok (false, it') => .ok (false, { st with it := it', started := true })
    | .error e => .error e

def ops (o : IterOps σ) : IterOps (RangeState σ) where
  next := next o
  advance := advance o
  value st := o.value st.it
  estimate st := o.estimate st.it
  dom := o.dom

end Range

/-! ## k-way merge of feature streams (`b6.MergeFeatures`, merged.go) — children only have `Next` -/

namespace Merged
variable {σ : Type}

/-- `do { step the top } while (heap not empty && top == current)` -/
def loop (ops : IterOps σ) (cur : Nat) : Nat → List (σ × Nat) → Except Err (List (σ × Nat))
  | 0, _ => .error .fuel
  | f + 1, l =>
    match splitMin (·.2) l with
    | none => .error .panic      -- `m.features[0]` on an empty heap
    | some (pre, (s, _), post) =>
      let continue_ (l' : List (σ × Nat)) : Except Err (List (σ × Nat)) :=
        match splitMin (·.2) l' with
        | none => .ok []
        | some (_, (_, v'), _) => if v' = cur then loop ops cur f l' else .ok l'
      match ops.next s with
      | .ok (true, s') =>
        match ops.value s' with
        | some v' => continue_ (pre ++ (s', v') :: post)
        | none => .error .panic
      | .ok (false, _) => continue_ (pre ++ post)
      | .error e => .error e

def next (ops : IterOps σ) : UnionState σ → Res (UnionState σ)
  | .fresh its => Union.finish (Union.start ops its)
  | .live l =>
    match splitMin (·.2) l with
    | none => .ok (false, .live [])
    | some (_, (_, cur), _) => Union.finish (loop ops cur (l.length + 1) l)

end Merged

/-! ## The closed iterator type and its operations -/

inductive Iter where
  | empty
  | leaf (l : Leaf)
  | union (st : UnionState Iter)
  | inter (its : List Iter)
  | range (st : RangeState Iter)
  | tprefix (it : Iter)          -- `tokenPrefix{iterator: NewUnion(...)}`
  /-- `compact.Iterator` over one posting list (C08's byte-level model), with the file's namespace table -/
  | pleaf (names : List String) (pl : B6.Model.Posting.PostingList) (it : B6.Model.Posting.It)

def liftRes {τ σ : Type} (emb : τ → σ) : Res τ → Res σ
  | .ok (b, t) => .ok (b, emb t)
  | .error e => .error e

def liftPostingErr : B6.Model.Posting.Err → Err
  | .panic => .panic
  | .corrupt => .panic
  | .fuel => .fuel

/-- the `b6.FeatureID` of the key `TypeAndNamespace * 2^64 + value` (`NamespaceTable.DecodeID`; = `Posting.keyOf`) -/
def postingKey (names : List String) (k : Nat) : B6.Model.Posting.Key :=
  ⟨(k / 2 ^ 64) / 8192, names[(k / 2 ^ 64) % 8192]?.getD "", k % 2 ^ 64⟩

def pleafLift (names : List String) (pl : B6.Model.Posting.PostingList)
    (r : Except B6.Model.Posting.Err (Bool × B6.Model.Posting.It)) : Res Iter :=
  match r with
  | .ok p => .ok (p.1, .pleaf names pl p.2)
  | .error e => .error (liftPostingErr e)

def pleafValue (pl : B6.Model.Posting.PostingList) (it : B6.Model.Posting.It) : Option Nat :=
  match B6.Model.Posting.cur pl it with
  | .ok id => some (B6.Model.Posting.keyNat id)
  | .error _ => none

/-- Operations on `Iter` for iterator trees of nesting depth `≤ d`; `fuel` bounds the leapfrog loop of every
intersection in the tree; `K` is the key domain (`IterOps.dom`; a proposition, it does not influence the
computation).  A tree deeper than `d` answers `Err.fuel`. -/
def ops (K : Nat → Prop) (fuel : Nat) : Nat → IterOps Iter
  | 0 =>
    { next := fun
        | .empty => .ok (false, .empty)
        | .leaf l => .ok (l.next.1, .leaf l.next.2)
        | .pleaf names pl it => pleafLift names pl (B6.Model.Posting.next pl it)
        | _ => .error .fuel
      advance := fun k it =>
        match it with
        | .empty => .ok (false, .empty)
        | .leaf l => .ok ((l.advance k).1, .leaf (l.advance k).2)
        | .pleaf names pl it =>
          pleafLift names pl (B6.Model.Posting.advance pl ⟨names⟩ (postingKey names k) it)
        | _ => .error .fuel
      value := fun
        | .leaf l => l.value
        | .pleaf _ pl it => pleafValue pl it
        | _ => none
      estimate := fun
        | .leaf l => l.estimate
        | .pleaf _ pl it => (pl.ids.length - it.i) / 3
        | _ => 0
      dom := K }
  | d + 1 =>
    let sub := ops K fuel d
    { next := fun
        | .empty => .ok (false, .empty)
        | .leaf l => .ok (l.next.1, .leaf l.next.2)
        | .pleaf names pl it => pleafLift names pl (B6.Model.Posting.next pl it)
        | .union st => liftRes .union (Union.next sub st)
        | .inter its => liftRes .inter (Inter.next sub fuel its)
        | .range st => liftRes .range (Range.next sub st)
        | .tprefix it => liftRes .tprefix (sub.next it)
      advance := fun k it =>
        match it with
        | .empty => .ok (false, .empty)
        | .leaf l => .ok ((l.advance k).1, .leaf (l.advance k).2)
        | .pleaf names pl it =>
          pleafLift names pl (B6.Model.Posting.advance pl ⟨names⟩ (postingKey names k) it)
        | .union st => liftRes .union (Union.advance sub k st)
        | .inter its => liftRes .inter (Inter.advance sub fuel k its)
        | .range st => liftRes .range (Range.advance sub k st)
        | .tprefix it => liftRes .tprefix (sub.advance k it)
      value := fun
        | .empty => none
        | .leaf l => l.value
        | .pleaf _ pl it => pleafValue pl it
        | .union st => Union.value st
        | .inter its => Inter.value sub its
        | .range st => sub.value st.it
        | .tprefix it => sub.value it
      estimate := fun
        | .empty => 0
        | .leaf l => l.estimate
        | .pleaf _ pl it => (pl.ids.length - it.i) / 3
        | .union st => Union.estimate sub st
        | .inter its => Inter.estimate sub its
        | .range st => sub.estimate st.it
        | .tprefix it => sub.estimate it
      dom := K }

/-! ## Queries and their compilation (`search.Query.Compile`) -/

/-- key `TypeAndNamespace * 2^64 + value` → `(TypeAndNamespace, value)` -/
def unkey (k : Nat) : B6.Model.Posting.Id := (k / 2 ^ 64, k % 2 ^ 64)

/-- the iterator an index hands out for one posting list: an array / tree cursor, or — compact — the
`compact.Iterator` over the bytes `PostingList.Fill` writes for the list -/
def mkLeaf (ix : Index) (xs : List Nat) : Iter :=
  match ix.kind with
  | .compact => .pleaf ix.names (B6.Model.Posting.fill [] (xs.map unkey)) B6.Model.Posting.It.start
  | k => .leaf ⟨k, xs, 0⟩

/-- `index.Begin(token)` -/
def indexBegin (ix : Index) (t : Token) : Iter :=
  match ix.lookup t with
  | some xs => mkLeaf ix xs
  | none => .empty

/-- `tokens.Advance(prefix)` then `for strings.HasPrefix(tokens.Token(), prefix) { …; tokens.Next() }`:
`none` when `Advance` returns false, else the posting lists of the run of tokens with the prefix. -/
def prefixRun (ix : Index) (p : Token) : Option (List (Token × List Nat)) :=
  match ix.lists.dropWhile (fun e => decide (e.1 < p)) with
  | [] => none
  | l => some (l.takeWhile (fun e => p.isPrefixOf e.1))

mutual
/-- nesting depth of the iterator tree the query compiles to -/
def depth : SQuery → Nat
  | .empty => 0
  | .all _ => 0
  | .union qs => depthList qs + 1
  | .inter qs => depthList qs + 1
  | .keyRange _ _ q => depth q + 1
  | .tokenPrefix _ => 2
def depthList : List SQuery → Nat
  | [] => 0
  | q :: qs => max (depth q) (depthList qs)
end

mutual
/-- `Query.Compile(index)` -/
def compile (fuel : Nat) (ix : Index) : SQuery → Iter
  | .empty => .empty
  | .all t => indexBegin ix t
  | .union qs => .union (.fresh (compileList fuel ix qs))
  | .inter qs => .inter (Inter.new (ops (fun _ => True) fuel (depthList qs)) (compileList fuel ix qs))
  | .keyRange b e q => .range ⟨compile fuel ix q, b, e, false⟩
  | .tokenPrefix p =>
    match prefixRun ix p with
    | none => .empty
    | some run => .tprefix (.union (.fresh (run.map fun e => mkLeaf ix e.2)))
def compileList (fuel : Nat) (ix : Index) : List SQuery → List Iter
  | [] => []
  | q :: qs => compile fuel ix q :: compileList fuel ix qs
end

end B6.Model.Search
