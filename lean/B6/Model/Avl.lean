/-!
# Model of `search/tree.go` (treeList, treeListIterator, TreeIndex) — C07

`treeList` is an AVL tree with parent pointers and a stored balance factor per node
(`balance` = depth(right) − depth(left)).  Insertion and deletion walk down, link/unlink a node and
then *retrace* towards the root through the parent pointers (`rebalanceAfterInsert`,
`rebalanceBeforeDelete`), updating balance factors and rotating.  The model is the functional image of
that: structural recursion that returns, next to the new subtree, the flag "retracing continues above
this node" — the condition under which the Go loop does `child = parent; continue` instead of
`break`.  The four rotations carry the same balance-factor tables as the Go functions.  A nil
dereference in Go (a rotation whose pivot does not exist) is `none`; the theorems show it cannot
happen on a valid tree, the model does not assume it.

The model mirrors the code *after* the two C07 fixes (fixes/C07-*.patch): `length` counts the root
insertion and is only decremented when a node was removed; `start()` resets the iterator's node.

Keys are `Nat`, payloads any type `α` (for `TreeIndex` the payload of the token tree is itself a
`TreeList`).  `balance` is `Int` (Go: int8; the invariant keeps it in −1..1).
-/
namespace B6.Model.Avl

inductive Tree (α : Type) where
  | nil : Tree α
  | node (l : Tree α) (k : Nat) (p : α) (b : Int) (r : Tree α) : Tree α
  deriving Repr, DecidableEq

variable {α : Type}

namespace Tree

/-- `treeList.depth` -/
def height : Tree α → Nat
  | nil => 0
  | node l _ _ _ r => max (height l) (height r) + 1

/-- in-order contents -/
def toList : Tree α → List (Nat × α)
  | nil => []
  | node l k p _ r => toList l ++ (k, p) :: toList r

def keys : Tree α → List Nat
  | nil => []
  | node l k _ _ r => keys l ++ k :: keys r

/-- balance factor stored at the root (`0` for the empty tree; only used in statements) -/
def rootBal : Tree α → Int
  | nil => 0
  | node _ _ _ b _ => b

/-- `treeList.Lookup` -/
def lookup : Tree α → Nat → Option α
  | nil, _ => none
  | node l x xp _ r, k =>
    if x < k then lookup r k          -- ComparisonLess: node = node.right
    else if k < x then lookup l k     -- ComparisonGreater: node = node.left
    else some xp

/-! ## Rotations (`rotateLeft`, `rotateRight`, `rotateRightLeft`, `rotateLeftRight`)

`parent` is given by its fields (`pl`/`pr` = the subtree that is *not* `child`, key, payload); the
parent's old balance is not read by the Go functions either. -/

/-- `rotateLeft(parent, child)`, `child = parent.right` -/
def rotateLeft (pl : Tree α) (pk : Nat) (pp : α) (child : Tree α) : Option (Tree α) :=
  match child with
  | nil => none
  | node cl ck cp cb cr =>
    if cb = 0 then some (node (node pl pk pp 1 cl) ck cp (-1) cr)
    else some (node (node pl pk pp 0 cl) ck cp 0 cr)

/-- `rotateRight(parent, child)`, `child = parent.left` -/
def rotateRight (child : Tree α) (pk : Nat) (pp : α) (pr : Tree α) : Option (Tree α) :=
  match child with
  | nil => none
  | node cl ck cp cb cr =>
    if cb = 0 then some (node cl ck cp 1 (node cr pk pp (-1) pr))
    else some (node cl ck cp 0 (node cr pk pp 0 pr))

/-- `rotateRightLeft(parent, child)`, `child = parent.right`, pivot `child.left` -/
def rotateRightLeft (pl : Tree α) (pk : Nat) (pp : α) (child : Tree α) : Option (Tree α) :=
  match child with
  | node (node nl nk np nb nr) ck cp _ cr =>
    if nb > 0 then some (node (node pl pk pp (-1) nl) nk np 0 (node nr ck cp 0 cr))
    else if nb = 0 then some (node (node pl pk pp 0 nl) nk np 0 (node nr ck cp 0 cr))
    else some (node (node pl pk pp 0 nl) nk np 0 (node nr ck cp 1 cr))
  | _ => none

/-- `rotateLeftRight(parent, child)`, `child = parent.left`, pivot `child.right` -/
def rotateLeftRight (child : Tree α) (pk : Nat) (pp : α) (pr : Tree α) : Option (Tree α) :=
  match child with
  | node cl ck cp _ (node nl nk np nb nr) =>
    if nb < 0 then some (node (node cl ck cp 0 nl) nk np 0 (node nr pk pp 1 pr))
    else if nb = 0 then some (node (node cl ck cp 0 nl) nk np 0 (node nr pk pp 0 pr))
    else some (node (node cl ck cp (-1) nl) nk np 0 (node nr pk pp 0 pr))
  | _ => none

/-! ## Insert -/

/-- One iteration of `rebalanceAfterInsert` at `parent = (l, k, p, b, ·)` when `child == parent.right`
(the right subtree `r'` has just grown).  Result: the subtree now hanging where `parent` was, and
whether the loop continues with `child = parent`. -/
def insRetraceRight (l : Tree α) (k : Nat) (p : α) (b : Int) (r' : Tree α) : Option (Tree α × Bool) :=
  if b > 0 then
    match (if r'.rootBal < 0 then rotateRightLeft l k p r' else rotateLeft l k p r') with
    | some t => some (t, false)
    | none => none
  else
    let b' := b + 1
    some (node l k p b' r', b' != 0)

/-- the same for `child == parent.left` -/
def insRetraceLeft (l' : Tree α) (k : Nat) (p : α) (b : Int) (r : Tree α) : Option (Tree α × Bool) :=
  if b < 0 then
    match (if l'.rootBal > 0 then rotateLeftRight l' k p r else rotateRight l' k p r) with
    | some t => some (t, false)
    | none => none
  else
    let b' := b - 1
    some (node l' k p b' r, b' != 0)

/-- `treeList.Insert` below the root pointer: new subtree, "retracing continues", "a node was added". -/
def ins : Tree α → Nat → α → Option (Tree α × Bool × Bool)
  | nil, k, p => some (node nil k p 0 nil, true, true)
  | node l x xp b r, k, p =>
    if x < k then
      match ins r k p with
      | none => none
      | some (r', grew, added) =>
        if grew then
          match insRetraceRight l x xp b r' with
          | some (t, g) => some (t, g, added)
          | none => none
        else some (node l x xp b r', false, added)
    else if k < x then
      match ins l k p with
      | none => none
      | some (l', grew, added) =>
        if grew then
          match insRetraceLeft l' x xp b r with
          | some (t, g) => some (t, g, added)
          | none => none
        else some (node l' x xp b r, false, added)
    else some (node l k p b r, false, false)     -- ComparisonEqual: node.v = v

/-! ## Delete -/

/-- One iteration of `rebalanceBeforeDelete` at `parent` when `child == parent.left` (the left
subtree is about to lose / has lost one level; `l'` is that subtree after the removal). -/
def delRetraceLeft (l' : Tree α) (k : Nat) (p : α) (b : Int) (r : Tree α) : Option (Tree α × Bool) :=
  if b > 0 then
    let sb := r.rootBal            -- balance = sibling.balance
    match (if sb < 0 then rotateRightLeft l' k p r else rotateLeft l' k p r) with
    | some t => some (t, sb != 0)  -- `if balance == 0 { break }`
    | none => none
  else
    let b' := b + 1
    some (node l' k p b' r, b' != 1)   -- `if parent.balance == 1 { break }`

/-- the same for `child == parent.right` -/
def delRetraceRight (l : Tree α) (k : Nat) (p : α) (b : Int) (r' : Tree α) : Option (Tree α × Bool) :=
  if b < 0 then
    let sb := l.rootBal
    match (if sb > 0 then rotateLeftRight l k p r' else rotateRight l k p r') with
    | some t => some (t, sb != 0)
    | none => none
  else
    let b' := b - 1
    some (node l k p b' r', b' != -1)

/-- `findMinimum(node.right)` followed by `replaceInGrandparent(next, next.right)`, restricted to the
subtree it is called on: the subtree without its minimum, the minimum, and whether retracing continues
above the subtree.  `none` on the empty tree (Go: nil dereference) — `del` never calls it there. -/
def delMin : Tree α → Option (Tree α × Nat × α × Bool)
  | nil => none
  | node nil k p _ r => some (r, k, p, true)
  | node (node ll lk lp lb lr) k p b r =>
    match delMin (node ll lk lp lb lr) with
    | none => none
    | some (l', mk, mp, shrunk) =>
      if shrunk then
        match delRetraceLeft l' k p b r with
        | some (t, s) => some (t, mk, mp, s)
        | none => none
      else some (node l' k p b r, mk, mp, false)

/-- `treeList.DeleteKey` below the root pointer: new subtree, "retracing continues", "a node was removed".
With two children the successor node is grafted into the deleted node's place *after* the retrace
that started at the successor; the retrace reads balances and links only, so this is the subtree with
the successor's key and payload at the deleted node's position. -/
def del : Tree α → Nat → Option (Tree α × Bool × Bool)
  | nil, _ => some (nil, false, false)
  | node l x xp b r, k =>
    if x < k then
      match del r k with
      | none => none
      | some (r', shrunk, found) =>
        if shrunk then
          match delRetraceRight l x xp b r' with
          | some (t, s) => some (t, s, found)
          | none => none
        else some (node l x xp b r', false, found)
    else if k < x then
      match del l k with
      | none => none
      | some (l', shrunk, found) =>
        if shrunk then
          match delRetraceLeft l' x xp b r with
          | some (t, s) => some (t, s, found)
          | none => none
        else some (node l' x xp b r, false, found)
    else
      match l, r with
      | node .., node .. =>
        match delMin r with
        | none => none
        | some (r', mk, mp, shrunk) =>
          if shrunk then
            match delRetraceRight l mk mp b r' with
            | some (t, s) => some (t, s, true)
            | none => none
          else some (node l mk mp b r', false, true)
      | node .., nil => some (l, true, true)
      | nil, _ => some (r, true, true)

/-- shape-preserving payload update (a `*treeList` payload mutated through its pointer) -/
def update : Tree α → Nat → (α → α) → Tree α
  | nil, _, _ => nil
  | node l x xp b r, k, f =>
    if x < k then node l x xp b (update r k f)
    else if k < x then node (update l k f) x xp b r
    else node l x (f xp) b r

/-! ## Invariant -/

/-- binary-search-tree order -/
def Bst : Tree α → Prop
  | nil => True
  | node l k _ _ r => Bst l ∧ Bst r ∧ (∀ x ∈ keys l, x < k) ∧ (∀ x ∈ keys r, k < x)

/-- stored balance = height difference, and |balance| ≤ 1, at every node -/
def Bal : Tree α → Prop
  | nil => True
  | node l _ _ b r => Bal l ∧ Bal r ∧ b = (height r : Int) - (height l : Int) ∧ -1 ≤ b ∧ b ≤ 1

/-- what `treeList.Validate` checks (minus parent pointers, which the model does not have), with the
order condition in its global form -/
def Inv (t : Tree α) : Prop := Bst t ∧ Bal t

def Bst.dec : (t : Tree α) → Decidable (Bst t)
  | nil => isTrue trivial
  | node l k _ _ r =>
    have := Bst.dec l
    have := Bst.dec r
    by unfold Bst; exact inferInstance

instance (t : Tree α) : Decidable (Bst t) := Bst.dec t

def Bal.dec : (t : Tree α) → Decidable (Bal t)
  | nil => isTrue trivial
  | node l _ _ _ r =>
    have := Bal.dec l
    have := Bal.dec r
    by unfold Bal; exact inferInstance

instance (t : Tree α) : Decidable (Bal t) := Bal.dec t

instance (t : Tree α) : Decidable (Inv t) := by unfold Inv; exact inferInstance

/-! ## Walks used by the iterator -/

/-- `start()`: leftmost node -/
def min : Tree α → Option (Nat × α)
  | nil => none
  | node l k p _ _ =>
    match min l with
    | some m => some m
    | none => some (k, p)

/-- the descent of `Advance`: first entry with key ≥ `key` -/
def lowerBound : Tree α → Nat → Option (Nat × α)
  | nil, _ => none
  | node l x xp _ r, key =>
    if x < key then lowerBound r key              -- ComparisonLess: node = node.right
    else if key < x then                          -- ComparisonGreater: t.node = node; node = node.left
      match lowerBound l key with
      | some m => some m
      | none => some (x, xp)
    else some (x, xp)                             -- ComparisonEqual

/-- the step of `Next` from a live node with key `c` (leftmost of the right subtree, else the first
ancestor reached from its left subtree): first entry with key > `c` -/
def succ : Tree α → Nat → Option (Nat × α)
  | nil, _ => none
  | node l x xp _ r, c =>
    if c < x then
      match succ l c with
      | some m => some m
      | none => some (x, xp)
    else succ r c

end Tree

/-! ## treeList -/

structure TreeList (α : Type) where
  root : Tree α
  length : Int
  deriving Repr

namespace TreeList

def empty : TreeList α := ⟨.nil, 0⟩

/-- `treeList.Insert` (`none` = Go would panic) -/
def insert (t : TreeList α) (k : Nat) (p : α) : Option (TreeList α) :=
  match t.root.ins k p with
  | none => none
  | some (r, _, added) => some ⟨r, if added then t.length + 1 else t.length⟩

/-- `treeList.Delete` / `DeleteKey`; the flag says whether a node was removed (and marked deleted) -/
def delete (t : TreeList α) (k : Nat) : Option (TreeList α × Bool) :=
  match t.root.del k with
  | none => none
  | some (r, _, found) => some (⟨r, if found then t.length - 1 else t.length⟩, found)

def toList (t : TreeList α) : List (Nat × α) := t.root.toList

end TreeList

/-! ## treeListIterator

The iterator holds a node pointer.  In the model the node is identified by its key together with the
flag "this node has been unlinked" (`markDeleted`); a re-inserted key lives in a *new* node, so the
flag stays set.  Pointer walks are replaced by their functional images `Tree.min`, `Tree.succ`,
`Tree.lowerBound` on the current tree. -/

structure Iter where
  started : Bool := false
  node : Option (Nat × Bool) := none     -- key under the iterator, node marked deleted?
  done : Bool := false
  deriving Repr, DecidableEq

namespace Iter

/-- `start()` (after the fix: `t.node = nil` first) -/
def start (t : Tree α) (it : Iter) : Iter × Bool :=
  match t.min with
  | some (k, _) => ({ it with node := some (k, false), started := true }, true)
  | none => ({ it with node := none, started := true }, false)

/-- `Advance(key)` once `started` holds and the node is not a deleted one -/
def advanceLive (t : Tree α) (it : Iter) (key : Nat) : Iter × Bool :=
  match it.node with
  | none => (it, false)
  | some (c, _) =>
    if c < key then
      -- ascend to the first ancestor not below `key` (or the root), then descend
      match t.lowerBound key with
      | some (k', _) => ({ it with node := some (k', false) }, true)
      | none => ({ it with node := none, done := true }, false)
    else (it, true)

/-- `Advance(key)` after its `if !t.started { … }` block -/
def advanceStarted (t : Tree α) (it : Iter) (key : Nat) : Iter × Bool :=
  match it.node with
  | none => (it, false)                       -- `if t.node == nil { return false }`
  | some (c, true) =>
    -- deleted node: `t.started = false; return t.Advance(start) && t.Advance(key)`; the inner calls
    -- run `start()` and then stand on a live node (or fail)
    match ({ it with started := false }).start t with
    | (it1, false) => (it1, false)
    | (it1, true) =>
      match it1.advanceLive t c with
      | (it2, false) => (it2, false)
      | (it2, true) => it2.advanceLive t key
  | some (_, false) => it.advanceLive t key

/-- `Advance(key)` -/
def advance (t : Tree α) (it : Iter) (key : Nat) : Iter × Bool :=
  if it.started then it.advanceStarted t key
  else
    match it.start t with
    | (it', false) => (it', false)            -- `if !t.start() { return false }`
    | (it', true) => it'.advanceStarted t key

/-- `Next()` from a live node with key `c` -/
def nextLive (t : Tree α) (it : Iter) (c : Nat) : Iter × Bool :=
  match t.succ c with
  | some (k', _) => ({ it with node := some (k', false) }, true)
  | none => ({ it with done := true }, false)

/-- `Next()` -/
def next (t : Tree α) (it : Iter) : Iter × Bool :=
  if !it.started then it.start t else
  match it.node with
  | none => (it, false)
  | some (c, deleted) =>
    if it.done then (it, false)
    else if deleted then
      -- `t.started = false; ok := t.Advance(key); if ok && key(t.node) == key { return t.Next() }; return ok`
      match ({ it with started := false }).advance t c with
      | (it1, false) => (it1, false)
      | (it1, true) =>
        match it1.node with
        | some (c', _) => if c' = c then it1.nextLive t c else (it1, true)
        | none => (it1, true)     -- unreachable: a successful `Advance` stands on a node (`advance_ok_node`)
    else it.nextLive t c

/-- what `DeleteKey(k)` does to an open iterator when it removed a node: `node.markDeleted()` -/
def onDelete (it : Iter) (k : Nat) : Iter :=
  match it.node with
  | some (c, false) => if c = k then { it with node := some (c, true) } else it
  | _ => it

end Iter

/-! ## A list with open iterators, and histories -/

structure World (α : Type) where
  list : TreeList α
  iters : List Iter

inductive Op (α : Type) where
  | ins (k : Nat) (p : α)
  | del (k : Nat)
  | begin
  | next (i : Nat)
  | adv (i : Nat) (k : Nat)

/-- what an iterator call returned: iterator index, whether it was `Next`, the key now under the iterator -/
structure Event where
  iter : Nat
  isNext : Bool
  key : Option Nat        -- `none` = the call returned false
  deriving Repr, DecidableEq

namespace World

def empty : World α := ⟨TreeList.empty, []⟩

/-- One call.  `none` = a Go panic (never, on a valid tree) or an iterator index that does not exist. -/
def step (w : World α) : Op α → Option (World α × Option Event)
  | .ins k p =>
    match w.list.insert k p with
    | some l => some ({ w with list := l }, none)
    | none => none
  | .del k =>
    match w.list.delete k with
    | some (l, found) =>
      some ({ list := l, iters := if found then w.iters.map (·.onDelete k) else w.iters }, none)
    | none => none
  | .begin => some ({ w with iters := w.iters ++ [{}] }, none)
  | .next i =>
    match w.iters[i]? with
    | some it =>
      let (it', ok) := it.next w.list.root
      some ({ w with iters := w.iters.set i it' },
        some ⟨i, true, if ok then it'.node.map (·.1) else none⟩)
    | none => none
  | .adv i k =>
    match w.iters[i]? with
    | some it =>
      let (it', ok) := it.advance w.list.root k
      some ({ w with iters := w.iters.set i it' },
        some ⟨i, false, if ok then it'.node.map (·.1) else none⟩)
    | none => none

/-- run a history: the final world and, in order, what the iterator calls returned; `none` as soon as one call fails -/
def run (w : World α) : List (Op α) → Option (World α × List Event)
  | [] => some (w, [])
  | op :: ops =>
    match w.step op with
    | none => none
    | some (w', e) =>
      match run w' ops with
      | none => none
      | some (w'', es) => some (w'', e.toList ++ es)

end World

/-! ## TreeIndex: a token tree whose payloads are value lists -/

structure Index where
  lists : TreeList (TreeList Nat)
  deriving Repr

namespace Index

def empty : Index := ⟨TreeList.empty⟩

/-- `TreeIndex.Add(v, tokens)` with `v = (k, g)` -/
def add (ix : Index) (k g : Nat) : List Nat → Option Index
  | [] => some ix
  | tok :: rest =>
    match ix.lists.root.lookup tok with
    | some lst =>
      match lst.insert k g with
      | some lst' => add ⟨{ ix.lists with root := ix.lists.root.update tok (fun _ => lst') }⟩ k g rest
      | none => none
    | none =>
      match (TreeList.empty : TreeList Nat).insert k g with
      | some lst' =>
        match ix.lists.insert tok lst' with
        | some ls => add ⟨ls⟩ k g rest
        | none => none
      | none => none

/-- `TreeIndex.Remove(v, tokens)` -/
def remove (ix : Index) (k : Nat) : List Nat → Option Index
  | [] => some ix
  | tok :: rest =>
    match ix.lists.root.lookup tok with
    | some lst =>
      match lst.delete k with
      | some (lst', _) => remove ⟨{ ix.lists with root := ix.lists.root.update tok (fun _ => lst') }⟩ k rest
      | none => none
    | none => remove ix k rest

end Index

end B6.Model.Avl
