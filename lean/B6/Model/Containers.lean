import B6.Model.Varint
import B6.Model.Bits
/-!
# L1 containers — executable models of encoding/{ints,arrays,strings,uint64map}.go (core Lean only)

* delta-coded sequences: `marshalDelta` / `unmarshalDelta` (`MarshalDeltaCodedUint64s`, `…Ints`; the `int`
  variants are bit-for-bit the same functions on two's-complement words).
* `ByteArrays`: `baHeader` (layout + pointer table written by `WriteHeader`), the writer protocol
  (`baStart`, `baWriteItem`) over a growing zero-filled buffer (`writeAt` = `encoding.Buffer.WriteAt`),
  and the reader `baItem` on raw bytes.
* `StringTable` = a `ByteArrays` whose items are the strings in the order the builder chose
  (`stEncode`); the order itself (unstable sort of a Go map by count) is not modelled, only constrained.
* `Uint64Map`: entries `(id, tag, data)`, `entryBytes` (bucket header + payload), `mapEncode`,
  `scanBucket` (the loop shared by `FillTagged/FindFirst/FindFirstWithTag/fillIDsAndTagged`),
  `mapFillTagged`, `mapFindFirst`, `mapFindFirstWithTag`, `mapIterate` (`Begin/Next` and `EachItem`:
  buckets in order, a bucket's entries sorted by id, equal ids grouped).

`none` always means "the Go code panics here" (index out of range, explicit panic).  Malformed varints
inside a bucket are also mapped to `none` (the Go code ignores the error and goes on with garbage; the
builders never produce such buckets, so this is outside the modelled domain).
-/
namespace B6.Model.Containers
open B6.Model.Varint B6.Model.Bits

/-! ## delta + zigzag coded sequences (ints.go) -/

/-- `MarshalDeltaCodedUint64s`: `PutUvarint(ZigzagEncode(int64(v) - last)); last = int64(v)` -/
def marshalDeltaAux (last : BitVec 64) : List (BitVec 64) → Bytes
  | [] => []
  | v :: vs => putUvarint (zigzagEncode (v - last)).toNat ++ marshalDeltaAux v vs

def marshalDelta (vs : List (BitVec 64)) : Bytes := marshalDeltaAux 0#64 vs

/-- `UnmarshalDeltaCodedUint64(vs, n, buffer)`: `n` times `v, k := Uvarint(buffer[i:]); i += k;
last += ZigzagDecode(v)`.  The Go code ignores `Uvarint` errors (`k ≤ 0`, `v = 0`); `buffer[i:]` panics
when `i` leaves `0..len`. Result: the values and the final `i`. -/
def unmarshalDeltaAux : (n : Nat) → (buf : Bytes) → (i : Int) → (last : BitVec 64) → (acc : List (BitVec 64)) →
    Option (List (BitVec 64) × Int)
  | 0, _, i, _, acc => some (acc.reverse, i)
  | n + 1, buf, i, last, acc =>
    if i < 0 ∨ i > buf.length then none
    else
      let r := uvarintRaw (buf.drop i.toNat)
      let last' := last + zigzagDecode (BitVec.ofNat 64 r.1)
      unmarshalDeltaAux n buf (i + r.2) last' (last' :: acc)

def unmarshalDelta (n : Nat) (buf : Bytes) : Option (List (BitVec 64) × Int) :=
  unmarshalDeltaAux n buf 0 0#64 []

/-! ## a growing, zero-filled output buffer (`encoding.Buffer.WriteAt`) -/

/-- `Buffer.WriteAt(data, off)`: grow with zeros up to `off + len(data)` if shorter, then copy. -/
def writeAt (buf : Bytes) (off : Nat) (data : Bytes) : Bytes :=
  let buf' := buf ++ List.replicate (off + data.length - buf.length) (0 : UInt8)
  buf'.take off ++ data ++ buf'.drop (off + data.length)

/-! ## ByteArrays (arrays.go) -/

/-- `binary.LittleEndian.PutUint32(buf, uint32(n))` -/
def le32 (n : Nat) : Bytes := marshalUint64 (n % 2 ^ 32) 4

/-- `binary.LittleEndian.Uint32` of the first four bytes; `none` = index out of range. -/
def readLe32 (buf : Bytes) : Option Nat :=
  if buf.length < 4 then none else some (leValue (buf.take 4))

/-- running sums: `[0, r0, r0+r1, …, total]` (the `pointers` array after `FinishReservation`). -/
def starts : List Nat → Nat → List Nat
  | [], acc => [acc]
  | r :: rs, acc => acc :: starts rs (acc + r)

def total (res : List Nat) : Nat := res.sum

def maxItem (res : List Nat) : Nat := res.foldl max 0

/-- `ByteArraysLayoutLength` -/
def baLayoutLength : Nat := 12

/-- bytes written by `WriteHeader`: layout (Items, OffsetBytes, MaxItemLength as uint32 LE) and the
`Items+1` pointers, `OffsetBytes = Uint64Length(total)` bytes each. `res` = reserved bytes per item. -/
def baHeader (res : List Nat) : Bytes :=
  let ob := uint64Length (total res)
  le32 res.length ++ le32 ob ++ le32 (maxItem res) ++ (starts res 0).flatMap fun p => marshalUint64 p ob

/-- offset of the data region: `ByteArraysLayoutLength + OffsetBytes * (Items + 1)` -/
def baDataOffset (res : List Nat) : Nat := baLayoutLength + uint64Length (total res) * (res.length + 1)

/-- writer state after `WriteHeader`: output so far and the moving write pointers (`b.pointers`). -/
structure BAWriter where
  items : Nat
  dataOff : Nat
  cursor : List Nat      -- items + 1 entries
  out : Bytes

def baStart (res : List Nat) : BAWriter :=
  { items := res.length, dataOff := baDataOffset res, cursor := starts res 0, out := baHeader res }

/-- `WriteItem(w, i, buffers...)`; `none` = panic (item out of range / write beyond reserved space). -/
def baWriteItem (w : BAWriter) (i : Nat) (buffers : List Bytes) : Option BAWriter :=
  if i ≥ w.items then none
  else
    match w.cursor[i]?, w.cursor[i + 1]? with
    | some p, some q =>
      let len := (buffers.map List.length).sum
      if p + len > q then none
      else
        let (out, _) := buffers.foldl (fun (acc : Bytes × Nat) b => (writeAt acc.1 acc.2 b, acc.2 + b.length))
          (w.out, w.dataOff + p)
        some { w with cursor := w.cursor.set i (p + len), out := out }
    | _, _ => none

/-- Go slice expression `data[lo:hi]` on a slice whose capacity equals its length. -/
def goSlice (data : Bytes) (lo hi : Nat) : Option Bytes :=
  if lo ≤ hi ∧ hi ≤ data.length then some ((data.drop lo).take (hi - lo)) else none

/-- `data[off:]` -/
def goFrom (data : Bytes) (off : Nat) : Option Bytes :=
  if off ≤ data.length then some (data.drop off) else none

structure BALayout where
  items : Nat
  offsetBytes : Nat
  maxItemLength : Nat

/-- `ByteArraysLayout.Unmarshal` -/
def baReadLayout (data : Bytes) : Option BALayout := do
  let a ← readLe32 data
  let b ← (goFrom data 4).bind readLe32
  let c ← (goFrom data 8).bind readLe32
  pure { items := a, offsetBytes := b, maxItemLength := c }

/-- `ByteArrays.Item(i)` on the raw bytes. -/
def baItem (data : Bytes) (i : Nat) : Option Bytes := do
  let l ← baReadLayout data
  if i ≥ l.items then none
  else
    let p ← (goFrom data (baLayoutLength + l.offsetBytes * i)).bind (unmarshalUint64 l.offsetBytes)
    let q ← (goFrom data (baLayoutLength + l.offsetBytes * (i + 1))).bind (unmarshalUint64 l.offsetBytes)
    let off := baLayoutLength + l.offsetBytes * (l.items + 1)
    goSlice data (off + p) (off + q)

/-- `ByteArrays.Length()` -/
def baLength (data : Bytes) : Option Nat := do
  let l ← baReadLayout data
  let p ← (goFrom data (baLayoutLength + l.offsetBytes * l.items)).bind (unmarshalUint64 l.offsetBytes)
  pure (baLayoutLength + l.offsetBytes * (l.items + 1) + p)

/-- one-shot encoder used by the string table and the map: item `i` gets exactly `items[i]`
(reserve `len(items[i])`, then one `WriteItem` per item in index order). -/
def baEncode (items : List Bytes) : Bytes :=
  baHeader (items.map List.length) ++ items.flatten

/-! ## StringTable (strings.go) -/

/-- the bytes `StringTableBuilder.Write` produces once it has put the strings in the order `table`. -/
def stEncode (table : List Bytes) : Bytes := baEncode table

/-- `StringTable.Lookup(i)` -/
def stLookup (data : Bytes) (i : Nat) : Option Bytes := baItem data i

/-! ## Uint64Map (uint64map.go) -/

structure Entry where
  id : BitVec 64
  tag : BitVec 64
  data : Bytes
deriving DecidableEq, Repr

/-- header (`idAndTag`, length) + payload, as `WriteItem` lays an entry down in its bucket. -/
def entryBytes (b t : BitVec 64) (e : Entry) : Bytes :=
  putUvarint (headerPack e.id e.tag b t).toNat ++ putUvarint e.data.length ++ e.data

/-- entries of one bucket, in write order. -/
def bucketEntries (b : BitVec 64) (es : List Entry) (bucket : Nat) : List Entry :=
  es.filter fun e => (bucketForID e.id b).toNat == bucket

/-- the whole map as `Uint64MapBuilder` writes it for layout `(b, t)` (already normalised by
`builderLayout`): two layout bytes, then a `ByteArrays` with `2^b` buckets. -/
def mapEncode (b t : BitVec 64) (es : List Entry) : Bytes :=
  [UInt8.ofNat b.toNat, UInt8.ofNat t.toNat] ++
    baEncode ((List.range (2 ^ b.toNat)).map fun k => (bucketEntries b es k).flatMap (entryBytes b t))

/-- the scanning loop shared by the readers: parse headers and payloads until the bucket is used up. -/
def scanBucket : (fuel : Nat) → (items : Bytes) → (bucket b t : BitVec 64) → Option (List Entry)
  | 0, items, _, _, _ => if items.isEmpty then some [] else none
  | fuel + 1, items, bucket, b, t =>
    if items.isEmpty then some []
    else
      match uvarint items with
      | none => none
      | some (w, n1) =>
        match uvarint (items.drop n1) with
        | none => none
        | some (len, n2) =>
          if len ≥ 2 ^ 63 then none
          else if n1 + n2 + len > items.length then none   -- "corrupt map" panic
          else
            let word := BitVec.ofNat 64 w
            let e : Entry := { id := headerUnpackID bucket word b t, tag := headerUnpackTag word t,
                               data := (items.drop (n1 + n2)).take len }
            match scanBucket fuel (items.drop (n1 + n2 + len)) bucket b t with
            | some rest => some (e :: rest)
            | none => none

structure MapView where
  b : BitVec 64
  t : BitVec 64
  buckets : Bytes

/-- `NewUint64Map(data)` -/
def mapOpen (data : Bytes) : Option MapView :=
  match data with
  | x :: y :: rest => some { b := BitVec.ofNat 64 x.toNat, t := BitVec.ofNat 64 y.toNat, buckets := rest }
  | _ => none

def mapBucket (m : MapView) (bucket : Nat) : Option (List Entry) := do
  let items ← baItem m.buckets bucket
  scanBucket (items.length + 1) items (BitVec.ofNat 64 bucket) m.b m.t

/-- `FillTagged(id, nil)` -/
def mapFillTagged (m : MapView) (id : BitVec 64) : Option (List Entry) := do
  let es ← mapBucket m (bucketForID id m.b).toNat
  pure (es.filter fun e => e.id == id)

/-- `FindFirst(id)`: `some none` = not found. (The Go loop returns at the first hit, so a corrupt tail of
the bucket is not noticed; the model scans the whole bucket — identical on well-formed maps.) -/
def mapFindFirst (m : MapView) (id : BitVec 64) : Option (Option Entry) := do
  let es ← mapFillTagged m id
  pure es.head?

/-- `FindFirstWithTag(id, tag)` -/
def mapFindFirstWithTag (m : MapView) (id tag : BitVec 64) : Option (Option Entry) := do
  let es ← mapFillTagged m id
  pure (es.find? fun e => e.tag == tag)

/-- insertion of an entry into a list sorted by id (stable). -/
def insertById (e : Entry) : List Entry → List Entry
  | [] => [e]
  | x :: xs => if e.id ≤ x.id then e :: x :: xs else x :: insertById e xs

def sortById (es : List Entry) : List Entry := es.foldr insertById []

/-- group adjacent entries with equal ids. -/
def groupById : List Entry → List (BitVec 64 × List Entry)
  | [] => []
  | e :: es =>
    match groupById es with
    | (id, g) :: rest => if id == e.id then (id, e :: g) :: rest else (e.id, [e]) :: (id, g) :: rest
    | [] => [(e.id, [e])]

/-- `Begin()/Next()` over the whole map: buckets in order, each sorted by id, equal ids grouped.
(The Go sort is unstable: the order inside a group is not determined by the code.) -/
def mapIterate (m : MapView) : Option (List (BitVec 64 × List Entry)) :=
  (List.range (2 ^ m.b.toNat)).foldr (fun k acc => do
    let es ← mapBucket m k
    let rest ← acc
    pure (groupById (sortById es) ++ rest)) (some [])

end B6.Model.Containers
