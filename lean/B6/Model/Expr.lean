/-!
L7 language layer — the expression AST of `b6.Expression` (src/diagonal.works/b6/expression.go).

Modelled: `SymbolExpression`, literals (`IntExpression`, `StringExpression`, `QueryExpression`; every
other literal kind is carried opaquely as `Lit.other kind text`), `CallExpression{Function, Args,
Pipelined}` and `LambdaExpression{Args, Expression}`.  Source positions (`Begin`/`End`) are outside
the model.  Queries are the constructors `Simplify` can build or flatten (`Keyed`, `Tagged`, `Typed`,
`Intersection`, `Union`); any other query is `Query.other`.

Also here: sizes, free variables, the single-line text form used by the C21/C22 line protocol
(`Expr.render` / `Expr.parse`), shared by the Go harnesses (`harness/cmd/c21`, `c22`).
-/
namespace B6.Model

inductive Query where
  | keyed (key : String)
  | tagged (key value : String)
  | typed (ftype : String) (q : Query)
  | inter (qs : List Query)
  | union (qs : List Query)
  | other (text : String)
  deriving Repr, Inhabited

inductive Lit where
  | int (i : Int)
  | str (s : String)
  | query (q : Query)
  | other (kind text : String)
  deriving Repr, Inhabited

inductive Expr where
  | sym (name : String)
  | lit (l : Lit)
  | call (fn : Expr) (args : List Expr) (pipelined : Bool)
  | lam (params : List String) (body : Expr)
  deriving Repr, Inhabited

namespace Query

mutual
  def size : Query → Nat
    | .typed _ q => 1 + q.size
    | .inter qs => 1 + sizes qs
    | .union qs => 1 + sizes qs
    | _ => 1
  def sizes : List Query → Nat
    | [] => 0
    | q :: qs => q.size + sizes qs
end

mutual
  def beq : Query → Query → Bool
    | .keyed a, .keyed b => a == b
    | .tagged a b, .tagged c d => a == c && b == d
    | .typed t q, .typed t' q' => t == t' && beq q q'
    | .inter qs, .inter qs' => beqs qs qs'
    | .union qs, .union qs' => beqs qs qs'
    | .other a, .other b => a == b
    | _, _ => false
  def beqs : List Query → List Query → Bool
    | [], [] => true
    | a :: as, b :: bs => beq a b && beqs as bs
    | _, _ => false
end

instance : BEq Query := ⟨beq⟩

end Query

namespace Lit
def beq : Lit → Lit → Bool
  | .int a, .int b => a == b
  | .str a, .str b => a == b
  | .query a, .query b => a == b
  | .other k t, .other k' t' => k == k' && t == t'
  | _, _ => false
instance : BEq Lit := ⟨beq⟩
end Lit

namespace Expr

mutual
  def size : Expr → Nat
    | .sym _ => 1
    | .lit _ => 1
    | .call f args _ => 1 + f.size + sizes args
    | .lam _ b => 1 + b.size
  def sizes : List Expr → Nat
    | [] => 0
    | a :: as => a.size + sizes as
end

mutual
  def beq : Expr → Expr → Bool
    | .sym a, .sym b => a == b
    | .lit a, .lit b => a == b
    | .call f as p, .call g bs q => beq f g && beqs as bs && p == q
    | .lam ps b, .lam qs c => ps == qs && beq b c
    | _, _ => false
  def beqs : List Expr → List Expr → Bool
    | [], [] => true
    | a :: as, b :: bs => beq a b && beqs as bs
    | _, _ => false
end

instance : BEq Expr := ⟨beq⟩

mutual
  /-- no `LambdaExpression` anywhere (the fragment of `vm_first_order`) -/
  def lambdaFree : Expr → Bool
    | .sym _ => true
    | .lit _ => true
    | .call f args _ => f.lambdaFree && lambdaFrees args
    | .lam _ _ => false
  def lambdaFrees : List Expr → Bool
    | [] => true
    | a :: as => a.lambdaFree && lambdaFrees as
end

mutual
  /-- number of lambda parameters in the whole program = registers the compiler hands out -/
  def numParams : Expr → Nat
    | .sym _ => 0
    | .lit _ => 0
    | .call f args _ => f.numParams + numParamss args
    | .lam ps b => ps.length + b.numParams
  def numParamss : List Expr → Nat
    | [] => 0
    | a :: as => a.numParams + numParamss as
end

mutual
  /-- number of `LambdaExpression` nodes = compilation targets besides the main one -/
  def numLambdas : Expr → Nat
    | .sym _ => 0
    | .lit _ => 0
    | .call f args _ => f.numLambdas + numLambdass args
    | .lam _ b => 1 + b.numLambdas
  def numLambdass : List Expr → Nat
    | [] => 0
    | a :: as => a.numLambdas + numLambdass as
end

mutual
  /-- Symbols occurring free, in **value or function position** (function-position symbols denote
  global functions: `compileCall` looks them up in `Globals` only). -/
  def freeVars : Expr → List String
    | .sym s => [s]
    | .lit _ => []
    | .call f args _ => f.freeVars ++ freeVarss args
    | .lam ps b => b.freeVars.filter (fun s => !ps.contains s)
  def freeVarss : List Expr → List String
    | [] => []
    | a :: as => a.freeVars ++ freeVarss as
end

mutual
  /-- Symbols occurring free in **value position** only: the ones `compileSymbol` resolves through the
  lambda frames first.  A symbol that is the function of a call is not one of them. -/
  def freeValueVars : Expr → List String
    | .sym s => [s]
    | .lit _ => []
    | .call f args _ =>
      (match f with
        | .sym _ => []
        | .lit _ => []
        | .lam _ _ => f.freeValueVars
        | .call _ _ _ => f.freeValueVars) ++ freeValueVarss args
    | .lam ps b => b.freeValueVars.filter (fun s => !ps.contains s)
  def freeValueVarss : List Expr → List String
    | [] => []
    | a :: as => a.freeValueVars ++ freeValueVarss as
end

mutual
  /-- symbols standing in function position (they name global functions) -/
  def fnSyms : Expr → List String
    | .sym _ => []
    | .lit _ => []
    | .call f args _ =>
      (match f with
        | .sym s => [s]
        | .lit _ => []
        | .lam _ _ => f.fnSyms
        | .call _ _ _ => f.fnSyms) ++ fnSymss args
    | .lam _ b => b.fnSyms
  def fnSymss : List Expr → List String
    | [] => []
    | a :: as => a.fnSyms ++ fnSymss as
end

mutual
  /-- Is there a lambda that uses, in value position, a parameter of an enclosing lambda (a closure in
  the proper sense)?  `bound` = parameters of the enclosing lambdas.  Such a program is in the input class of the
  C21 finding `closure-registers` (the class is `!regSafe`, `Model/Interp.lean`): the VM keeps lambda
  parameters in global registers instead of closing over them. -/
  def hasOpenLambdaAt (bound : List String) : Expr → Bool
    | .sym _ => false
    | .lit _ => false
    | .call f args _ => hasOpenLambdaAt bound f || hasOpenLambdasAt bound args
    | .lam ps b =>
      b.freeValueVars.any (fun s => !ps.contains s && bound.contains s) || hasOpenLambdaAt (ps ++ bound) b
  def hasOpenLambdasAt (bound : List String) : List Expr → Bool
    | [] => false
    | a :: as => hasOpenLambdaAt bound a || hasOpenLambdasAt bound as
end

def hasOpenLambda (e : Expr) : Bool := hasOpenLambdaAt [] e

/-! ### text form (one line, tokens separated by single spaces)

```
expr  ::= WORD                         symbol            [a-z][a-z0-9_-]*
        | INT                          int literal       -?[0-9]+
        | s:WORD                       string literal    (s: alone = empty string)
        | o:KIND:TEXT                  opaque literal
        | ( q QUERY )                  query literal
        | ( FN ARG* )                  call              ( | FN ARG* ) when Pipelined
        | ( \ ( PARAM* ) BODY )        lambda
QUERY ::= ( keyed K ) | ( tagged K V ) | ( typed T QUERY ) | ( and QUERY* ) | ( or QUERY* ) | ( other TEXT )
```
-/

def isIntTok (s : String) : Bool :=
  let cs := s.toList
  let ds := if cs.head? == some '-' then cs.tail else cs
  !ds.isEmpty && ds.all Char.isDigit

def parseIntTok (s : String) : Option Int :=
  if isIntTok s then s.toInt? else none

mutual
  def renderQueryToks : Query → List String
    | .keyed k => ["(", "keyed", "s:" ++ k, ")"]
    | .tagged k v => ["(", "tagged", "s:" ++ k, "s:" ++ v, ")"]
    | .typed t q => ["(", "typed", "s:" ++ t] ++ renderQueryToks q ++ [")"]
    | .inter qs => ["(", "and"] ++ renderQueriesToks qs ++ [")"]
    | .union qs => ["(", "or"] ++ renderQueriesToks qs ++ [")"]
    | .other t => ["(", "other", "s:" ++ t, ")"]
  def renderQueriesToks : List Query → List String
    | [] => []
    | q :: qs => renderQueryToks q ++ renderQueriesToks qs
end

def renderLitToks : Lit → List String
  | .int i => [toString i]
  | .str s => ["s:" ++ s]
  | .query q => ["(", "q"] ++ renderQueryToks q ++ [")"]
  | .other k t => ["o:" ++ k ++ ":" ++ t]

mutual
  def renderToks : Expr → List String
    | .sym s => [s]
    | .lit l => renderLitToks l
    | .call f args p => (if p then ["(", "|"] else ["("]) ++ renderToks f ++ renderToksList args ++ [")"]
    | .lam ps b => ["(", "\\", "("] ++ ps ++ [")"] ++ renderToks b ++ [")"]
  def renderToksList : List Expr → List String
    | [] => []
    | a :: as => renderToks a ++ renderToksList as
end

def render (e : Expr) : String := " ".intercalate (renderToks e)
def Query.render (q : Query) : String := " ".intercalate (renderQueryToks q)

private def dropPrefix (s : String) (n : Nat) : String := String.ofList (s.toList.drop n)

/-- parser over the token list; `fuel` bounds the nesting (callers pass the token count) -/
def parseQueryToks : Nat → List String → Option (Query × List String)
  | 0, _ => none
  | fuel + 1, toks =>
    let rec many (fuel : Nat) (toks : List String) (acc : List Query) : Nat → Option (List Query × List String)
      | 0 => none
      | k + 1 =>
        match toks with
        | ")" :: rest => some (acc.reverse, rest)
        | _ => match parseQueryToks fuel toks with
          | some (q, rest) => many fuel rest (q :: acc) k
          | none => none
    match toks with
    | "(" :: "keyed" :: k :: ")" :: rest =>
      if k.startsWith "s:" then some (.keyed (dropPrefix k 2), rest) else none
    | "(" :: "tagged" :: k :: v :: ")" :: rest =>
      if k.startsWith "s:" && v.startsWith "s:" then some (.tagged (dropPrefix k 2) (dropPrefix v 2), rest) else none
    | "(" :: "other" :: t :: ")" :: rest =>
      if t.startsWith "s:" then some (.other (dropPrefix t 2), rest) else none
    | "(" :: "typed" :: t :: rest =>
      if t.startsWith "s:" then
        match parseQueryToks fuel rest with
        | some (q, ")" :: rest') => some (.typed (dropPrefix t 2) q, rest')
        | _ => none
      else none
    | "(" :: "and" :: rest => (many fuel rest [] (rest.length + 1)).map fun (qs, r) => (.inter qs, r)
    | "(" :: "or" :: rest => (many fuel rest [] (rest.length + 1)).map fun (qs, r) => (.union qs, r)
    | _ => none

def isSymTok (s : String) : Bool :=
  match s.toList with
  | c :: cs => c.isLower && cs.all (fun d => d.isLower || d.isDigit || d == '-' || d == '_')
  | [] => false

def parseToks : Nat → List String → Option (Expr × List String)
  | 0, _ => none
  | fuel + 1, toks =>
    let rec many (fuel : Nat) (toks : List String) (acc : List Expr) : Nat → Option (List Expr × List String)
      | 0 => none
      | k + 1 =>
        match toks with
        | ")" :: rest => some (acc.reverse, rest)
        | _ => match parseToks fuel toks with
          | some (e, rest) => many fuel rest (e :: acc) k
          | none => none
    let rec params (toks : List String) (acc : List String) : Nat → Option (List String × List String)
      | 0 => none
      | k + 1 =>
        match toks with
        | ")" :: rest => some (acc.reverse, rest)
        | p :: rest => if isSymTok p then params rest (p :: acc) k else none
        | [] => none
    match toks with
    | [] => none
    | "(" :: "q" :: rest =>
      match parseQueryToks fuel rest with
      | some (q, ")" :: rest') => some (.lit (.query q), rest')
      | _ => none
    | "(" :: "\\" :: "(" :: rest =>
      match params rest [] (rest.length + 1) with
      | some (ps, rest') =>
        match parseToks fuel rest' with
        | some (b, ")" :: rest'') => some (.lam ps b, rest'')
        | _ => none
      | none => none
    | "(" :: "|" :: rest =>
      match parseToks fuel rest with
      | some (f, rest') => (many fuel rest' [] (rest'.length + 1)).map fun (as, r) => (.call f as true, r)
      | none => none
    | "(" :: rest =>
      match parseToks fuel rest with
      | some (f, rest') => (many fuel rest' [] (rest'.length + 1)).map fun (as, r) => (.call f as false, r)
      | none => none
    | ")" :: _ => none
    | t :: rest =>
      if t.startsWith "s:" then some (.lit (.str (dropPrefix t 2)), rest)
      else if t.startsWith "o:" then
        match (dropPrefix t 2).splitOn ":" with
        | k :: more => some (.lit (.other k (":".intercalate more)), rest)
        | [] => none
      else match parseIntTok t with
        | some i => some (.lit (.int i), rest)
        | none => if isSymTok t then some (.sym t, rest) else none

def parse (s : String) : Option Expr :=
  let toks := (s.splitOn " ").filter (· ≠ "")
  match parseToks (toks.length + 1) toks with
  | some (e, []) => some e
  | _ => none

end Expr
end B6.Model
