import B6.Model.Records
import B6.Model.Containers
/-!
# L6 — the compact index at feature level (C01; core Lean only)

`build : List Str → List Feature → Except BuildError Index` mirrors `compact.build` (ingest/compact/build.go)
composed from the record codecs of `B6.Model.Records` (L2) and the entry view of `Uint64Map` (`Entry` of
`B6.Model.Containers`, L1 — a map *is* its list of entries, which is what C09's `map_find_first`,
`map_find_first_with_tag`, `map_iterate` prove of the bytes):

* summary pass: counts per namespace → which feature blocks exist and their bucket bits
  (`bucketBitsForCount`, `tagBits`, the `NewUint64MapBuilder` normalisation), `PathAreas` /
  `RelationMembers` relationships (`FillReferences`), namespace table (`FillFromNamespaces`: sorted,
  index 0 = the invalid namespace, all OSM namespaces present);
* string table: a parameter (`strs`, any list containing every key / string value / role;
  the Go builder picks a count-sorted order with an unstable sort);
* point scratch pass (`emitPoints`: `PointTag` / `PointPathTag` / `PointRelationTag` entries) and
  `combinePoints` (common / full / references-only records);
* path / area / relation records behind the `Validator` (its *result*: valid paths, areas over paths that
  are all present, valid and closed loops — C36 `validator_emits_spec`), clockwise closed paths inverted;
  S2's verdict on a closed path is an input (`Feature.oracle`);
* the reader: `find` (`findWithoutCache`, `newPhysicalFeatureFromTagged`, `MarshalledTags.AllTags`,
  `fromCompactValue`, `marshalledArea.fillGeometry`, `marshalledRelation.fillMembers`), `each`
  (`EachFeature`), `location` (`FindLocationByID`), `relationsOf` (`FindRelationsByFeature` = the relations among `findReferrers`, transitive).

A Go panic is `BuildError.panic` / `none`.  Outside the model: file header, protobuf header, mmap, the
search index, S2 (loop validity, orientation, `lastMarshalledLoopIsValid`: the loops of an explicit polygon that do not
survive E7 quantisation are removed by the driver before the model sees them — a per-loop oracle), floats
(coordinates are E7 integers throughout).
-/
namespace B6.Model.CompactIndex
open B6.Model.Varint B6.Model.Records
open B6.Model.Bits (combineTypeNs splitTypeNs)
open B6.Model.Containers (Entry)

/-- strings (namespaces, tag keys, string values, roles) as UTF-8 bytes -/
abbrev Str := Bytes

/-- Go's string `<`: byte-wise lexicographic -/
def strLt : Str → Str → Bool
  | [], [] => false
  | [], _ :: _ => true
  | _ :: _, [] => false
  | a :: as, b :: bs => if a < b then true else if b < a then false else strLt as bs

def kPoint : Str := [112, 111, 105, 110, 116]   -- "point"
def kPath : Str := [112, 97, 116, 104]          -- "path"
/-- "openstreetmap.org/node", "…/way", "…/relation" -/
def nsOsmPrefix : Str := [111, 112, 101, 110, 115, 116, 114, 101, 101, 116, 109, 97, 112, 46, 111, 114, 103, 47]
def nsOsmNode : Str := nsOsmPrefix ++ [110, 111, 100, 101]
def nsOsmWay : Str := nsOsmPrefix ++ [119, 97, 121]
def nsOsmRel : Str := nsOsmPrefix ++ [114, 101, 108, 97, 116, 105, 111, 110]

/-! ## features -/

/-- `b6.FeatureID`; `typ` = 0 point, 1 path, 2 area, 3 relation (4 = `FeatureTypeInvalid`) -/
structure FID where
  typ : Nat
  ns : Str
  val : BitVec 64
deriving DecidableEq, Repr, Inhabited

def FID.invalid : FID := ⟨4, [], 0#64⟩
/-- `FeatureID.IsValid` -/
def FID.valid (i : FID) : Bool := !i.ns.isEmpty && i.typ != 4
/-- `FeatureID.Less` -/
def FID.lt (a b : FID) : Bool :=
  if a.typ = b.typ then (if a.ns = b.ns then decide (a.val.toNat < b.val.toNat) else strLt a.ns b.ns)
  else decide (a.typ < b.typ)

/-- one element of a path's geometry -/
inductive Elem where
  | ref (id : FID)
  | ll (p : LatLng)
deriving DecidableEq, Repr, Inhabited

/-- a tag value with its kind: `StringExpression`, `PointExpression`, `FeatureIDExpression`, `Expressions` -/
inductive Val where
  | str (s : Str)
  | pt (p : LatLng)
  | fid (id : FID)
  | list (xs : List Elem)
deriving DecidableEq, Repr, Inhabited

structure FTag where
  key : Str
  val : Val
deriving DecidableEq, Repr, Inhabited

/-- one polygon of an area: path ids, or explicit loops of E7 points -/
inductive Poly where
  | paths (ids : List FID)
  | loops (ls : List (List LatLng))
deriving DecidableEq, Repr, Inhabited

structure FMember where
  role : Str
  id : FID
deriving DecidableEq, Repr, Inhabited

structure Feature where
  id : FID
  tags : List FTag := []
  polys : List Poly := []
  members : List FMember := []
  /-- paths: S2's verdict on the loop of a closed path all of whose points resolve:
  0 = not asked, 1 = valid counter-clockwise, 2 = valid clockwise (inverted by the builder), 3 = invalid -/
  oracle : Nat := 0
deriving DecidableEq, Repr, Inhabited

def getTag (ts : List FTag) (k : Str) : Option Val := (ts.find? (·.key == k)).map (·.val)

def Elem.isValidRef : Elem → Bool
  | .ref id => id.valid
  | .ll _ => false

/-- the `path` tag's `Expressions` -/
def pathElems (f : Feature) : List Elem :=
  match getTag f.tags kPath with
  | some (.list xs) => xs
  | _ => []

/-- `Tags.GeometryLen` -/
def geometryLen (f : Feature) : Nat := if (getTag f.tags kPoint).isSome then 1 else (pathElems f).length

/-- the elements `Reference(i)` / `PointAt(i)`, `i < GeometryLen()` can see -/
def geomElems (f : Feature) : List Elem := (pathElems f).take (geometryLen f)

/-- `Tags.ClosedPath`: the first element and the element at index (number of valid references − 1) are the
same valid reference -/
def closedPath (es : List Elem) : Bool :=
  let n := (es.filter Elem.isValidRef).length
  match es.head?, (if n = 0 then none else es[n - 1]?) with
  | some (.ref a), some (.ref b) => a == b && a.valid
  | _, _ => false

/-- location of a point feature: its `point` tag -/
def pointLocation (f : Feature) : Option LatLng :=
  match getTag f.tags kPoint with
  | some (.pt p) => some p
  | _ => none

/-- `locations.FindLocationByID(id)` during validation: the scratch point blocks are searched by namespace
and value only -/
def sourceLocation (fs : List Feature) (id : FID) : Option LatLng :=
  (fs.find? fun f => f.id.typ == 0 && f.id.ns == id.ns && f.id.val == id.val && (pointLocation f).isSome).bind pointLocation

def elemLocation (fs : List Feature) : Elem → Option LatLng
  | .ll p => some p
  | .ref id => sourceLocation fs id

/-- `ingest.ValidatePath` says ok (the S2 part is the oracle) -/
def pathValid (fs : List Feature) (f : Feature) : Bool :=
  f.id.valid && decide (2 ≤ geometryLen f) && (geomElems f).all (fun e => (elemLocation fs e).isSome) &&
    (!closedPath (pathElems f) || f.oracle != 3)

/-- the path as `ValidatePath` leaves it in the source: clockwise closed paths are inverted in place -/
def inverted (f : Feature) : Bool := closedPath (pathElems f) && f.oracle == 2

def invertTag (t : FTag) : FTag :=
  match t.val with
  | .list xs => if t.key == kPath then ⟨t.key, .list xs.reverse⟩ else t
  | _ => t

/-- `invertPoints`: the first `path` tag is replaced by its reversal -/
def invertTags : List FTag → List FTag
  | [] => []
  | t :: ts => if t.key == kPath then invertTag t :: ts else t :: invertTags ts

def validated (fs : List Feature) (f : Feature) : Feature :=
  if f.id.typ == 1 && pathValid fs f && inverted f then { f with tags := invertTags f.tags } else f

/-- `Validator.isLoop` -/
def isLoop (fs : List Feature) (f : Feature) : Bool :=
  let es := pathElems f
  decide (3 ≤ geometryLen f) &&
    match es.head?, es.getLast? with
    | some a, some b =>
      (match elemLocation fs a, elemLocation fs b with
       | some x, some y => x == y
       | _, _ => false)
    | _, _ => false

/-- an area is emitted iff every path of its path polygons is in the source, valid and a loop -/
def areaKept (fs : List Feature) (a : Feature) : Bool :=
  a.polys.all fun p =>
    match p with
    | .paths ids => ids.all fun id =>
        match fs.find? (fun f => f.id == id) with
        | some f => f.id.typ == 1 && pathValid fs f && isLoop fs f
        | none => false
    | .loops _ => true

/-- what the validator lets through to the feature blocks (points are never dropped) -/
def kept (fs : List Feature) (f : Feature) : Bool :=
  match f.id.typ with
  | 1 => pathValid fs f
  | 2 => areaKept fs f
  | _ => true

/-! ## namespace table -/

def insertNs (s : Str) : List Str → List Str
  | [] => [s]
  | x :: xs => if s == x then x :: xs else if strLt s x then s :: x :: xs else x :: insertNs s xs

/-- the namespaces the summary pass sees for one feature -/
def mentioned (f : Feature) : List Str :=
  f.id.ns ::
    (match f.id.typ with
     | 1 => (geomElems f).filterMap fun e => match e with
         | .ref id => if id.valid then some id.ns else none
         | .ll _ => none
     | 2 => f.polys.flatMap fun p => match p with
         | .paths ids => ids.map (·.ns)
         | .loops _ => []
     | 3 => f.members.map (·.id.ns)
     | _ => [])

/-- `fillNamespaceTableFromSummary` + `FillFromNamespaces`: sorted, `""` first, OSM namespaces always in.
(The Go table holds `""` twice when a feature uses the empty namespace; such ids are invalid.) -/
def nsTable (fs : List Feature) : List Str :=
  ([] :: nsOsmNode :: nsOsmWay :: nsOsmRel :: fs.flatMap mentioned).foldr insertNs []

/-- `NamespaceTable.MaybeEncode` -/
def nsEncode (nt : List Str) (ns : Str) : Option Nat := nt.findIdx? (· == ns)
/-- `NamespaceTable.Decode`; `none` = panic -/
def nsDecode (nt : List Str) (n : Nat) : Option Str := nt[n]?

structure Ctx where
  nt : List Str
  strs : List Str
  osm : Namespaces
deriving Repr

def ns16 (n : Nat) : BitVec 16 := BitVec.ofNat 16 n

/-- `OSMNamespaces(nt)` -/
def osmNamespaces (nt : List Str) : Option Namespaces := do
  let n ← nsEncode nt nsOsmNode
  let w ← nsEncode nt nsOsmWay
  let r ← nsEncode nt nsOsmRel
  pure ⟨ns16 n, ns16 w, ns16 w, ns16 r⟩

def strId (strs : List Str) (s : Str) : Option Nat := strs.findIdx? (· == s)

/-! ## features → compact values (`toCompactValue`, `Tags.FromFeature`) -/

/-- `Reference{CombineTypeAndNamespace(id.Type, nt.Encode(id.Namespace)), id.Value}`; `none` = `Encode` panics -/
def mkRef (nt : List Str) (id : FID) : Option Reference :=
  (nsEncode nt id.ns).map fun n => ⟨combineTypeNs (BitVec.ofNat 64 id.typ) (ns16 n), id.val⟩

/-- `GeometryEncodingForPath`: 0 references, 1 lat/lngs, 2 mixed -/
def geomEncoding (es : List Elem) : Nat :=
  let r := es.any Elem.isValidRef
  let l := es.any (fun e => !e.isValidRef)
  if r && l then 2 else if r then 0 else 1

/-- `toCompactValue(v, s, nt, e)`; `none` = panic (type assertion, "not implemented", unknown string or
namespace).  A single feature id becomes a bare `*Reference`, for which `Records.Value` (like
`inferValueType`) has no case: see `hasFidTag`. -/
def toCompactValue (c : Ctx) (e : Option Nat) : Val → Option Value
  | .str s => (strId c.strs s).map fun i => Value.int (BitVec.ofNat 64 i)
  | .pt p => some (.point p)
  | .fid _ => none
  | .list xs =>
    match e with
    | some 0 => (xs.mapM fun (x : Elem) => match x with
        | .ref id => mkRef c.nt id
        | .ll _ => none).map Value.refs
    | some 1 => (xs.mapM fun (x : Elem) => match x with
        | .ll p => some p
        | .ref _ => none).map Value.latlngs
    | some 2 => (xs.mapM fun (x : Elem) => match x with
        | .ref id => (mkRef c.nt id).map fun r => (⟨r, LatLng.zero⟩ : RefLL)
        | .ll p => some ⟨Reference.invalid, p⟩).map Value.mixed
    | _ => none

/-- the geometry encoding `Tags.FromFeature` passes for every tag of `f` -/
def tagEncoding (f : Feature) : Option Nat :=
  if (getTag f.tags kPath).isSome then some (geomEncoding (geomElems f)) else none

def toCompactTags (c : Ctx) (f : Feature) : Option (List Tag) :=
  f.tags.mapM fun t => do
    let k ← strId c.strs t.key
    let v ← toCompactValue c (tagEncoding f) t.val
    pure ⟨BitVec.ofNat 64 k, v⟩

/-- a tag whose value is a single feature id (known finding `fid-tag-value`: not representable) -/
def hasFidTag (fs : List Feature) : Bool :=
  fs.any fun f => f.tags.any fun t => match t.val with
    | .fid _ => true
    | _ => false

/-! ## summary pass -/

def countWhere (fs : List Feature) (p : Feature → Bool) : Nat := (fs.filter p).length

/-- `Counts.PathPoints` of a namespace: valid references of every path, closing visit included -/
def pathPoints (fs : List Feature) (ns : Str) : Nat :=
  ((fs.filter (·.id.typ == 1)).flatMap fun f => (geomElems f).filter fun e => match e with
    | .ref id => id.valid && id.ns == ns
    | .ll _ => false).length

/-- the count `newFeatureBlockBuilders` sizes the block of `(ns, t)` with; 0 = no builder -/
def blockCount (fs : List Feature) (ns : Str) (t : Nat) : Nat :=
  match t with
  | 0 =>
    let pts := countWhere fs fun f => f.id.typ == 0 && f.id.ns == ns
    if pts > 0 then pts else pathPoints fs ns
  | _ => countWhere fs fun f => f.id.typ == t && f.id.ns == ns

def log2ceil (n : Nat) : Nat := if n ≤ 1 then 0 else Nat.log2 (n - 1) + 1
/-- `tagBits` of build.go -/
def tagBitsOf (t : Nat) : Nat := if t = 0 then 2 else 0
/-- `bucketBitsForCount`, then `NewUint64MapBuilder`'s `if bucketBits < tagBits` -/
def bucketBits (count t : Nat) : Nat := max (max 1 (log2ceil count)) (tagBitsOf t)

/-- `Relationships.FillReferences` after `sort.Sort`: the second components of the pairs whose first is `id`,
in `FeatureID.Less` order, equal neighbours merged -/
def insertFID (x : FID) : List FID → List FID
  | [] => [x]
  | y :: ys => if x == y then y :: ys else if x.lt y then x :: y :: ys else y :: insertFID x ys
def sortDedupFIDs (l : List FID) : List FID := l.foldr insertFID []

/-- `summary.PathAreas`: the areas (dropped ones included) that mention path `id` -/
def areasOfPath (fs : List Feature) (id : FID) : List FID :=
  sortDedupFIDs ((fs.filter fun a => a.id.typ == 2 && a.polys.any fun p => match p with
    | .paths ids => ids.contains id
    | .loops _ => false).map (·.id))

/-- `summary.RelationMembers`: the relations that list the non-point `id` as a member -/
def relationsOfMember (fs : List Feature) (id : FID) : List FID :=
  sortDedupFIDs ((fs.filter fun r => r.id.typ == 3 && r.members.any fun m => m.id == id && m.id.typ != 0).map (·.id))

/-! ## point scratch pass and `combinePoints` -/

inductive Scratch where
  | point (data : Bytes)
  | path (r : Reference)
  | rel (r : Reference)
deriving Repr

inductive BuildError where
  | panic (why : String)
  | fidTag            -- not a Go outcome: the model has no representation (finding `fid-tag-value`)
deriving Repr, DecidableEq

def orPanic {α : Type} (why : String) : Option α → Except BuildError α
  | some a => .ok a
  | none => .error (.panic why)

/-- `emitPoints` for one feature: (namespace, value) of the point block entry and the entry -/
def scratchOf (c : Ctx) (fs : List Feature) (f : Feature) : Except BuildError (List (Str × BitVec 64 × Scratch)) :=
  match f.id.typ with
  | 0 => do
    let ts ← orPanic "point tags" (toCompactTags c f)
    if !Tags.ok ts then .error (.panic "EncodeValueType") else
    pure [(f.id.ns, f.id.val, .point (Tags.enc 0#16 ts))]
  | 1 => do
    let r ← orPanic "path namespace" (mkRef c.nt f.id)
    let es := geomElems f
    let stop := if closedPath (pathElems f) then geometryLen f - 1 else geometryLen f
    pure ((es.take stop).filterMap fun e => match e with
      | .ref id => if id.valid then some (id.ns, id.val, Scratch.path r) else none
      | .ll _ => none)
  | 3 => do
    let r ← orPanic "relation namespace" (mkRef c.nt f.id)
    (f.members.filter (·.id.typ == 0)).mapM fun m =>
      if blockCount fs m.id.ns 0 = 0 then .error (.panic "No builder for type point") else pure (m.id.ns, m.id.val, Scratch.rel r)
  | _ => pure []

def dedupVals : List (BitVec 64) → List (BitVec 64)
  | [] => []
  | x :: xs => x :: (dedupVals xs).filter (· != x)

/-- the `PointTag` entry among the scratch entries of an id (the last one wins) -/
def scratchPoint (es : List Scratch) : Option Bytes :=
  es.foldl (fun acc e => match e with
    | .point d => some d
    | _ => acc) none

/-- the record `combinePoints` emits for an id -/
def combineWith (c : Ctx) (id : BitVec 64) (point : Option Bytes) (paths rels : List Reference) : Entry :=
  match point with
  | some d =>
    match paths, rels with
    | [p], [] => ⟨id, 0#64, d ++ Reference.enc (tnPath c.osm) p⟩                   -- PointTagCommon
    | _, _ => ⟨id, 1#64, d ++ PointReferences.enc c.osm ⟨paths, rels⟩⟩            -- PointTagFull
  | none => ⟨id, 2#64, PointReferences.enc c.osm ⟨paths, rels⟩⟩                  -- PointTagReferencesOnly

/-- `combinePoints` for the scratch entries of one id -/
def combine (c : Ctx) (id : BitVec 64) (es : List Scratch) : Entry :=
  combineWith c id (scratchPoint es)
    (es.filterMap fun e => match e with
      | .path r => some r
      | _ => none)
    (es.filterMap fun e => match e with
      | .rel r => some r
      | _ => none)

/-! ## path / area / relation records -/

def refsOf (c : Ctx) (ids : List FID) : Except BuildError (List Reference) :=
  ids.mapM fun id => orPanic "reference namespace" (mkRef c.nt id)

def pathRecord (c : Ctx) (fs : List Feature) (f : Feature) : Except BuildError Bytes := do
  let ts ← orPanic "path tags" (toCompactTags c f)
  let areas ← refsOf c (areasOfPath fs f.id)
  let rels ← refsOf c (relationsOfMember fs f.id)
  orPanic "Path.Marshal" (Path.marshal c.osm ⟨ts, areas, rels⟩)

/-- the running totals `FromS2Polygon` / `Area.FromFeature` record as boundaries: the index at which
every list but the first starts -/
def bounds {α : Type} (start : Nat) : List (List α) → List Nat
  | [] => []
  | [_] => []
  | l :: l' :: rest => (start + l.length) :: bounds (start + l.length) (l' :: rest)

/-- `FromS2Polygon` on a polygon whose loops all survive quantisation: boundaries + points -/
def polygonLL (ls : List (List LatLng)) : PolygonLL := ⟨(bounds 0 ls).map (BitVec.ofNat 64), ls.flatten⟩

/-- `PolygonGeometryLatLngs.IsValid` -/
def polygonValid (q : PolygonLL) : Bool := decide (2 < q.points.length)

/-- `Area.FromFeature`, references: before the paths of every polygon are appended, `start = len(paths)` is
recorded as a boundary if it is positive -/
def refStarts {α : Type} (start : Nat) : List (List α) → List Nat
  | [] => []
  | l :: rest => (if start > 0 then [start] else []) ++ refStarts (start + l.length) rest

def pathsOf : Poly → Option (List FID)
  | .paths ids => some ids
  | .loops _ => none
def loopsOf : Poly → Option (List (List LatLng))
  | .loops ls => some ls
  | .paths _ => none

/-- `Area.FromFeature`, mixed: one polygon (`none` = an explicit polygon that is dropped as invalid) -/
def mixedF (c : Ctx) : Poly → Except BuildError (Option PolygonMixed)
  | .paths ids => do
    let rs ← refsOf c ids
    pure (some (⟨rs, PolygonLL.zero⟩ : PolygonMixed))
  | .loops ls => pure (if polygonValid (polygonLL ls) then some ⟨[], polygonLL ls⟩ else none)

/-- `Area.FromFeature` (with fixes/C01-mixed-area.patch for the mixed case) -/
def areaGeometry (c : Ctx) (a : Feature) : Except BuildError AreaGeometry :=
  let r := a.polys.any fun p => (pathsOf p).isSome
  let l := a.polys.any fun p => (loopsOf p).isSome
  if r && l then do
    let ps ← a.polys.mapM (mixedF c)
    pure (.mixed (ps.filterMap id))
  else if r then do
    let idLists := a.polys.filterMap pathsOf
    let rs ← refsOf c idLists.flatten
    pure (.refs ⟨(refStarts 0 idLists).map (BitVec.ofNat 64), rs⟩)
  else
    pure (.latlngs (((a.polys.filterMap loopsOf).map polygonLL).filter polygonValid))

def areaRecord (c : Ctx) (fs : List Feature) (a : Feature) : Except BuildError Bytes := do
  let ts ← orPanic "area tags" (toCompactTags c a)
  let g ← areaGeometry c a
  let rels ← refsOf c (relationsOfMember fs a.id)
  orPanic "Area.Marshal" (Area.marshal c.osm ⟨ts, g, rels⟩)

/-- the `Namespaces` in the header of the block of `(ns, t)` (`addFeatureBlockBuilder`) -/
def blockHeader (c : Ctx) (t : Nat) (n : Nat) : Namespaces :=
  match t with
  | 0 => { c.osm with point := ns16 n }
  | 1 => { c.osm with path := ns16 n }
  | 2 => { c.osm with area := ns16 n }
  | _ => { c.osm with relation := ns16 n }

def relationRecord (c : Ctx) (fs : List Feature) (r : Feature) : Except BuildError Bytes := do
  let ts ← orPanic "relation tags" (toCompactTags c r)
  let ms ← r.members.mapM fun m => do
    let ref ← orPanic "member namespace" (mkRef c.nt m.id)
    let role ← orPanic "role" (strId c.strs m.role)
    pure (⟨BitVec.ofNat 64 m.id.typ, BitVec.ofNat 64 role, ref⟩ : Member)
  let rels ← refsOf c (relationsOfMember fs r.id)
  let n ← orPanic "relation namespace" (nsEncode c.nt r.id.ns)
  -- fixes/C01-relation-relations-primary.patch: marshalled against the header of the destination block
  orPanic "Relation.Marshal" (Relation.marshal 1#64 (blockHeader c 3 n) ⟨ts, ms, rels⟩)

/-! ## the index -/

structure Block where
  typ : Nat
  hdr : Namespaces
  bits : Nat
  tagBits : Nat
  entries : List Entry
deriving Repr

structure Index where
  nt : List Str
  strs : List Str
  blocks : List Block
deriving Repr

/-- the block namespaces in the order `WriteHeaders` writes them: by encoded namespace = by table position -/
def blockNamespaces (nt : List Str) : List (Nat × Str) := (List.range nt.length).zip nt

/-- the (type, encoded namespace, namespace) of the path / area / relation blocks, in `WriteHeaders` order -/
def blockKeys (nt : List Str) : List (Nat × Nat × Str) :=
  (blockNamespaces nt).flatMap fun (n, ns) => [(1, n, ns), (2, n, ns), (3, n, ns)]

def pointBlock (c : Ctx) (fs : List Feature) (scr : List (Str × BitVec 64 × Scratch)) (n : Nat) (ns : Str) : Option Block :=
  let mine := scr.filter (·.1 == ns)
  if mine.isEmpty then none else
  let ids := dedupVals (mine.map (·.2.1))
  some { typ := 0, hdr := blockHeader c 0 n, bits := bucketBits (blockCount fs ns 0) 0, tagBits := 2,
         entries := ids.map fun id => combine c id ((mine.filter (·.2.1 == id)).map (·.2.2)) }

/-- the record of a kept (validated) feature of type `t` -/
def recordOf (c : Ctx) (fs : List Feature) (t : Nat) (f : Feature) : Except BuildError Bytes :=
  match t with
  | 1 => pathRecord c fs f
  | 2 => areaRecord c fs f
  | _ => relationRecord c fs f

/-- the features of type `t` and namespace `ns` the validator lets through, as it leaves them -/
def keptOf (fs : List Feature) (t : Nat) (ns : Str) : List Feature :=
  (fs.filter fun f => f.id.typ == t && f.id.ns == ns && kept fs f).map (validated fs)

def entryOf (c : Ctx) (fs : List Feature) (t : Nat) (f : Feature) : Except BuildError Entry := do
  let d ← recordOf c fs t f
  pure ⟨f.id.val, 0#64, d⟩

def featureBlock (c : Ctx) (fs : List Feature) (t n : Nat) (ns : Str) : Except BuildError (Option Block) :=
  if (keptOf fs t ns).isEmpty then pure none else do
  let es ← (keptOf fs t ns).mapM (entryOf c fs t)
  pure (some { typ := t, hdr := blockHeader c t n, bits := bucketBits (blockCount fs ns t) t, tagBits := 0, entries := es })

def build (strs : List Str) (fs : List Feature) : Except BuildError Index := do
  if hasFidTag fs then .error .fidTag else
  let nt := nsTable fs
  let osm ← orPanic "OSM namespaces" (osmNamespaces nt)
  let c : Ctx := ⟨nt, strs, osm⟩
  -- every string the records need must be in the table (`Lookup` panics otherwise)
  let scr ← fs.mapM (scratchOf c fs)
  let scr := scr.flatten
  let pts := (blockNamespaces nt).filterMap fun (n, ns) => pointBlock c fs scr n ns
  let rest ← (blockKeys nt).mapM fun k => featureBlock c fs k.1 k.2.1 k.2.2
  pure ⟨nt, strs, pts ++ rest.filterMap id⟩

/-! ## the reader -/

def nssGet (n : Namespaces) (t : Nat) : BitVec 16 :=
  match t with
  | 0 => n.point
  | 1 => n.path
  | 2 => n.area
  | _ => n.relation

/-- `Uint64Map.FindFirst` on the entry view -/
def findFirst (es : List Entry) (id : BitVec 64) : Option Entry := es.find? fun e => e.id == id
/-- `Uint64Map.FindFirstWithTag` -/
def findFirstWithTag (es : List Entry) (id tag : BitVec 64) : Option Entry := es.find? fun e => e.id == id && e.tag == tag

/-- decode a reference into a feature id (`Split` + `nt.Decode`); `none` = `Decode` panics -/
def unRef (nt : List Str) (r : Reference) : Option FID :=
  let (t, ns) := splitTypeNs r.tn
  (nsDecode nt ns.toNat).map fun s => ⟨t.toNat, s, r.value⟩

/-- `fromCompactValue(v, s, nt)` (with fixes/C01-mixed-path-nil.patch); `nt = none` is the nil table the
point / area / relation readers pass: any reference then panics -/
def fromCompactValue (strs : List Str) (nt : Option (List Str)) : Value → Option Val
  | .int i => (strs[i.toNat]?).map Val.str
  | .point p => some (.pt p)
  | .latlngs l => some (.list (l.map Elem.ll))
  | .refs l => nt.bind fun t => (l.mapM fun r => (unRef t r).map Elem.ref).map Val.list
  | .mixed l => (l.mapM fun x =>
      if x.ref != Reference.invalid then nt.bind fun t => (unRef t x.ref).map Elem.ref
      else some (Elem.ll x.ll)).map Val.list

/-- `MarshalledTags.AllTags` -/
def allTags (strs : List Str) (nt : Option (List Str)) (tns : BitVec 16) (data : Bytes) : Option (List FTag) := do
  let (ts, _) ← Tags.dec tns data
  ts.mapM fun t => do
    let k ← strs[t.key.toNat]?
    let v ← fromCompactValue strs nt t.value
    pure ⟨k, v⟩

/-- the blocks `findWithoutCache` looks at: type `t`, header namespace of `t` = the encoded namespace -/
def blocksFor (ix : Index) (t : Nat) (ns : Str) : List Block :=
  match nsEncode ix.nt ns with
  | none => []
  | some n => ix.blocks.filter fun b => b.typ == t && nssGet b.hdr t == ns16 n

/-- the record of feature `id`: point entries that are not references-only, otherwise the `NoTag` entry;
`FindFeatureByID` goes on to the next block when a block has none -/
def lookupIn (b : Block) (id : FID) : Option (Block × Entry) :=
  match id.typ with
  | 0 => (findFirst b.entries id.val).bind fun e => if e.tag == 2#64 then none else some (b, e)
  | 2 => (findFirstWithTag b.entries id.val 0#64).bind fun e => if e.data.isEmpty then none else some (b, e)
  | _ => (findFirstWithTag b.entries id.val 0#64).map fun e => (b, e)

def lookup (ix : Index) (id : FID) : Option (Block × Entry) :=
  (blocksFor ix id.typ id.ns).findSome? fun b => lookupIn b id

/-- `FindLocationByID` (the point blocks of the loaded index) -/
def location (ix : Index) (id : FID) : Option LatLng :=
  (blocksFor ix 0 id.ns).findSome? fun b =>
    (findFirst b.entries id.val).bind fun e =>
      if e.tag == 2#64 then none else
      match allTags ix.strs none 0#16 e.data with
      | some ts => (match getTag ts kPoint with
          | some (.pt p) => some p
          | _ => none)
      | none => none

/-- one polygon of a loaded area: `Feature(i)` gives the paths, otherwise `Polygon(i)` the loops -/
def polyOfRefs (nt : List Str) (rs : List Reference) : Option Poly := (rs.mapM (unRef nt)).map Poly.paths

/-- split a list at the boundaries (`PolygonGeometryLatLngs.Polygon`, `AreaGeometryReferences.PathIDs`) -/
def splitAt {α : Type} (xs : List α) (start : Nat) : List Nat → List (List α)
  | [] => [xs.drop start]
  | b :: bs => ((xs.drop start).take (b - start)) :: splitAt xs b bs

def splitLoops (bs : List Nat) (pts : List LatLng) : List (List LatLng) := splitAt pts 0 bs

/-- `AreaGeometryMixed.PathIDs(i)` / `Polygon(i)`: one polygon of a mixed area -/
def mixedD (nt : List Str) (q : PolygonMixed) : Option Poly :=
  if q.paths.isEmpty then some (Poly.loops (splitLoops (q.ll.loops.map (·.toNat)) q.ll.points))
  else polyOfRefs nt q.paths

def polysOfGeometry (nt : List Str) : AreaGeometry → Option (List Poly)
  | .refs a => (a.paths.mapM (unRef nt)).map fun ids => (splitAt ids 0 (a.polygons.map (·.toNat))).map Poly.paths
  | .latlngs ps => some (ps.map fun q => Poly.loops (splitLoops (q.loops.map (·.toNat)) q.points))
  | .mixed ps => ps.mapM (mixedD nt)

/-- what the reader makes of the record of feature `id` found in a block with header `hdr`; `none` = reading
it panics.  Points, areas and relations read their tags with a nil namespace table. -/
def decodeFeature (strs nt : List Str) (hdr : Namespaces) (id : FID) (data : Bytes) : Option Feature :=
  match id.typ with
  | 0 => (allTags strs none 0#16 data).map fun ts => { id := id, tags := ts }
  | 1 => do
    let n ← nsEncode nt nsOsmNode
    let ts ← allTags strs (some nt) (combineTypeNs 0#64 (ns16 n)) data
    pure { id := id, tags := ts }
  | 2 => do
    let ts ← allTags strs none 0#16 data
    let (a, _) ← Area.dec hdr data
    let ps ← polysOfGeometry nt a.polygons
    pure { id := id, tags := ts, polys := ps }
  | _ => do
    let ts ← allTags strs none 0#16 data
    let (r, _) ← Relation.dec 1#64 hdr data
    let ms ← r.members.mapM fun m => do
      let role ← strs[m.role.toNat]?
      let mid ← unRef nt m.id
      pure (⟨role, mid⟩ : FMember)
    pure { id := id, tags := ts, members := ms }

/-- `FindFeatureByID(id)` and everything the harness reads off the result; `none` = not found;
`some none` = found but reading it panics -/
def find (ix : Index) (id : FID) : Option (Option Feature) :=
  (lookup ix id).map fun (b, e) => decodeFeature ix.strs ix.nt b.hdr id e.data

/-- the order `Uint64Map` iterates in: buckets (`id mod 2^bits`) in order, ids ascending within a bucket -/
def iterLe (bits : Nat) (x y : Entry) : Bool :=
  decide (x.id.toNat % 2 ^ bits < y.id.toNat % 2 ^ bits) ||
    (x.id.toNat % 2 ^ bits == y.id.toNat % 2 ^ bits && decide (x.id.toNat ≤ y.id.toNat))

def iterInsert (bits : Nat) (e : Entry) : List Entry → List Entry
  | [] => [e]
  | x :: xs => if iterLe bits e x then e :: x :: xs else x :: iterInsert bits e xs

/-- iteration order of a block: buckets in order, ids ascending within a bucket -/
def iterIds (b : Block) : List Entry := b.entries.foldr (iterInsert b.bits) []

/-- `EachFeature`: the ids in emission order (one goroutine) -/
def each (ix : Index) : List FID :=
  [0, 1, 2, 3].flatMap fun t =>
    (ix.blocks.filter (·.typ == t)).flatMap fun b =>
      (iterIds b).filterMap fun e =>
        if t == 0 && e.tag == 2#64 then none
        else (nsDecode ix.nt (nssGet b.hdr t).toNat).map fun ns => ⟨t, ns, e.id⟩

/-- the ids a list of references names, as features of type `t` that are in the index (`newRelation` /
`newArea` / `FindFeatureByID` not nil; a `Decode` that would panic never happens on a built index) -/
def presentRefs (ix : Index) (t : Nat) (rs : List Reference) (lookupFn : FID → Bool) : List FID :=
  (rs.filterMap fun r => (nsDecode ix.nt (splitTypeNs r.tn).2.toNat).map fun ns => (⟨t, ns, r.value⟩ : FID)).filter lookupFn

/-- paths and relations recorded with a point entry: a common record has one path and no relations -/
def pointRecordRefs (b : Block) (e : Entry) : List Reference × List Reference :=
  if e.tag == 0#64 then
    match CommonPoint.dec b.hdr e.data with
    | some (r, _) => ([r.path], [])
    | none => ([], [])
  else if e.tag == 1#64 then
    match FullPoint.dec b.hdr e.data with
    | some (r, _) => (r.refs.paths, r.refs.relations)
    | none => ([], [])
  else
    match PointReferences.dec b.hdr e.data with
    | some (r, _) => (r.paths, r.relations)
    | none => ([], [])

/-- the direct referrers of `id` as `findReferrers` collects them (after fix afe76d0): the paths through a point
(`findPathsByPoint`, present ones), the areas of a path (`fillAreasFromPath`), then the relations recorded with
the feature in every block of its namespace (`findDirectRelations`; for points also on references-only records,
each relation once per record) -/
def directReferrers (ix : Index) (id : FID) : List FID :=
  let bs := blocksFor ix id.typ id.ns
  let isIn : FID → Bool := fun x => (lookup ix x).isSome
  match id.typ with
  | 0 =>
    let recs := bs.filterMap fun b => (findFirst b.entries id.val).map (pointRecordRefs b)
    (presentRefs ix 1 (recs.flatMap (·.1)) isIn).eraseDups ++
      recs.flatMap fun r => presentRefs ix 3 r.2.eraseDups isIn
  | 1 =>
    let recs := bs.filterMap fun b => (findFirstWithTag b.entries id.val 0#64).bind fun e =>
      if e.data.isEmpty then none else (Path.dec b.hdr e.data).map (·.1)
    (recs.flatMap fun p => presentRefs ix 2 p.areas isIn) ++ recs.flatMap fun p => presentRefs ix 3 p.relations isIn
  | 2 =>
    bs.flatMap fun b => match findFirstWithTag b.entries id.val 0#64 with
      | some e => (match Area.dec b.hdr e.data with
          | some (a, _) => presentRefs ix 3 a.relations isIn
          | none => [])
      | none => []
  | 3 =>
    bs.flatMap fun b => match findFirstWithTag b.entries id.val 0#64 with
      | some e => (match Relation.dec 1#64 b.hdr e.data with
          | some (r, _) => presentRefs ix 3 r.relations isIn
          | none => [])
      | none => []
  | _ => []

/-- the breadth first search of `findReferrers`: `seen` starts empty, so a feature that refers to itself through a
cycle is found too; `fuel` bounds the number of features taken off the queue -/
def referrersLoop (direct : FID → List FID) : Nat → List FID → List FID → List FID
  | 0, _, found => found
  | _ + 1, [], found => found
  | fuel + 1, next :: queue, found =>
    let new := (direct next).foldl (fun acc x => if found.contains x || acc.contains x then acc else acc ++ [x]) []
    referrersLoop direct fuel (queue ++ new) (found ++ new)

/-- `findReferrers(id)` -/
def referrers (ix : Index) (id : FID) : List FID :=
  referrersLoop (directReferrers ix) ((ix.blocks.map (·.entries.length)).sum + 2) [id] []

/-- `FindRelationsByFeature`: the relations among the (transitive) referrers, each once -/
def relationsOf (ix : Index) (id : FID) : List FID := (referrers ix id).filter (·.typ == 3)

/-! ## what the round trip must return -/

/-- an explicit polygon keeps its loops if it has more than two points in total -/
def canonPolys (ps : List Poly) : List Poly :=
  ps.filter fun p => match p with
    | .paths _ => true
    | .loops ls => decide (2 < ls.flatten.length)

/-- the feature as the world built from the index must present it: coordinates are E7 already; a
clockwise closed path is stored inverted; explicit polygons with fewer than three points are dropped -/
def canon (fs : List Feature) (f : Feature) : Feature :=
  let g := validated fs f
  match f.id.typ with
  | 2 => { id := g.id, tags := g.tags, polys := canonPolys g.polys }
  | 3 => { id := g.id, tags := g.tags, members := g.members }
  | _ => { id := g.id, tags := g.tags }

/-! ## the domain of the round trip property -/

/-- an id the 16-bit `TypeAndNamespace` can hold (the code uses types 0–3) -/
def FID.ok (i : FID) : Bool := decide (i.typ < 8) && i.valid

/-- tag values the index can hold for a path: no single feature id (finding `fid-tag-value`); list elements
are lat/lngs or valid references -/
def Val.ok : Val → Bool
  | .str _ => true
  | .pt _ => true
  | .fid _ => false
  | .list xs => xs.all fun e => match e with
    | .ref id => id.ok
    | .ll _ => true

/-- tag values of points, areas and relations: strings and points -/
def Val.plain : Val → Bool
  | .str _ => true
  | .pt _ => true
  | _ => false

def stringsOf (f : Feature) : List Str :=
  (f.tags.flatMap fun t => t.key :: (match t.val with
    | .str s => [s]
    | _ => [])) ++ f.members.map (·.role)

/-- no Go slice is longer than this; below it no length word overflows -/
def sizeOK (f : Feature) : Bool :=
  decide (f.tags.length < 2 ^ 48) && decide (f.members.length < 2 ^ 48) && decide (f.polys.length < 2 ^ 48) &&
  decide ((f.polys.filterMap pathsOf).flatten.length < 2 ^ 48) &&
  f.tags.all (fun t => match t.val with
    | .list xs => decide (xs.length < 2 ^ 48)
    | _ => true) &&
  f.polys.all fun p => match p with
    | .paths ids => decide (ids.length < 2 ^ 48)
    | .loops ls => decide (ls.length < 2 ^ 48) && decide (ls.flatten.length < 2 ^ 48)

/-- a feature the builder keeps and the index can represent -/
def featureOK (fs : List Feature) (f : Feature) : Bool :=
  f.id.valid && decide (f.id.typ < 4) && sizeOK f &&
  match f.id.typ with
  | 0 => f.tags.all (·.val.plain) && (pointLocation f).isSome
  | 1 => f.tags.all (·.val.ok) && (getTag f.tags kPoint).isNone && pathValid fs f &&
      (geomElems f).all (fun e => match e with
        | .ref id => id.typ == 0
        | .ll _ => true) &&
      -- the only list-valued tag is the geometry (any other list would have to fit the path's own encoding)
      f.tags.all (fun t => match t.val with
        | .list xs => t.key == kPath && xs == pathElems f
        | _ => true)
  | 2 => f.tags.all (·.val.plain) && areaKept fs f &&
      f.polys.all fun p => match p with
        | .paths ids => !ids.isEmpty && ids.all fun id => id.typ == 1 && id.valid
        | .loops _ => true
  | _ => f.tags.all (·.val.plain) &&
      f.members.all fun m => m.id.valid && decide (m.id.typ < 4) && (m.id.typ != 0 || decide (0 < blockCount fs m.id.ns 0))

/-- finding class `point-member-without-block`: a relation lists a point whose namespace has no point block
(no point and no path point in it): `emitPoints` → `Reserve` panics "No builder for type point" -/
def hasPointMemberWithoutBlock (fs : List Feature) : Bool :=
  fs.any fun r => r.id.typ == 3 && r.members.any fun m => m.id.typ == 0 && blockCount fs m.id.ns 0 == 0

/-- finding class `list-tag-on-non-path`: a list-valued tag on a feature without a `path` tag: `toCompactValue`
gets `GeometryEncodingInvalid` and panics "not implemented" -/
def hasListTagOnNonPath (fs : List Feature) : Bool :=
  fs.any fun f => (getTag f.tags kPath).isNone && f.tags.any fun t => match t.val with
    | .list _ => true
    | _ => false

/-- no two features share an id -/
def idsDistinct : List Feature → Bool
  | [] => true
  | f :: fs => fs.all (fun g => g.id != f.id) && idsDistinct fs

/-- **the decidable domain of `compact_roundtrip`**: ids distinct, every feature kept by the builder's
validation and representable, the string table holds every string of the source, the tables fit their
fields.  The three recorded finding classes are excluded explicitly (they are also implied by `featureOK`):
an input is either in `Accepts`, or in one of `hasFidTag` / `hasPointMemberWithoutBlock` / `hasListTagOnNonPath`, or
outside the property's domain (duplicate ids, invalid paths, …). -/
def Accepts (strs : List Str) (fs : List Feature) : Bool :=
  idsDistinct fs && fs.all (featureOK fs) && !hasFidTag fs &&
  (fs.flatMap stringsOf).all (strs.contains ·) && decide (strs.length < 2 ^ 48) && decide ((nsTable fs).length ≤ 8192) &&
  decide (fs.length < 2 ^ 48) && !hasPointMemberWithoutBlock fs && !hasListTagOnNonPath fs

end B6.Model.CompactIndex
