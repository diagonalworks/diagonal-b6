import B6.Model.Interp
/-!
L7 language layer — `api.Simplify` (api/shell.go: `Simplify`, `simplifyCall`,
`simplifyCallWithNoArguments`, `simplifyCallBuildingQuery`, `simplifyLambda`, `simplifyQuery`),
mirrored as written, with the repairs `fixes/C22-eta-reduction.patch` (`canDropLambdaArgs`) and
`fixes/C22-function-position.patch`.

Go detail that is observable in the output tree and therefore modelled: `Simplify` works on struct
*copies* (`call := expression.AnyExpression.(b6.CallExpression)`), so assigning `call.Function` or
`lambda.Expression` changes the returned copy only, but `call.Args[i] = …` writes into the slice the
copy **shares with the caller's tree**.  `simplifyLambda` returns the *original* `expression` when it
does not η-reduce, i.e. the lambda with its body as the in-place writes left it: arguments of calls
inside the body are simplified, the body's own root and any function position are not.  The model
therefore computes two trees for every input: `S` = the returned tree, `M` = the caller's tree after
the call (`simplifyBoth`).  The in-place effect of *re*-simplifying an already simplified subtree
(the second `Simplify` calls inside `simplifyCallWithNoArguments` / `simplifyLambda`) is taken to be
nil; the correspondence run checks this on every generated tree.

`functions.ArgCount` is the parameter `argc`; `functions.IsVariadic` is folded into it by `argcOf` (a
variadic function is entered with count 0, which makes the two guards that consult `IsVariadic` come
out as written: Props/C22 `postCall_argcOf`, `canDrop_argcOf`).
Fuel bounds the recursion depth (`Simplify` is called again on its own results, which is not
structural); `none` = out of fuel, never a default.  `simplify` supplies `size + 1`, which suffices
because every nested call is on a strictly smaller tree.
-/
namespace B6.Model

mutual
  /-- `simplifyQuery`: flatten nested intersections / unions (nothing under `Typed` is touched) -/
  def simplifyQuery : Query → Query
    | .inter qs => .inter (flattenInter qs)
    | .union qs => .union (flattenUnion qs)
    | q => q
  def flattenInter : List Query → List Query
    | [] => []
    | q :: qs =>
      (match simplifyQuery q with
        | .inter xs => xs
        | q' => [q']) ++ flattenInter qs
  def flattenUnion : List Query → List Query
    | [] => []
    | q :: qs =>
      (match simplifyQuery q with
        | .union xs => xs
        | q' => [q']) ++ flattenUnion qs
end

mutual
  /-- canonical form of a query **value** for comparison (C22): intersections / unions flattened at
  every depth, also under `Typed` (where `simplifyQuery` does not look).  `canon_denote` (Props/C22)
  shows it does not change what the query matches. -/
  def Query.canon : Query → Query
    | .inter qs => .inter (canonInter qs)
    | .union qs => .union (canonUnion qs)
    | .typed t q => .typed t q.canon
    | q => q
  def canonInter : List Query → List Query
    | [] => []
    | q :: qs =>
      (match q.canon with
        | .inter xs => xs
        | q' => [q']) ++ canonInter qs
  def canonUnion : List Query → List Query
    | [] => []
    | q :: qs =>
      (match q.canon with
        | .union xs => xs
        | q' => [q']) ++ canonUnion qs
end

namespace Simplify

mutual
  /-- `mentionsSymbol` of the repair: the symbol occurs anywhere (binding is ignored) -/
  def mentions (s : String) : Expr → Bool
    | .sym t => t == s
    | .lit _ => false
    | .call f args _ => mentions s f || mentionsAny s args
    | .lam _ b => mentions s b
  def mentionsAny (s : String) : List Expr → Bool
    | [] => false
    | a :: as => mentions s a || mentionsAny s as
end

/-- length of the prefix of `args` that is exactly the parameters, in order (the loop of
`simplifyLambda`) -/
def matchPrefix : List String → List Expr → Nat
  | p :: ps, .sym s :: as => if s == p then 1 + matchPrefix ps as else 0
  | _, _ => 0

def isCallExpr : Expr → Bool
  | .call _ _ _ => true
  | _ => false

/-- `canDropLambdaArgs` (fix C22-eta-reduction) -/
def canDrop (argc : String → Option Nat) (ps : List String) (f : Expr) (args : List Expr) : Bool :=
  match f with
  | .sym s =>
    argc s == some args.length &&
    ps.Nodup &&
    (args.drop ps.length).all (fun r => !isCallExpr r && ps.all (fun p => !mentions p r))
  | _ => false

def asStrings : List Expr → Option (List String)
  | [] => some []
  | .lit (.str s) :: as => (asStrings as).map (s :: ·)
  | _ => none

/-- `simplifyCallBuildingQuery` before its final `Simplify`: the query literal a call denotes -/
def buildQuery (s : String) (args : List Expr) : Option Query :=
  if s == "and" || s == "or" then
    match args with
    | [.lit (.query a), .lit (.query b)] => some (if s == "and" then .inter [a, b] else .union [a, b])
    | _ => none
  else if s == "typed" then
    match args with
    | [.lit (.str t), .lit (.query q)] => some (.typed (normType t) q)
    | _ => none
  else if s == "keyed" then
    match asStrings args with
    | some [k] => some (.keyed k)
    | _ => none
  else if s == "tagged" then
    match asStrings args with
    | some [k, v] => some (.tagged k v)
    | _ => none
  else none

/-- the argument loop of `simplifyCall`: `call.Args[i] = Simplify(arg, functions)` -/
def simpArgsWith (simp : Expr → Option (Expr × Expr)) : List Expr → Option (List Expr)
  | [] => some []
  | a :: as => match simp a, simpArgsWith simp as with
    | some (a', _), some as' => some (a' :: as')
    | _, _ => none

/-- the function a simplified call keeps (fix C22-function-position): a symbol in function position
names a global function, so a function expression that simplified to a symbol `argc` does not know
is put back (`mf` = the original function as the in-place writes left it) -/
def pickFunction (argc : String → Option Nat) (f f' mf : Expr) : Expr :=
  match f', f with
  | .sym _, .sym _ => f'
  | .sym s, _ => if (argc s).isSome then f' else mf
  | _, _ => f'

/-- `simplifyCallWithNoArguments`, then `simplifyCallBuildingQuery`, on the call with simplified
parts; `simp` = `Simplify` one level down -/
def postCall (argc : String → Option Nat) (simp : Expr → Option (Expr × Expr))
    (f : Expr) (args : List Expr) (p : Bool) : Option Expr :=
  match args, f with
  | [], .sym s =>
    (match argc s with
      | some n => if n > 0 then some (.sym s) else some (.call f [] p)
      | none => some (.call f [] p))
  | [], .lam [] body => (simp body).map (·.1)
  | _, .sym s =>
    (match buildQuery s args with
      | some q => some (.lit (.query (simplifyQuery q)))
      | none => some (.call f args p))
  | _, _ => some (.call f args p)

/-- `simplifyCall`; returns `(S, M)` -/
def simpCall (argc : String → Option Nat) (simp : Expr → Option (Expr × Expr))
    (f : Expr) (args : List Expr) (p : Bool) : Option (Expr × Expr) :=
  match simp f, simpArgsWith simp args with
  | some (f', mf), some args' =>
    (postCall argc simp (pickFunction argc f f' mf) args' p).map (fun s => (s, .call mf args' p))
  | _, _ => none

/-- `simplifyLambda`; returns `(S, M)` -/
def simpLam (argc : String → Option Nat) (simp : Expr → Option (Expr × Expr))
    (ps : List String) (body : Expr) : Option (Expr × Expr) :=
  match simp body with
  | none => none
  | some (body', mb) =>
    let unchanged := Expr.lam ps mb
    match body' with
    | .call f2 args2 _ =>
      if !ps.isEmpty && matchPrefix ps args2 == ps.length && canDrop argc ps f2 args2 then
        if ps.length == args2.length then (simp f2).map (fun r => (r.1, unchanged))
        else (simpCall argc simp f2 (args2.drop ps.length) false).map (fun r => (r.1, unchanged))
      else some (unchanged, unchanged)
    | _ => some (unchanged, unchanged)

/-- `Simplify`; returns `(S, M)`: the result, and the argument tree as the in-place writes leave it -/
def simplifyBoth (argc : String → Option Nat) : Nat → Expr → Option (Expr × Expr)
  | 0, _ => none
  | fuel + 1, e =>
    match e with
    | .sym _ => some (e, e)
    | .lit (.query q) => some (.lit (.query (simplifyQuery q)), e)
    | .lit _ => some (e, e)
    | .call f args p => simpCall argc (simplifyBoth argc fuel) f args p
    | .lam ps body => simpLam argc (simplifyBoth argc fuel) ps body

/-- Scope clause of C22 on an input tree `e` and an output tree `s`: every symbol free in value
position in `s` was free in value position in `e` or names a global function (no lambda parameter is
left without its binder), and every symbol in function position in `s` was in function position in
`e` or names a global function (no value was moved into the function namespace). -/
def scopeOK (argc : String → Option Nat) (e s : Expr) : Bool :=
  s.freeValueVars.all (fun x => e.freeValueVars.contains x || (argc x).isSome) &&
  s.fnSyms.all (fun x => e.fnSyms.contains x || (argc x).isSome)

mutual
  /-- Some lambda parameter has the name of a global function of the harness table: the input class of
  the C22 finding `shadowed-global` (the rewrites `(f)` ↦ `f` and `{a -> f a}` ↦ `f` move `f` from
  function position, where it names the global, to value position, where such a parameter captures
  it). -/
  def shadowsGlobal : Expr → Bool
    | .sym _ => false
    | .lit _ => false
    | .call f args _ => shadowsGlobal f || shadowsGlobals args
    | .lam ps b => ps.any (fun p => (Builtin.ofName p).isSome) || shadowsGlobal b
  def shadowsGlobals : List Expr → Bool
    | [] => false
    | a :: as => shadowsGlobal a || shadowsGlobals as
end

/-- values with their queries in canonical form (how C22 compares outcomes) -/
def canonVal : Val → Val
  | .query q => .query q.canon
  | .pair a b => .pair (canonVal a) (canonVal b)
  | v => v

/-- the function table of the harness as `SymbolArgCounts` -/
def tableArgc (s : String) : Option Nat := (Builtin.ofName s).map Builtin.arity

/-- `functions.IsVariadic` for the function table of the C22 run: the two variadic functions of the
real table that the harness includes (`collection(pairs ...)`, `call(f, args ...)`) -/
def variadicName (s : String) : Bool := s == "collection" || s == "call"

/-- `functions.ArgCount` for the function table of the C22 run (`reflect` `NumIn() - 1`: the variadic
slice counts as one parameter) -/
def tableCount (s : String) : Option Nat :=
  if s == "collection" then some 1 else if s == "call" then some 2 else tableArgc s

/-- The model's `argc` for a `SymbolArgCounts` with variadic functions: a variadic function is entered
with count 0.  `Simplify` consults `IsVariadic` in exactly two guards, and both then come out as in
the Go code (`postCall_argcOf`, `canDrop_argcOf`): `simplifyCallWithNoArguments` rewrites `(f)` to `f`
iff `ok && n > 0 && !v`; `canDropLambdaArgs` demands `n == len(call.Args)` (where `len ≥ 1`) and `!v`.
Every other use of `ArgCount` only asks whether the symbol is known. -/
def argcOf (count : String → Option Nat) (variadic : String → Bool) (s : String) : Option Nat :=
  (count s).map (fun n => if variadic s then 0 else n)

/-- the guard of `simplifyCallWithNoArguments` as written in shell.go -/
def noargGuard (count : String → Option Nat) (variadic : String → Bool) (s : String) : Bool :=
  match count s with
  | some n => decide (n > 0) && !variadic s
  | none => false

def tableArgcV : String → Option Nat := argcOf tableCount variadicName

end Simplify

/-- `api.Simplify(e, functions)` -/
def simplifyWith (argc : String → Option Nat) (e : Expr) : Option Expr :=
  (Simplify.simplifyBoth argc (e.size + 1) e).map (·.1)

/-- `api.Simplify` with the function table of the harness (`IsVariadic` folded in: `tableArgcV`) -/
def simplify (e : Expr) : Option Expr := simplifyWith Simplify.tableArgcV e

/-- the same -/
def simplifyV (e : Expr) : Option Expr := simplifyWith Simplify.tableArgcV e

end B6.Model
