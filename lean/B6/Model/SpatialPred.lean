/-!
# Model of the decision logic of the spatial predicates (spatial.go) — C05

Every S2 primitive the predicates call (`Cell.ContainsPoint`, `Polyline.IntersectsCell`,
`Polygon.IntersectsCell`, `Polygon.ContainsPoint`, `Polygon.Intersects`, `Polyline.Intersects`,
`Project`+distance / `Cap.ContainsPoint`, `Sign`) enters as an entry of a *primitive table* for one
(query, feature) pair: the table holds the value of every call the code could make, in the order of the
Go loops.  The functions below mirror the control flow of the Go code on such a table (early exits,
loop order, the `return` inside a loop, the vertex-count shortcut, the panic of `p.Loop(0)` on a polygon
without loops = `none`).

`fixed = false` is the code as found, `fixed = true` the repaired code
(fixes/C05-multipolygon-point-any-polygon.patch, fixes/C05-cap-polygon-centre-containment.patch,
fixes/C05-empty-polyline-query.patch, fixes/C04-intersects-feature-without-geometry.patch).
-/
namespace B6.Model.SpatialPred

def anyTrue (bs : List Bool) : Bool := bs.any id

/-! ## cellsIntersectFeature -/

inductive CellsTable where
  | point (hits : List Bool)              -- per query cell: `c.ContainsPoint(f.Point())`
  | path (hits : List Bool)               -- per query cell: `polyline.IntersectsCell(c)`
  | area (hits : List (List Bool))        -- per feature polygon, per query cell: `polygon.IntersectsCell(c)`
  | other                                 -- not a Geometry / invalid geometry type
deriving Repr

def cellsIntersectFeature : CellsTable → Bool
  | .point hits => anyTrue hits
  | .path hits => anyTrue hits
  | .area hits => hits.any anyTrue
  | .other => false

/-! ## IntersectsCap.Matches, IntersectsPolygon, CapIntersectsPolygon -/

/-- one edge of a loop: `c.ContainsPoint(s2.Project(c.Center(), v0, v1))`, `s2.Sign(c.Center(), v0, v1)` -/
structure EdgeRow where
  within : Bool
  left : Bool
deriving Repr, DecidableEq

structure CapPoly where
  nv0 : Nat                   -- `p.Loop(0).NumVertices()` (meaningless when there is no loop)
  interior : List Bool        -- per cell of the cap's interior covering: `p.IntersectsCell(cell)`
  exterior : List Bool        -- per cell of the cap's exterior covering: `p.IntersectsCell(cell)`
  centreIn : Bool             -- `p.ContainsPoint(c.Center())`
  loops : List (List EdgeRow) -- per loop, per edge
deriving Repr

/-- code as found: early exit on an edge within the radius, else parity of the loops the centre is to the
left of every edge of -/
def capIntersectsPolygonParity (loops : List (List EdgeRow)) : Bool :=
  go loops 0
where
  go : List (List EdgeRow) → Nat → Bool
    | [], inside => inside % 2 == 1
    | l :: ls, inside =>
      if l.any (·.within) then true
      else go ls (if l.all (·.left) then inside + 1 else inside)

/-- repaired code: the centre is inside the polygon, or some edge comes within the radius -/
def capIntersectsPolygonFixed (t : CapPoly) : Bool :=
  t.centreIn || t.loops.any fun l => l.any (·.within)

def capIntersectsPolygon (fixed : Bool) (t : CapPoly) : Bool :=
  if fixed then capIntersectsPolygonFixed t else capIntersectsPolygonParity t.loops

def indexUseFasterAboveVertexCount : Nat := 16

/-- `IntersectsCap.IntersectsPolygon`; `none` = Go panic (`p.Loop(0)` on a polygon without loops, code as
found; the repaired code asks `p.NumLoops() > 0` first) -/
def intersectsPolygon (fixed : Bool) (t : CapPoly) : Option Bool :=
  if t.loops.isEmpty && !fixed then none
  else if !t.loops.isEmpty && t.nv0 > indexUseFasterAboveVertexCount then
    if anyTrue t.interior then some true
    else if !anyTrue t.exterior then some false
    else some (capIntersectsPolygon fixed t)
  else some (capIntersectsPolygon fixed t)

inductive CapTable where
  | point (inCap : Bool)          -- `cap.ContainsPoint(f.Point())`
  | path (projInCap : Bool)       -- `cap.ContainsPoint(polyline.Project(centre))`
  | area (polys : List CapPoly)
  | other
deriving Repr

/-- the `for j … { if i.IntersectsPolygon(…) { return true } }` loop: a panic is only reached if no earlier
polygon answered true -/
def anyPolygon (fixed : Bool) : List CapPoly → Option Bool
  | [] => some false
  | p :: ps =>
    match intersectsPolygon fixed p with
    | none => none
    | some true => some true
    | some false => anyPolygon fixed ps

def capMatches (fixed : Bool) : CapTable → Option Bool
  | .point b => some b
  | .path b => some b
  | .area ps => anyPolygon fixed ps
  | .other => some false

/-! ## pointIntersectsFeature -/

inductive PointTable where
  | point (eq : Bool)              -- `f.Point() == point`
  | path (within : Bool)           -- `projection.Distance(point) < MetersToAngle(0.001)`
  | area (contains : List Bool)    -- per feature polygon: `polygon.ContainsPoint(point)`
  | other
deriving Repr

def pointIntersectsFeature : PointTable → Bool
  | .point b => b
  | .path b => b
  | .area cs => anyTrue cs
  | .other => false

/-! ## polylineIntersectsFeature (with the documented vertex approximation against polygons) -/

inductive LineTable where
  | point (within : Bool)              -- `projection.Distance(f.Point()) < MetersToAngle(0.001)`
  | path (crosses : Bool)              -- `f.Polyline().Intersects(polyline)`
  | area (vertexIn : List (List Bool)) -- per feature polygon, per vertex of the query polyline: `ContainsPoint`
  | other
deriving Repr

/-- `polylineIntersectsPolygon`: some vertex of the polyline is inside the polygon -/
def polylineIntersectsPolygon (vertexIn : List Bool) : Bool := anyTrue vertexIn

def polylineIntersectsFeature : LineTable → Bool
  | .point b => b
  | .path b => b
  | .area vs => vs.any polylineIntersectsPolygon
  | .other => false

/-- `IntersectsPolyline.Matches` for a query polyline of `nq` vertices. `polyline.Project(f.Point())` indexes
vertex `nq-2`: with an empty query polyline the point branch panics (`none`) in the code as found; repaired
(fixes/C05-empty-polyline-query.patch) it answers false. The path and area branches never project. -/
def intersectsPolylineMatches (fixed : Bool) (nq : Nat) (t : LineTable) : Option Bool :=
  match nq, t with
  | 0, .point _ => if fixed then some false else none
  | _, t => some (polylineIntersectsFeature t)

/-! ## multiPolygonIntersectsFeature -/

inductive MpTable where
  | point (contains : List Bool)        -- per query polygon: `polygon.ContainsPoint(f.Point())`
  | path (vertexIn : List (List Bool))  -- per query polygon, per vertex of the feature's polyline
  | area (meets : List (List Bool))     -- per feature polygon a, per query polygon b: `a.Intersects(b)`
  | other
deriving Repr

/-- code as found: `for _, polygon := range polygons { return polygon.ContainsPoint(p) }` — the first
polygon decides; repaired: `if … { return true }` -/
def multiPolygonContainsPoint (fixed : Bool) (contains : List Bool) : Bool :=
  if fixed then anyTrue contains
  else match contains with
    | [] => false
    | c :: _ => c

def multiPolygonIntersectsFeature (fixed : Bool) : MpTable → Bool
  | .point cs => multiPolygonContainsPoint fixed cs
  | .path vs => vs.any polylineIntersectsPolygon
  | .area ms => ms.any anyTrue
  | .other => false

/-! ## IntersectsFeature -/

/-- what `toGeometryQuery` turns the named feature into, with the table of that query against the feature -/
inductive GeoQuery where
  | point (t : PointTable)   -- named feature is a point  → IntersectsPoint
  | line (t : LineTable)     -- named feature is a path   → IntersectsPolyline
  | mp (t : MpTable)         -- named feature is an area  → IntersectsMultiPolygon
  | empty                    -- missing / no geometry     → Empty{}
deriving Repr

def geoMatches (fixed : Bool) : GeoQuery → Bool
  | .point t => pointIntersectsFeature t
  | .line t => polylineIntersectsFeature t
  | .mp t => multiPolygonIntersectsFeature fixed t
  | .empty => false

/-- code as found: `i.ID == f.FeatureID() || i.toGeometryQuery(w).Matches(f, w)`; repaired
(fixes/C04-intersects-feature-without-geometry.patch): `false` when the geometry query is `Empty{}` — a named
feature without geometry intersects nothing, itself included, which is what `Compile` answers -/
def intersectsFeatureMatches (fixed : Bool) (sameID : Bool) (q : GeoQuery) : Bool :=
  match q with
  | .empty => if fixed then false else sameID
  | q => sameID || geoMatches fixed q

/-- `b6.MightIntersect.Matches`: constantly true (the query only selects candidates by covering) -/
def mightIntersectMatches : Bool := true

/-! ## Exploration oracle: exact point-in-polygon on integer (E7) coordinates -/

abbrev Pt := Int × Int

/-- does the half-open edge a→b cross the ray from p towards +x ? (exact integer arithmetic) -/
def edgeCrosses (p a b : Pt) : Bool :=
  if (a.2 > p.2) != (b.2 > p.2) then
    -- x-coordinate of the edge at height p.2 is  a.1 + (p.2 - a.2) * (b.1 - a.1) / (b.2 - a.2)
    let lhs := (p.1 - a.1) * (b.2 - a.2)
    let rhs := (p.2 - a.2) * (b.1 - a.1)
    if b.2 > a.2 then decide (lhs < rhs) else decide (lhs > rhs)
  else false

def loopEdges : List Pt → List (Pt × Pt)
  | [] => []
  | p :: ps => (p :: ps).zip (ps ++ [p])

/-- crossing-number parity for one loop -/
def loopContains (loop : List Pt) (p : Pt) : Bool :=
  ((loopEdges loop).filter fun e => edgeCrosses p e.1 e.2).length % 2 == 1

/-- S2 polygons: a point is inside iff it is inside an odd number of the (nested) loops -/
def polygonContains (loops : List (List Pt)) (p : Pt) : Bool :=
  (loops.filter fun l => loopContains l p).length % 2 == 1

/-- squared distance from p to the segment a–b is below `m²` (exact: compares cross² with m²·len² when the
foot of the perpendicular lies on the segment, else the nearer end point) -/
def nearSegment (m : Int) (p a b : Pt) : Bool :=
  let dx := b.1 - a.1
  let dy := b.2 - a.2
  let ex := p.1 - a.1
  let ey := p.2 - a.2
  let len2 := dx * dx + dy * dy
  let dot := ex * dx + ey * dy
  if len2 == 0 || dot ≤ 0 then decide (ex * ex + ey * ey < m * m)
  else if dot ≥ len2 then
    let fx := p.1 - b.1
    let fy := p.2 - b.2
    decide (fx * fx + fy * fy < m * m)
  else
    let cr := ex * dy - ey * dx
    decide (cr * cr < m * m * len2)

def nearBoundary (m : Int) (loops : List (List Pt)) (p : Pt) : Bool :=
  loops.any fun l => (loopEdges l).any fun e => nearSegment m p e.1 e.2

end B6.Model.SpatialPred
