/-!
# Model of `graph.ShortestPathSearch` (b6/graph/graph.go)

What is mirrored (function by function):

* `reachable{point, visited, distance, segment}`                → `Entry` (keyed by point in `Table` = `byPoint`)
* `NewShortestPathSearchFromPoint` (connected origin / nothing) → `initTable origins`
* `AddOrUpdate` (strict `r.distance > distance` decrease-key, else insert) → `addOrUpdate`
* the body of the `for ss.Next()` loop of `ExpandSearch` / `ExpandSearchTo`
  (`!ok || !next.visited`, `IsUseable`, `r.distance+weight < maxDistance`) → `relax`
* one iteration of the outer loop after `heap.Pop` (mark visited, traverse) → `expand`
* `container/heap` on `queue` (`Push` = append+`up`, `Pop` = swap+`down`+remove last, `Fix`)  → `Heap.*`
  and the whole loop with the real binary heap                  → `runH` (`ExpandSearch` when `to = none`,
  `ExpandSearchTo` with its `+Inf` sentinel and both early-stop conditions when `to = some _`)
* `BuildRoute` / `BuildPath` (follow `segment.FirstFeatureID()` back until `SegmentInvalid`) → `buildRoute`

Abstraction used by the theorems (Props/C30): the heap is "some minimum" — `IsMin t p` — and a search is any
sequence of `expand` steps at such minima (`Reach`).  `runH` resolves that choice exactly as `container/heap`
does and *checks* at run time (`isMinB`) that every pop is such a minimum, so every successful `runH` run is
a `Reach` run (`runH_reach`, proved in Props).  `runHU` is the same loop without the check (the code as it
is); `Lemmas/DijkstraHeap.lean` proves the heap invariant, so the check never fails and `runHU = runH`.

Weights live in an abstract ordered additive structure `Cost` with exactly the laws the proofs use; IEEE
doubles (without NaN) satisfy them (`+` is monotone under rounding, `a ≤ a + w` for `0 ≤ w`), `Nat` does
(instance below; the correspondence run uses integer-valued float weights, for which float addition is exact).

Outside the model: `pathStates`, `byArea`/`PointsAndAreas`, origins from buildings, `Traverse` itself (its
result is an input: `Graph.adj`), the values `FillCountsAndDistancesFromPaths` interpolates (which points get one is
modelled: `interpolatedPoints`).
-/
namespace B6.Model.Dijkstra

/-- Operations the code uses on distances: `+`, `<` (and `0` for the origin). -/
class Cost (α : Type) extends Add α, LE α, LT α where
  zero : α
  decLt : ∀ a b : α, Decidable (a < b)

instance {α} [Cost α] (a b : α) : Decidable (a < b) := Cost.decLt a b

/-- The laws the proofs need (and nothing else): a total preorder, `<` is its strict part,
addition on the right is monotone, adding a non-negative weight does not decrease. -/
class LawfulCost (α : Type) [Cost α] : Prop where
  le_refl : ∀ a : α, a ≤ a
  le_trans : ∀ {a b c : α}, a ≤ b → b ≤ c → a ≤ c
  le_total : ∀ a b : α, a ≤ b ∨ b ≤ a
  lt_iff_not_le : ∀ {a b : α}, a < b ↔ ¬ b ≤ a
  add_le_add_right : ∀ {a b : α} (w : α), a ≤ b → a + w ≤ b + w
  le_add_of_nonneg : ∀ (a : α) {w : α}, Cost.zero ≤ w → a ≤ a + w

instance : Cost Nat where
  zero := 0
  decLt := fun a b => inferInstanceAs (Decidable (a < b))

instance : LawfulCost Nat where
  le_refl := Nat.le_refl
  le_trans := Nat.le_trans
  le_total := Nat.le_total
  lt_iff_not_le := by intro a b; exact Nat.not_le.symm
  add_le_add_right := by intro a b w h; exact Nat.add_le_add_right h w
  le_add_of_nonneg := by intro a w _; exact Nat.le_add_right a w

/-- One `b6.Segment` as returned by `World.Traverse`, with what the search asks about it. -/
structure Edge (P S α : Type) where
  seg : S          -- (path, first index, last index)
  first : P        -- segment.FirstFeatureID()
  last : P         -- segment.LastFeatureID()
  usable : Bool    -- weights.IsUseable(segment)
  weight : α       -- weights.Weight(segment)
deriving DecidableEq, Repr

/-- `w.Traverse(point)` in order. -/
structure Graph (P S α : Type) where
  adj : P → List (Edge P S α)

/-- `reachable` without the heap index. `back = none` is `b6.SegmentInvalid`. -/
structure Entry (P S α : Type) where
  visited : Bool
  dist : α
  back : Option (Edge P S α)
deriving Repr

/-- `byPoint`: association list, first binding wins, updated in place, new keys appended. -/
abbrev Table (P S α : Type) := List (P × Entry P S α)

section
variable {P S α : Type} [DecidableEq P] [Cost α]

def tget : Table P S α → P → Option (Entry P S α)
  | [], _ => none
  | (k, e) :: rest, p => if k = p then some e else tget rest p

def tput : Table P S α → P → Entry P S α → Table P S α
  | [], p, e => [(p, e)]
  | (k, x) :: rest, p, e => if k = p then (k, e) :: rest else (k, x) :: tput rest p e

/-- `NewShortestPathSearchFromPoint` for a connected point: one entry, distance 0, no segment.
(`FillOriginsFromBuildings` may queue the same point twice; the second copy is behaviourally invisible,
here a repeated origin is simply entered once.) -/
def initTable (origins : List P) : Table P S α :=
  origins.foldl (fun t o => match tget t o with
    | some _ => t
    | none => tput t o { visited := false, dist := Cost.zero, back := none }) []

/-- What `AddOrUpdate` did to the heap (needed by the heap simulation only). -/
inductive Touch where
  | nothing | pushed | decreased
deriving DecidableEq, Repr

/-- `AddOrUpdate(segment, distance)` (point features only). -/
def addOrUpdateK (t : Table P S α) (e : Edge P S α) (d : α) : Table P S α × Touch :=
  match tget t e.last with
  | some r =>
    if d < r.dist then (tput t e.last { r with dist := d, back := some e }, .decreased)   -- r.distance > distance
    else (t, .nothing)
  | none => (tput t e.last { visited := false, dist := d, back := some e }, .pushed)

/-- body of `for ss.Next()` for one segment, `d = r.distance` of the popped entry -/
def relaxK (max d : α) (t : Table P S α) (e : Edge P S α) : Table P S α × Touch :=
  let skip := match tget t e.last with
    | some n => n.visited
    | none => false
  if skip then (t, .nothing)
  else if e.usable then
    if d + e.weight < max then addOrUpdateK t e (d + e.weight) else (t, .nothing)
  else (t, .nothing)

def relax (max d : α) (t : Table P S α) (e : Edge P S α) : Table P S α := (relaxK max d t e).1

/-- `s.byPoint[r.point].visited = true` -/
def markVisited (t : Table P S α) (p : P) : Option (Table P S α × Entry P S α) :=
  match tget t p with
  | none => none                      -- Go: nil dereference (cannot happen for a popped entry)
  | some r => some (tput t p { r with visited := true }, r)

/-- One iteration of `ExpandSearch`'s outer loop for the popped point `p`. -/
def expand (g : Graph P S α) (max : α) (t : Table P S α) (p : P) : Option (Table P S α) :=
  match markVisited t p with
  | none => none
  | some (t1, r) => some ((g.adj p).foldl (relax max r.dist) t1)

/-- `p` may be returned by `heap.Pop`: it is queued (in the table, not yet visited) and no queued entry is
strictly closer. -/
def IsMin (t : Table P S α) (p : P) : Prop :=
  ∃ ep, tget t p = some ep ∧ ep.visited = false ∧
    ∀ q eq, tget t q = some eq → eq.visited = false → ¬ (eq.dist < ep.dist)

def isMinB (t : Table P S α) (p : P) : Bool :=
  match tget t p with
  | none => false
  | some ep => !ep.visited && t.all (fun (q, _) =>
      match tget t q with
      | some eq => eq.visited || !(decide (eq.dist < ep.dist))
      | none => true)

/-- every entry has been popped: the queue is empty -/
def allVisited (t : Table P S α) : Bool := t.all (fun (_, e) => e.visited)

/-! ### BuildRoute -/

/-- `b6.Step` plus the full segment (`BuildPath`). -/
structure Step (P S α : Type) where
  dest : P
  via : Edge P S α
  cost : α

/-- `BuildRoute(destination)`: `none` = the Go loop would never end (fuel = number of entries + 1 is enough
for an acyclic back-pointer structure). Steps come out origin first, as after the Go reversal. -/
def buildRoute (t : Table P S α) : Nat → P → List (Step P S α) → Option (P × List (Step P S α))
  | 0, _, _ => none
  | n + 1, p, acc =>
    match tget t p with
    | some r =>
      match r.back with
      | some b => buildRoute t n b.first ({ dest := p, via := b, cost := r.dist } :: acc)
      | none => some (p, acc)
    | none => some (p, acc)

/-! ### `container/heap` over `queue` (entries identified by their point) -/
namespace Heap

def less (t : Table P S α) (h : Array P) (i j : Nat) : Option Bool := do
  let a ← h[i]?
  let b ← h[j]?
  let ea ← tget t a
  let eb ← tget t b
  pure (decide (ea.dist < eb.dist))

def swap (h : Array P) (i j : Nat) : Option (Array P) := do
  let a ← h[i]?
  let b ← h[j]?
  pure ((h.setIfInBounds i b).setIfInBounds j a)

/-- `heap.up(h, j)` -/
def up (t : Table P S α) : Nat → Array P → Nat → Option (Array P)
  | 0, _, _ => none
  | fuel + 1, h, j =>
    let i := (j - 1) / 2
    if j = 0 then some h             -- Go: i == j (integer division of -1 gives 0)
    else do
      let lt ← less t h j i
      if !lt then pure h
      else
        let h' ← swap h i j
        up t fuel h' i

/-- the child `down` compares with: `j2` if it exists and is `Less` than `j1`, else `j1` -/
def pickChild (t : Table P S α) (h : Array P) (j1 n : Nat) : Option Nat :=
  if j1 + 1 < n then
    match less t h (j1 + 1) j1 with
    | none => none
    | some pick2 => some (if pick2 then j1 + 1 else j1)
  else some j1

/-- `heap.down(h, i0, n)`; returns the array and the final position -/
def down (t : Table P S α) : Nat → Array P → Nat → Nat → Option (Array P × Nat)
  | 0, _, _, _ => none
  | fuel + 1, h, i, n =>
    if 2 * i + 1 ≥ n then some (h, i)
    else
      match pickChild t h (2 * i + 1) n with
      | none => none
      | some j =>
        match less t h j i with
        | none => none
        | some lt =>
          if !lt then some (h, i)
          else
            match swap h i j with
            | none => none
            | some h' => down t fuel h' j n

/-- `heap.Push` after the entry is in the table -/
def push (t : Table P S α) (h : Array P) (p : P) : Option (Array P) :=
  let h' := h.push p
  up t (h'.size + 1) h' (h'.size - 1)

/-- `heap.Pop`: swap(0, n-1); down(0, n-1); remove last -/
def pop (t : Table P S α) (h : Array P) : Option (P × Array P) :=
  if h.size = 0 then none
  else do
    let n := h.size - 1
    let h1 ← swap h 0 n
    let (h2, _) ← down t (h.size + 1) h1 0 n
    let p ← h2[n]?
    pure (p, h2.pop)

/-- `r.index`: where the entry of `p` sits in the queue (kept up to date by `Swap`/`Push` in the Go code) -/
def indexOf (h : Array P) (p : P) : Nat → Nat → Option Nat
  | 0, _ => none
  | fuel + 1, k => if h[k]? = some p then some k else if k + 1 < h.size then indexOf h p fuel (k + 1) else none

/-- `heap.Fix(h, r.index)` -/
def fix (t : Table P S α) (h : Array P) (p : P) : Option (Array P) := do
  let i ← indexOf h p h.size 0
  let (h1, i') ← down t (h.size + 1) h i h.size
  if i' > i then pure h1 else up t (h.size + 1) h1 i

end Heap

/-- search state with the real queue -/
structure HState (P S α : Type) where
  t : Table P S α
  heap : Array P

/-- one segment of the inner loop, table and heap together; the table component is `relax` by construction -/
def relaxH (max d : α) (s : Option (HState P S α)) (e : Edge P S α) : Option (HState P S α) :=
  match s with
  | none => none
  | some s =>
    let (t', k) := relaxK max d s.t e
    match k with
    | .nothing => some { t := t', heap := s.heap }
    | .pushed => (Heap.push t' s.heap e.last).map fun h => { t := t', heap := h }
    | .decreased => (Heap.fix t' s.heap e.last).map fun h => { t := t', heap := h }

inductive Outcome (P S α : Type) where
  | done (s : HState P S α)          -- loop ended
  | invalidPop (p : P)               -- the heap returned something that is not a queued minimum
  | stuck                            -- heap simulation failed (entry missing from table / index) or fuel ran out

/-- `if r.point == to || destination.distance < r.distance { break }` (`ExpandSearchTo` only);
`destination` is the `byPoint` entry of `to`. -/
def stopNow (to : Option P) (p : P) (t1 : Table P S α) (r : Entry P S α) : Bool :=
  match to with
  | none => false
  | some dest => decide (p = dest) || (match tget t1 dest with
      | some de => decide (de.dist < r.dist)
      | none => false)

/-- `ExpandSearch` (`to = none`) / `ExpandSearchTo` after the sentinel push (`to = some dest`). -/
def runH (g : Graph P S α) (max : α) (to : Option P) : Nat → HState P S α → Outcome P S α
  | 0, s => if s.heap.size = 0 then .done s else .stuck
  | fuel + 1, s =>
    if s.heap.size = 0 then .done s
    else
      match Heap.pop s.t s.heap with
      | none => .stuck
      | some (p, h1) =>
        if !isMinB s.t p then .invalidPop p
        else
          match markVisited s.t p with
          | none => .stuck
          | some (t1, r) =>
            if stopNow to p t1 r then .done { t := t1, heap := h1 }
            else
              match (g.adj p).foldl (relaxH max r.dist) (some { t := t1, heap := h1 }) with
              | none => .stuck
              | some s' => runH g max to fuel s'

/-- The loop exactly as the Go code has it: no check on what the heap returns. `runHU = runH` whenever the
queue is a well-formed heap of the unvisited entries (`runHU_eq_runH_of_heap` in Props/C30). -/
def runHU (g : Graph P S α) (max : α) (to : Option P) : Nat → HState P S α → Outcome P S α
  | 0, s => if s.heap.size = 0 then .done s else .stuck
  | fuel + 1, s =>
    if s.heap.size = 0 then .done s
    else
      match Heap.pop s.t s.heap with
      | none => .stuck
      | some (p, h1) =>
        match markVisited s.t p with
        | none => .stuck
        | some (t1, r) =>
          if stopNow to p t1 r then .done { t := t1, heap := h1 }
          else
            match (g.adj p).foldl (relaxH max r.dist) (some { t := t1, heap := h1 }) with
            | none => .stuck
            | some s' => runHU g max to fuel s'

def dedup : List P → List P
  | [] => []
  | x :: xs => x :: (dedup xs).filter (fun y => y ≠ x)

/-- the queue after `NewShortestPathSearchFromPoint`: the origin if it is connected, nothing otherwise
(`origins` = `[from]` or `[]`; a list keeps the multi-origin form of `FillOriginsFromBuildings`, entered once each) -/
def initHeap (origins : List P) : Array P := (dedup origins).toArray

/-- `NewShortestPathSearchFromPoint`, then `ExpandSearch(max)`. -/
def search (g : Graph P S α) (max : α) (origins : List P) (fuel : Nat) : Outcome P S α :=
  runH g max none fuel { t := initTable origins, heap := initHeap origins }

/-- `search` without the run-time check (the code as it is) -/
def searchU (g : Graph P S α) (max : α) (origins : List P) (fuel : Nat) : Outcome P S α :=
  runHU g max none fuel { t := initTable origins, heap := initHeap origins }

def sentinelTable (origins : List P) (dest : P) (inf : α) : Table P S α :=
  tput (initTable origins) dest { visited := false, dist := inf, back := none }

/-- state after the first three statements of `ExpandSearchTo(dest)` (after fix
C30-expandsearchto-known-destination): a destination the search already knows (the origin itself) keeps its
entry; otherwise the `+Inf` placeholder is entered and pushed. `none`: the heap simulation failed. -/
def searchToStart (origins : List P) (dest : P) (inf : α) : Option (HState P S α) :=
  match tget (initTable origins : Table P S α) dest with
  | some _ => some { t := initTable origins, heap := initHeap origins }
  | none =>
    (Heap.push (sentinelTable origins dest inf : Table P S α) (initHeap origins) dest).map
      fun h => { t := sentinelTable origins dest inf, heap := h }

/-- `…FromPoint` then `ExpandSearchTo(dest, max)`; `inf` stands for `math.Inf(1)`: any value that is
not below a distance the search can record (the driver passes `max + 1`). -/
def searchTo (g : Graph P S α) (max inf : α) (origins : List P) (dest : P) (fuel : Nat) : Outcome P S α :=
  match searchToStart origins dest inf with
  | none => .stuck
  | some s => runH g max (some dest) fuel s

def searchToU (g : Graph P S α) (max inf : α) (origins : List P) (dest : P) (fuel : Nat) : Outcome P S α :=
  match searchToStart origins dest inf with
  | none => .stuck
  | some s => runHU g max (some dest) fuel s

/-! ### `ComputeAccessibility`: `PointDistances` + `FillCountsAndDistancesFromPaths` (after fix
C30-accessibility-keeps-node-distances)

For every recorded point, every segment of its `BuildPath` is walked; a point of such a segment that the search did
not reach itself gets a geometrically interpolated distance (opaque here: `none`), reached points keep the
distance the search found. `segPoints seg` = the points of the path between the segment's two indices. -/

/-- points that get an interpolated value: on a segment of some recorded route, not reached by the search -/
def interpolatedPoints (t : Table P S α) (segPoints : S → List P) : List P :=
  dedup ((t.flatMap fun (p, _) =>
    match buildRoute t (t.length + 1) p [] with
    | some (_, steps) => steps.flatMap fun st => segPoints st.via.seg
    | none => []).filter fun q => (tget t q).isNone)

/-- the distance map `ComputeAccessibility` returns: `some d` = the search's distance, `none` = interpolated -/
def accessibility (t : Table P S α) (segPoints : S → List P) : List (P × Option α) :=
  t.map (fun (p, e) => (p, some e.dist)) ++ (interpolatedPoints t segPoints).map (fun q => (q, none))

def accGet : List (P × Option α) → P → Option (Option α)
  | [], _ => none
  | (k, v) :: rest, p => if k = p then some v else accGet rest p

end
end B6.Model.Dijkstra
