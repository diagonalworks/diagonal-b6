import B6.Model.FeatureID
/-!
# Model of the expression ⇄ protobuf conversion (C19)

Mirrors, in /repo/src/diagonal.works/b6:
* `expression.go`  `Expression.ToProto`, `ExpressionFromProto`, `expressionFromProto`, every
                   `XExpression.ToProto` / `XExpressionFromProto`, `LiteralFromProto`, `FromLiteral`
                   (as far as `CollectionExpression.ToProto` uses it)
* `search.go`, `spatial.go`  every `Query.ToProto`, `NewQueryFromProto`
* `protos.go`      `NewProtoFromFeatureID/NewFeatureIDFromProto`, `NewProtoFromRoute/NewRouteFromProto`,
                   the point / polyline / multipolygon conversions at E7 resolution

Two families of inductives: what the server holds (`Any`/`Expr`/`Query`) and what travels
(`LitP`/`NodeP`/`QueryP` for `LiteralNodeProto`/`NodeProto`/`QueryProto`).  Strings (names, symbols,
keys, namespaces, blobs) are opaque: the conversion only copies them.  Floats are their IEEE bit
patterns (`Nat`).  Geometry is carried at the resolution of the wire format: points are E7 integer pairs,
polylines lists of them, multipolygons lists of polygons of loops of them — S2's floating point and
polygon normalisation are outside the model (the tie checks that the real code is the identity on them
for the generated shapes).  `PolylineProto.length_meters` is derived data and not modelled.

Go outcomes are explicit: `R.ok`, `R.err` (`err != nil`), `R.panic`.  In particular
`Expression.ToProto` does `p, err := e.AnyExpression.ToProto(); p.Name = …`, so an error of the inner
conversion (where `p` is nil) and a nil `AnyExpression` both end in a nil dereference: `panic`.
-/
namespace B6.Model.WireExpr
open B6.Model.FeatureID (FType ftypeFromProto)

inductive R (α : Type) where
  | ok (a : α)
  | err
  | panic
  deriving Repr

@[inline] def R.bind {α β : Type} : R α → (α → R β) → R β
  | .ok a, f => f a
  | .err, _ => .err
  | .panic, _ => .panic

@[simp] theorem R.ok_bind {α β : Type} (a : α) (f : α → R β) : (R.ok a).bind f = f a := rfl
@[simp] theorem R.err_bind {α β : Type} (f : α → R β) : (R.err : R α).bind f = .err := rfl
@[simp] theorem R.panic_bind {α β : Type} (f : α → R β) : (R.panic : R α).bind f = .panic := rfl

structure PointE7 where
  lat : Int
  lng : Int
  deriving DecidableEq, Repr

abbrev Loop := List PointE7
abbrev Polygon := List Loop
abbrev MultiPolygon := List Polygon

/-- a feature ID as the server holds it -/
structure WID where
  type : FType
  ns : String
  value : Nat
  deriving DecidableEq, Repr

/-- `FeatureIDProto` (enum number, namespace, value) -/
structure WIDP where
  enum : Nat
  ns : String
  value : Nat
  deriving DecidableEq, Repr

def WID.toProto (f : WID) : WIDP := ⟨f.type.toProto, f.ns, f.value⟩
/-- `NewFeatureIDFromProto`; an unknown enum number reads as the invalid type (fixes/C23-feature-type-from-proto.patch),
so this is never `none`; the `panic` branches below that depend on it are kept for the shape of the code only -/
def WIDP.fromProto (p : WIDP) : Option WID := (ftypeFromProto p.enum).map fun t => ⟨t, p.ns, p.value⟩

/-- the value of a `Tag` / `Tagged`: a string expression, or any other expression (only its
`String()` rendering matters to `ToProto`) -/
inductive TagVal where
  | str (s : String)
  | other (rendered : String)
  deriving DecidableEq, Repr

def TagVal.rendered : TagVal → String
  | .str s => s
  | .other r => r

structure Step where
  destination : WID
  via : WID
  cost : Nat
  deriving DecidableEq, Repr
structure Route where
  origin : WID
  steps : List Step
  deriving DecidableEq, Repr
structure StepP where
  destination : WIDP
  via : WIDP
  cost : Nat
  deriving DecidableEq, Repr
structure RouteP where
  origin : WIDP
  steps : List StepP
  deriving DecidableEq, Repr

def Route.toProto (r : Route) : RouteP :=
  ⟨r.origin.toProto, r.steps.map fun s => ⟨s.destination.toProto, s.via.toProto, s.cost⟩⟩

def stepsFromProto : List StepP → Option (List Step)
  | [] => some []
  | s :: rest =>
    match s.destination.fromProto, s.via.fromProto, stepsFromProto rest with
    | some d, some v, some r => some (⟨d, v, s.cost⟩ :: r)
    | _, _, _ => none

/-- `NewRouteFromProto`; never `none`, as `WIDP.fromProto` is not -/
def RouteP.fromProto (p : RouteP) : Option Route :=
  match p.origin.fromProto, stepsFromProto p.steps with
  | some o, some s => some ⟨o, s⟩
  | _, _ => none

/-! ## queries -/

mutual
inductive Query where
  | all | empty | isValid
  | keyed (k : String)
  | tagged (k : String) (v : TagVal)
  | typed (t : FType) (q : Query)
  | inter (qs : QueryList)
  | union (qs : QueryList)
  | cap (center : PointE7) (radius : Nat)
  | feature (id : WID)
  | point (p : PointE7)
  | polyline (ps : List PointE7)
  | multipolygon (m : MultiPolygon)
  | cells (ids : List Nat)
  | might (ids : List Nat)
inductive QueryList where
  | nil
  | cons (q : Query) (qs : QueryList)
end

mutual
inductive QueryP where
  | unset
  | all | empty | isValid
  | keyed (k : String)
  | tagged (k : String) (v : String)
  | typed (enum : Nat) (q : QueryP)
  | typedNoQuery (enum : Nat)
  | inter (qs : QueryPList)
  | union (qs : QueryPList)
  | cap (center : PointE7) (radius : Nat)
  | feature (id : WIDP)
  | point (p : PointE7)
  | polyline (ps : List PointE7)
  | multipolygon (m : MultiPolygon)
  | cells (ids : List Nat)
  | might (ids : List Nat)
inductive QueryPList where
  | nil
  | cons (q : QueryP) (qs : QueryPList)
end

mutual
/-- every `Query.ToProto` (none of them can fail) -/
def Query.toProto : Query → QueryP
  | .all => .all
  | .empty => .empty
  | .isValid => .isValid
  | .keyed k => .keyed k
  | .tagged k v => .tagged k v.rendered
  | .typed t q => .typed t.toProto q.toProto
  | .inter qs => .inter qs.toProto
  | .union qs => .union qs.toProto
  | .cap c r => .cap c r
  | .feature id => .feature id.toProto
  | .point p => .point p
  | .polyline ps => .polyline ps
  | .multipolygon m => .multipolygon m
  | .cells ids => .cells ids
  | .might ids => .might ids
def QueryList.toProto : QueryList → QueryPList
  | .nil => .nil
  | .cons q qs => .cons q.toProto qs.toProto
end

/-! `cv` stands for the one floating-point computation that the wire round trip of a query depends on:
`NewQueryFromProto` turns `CapProto.radius_meters` into an `s1.Angle`, `s2.CapFromCenterAngle` into a chord
angle, and `IntersectsCap.ToProto` reports `AngleToMeters(cap.Radius())`.  `cv r` is the bit pattern reported
for a request that carried `r`.  It is a parameter of the model (all floating point is outside it); the
theorems say what they need of it. -/

mutual
/-- `NewQueryFromProto`: no case for `empty`, `isValid`, `intersectsCells`, `mightIntersect`, an unset
oneof, or a `typed` without its query — all of them `Can't handle query`. -/
def QueryP.fromProto (cv : Nat → Nat) : QueryP → R Query
  | .all => .ok .all
  | .keyed k => .ok (.keyed k)
  | .tagged k v => .ok (.tagged k (.str v))
  | .cap c r => .ok (.cap c (cv r))
  | .feature id =>
    match id.fromProto with
    | some f => .ok (.feature f)
    | none => .panic
  | .point p => .ok (.point p)
  | .polyline ps => .ok (.polyline ps)
  | .multipolygon m => .ok (.multipolygon m)
  | .typed e q =>
    -- the child is converted first; `NewFeatureTypeFromProto` (an unknown number reads as the invalid type) after it
    match q.fromProto cv with
    | .ok child =>
      match ftypeFromProto e with
      | some t => .ok (.typed t child)
      | none => .panic
    | .err => .err
    | .panic => .panic
  | .inter qs => (qs.fromProto cv).bind fun l => .ok (.inter l)
  | .union qs => (qs.fromProto cv).bind fun l => .ok (.union l)
  | .typedNoQuery _ => .err
  | .empty => .err
  | .isValid => .err
  | .cells _ => .err
  | .might _ => .err
  | .unset => .err
def QueryPList.fromProto (cv : Nat → Nat) : QueryPList → R QueryList
  | .nil => .ok .nil
  | .cons q qs => (q.fromProto cv).bind fun q' => (qs.fromProto cv).bind fun qs' => .ok (.cons q' qs')
end

/-! ## expressions -/

mutual
/-- `AnyExpression` (`absent` = the nil interface value inside an `Expression`) -/
inductive Any where
  | absent
  | symbol (s : String)
  | int (i : Int)
  | float (bits : Nat)
  | bool (b : Bool)
  | str (s : String)
  | id (f : WID)
  | tag (k : String) (v : TagVal)
  | point (p : PointE7)
  | path (ps : List PointE7)
  | area (m : MultiPolygon)
  | query (q : Query)
  | nilLit
  | geojson (blob : String)
  | feature
  | route (r : Route)
  | coll (items : PairList)
  | call (f : Expr) (args : ExprList) (pipelined : Bool)
  | lambda (params : List String) (body : Expr)
/-- `Expression{AnyExpression, Name, Begin, End}` -/
inductive Expr where
  | mk (a : Any) (name : String) (b e : Int)
inductive ExprList where
  | nil
  | cons (e : Expr) (es : ExprList)
/-- the (key, value) pairs of an `ArrayCollection[any, any]`; a native value is identified with the
literal that `FromLiteral` makes of it -/
inductive PairList where
  | nil
  | cons (k v : Any) (rest : PairList)
end

mutual
/-- `LiteralNodeProto` -/
inductive LitP where
  | unset
  | nilV
  | boolV (b : Bool)
  | strV (s : String)
  | intV (i : Int)
  | floatV (bits : Nat)
  | collV (pairs : LitPairList) (surplusKeys surplusValues : Nat)
  | pairV
  | featureV
  | queryV (q : QueryP)
  | idV (id : WIDP)
  | pointV (p : PointE7)
  | pathV (ps : List PointE7)
  | areaV (m : MultiPolygon)
  | appliedChangeV
  | geojsonV (blob : String)
  | tagV (k : String) (v : String)
  | routeV (r : RouteP)
/-- `CollectionProto`'s parallel `keys` / `values` lists, zipped; the `surplus…` counts of `collV` say how
many further keys / values one list has beyond the other (at most one of them is non-zero) -/
inductive LitPairList where
  | nil
  | cons (k v : LitP) (rest : LitPairList)
end

mutual
/-- the `node` oneof of `NodeProto` -/
inductive KindP where
  | unset
  | symbol (s : String)
  | literal (l : LitP)
  | call (f : NodeP) (args : NodePList) (pipelined : Bool)
  | lambda (params : List String) (body : NodeP)
/-- `NodeProto` (`begin`/`end` are `int32`) -/
inductive NodeP where
  | mk (k : KindP) (name : String) (b e : Int)
inductive NodePList where
  | nil
  | cons (n : NodeP) (ns : NodePList)
end

/-- Go `int32(x)` for an `int` -/
def toInt32 (x : Int) : Int := (x + 2147483648) % 4294967296 - 2147483648

/-- the inner literal of a literal node (`p.GetLiteral()`), used by `CollectionExpression.ToProto` -/
def KindP.getLiteral : KindP → LitP
  | .literal l => l
  | _ => .unset

/-- one collection element: `FromLiteral(value)` then `ToProto().GetLiteral()`, given `r` = the result
of the element's own `ToProto`.  `FromLiteral` has no case for a `Query`, which is what
`QueryExpression.Literal()` put into the collection; a nil value becomes the nil literal. -/
def Any.elemToProto (a : Any) (r : R KindP) : R LitP :=
  match a with
  | .query _ => .err
  | .absent => .ok .nilV
  | _ => r.bind fun k => .ok k.getLiteral

mutual
/-- `AnyExpression.ToProto` (the node without name / begin / end) -/
def Any.toProto : Any → R KindP
  | .absent => .panic          -- method call on a nil interface
  | .symbol s => .ok (.symbol s)
  | .int i => .ok (.literal (.intV i))
  | .float b => .ok (.literal (.floatV b))
  | .bool b => .ok (.literal (.boolV b))
  | .str s => .ok (.literal (.strV s))
  | .id f => .ok (.literal (.idV f.toProto))
  | .tag k v => .ok (.literal (.tagV k v.rendered))
  | .point p => .ok (.literal (.pointV p))
  | .path ps => .ok (.literal (.pathV ps))
  | .area m => .ok (.literal (.areaV m))
  | .query q => .ok (.literal (.queryV q.toProto))
  | .nilLit => .ok (.literal .nilV)
  | .geojson blob => .ok (.literal (.geojsonV blob))
  | .feature => .ok (.literal .featureV)
  | .route r => .ok (.literal (.routeV r.toProto))
  | .coll items => (items.toProto).bind fun ps => .ok (.literal (.collV ps 0 0))
  | .call f args p =>
    -- arguments first, then the function
    (args.toProto).bind fun as => (f.toProto).bind fun fp => .ok (.call fp as p)
  | .lambda params body => (body.toProto).bind fun bp => .ok (.lambda params bp)
/-- `Expression.ToProto`: an inner error leaves `p == nil`, and `p.Name = …` panics -/
def Expr.toProto : Expr → R NodeP
  | .mk a name b e =>
    match a.toProto with
    | .ok k => .ok (.mk k name (toInt32 b) (toInt32 e))
    | .err => .panic
    | .panic => .panic
def ExprList.toProto : ExprList → R NodePList
  | .nil => .ok .nil
  | .cons e es => (e.toProto).bind fun p => (es.toProto).bind fun ps => .ok (.cons p ps)
/-- the loop of `CollectionExpression.ToProto` over the (key, value) pairs of the iterator -/
def PairList.toProto : PairList → R LitPairList
  | .nil => .ok .nil
  | .cons k v rest =>
    (k.elemToProto k.toProto).bind fun kp => (v.elemToProto v.toProto).bind fun vp =>
      (rest.toProto).bind fun ps => .ok (.cons kp vp ps)
end

/-- `LiteralFromProto` of a wrapped literal followed by `.Literal()`, given `r` = the result of
`ExpressionFromProto`: a nil literal is not an `AnyLiteral` (error) -/
def LitP.elemFromProto (l : LitP) (r : R Any) : R Any :=
  match l with
  | .nilV => .err
  | _ => r

mutual
/-- the literal switch of `expressionFromProto` -/
def LitP.fromProto (cv : Nat → Nat) : LitP → R Any
  | .intV i => .ok (.int i)
  | .floatV b => .ok (.float b)
  | .boolV b => .ok (.bool b)
  | .strV s => .ok (.str s)
  | .idV id =>
    match id.fromProto with
    | some f => .ok (.id f)
    | none => .panic
  | .tagV k v => .ok (.tag k (.str v))
  | .pointV p => .ok (.point p)
  | .pathV ps => .ok (.path ps)
  | .areaV m => .ok (.area m)
  | .queryV q => (q.fromProto cv).bind fun q' => .ok (.query q')
  | .nilV => .ok .absent            -- `NilExpressionFromProto` returns `Expression{}`
  | .geojsonV _ => .err             -- `Can't import GeoJSON from protos` (fixes/C23-geojson-literal-from-proto.patch; was `panic("Unimplemented")`)
  | .routeV r =>
    match r.fromProto with
    | some r' => .ok (.route r')
    | none => .panic
  | .collV pairs sk sv =>
    if sk ≠ 0 ∨ sv ≠ 0 then .err      -- `len(keys) != len(values)`
    else (pairs.fromProto cv).bind fun items => .ok (.coll items)
  | .pairV => .err
  | .featureV => .err
  | .appliedChangeV => .err
  | .unset => .err
/-- the loop of `CollectionExpressionFromProto`: key i, then value i -/
def LitPairList.fromProto (cv : Nat → Nat) : LitPairList → R PairList
  | .nil => .ok .nil
  | .cons k v rest =>
    (k.elemFromProto (k.fromProto cv)).bind fun k' => (v.elemFromProto (v.fromProto cv)).bind fun v' =>
      (rest.fromProto cv).bind fun items => .ok (.cons k' v' items)
end

mutual
/-- `expressionFromProto` -/
def KindP.fromProto (cv : Nat → Nat) : KindP → R Any
  | .symbol s => .ok (.symbol s)
  | .literal l => l.fromProto cv
  | .call f args p =>
    (f.fromProto cv).bind fun f' => (args.fromProto cv).bind fun as => .ok (.call f' as p)
  | .lambda params body => (body.fromProto cv).bind fun b => .ok (.lambda params b)
  | .unset => .err
/-- `ExpressionFromProto` -/
def NodeP.fromProto (cv : Nat → Nat) : NodeP → R Expr
  | .mk k name b e => (k.fromProto cv).bind fun a => .ok (.mk a name b e)
def NodePList.fromProto (cv : Nat → Nat) : NodePList → R ExprList
  | .nil => .ok .nil
  | .cons n ns => (n.fromProto cv).bind fun e => (ns.fromProto cv).bind fun es => .ok (.cons e es)
end

/-! ## the round-trip domain (executable; used literally by the theorems and by the driver) -/

def inInt32 (x : Int) : Bool := decide (-2147483648 ≤ x) && decide (x < 2147483648)

def TagVal.isStr : TagVal → Bool
  | .str _ => true
  | .other _ => false

mutual
def Query.supported : Query → Bool
  | .all => true
  | .keyed _ => true
  | .tagged _ v => TagVal.isStr v
  | .typed _ q => q.supported
  | .inter qs => qs.supported
  | .union qs => qs.supported
  | .cap _ _ => true
  | .feature _ => true
  | .point _ => true
  | .polyline _ => true
  | .multipolygon _ => true
  | .empty => false
  | .isValid => false
  | .cells _ => false
  | .might _ => false
def QueryList.supported : QueryList → Bool
  | .nil => true
  | .cons q qs => q.supported && qs.supported
end

/-- literal kinds a collection can hold and give back (`FromLiteral ∘ Literal()` is the identity) -/
def Any.isElem : Any → Bool
  | .int _ | .float _ | .bool _ | .str _ | .id _ | .tag _ _ | .point _ | .path _ | .area _
  | .route _ | .coll _ => true
  | _ => false

mutual
def Any.supported : Any → Bool
  | .symbol _ => true
  | .int _ => true
  | .float _ => true
  | .bool _ => true
  | .str _ => true
  | .id _ => true
  | .tag _ v => TagVal.isStr v
  | .point _ => true
  | .path _ => true
  | .area _ => true
  | .query q => Query.supported q
  | .route _ => true
  | .coll items => items.supported
  | .call f args _ => f.supported && args.supported
  | .lambda _ body => body.supported
  | .absent => false
  | .nilLit => false
  | .geojson _ => false
  | .feature => false
def Expr.supported : Expr → Bool
  | .mk a _ b e => a.supported && inInt32 b && inInt32 e
def ExprList.supported : ExprList → Bool
  | .nil => true
  | .cons e es => e.supported && es.supported
def PairList.supported : PairList → Bool
  | .nil => true
  | .cons k v rest => Any.isElem k && k.supported && Any.isElem v && v.supported && rest.supported
end

/-! ## cap radii that the float conversion `cv` reproduces -/

mutual
def Query.capStable (cv : Nat → Nat) : Query → Bool
  | .cap _ r => cv r == r
  | .typed _ q => q.capStable cv
  | .inter qs => qs.capStable cv
  | .union qs => qs.capStable cv
  | _ => true
def QueryList.capStable (cv : Nat → Nat) : QueryList → Bool
  | .nil => true
  | .cons q qs => q.capStable cv && qs.capStable cv
end

mutual
def Any.capStable (cv : Nat → Nat) : Any → Bool
  | .query q => q.capStable cv
  | .coll items => items.capStable cv
  | .call f args _ => f.capStable cv && args.capStable cv
  | .lambda _ body => body.capStable cv
  | _ => true
def Expr.capStable (cv : Nat → Nat) : Expr → Bool
  | .mk a _ _ _ => a.capStable cv
def ExprList.capStable (cv : Nat → Nat) : ExprList → Bool
  | .nil => true
  | .cons e es => e.capStable cv && es.capStable cv
def PairList.capStable (cv : Nat → Nat) : PairList → Bool
  | .nil => true
  | .cons k v rest => k.capStable cv && v.capStable cv && rest.capStable cv
end

/-! ## what a client can put on the wire so that the reply is stable (executable) -/

def LitP.notQuery : LitP → Bool
  | .queryV _ => false
  | _ => true

mutual
/-- no nil literal, and no query inside a collection literal -/
def LitP.wire : LitP → Bool
  | .nilV => false
  | .collV pairs _ _ => pairs.wire
  | _ => true
def LitPairList.wire : LitPairList → Bool
  | .nil => true
  | .cons k v rest => LitP.notQuery k && k.wire && LitP.notQuery v && v.wire && rest.wire
end

mutual
def KindP.wire : KindP → Bool
  | .literal l => l.wire
  | .call f args _ => f.wire && args.wire
  | .lambda _ body => body.wire
  | .symbol _ => true
  | .unset => true
/-- `begin` / `end` are `int32` fields -/
def NodeP.wire : NodeP → Bool
  | .mk k _ b e => k.wire && inInt32 b && inInt32 e
def NodePList.wire : NodePList → Bool
  | .nil => true
  | .cons n ns => n.wire && ns.wire
end

end B6.Model.WireExpr
