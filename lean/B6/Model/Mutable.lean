/-!
# Model of `ingest.MutableOverlayWorld` / `ingest.MutableTagsOverlayWorld` (mutable.go) — C12, C13, C14

The model follows mutable.go **after** the `fix:` patches `fixes/C12-*.patch`, `fixes/C13-*.patch`,
`fixes/C14-*.patch` (see notes/C12.md … C14.md for the defects they repair).

* A *world* is read through a `View` (the `b6.World` read interface restricted to what C12–C14 observe).
* A `Layer` is the private state of one `MutableOverlayWorld` object: `features` (overlay copies),
  `tags` (`ModifiedTags`: plain-tag modifications of base features), `index` (the AVL `TreeIndex`,
  replaced by its C07 abstraction token ↦ strictly increasing id list), `references`.
* `l.view b ll` is the world "layer `l` over base view `b`".  `Snapshot()` freezes the current layer
  and continues in a fresh one on top, so a store is a root view plus a stack of layers (`Store`).
* Geometry is a skeleton: points carry E7 integer pairs, paths lists of point ids, areas lists of path
  ids.  Everything S2 decides (loop validity, orientation) is the `Oracle` parameter.

Outside the model: S2 cell-covering tokens and the `all` token of `TokensForFeature` (only tag tokens
are modelled), expression features, relation roles and collection values, literal lat-lngs inside paths, areas given
by polygons, `Traverse`, `FindAreasByPoint`, goroutines of `EachFeature`, the `epoch` iterator guard.
Feature ids are natural numbers whose order is `FeatureID.Less` (the harness encodes type·1000+value).
-/
namespace B6.Model.Mutable

abbrev Id := Nat
abbrev Key := String
abbrev Token := String
/-- E7 latitude / longitude -/
abbrev Pt := Int × Int

/-- a tag value: the expression kind (`s` string, `i` int, …) and its `String()` rendering -/
structure Val where
  kind : String
  str : String
deriving DecidableEq, Repr, Inhabited

abbrev Tag := Key × Val

/-! ## Association maps (Go maps; first binding wins, `set` keeps one binding per key) -/
namespace AMap
variable {α : Type} {β : Type} [DecidableEq α]

def get : List (α × β) → α → Option β
  | [], _ => none
  | (k', v) :: r, k => if k' = k then some v else get r k

def erase (m : List (α × β)) (k : α) : List (α × β) := m.filter (fun e => decide (e.1 ≠ k))

def set (m : List (α × β)) (k : α) (v : β) : List (α × β) := (k, v) :: erase m k

def keys (m : List (α × β)) : List α := m.map (·.1)

def contains (m : List (α × β)) (k : α) : Bool := (get m k).isSome

end AMap

/-! ## Tags of an ingest feature (`b6.Tags`, an ordered slice) -/

/-- `Tags.ModifyOrAddTag`: overwrite the value of the first tag with the key, else append. -/
def tagSet : List Tag → Tag → List Tag
  | [], t => [t]
  | (k, v) :: r, t => if k = t.1 then (k, t.2) :: r else (k, v) :: tagSet r t

/-- `Tags.RemoveTag` on a key-distinct list (the Go-slice level, incl. repeated keys, is C39's). -/
def tagRemove (ts : List Tag) (k : Key) : List Tag := ts.filter (fun t => decide (t.1 ≠ k))

/-- `b6.TokenForTag`: `#k=v` ↦ `k=v`, `@k=…` ↦ `k`, anything else is not indexed. -/
def tokenForTag (t : Tag) : Option Token :=
  match t.1.toList with
  | '#' :: r => some (String.ofList (r ++ '=' :: t.2.str.toList))
  | '@' :: r => some (String.ofList r)
  | _ => none

/-- whether a key is searchable (`TokenForTag` only looks at the key for this) -/
def indexedKey (k : Key) : Bool :=
  match k.toList with
  | '#' :: _ => true
  | '@' :: _ => true
  | _ => false

inductive Geom where
  | point (p : Pt)
  | path (pts : List Id)
  | area (paths : List Id)
  /-- a `RelationFeature`: its members -/
  | relation (members : List Id)
  /-- a `CollectionFeature`: its keys that are feature ids (what `References()` returns) -/
  | collection (keys : List Id)
deriving DecidableEq, Repr

/-- an `ingest.Feature` (GenericFeature / AreaFeature): id, tags without the geometry tags, skeleton -/
structure Feature where
  id : Id
  tags : List Tag
  geom : Geom
deriving DecidableEq, Repr

/-- `TokensForFeature`, tag tokens only -/
def tokensFor (f : Feature) : List Token := f.tags.filterMap tokenForTag

/-- `Feature.References()`: the ids a feature's geometry refers to -/
def geomRefs : Geom → List Id
  | .point _ => []
  | .path ps => ps
  | .area ps => ps
  | .relation ms => ms
  | .collection ks => ks

/-! ## `ModifiedTags` -/

inductive Mod where
  | set (v : Val)
  | del
deriving DecidableEq, Repr

abbrev Mods := List (Key × Mod)

/-- `modifyTags`, first loop: what becomes of an original tag -/
def modExisting (mods : Mods) (t : Tag) : Option Tag :=
  match AMap.get mods t.1 with
  | some (.set v) => some (t.1, v)
  | some .del => none
  | none => some t

/-- `modifyTags`, second loop: a modification whose key the original does not have -/
def modNew (mods : Mods) (orig : List Tag) (e : Key × Mod) : Option Tag :=
  match AMap.get mods e.1 with
  | some (.set v) => if (AMap.get orig e.1).isNone then some (e.1, v) else none
  | _ => none

/-- `modifyTags`: original order, modified values in place, deleted keys dropped, then the keys that
only exist as modifications (Go map order there — observations sort tags by key). -/
def applyMods (mods : Mods) (orig : List Tag) : List Tag :=
  orig.filterMap (modExisting mods) ++ mods.filterMap (modNew mods orig)

/-- `modifyTag`: a recorded modification wins over the original value -/
def modLookup : Option Mod → Option Val → Option Val
  | some (.set v), _ => some v
  | some .del, _ => none
  | none, o => o

/-- the modifications recorded for a feature (`m.tags[id]`, a nil map when absent) -/
def modsOf (mods : List (Id × Mods)) (id : Id) : Mods :=
  match AMap.get mods id with
  | some m => m
  | none => []

/-! ## Views -/

/-- what a `b6.Feature` handed out by a world shows: the feature and the coordinates its wrapper
resolves (`none` = `PointAt` would panic: a referenced point does not exist) -/
structure FV where
  f : Feature
  pts : Option (List Pt)
deriving DecidableEq, Repr

structure View where
  /-- `FindFeatureByID` -/
  find : Id → Option FV
  /-- the feature a search hit for the id is wrapped as -/
  hitFV : Id → Option FV
  /-- `FindLocationByID` -/
  loc : Id → Option Pt
  /-- `FindFeatures` for a single tag token -/
  search : Token → List Id
  /-- `FindReferences(id)` without a type filter -/
  refs : Id → List Id
  /-- `EachFeature` -/
  ids : List Id

def resolve (loc : Id → Option Pt) : Geom → Option (List Pt)
  | .point p => some [p]
  | .path ps => ps.mapM loc
  | _ => some []

/-! ## Index and reference tables -/

def insertSorted (x : Id) : List Id → List Id
  | [] => [x]
  | y :: r => if x < y then x :: y :: r else if x = y then y :: r else y :: insertSorted x r

/-- posting list of a token (`TreeIndex.Begin`; empty iterator when the token is unknown) -/
def postings (ix : List (Token × List Id)) (t : Token) : List Id :=
  match AMap.get ix t with
  | some l => l
  | none => []

/-- `TreeIndex.Add(v, tokens)` -/
def indexAdd (ix : List (Token × List Id)) (id : Id) (tokens : List Token) : List (Token × List Id) :=
  tokens.foldl (fun ix t => AMap.set ix t (insertSorted id (postings ix t))) ix

/-- one token of `TreeIndex.Remove` -/
def indexRemoveStep (id : Id) (ix : List (Token × List Id)) (t : Token) : List (Token × List Id) :=
  match AMap.get ix t with
  | some l => AMap.set ix t (l.filter (fun y => decide (y ≠ id)))
  | none => ix

/-- `TreeIndex.Remove(v, tokens)` -/
def indexRemove (ix : List (Token × List Id)) (id : Id) (tokens : List Token) : List (Token × List Id) :=
  tokens.foldl (indexRemoveStep id) ix

/-- `sortAndDiffTokens` on duplicate-free token lists: (added, removed) -/
def diffTokens (before after : List Token) : List Token × List Token :=
  (after.filter (fun t => !before.contains t), before.filter (fun t => !after.contains t))

def sources (rs : List (Id × List Id)) (target : Id) : List Id :=
  match AMap.get rs target with
  | some l => l
  | none => []

/-- `FeatureReferencesByID.AddFeature` -/
def refsAdd (rs : List (Id × List Id)) (f : Feature) : List (Id × List Id) :=
  (geomRefs f.geom).foldl (fun rs tgt =>
    if (sources rs tgt).contains f.id then rs else AMap.set rs tgt (sources rs tgt ++ [f.id])) rs

/-- one target of `FeatureReferencesByID.RemoveFeature` -/
def refsRemoveStep (fid : Id) (rs : List (Id × List Id)) (tgt : Id) : List (Id × List Id) :=
  match AMap.get rs tgt with
  | some l => AMap.set rs tgt (l.filter (fun y => decide (y ≠ fid)))
  | none => rs

/-- `FeatureReferencesByID.RemoveFeature` -/
def refsRemove (rs : List (Id × List Id)) (f : Feature) : List (Id × List Id) :=
  (geomRefs f.geom).foldl (refsRemoveStep f.id) rs

/-- `FeatureReferencesByID.FindReferences`: sources, their sources, … (`fuel` levels) -/
def closure (rs : List (Id × List Id)) : Nat → Id → List Id
  | 0, _ => []
  | n + 1, id => sources rs id ++ (sources rs id).flatMap (closure rs n)

/-- enough levels for every chain of references the table can hold (relations may contain relations;
the visited-set search of the code — `fixes/C15-find-references-visited.patch` — ends on cycles too) -/
def refDepth (rs : List (Id × List Id)) : Nat := rs.length + 1

/-! ## One `MutableOverlayWorld` object -/

structure Layer where
  feats : List (Id × Feature)
  mods : List (Id × Mods)
  index : List (Token × List Id)
  refs : List (Id × List Id)
  /-- the `features` back-pointer of the index: `false` = this world itself; `true` = the live world
  object (what a struct copy `copy := *m` leaves behind — the pre-fix `Snapshot`). -/
  aliasLive : Bool
deriving Repr

def Layer.empty : Layer := ⟨[], [], [], [], false⟩

/-- `FeaturesByID.FindLocationByID` of a feature: only points have one -/
def pointOf (f : Feature) : Option Pt :=
  match f.geom with
  | .point p => some p
  | _ => none

/-- `MutableOverlayWorld.FindLocationByID`: the overlay's version of a feature shadows the base's, even
if it has no location -/
def Layer.loc (b : View) (l : Layer) (id : Id) : Option Pt :=
  match AMap.get l.feats id with
  | some f => pointOf f
  | none => b.loc id

/-- apply the layer's recorded modifications to a feature handed out by the base -/
def Layer.wrap (l : Layer) (id : Id) (fv : FV) : FV :=
  ⟨{ fv.f with tags := applyMods (modsOf l.mods id) fv.f.tags }, fv.pts⟩

def Layer.find (b : View) (l : Layer) (id : Id) : Option FV :=
  match AMap.get l.feats id with
  | some f => some ⟨f, resolve (l.loc b) f.geom⟩
  | none => (b.find id).map (l.wrap id)

/-- search hits: overlay features are wrapped by the index's `features` pointer (`liveLoc` when the
index still points at the live world), base hits by the base and then `ModifiedTags.WrapFeature` -/
def Layer.hitFV (b : View) (liveLoc : Id → Option Pt) (l : Layer) (id : Id) : Option FV :=
  match AMap.get l.feats id with
  | some f => some ⟨f, resolve (if l.aliasLive then liveLoc else l.loc b) f.geom⟩
  | none => (b.hitFV id).map (l.wrap id)

def Layer.search (b : View) (l : Layer) (t : Token) : List Id :=
  (postings l.index t).foldl (fun acc id => insertSorted id acc)
    ((b.search t).filter (fun id => !AMap.contains l.feats id))

def dedup : List Id → List Id
  | [] => []
  | x :: r => if r.contains x then dedup r else x :: dedup r

/-- `MutableOverlayWorld.FindReferences(id)` (no type filter) as written (after
`fixes/C15-overlay-skip-shadowed-base-referrers.patch`: base referrers that the overlay replaced are
skipped, their current references are in `l.refs`) -/
def Layer.refsOf (b : View) (l : Layer) (id : Id) : List Id :=
  let br := (b.refs id).filter (fun r => !AMap.contains l.feats r)
  let all := br ++ br.flatMap (closure l.refs (refDepth l.refs)) ++ closure l.refs (refDepth l.refs) id
  (dedup all).filter (fun r => (l.find b r).isSome)

def Layer.ids (b : View) (l : Layer) : List Id :=
  AMap.keys l.feats ++ b.ids.filter (fun id => !AMap.contains l.feats id)

def Layer.view (b : View) (liveLoc : Id → Option Pt) (l : Layer) : View :=
  { find := l.find b, hitFV := l.hitFV b liveLoc, loc := l.loc b, search := l.search b,
    refs := l.refsOf b, ids := l.ids b }

/-! ## Validation skeleton (validate.go) -/

structure Oracle where
  /-- `s2.Loop.Validate() == nil` for the loop through these vertices -/
  loopValid : List Pt → Bool
  /-- `loop.Area() > 2π` -/
  clockwise : List Pt → Bool

/-- `Tags.ClosedPath` on a path whose elements are all feature ids -/
def closedPath (ps : List Id) : Bool :=
  match ps.head?, ps.getLast? with
  | some a, some b => a == b
  | _, _ => false

/-- `ValidatePath` (InvertClockwisePaths = false) -/
def validatePath (v : View) (o : Oracle) (ps : List Id) : Bool :=
  if ps.length < 2 then false else
  match ps.mapM v.loc with
  | none => false
  | some pts =>
    if closedPath ps then o.loopValid pts.dropLast && !o.clockwise pts.dropLast else true

/-- the check `ValidateArea` makes of one path (after
`fixes/C13-validate-area-locates-ends-in-world.patch`): at least three points, and the first and the
last located **through the world being validated** at the same place -/
def pathClosesIn (loc : Id → Option Pt) (ps : List Id) : Bool :=
  if ps.length < 3 then false else
  match ps.head?, ps.getLast? with
  | some a, some b =>
    (match loc a, loc b with
     | some x, some y => x == y
     | _, _ => false)
  | _, _ => false

/-- what `ValidateArea` requires of the feature found under a path id -/
def areaPathOK (loc : Id → Option Pt) (g : Option Geom) : Bool :=
  match g with
  | some (.path ps) => pathClosesIn loc ps
  | _ => false

/-- `ValidateArea` -/
def validateArea (v : View) (paths : List Id) : Bool :=
  paths.all (fun id => areaPathOK v.loc ((v.find id).map (·.f.geom)))

/-- `ValidateFeature`: `true` = no error -/
def validate (v : View) (o : Oracle) (f : Feature) : Bool :=
  match f.geom with
  | .point _ => true
  | .path ps => validatePath v o ps
  | .area ps => validateArea v ps
  | .relation _ => true
  | .collection _ => true

/-! ## Mutations -/

inductive Err where
  | noFeature
  | invalid
  | partiallyApplied
deriving DecidableEq, Repr

/-- `sortAndDiffTokens(before, after)`, then `index.Remove(f, removed); index.Add(f, added)` — the index
maintenance of `AddTag` / `RemoveTag` for a feature that lives in the overlay (after
`fixes/C03-retokenise-on-tag-edit.patch`) and of `ModifiedFeatures.UpdateIndex` -/
def reindex (ix : List (Token × List Id)) (id : Id) (before after : List Token) : List (Token × List Id) :=
  indexAdd (indexRemove ix id (diffTokens before after).2) id (diffTokens before after).1

def isPoint (f : Feature) : Bool :=
  match f.geom with
  | .point _ => true
  | _ => false

/-- whether `AddTag` on a feature that only lives in the base copies it into the overlay: the tag is
searchable, or the feature is a point with no other tag (which is not indexed at all and becomes
searchable with any tag) -/
def copyOnAdd (f : Feature) (k : Key) : Bool := indexedKey k || (isPoint f && f.tags.isEmpty)

/-- the same for `RemoveTag`: a point left with its location only stops being searchable -/
def copyOnRemove (f : Feature) (k : Key) : Bool := indexedKey k || (isPoint f && f.tags.length == 1)

/-- record a plain-tag modification (`ModifiedTags.ModifyOrAddTag` / `RemoveTag`) -/
def modsSet (mods : List (Id × Mods)) (id : Id) (k : Key) (m : Mod) : List (Id × Mods) :=
  AMap.set mods id (AMap.set (modsOf mods id) k m)

/-- copy a base feature into the overlay with new tags (`features.AddFeature`, `references.AddFeature`,
`index.Add(all tokens)`, `delete(m.tags, id)`) -/
def Layer.adopt (l : Layer) (f : Feature) : Layer :=
  { l with feats := AMap.set l.feats f.id f, refs := refsAdd l.refs f,
           index := indexAdd l.index f.id (tokensFor f), mods := AMap.erase l.mods f.id }

/-- `MutableOverlayWorld.AddTag` -/
def Layer.addTag (b : View) (l : Layer) (id : Id) (tag : Tag) : Except Err Layer :=
  match AMap.get l.feats id with
  | some f =>
    .ok { l with index := reindex l.index f.id (tokensFor f) (tokensFor { f with tags := tagSet f.tags tag }),
                 feats := AMap.set l.feats id { f with tags := tagSet f.tags tag } }
  | none =>
    match l.find b id with
    | none => .error .noFeature
    | some fv =>
      if copyOnAdd fv.f tag.1 then .ok (l.adopt { fv.f with tags := tagSet fv.f.tags tag })
      else .ok { l with mods := modsSet l.mods id tag.1 (.set tag.2) }

/-- `MutableOverlayWorld.RemoveTag` -/
def Layer.removeTag (b : View) (l : Layer) (id : Id) (k : Key) : Except Err Layer :=
  match AMap.get l.feats id with
  | some f =>
    .ok { l with index := reindex l.index f.id (tokensFor f) (tokensFor { f with tags := tagRemove f.tags k }),
                 feats := AMap.set l.feats id { f with tags := tagRemove f.tags k } }
  | none =>
    match l.find b id with
    | none => .error .noFeature
    | some fv =>
      match AMap.get fv.f.tags k with
      | none => .ok l
      | some _ =>
        if copyOnRemove fv.f k then .ok (l.adopt { fv.f with tags := tagRemove fv.f.tags k })
        else .ok { l with mods := modsSet l.mods id k .del }

/-- `NewModifiedFeaturesWithCopies`: referrers that only live in the base are copied into the overlay
(`byID.AddFeature(copy)`; a referrer that is the new feature itself — a reference cycle — is not
copied); returns the layer and the copies -/
def copyStep (newId : Id) (acc : Layer × List Feature) (r : FV) : Layer × List Feature :=
  if AMap.contains acc.1.feats r.f.id || r.f.id == newId then acc
  else ({ acc.1 with feats := AMap.set acc.1.feats r.f.id r.f }, acc.2 ++ [r.f])

def copyReferrers (newId : Id) (l : Layer) (referrers : List FV) : Layer × List Feature :=
  referrers.foldl (copyStep newId) (l, [])

/-- the features `allReferences(f, m)` hands to `AddFeature` -/
def Layer.referrers (b : View) (l : Layer) (id : Id) : List FV :=
  ((l.view b (l.loc b)).refs id).filterMap (l.find b)

/-- `(*m.features)[id] = f` -/
def Layer.putTmp (l : Layer) (f : Feature) : Layer := { l with feats := AMap.set l.feats f.id f }

/-- put the existing feature back (or remove the temporary entry when there was none) -/
def Layer.restore (tmp : Layer) (id : Id) (existing : Option Feature) : Layer :=
  match existing with
  | some e => { tmp with feats := AMap.set tmp.feats id e }
  | none => { tmp with feats := AMap.erase tmp.feats id }

/-- the referrers are validated against the world in which `f` has temporarily replaced the existing
feature; returns the world after the restore and whether a referrer was invalid -/
def Layer.checkReferrers (b : View) (o : Oracle) (l : Layer) (f : Feature) (referrers : List FV) : Layer × Bool :=
  let tmp := l.putTmp f
  let bad := referrers.any (fun r => !validate (tmp.view b (tmp.loc b)) o r.f)
  (tmp.restore f.id (AMap.get l.feats f.id), bad)

/-- `references.RemoveFeature` / `references.AddFeature` of a referrer that already lives in the overlay -/
def removeReferrer (l : Layer) (rs : List (Id × List Id)) (r : FV) : List (Id × List Id) :=
  match AMap.get l.feats r.f.id with
  | some e => refsRemove rs e
  | none => rs

def addReferrer (l : Layer) (rs : List (Id × List Id)) (r : FV) : List (Id × List Id) :=
  match AMap.get l.feats r.f.id with
  | some e => refsAdd rs e
  | none => rs

/-- the tokens `NewModifiedFeaturesWithCopies` records for the feature being replaced -/
def existingTokens (l : Layer) (id : Id) : List Token :=
  match AMap.get l.feats id with
  | some e => tokensFor e
  | none => []

/-- `NewModifiedFeaturesWithCopies` + `ModifiedFeatures.Update` + `delete(m.tags, id)` -/
def Layer.commit (l : Layer) (f : Feature) (referrers : List FV) : Layer :=
  let existing := AMap.get l.feats f.id
  let tokens0 := existingTokens l f.id
  -- (a feature that is its own referrer — a reference cycle — is the existing object itself: it is
  -- merged with `f`, so its references are removed and re-added below as `existing` / `f`)
  let inOverlay := referrers.filter (fun r => AMap.contains l.feats r.f.id && r.f.id != f.id)
  let lc := copyReferrers f.id l referrers
  -- Update: RemoveReferences
  let rs := match existing with
    | some e => refsRemove lc.1.refs e
    | none => lc.1.refs
  let rs := inOverlay.foldl (removeReferrer l) rs
  -- AddReferences
  let rs := refsAdd rs f
  let rs := inOverlay.foldl (addReferrer l) rs
  let rs := lc.2.foldl refsAdd rs
  -- UpdateIndex (tag tokens of referrers already in the overlay do not change)
  let ix := reindex lc.1.index f.id tokens0 (tokensFor f)
  let ix := lc.2.foldl (fun ix c => indexAdd ix c.id (tokensFor c)) ix
  -- MergeFrom / AddFeature(Clone)
  { lc.1 with feats := AMap.set lc.1.feats f.id f, refs := rs, index := ix, mods := AMap.erase lc.1.mods f.id }

/-- `MutableOverlayWorld.AddFeature`; always returns the world it leaves behind -/
def Layer.addFeature (b : View) (o : Oracle) (l : Layer) (f : Feature) : Layer × Option Err :=
  if !validate (l.view b (l.loc b)) o f then (l, some .invalid) else
  let referrers := l.referrers b f.id
  if referrers.isEmpty then (l.commit f referrers, none) else
  let c := l.checkReferrers b o f referrers
  if c.2 then (c.1, some .invalid) else (c.1.commit f referrers, none)

/-! ## Changes (change.go) -/

inductive Change where
  | addFeatures (fs : List Feature)
  | addTags (ts : List (Id × Tag))
  | removeTags (ts : List (Id × Key))
deriving Repr

/-- `AddFeatures.Apply`: stops at the first rejected feature; the earlier ones stay applied -/
def applyFeatures (b : View) (o : Oracle) : Layer → List Feature → Layer × Option Err
  | l, [] => (l, none)
  | l, f :: r =>
    match l.addFeature b o f with
    | (l', none) => applyFeatures b o l' r
    | (l', some e) => (l', some e)

def applyAddTags (b : View) : Layer → List (Id × Tag) → Layer × Option Err
  | l, [] => (l, none)
  | l, (id, t) :: r =>
    match l.addTag b id t with
    | .ok l' => applyAddTags b l' r
    | .error e => (l, some e)

def applyRemoveTags (b : View) : Layer → List (Id × Key) → Layer × Option Err
  | l, [] => (l, none)
  | l, (id, k) :: r =>
    match l.removeTag b id k with
    | .ok l' => applyRemoveTags b l' r
    | .error e => (l, some e)

def Change.apply (b : View) (o : Oracle) (l : Layer) : Change → Layer × Option Err
  | .addFeatures fs => applyFeatures b o l fs
  | .addTags ts => applyAddTags b l ts
  | .removeTags ts => applyRemoveTags b l ts

/-- the single calls a change list makes, in order -/
inductive Prim where
  | feat (f : Feature)
  | tag (id : Id) (t : Tag)
  | untag (id : Id) (k : Key)
deriving Repr

def Change.prims : Change → List Prim
  | .addFeatures fs => fs.map .feat
  | .addTags ts => ts.map fun e => .tag e.1 e.2
  | .removeTags ts => ts.map fun e => .untag e.1 e.2

def Prim.apply (b : View) (o : Oracle) (l : Layer) : Prim → Layer × Option Err
  | .feat f => l.addFeature b o f
  | .tag id t => match l.addTag b id t with
    | .ok l' => (l', none)
    | .error e => (l, some e)
  | .untag id k => match l.removeTag b id k with
    | .ok l' => (l', none)
    | .error e => (l, some e)

/-- a change list as the sequence of its calls, stopping at the first one that fails -/
def applyPrims (b : View) (o : Oracle) : Layer → List Prim → Layer × Option Err
  | l, [] => (l, none)
  | l, p :: r =>
    match p.apply b o l with
    | (l', none) => applyPrims b o l' r
    | (l', some e) => (l', some e)

/-- do two `FindReferences` answers name the same features? -/
def sameRefs (a b : List Id) : Bool := a.all (fun x => b.contains x) && b.all (fun x => a.contains x)

/-- run the calls of a change list on the canary (`c` over `v0`) and on the world (`l` over `b`) in lock
step and check, before every `AddFeature`, that both worlds' `FindReferences` of the feature name the
same referrers — the executable hypothesis of `canary_faithful_of_refs` (C13); it is what C15's
`overlay_find_refs_spec` states for each of the two worlds -/
def lockstepRefs (v0 b : View) (o : Oracle) : Layer → Layer → List Prim → Bool
  | _, _, [] => true
  | c, l, p :: r =>
    (match p with
     | .feat f => sameRefs ((c.view v0 (c.loc v0)).refs f.id) ((l.view b (l.loc b)).refs f.id)
     | _ => true) &&
    (match p.apply v0 o c, p.apply b o l with
     | (c', none), (l', none) => lockstepRefs v0 b o c' l' r
     | _, _ => true)

/-- the hypothesis for a merged change on world `l` over `b` -/
def canaryRefsAgree (b : View) (o : Oracle) (l : Layer) (cs : List Change) : Bool :=
  lockstepRefs (l.view b (l.loc b)) b o Layer.empty l (cs.flatMap Change.prims)

def applyAll (b : View) (o : Oracle) : Layer → List Change → Layer × Option Err
  | l, [] => (l, none)
  | l, c :: r =>
    match c.apply b o l with
    | (l', none) => applyAll b o l' r
    | (l', some e) => (l', some e)

/-- `MergedChange.Apply` on a `MutableOverlayWorld`: first on a canary overlay over the world, then
for real -/
def mergedApply (b : View) (o : Oracle) (l : Layer) (cs : List Change) : Layer × Option Err :=
  let w := l.view b (l.loc b)
  match applyAll w o Layer.empty cs with
  | (_, some e) => (l, some e)
  | (_, none) =>
    match applyAll b o l cs with
    | (l', none) => (l', none)
    | (l', some _) => (l', some .partiallyApplied)

/-! ## Stores: a root world and a stack of layers (top first); `Snapshot` -/

structure Store where
  root : View
  /-- live world first, then the snapshots it was taken over, newest first -/
  layers : List Layer

/-- `FindLocationByID` of the world made of these layers -/
def locOf (root : View) : List Layer → Id → Option Pt
  | [] => root.loc
  | l :: below => fun id =>
    match AMap.get l.feats id with
    | some f => pointOf f
    | none => locOf root below id

def viewOf (root : View) (liveLoc : Id → Option Pt) : List Layer → View
  | [] => root
  | l :: below => l.view (viewOf root liveLoc below) liveLoc

/-- the live world -/
def Store.live (s : Store) : View := viewOf s.root (locOf s.root s.layers) s.layers

/-- the world a snapshot handle denotes: the `h` oldest layers -/
def Store.snap (s : Store) (h : Nat) : View :=
  viewOf s.root (locOf s.root s.layers) (s.layers.drop (s.layers.length - h))

/-- `MutableOverlayWorld.Snapshot()`: the current object state is frozen (with an index that resolves
through the frozen copy), the live object continues with fresh tables on top. Returns the handle. -/
def Store.snapshot (s : Store) : Store × Nat :=
  match s.layers with
  | [] => (s, 0)
  | l :: below => ({ s with layers := Layer.empty :: { l with aliasLive := false } :: below }, below.length + 1)

/-- the pre-fix `Snapshot()`: `copy := *m` keeps the index whose back-pointer is the live object -/
def Store.snapshotAliased (s : Store) : Store × Nat :=
  match s.layers with
  | [] => (s, 0)
  | l :: below => ({ s with layers := Layer.empty :: { l with aliasLive := true } :: below }, below.length + 1)

/-- operations on the live world of a store -/
inductive Op where
  | addFeature (f : Feature)
  | addTag (id : Id) (t : Tag)
  | removeTag (id : Id) (k : Key)
  | merged (cs : List Change)
deriving Repr

/-- the base view of the live layer -/
def Store.baseView (s : Store) : View :=
  viewOf s.root (locOf s.root s.layers) s.layers.tail

def Layer.step (b : View) (o : Oracle) (l : Layer) : Op → Layer × Option Err
  | .addFeature f => l.addFeature b o f
  | .addTag id t => match l.addTag b id t with
    | .ok l' => (l', none)
    | .error e => (l, some e)
  | .removeTag id k => match l.removeTag b id k with
    | .ok l' => (l', none)
    | .error e => (l, some e)
  | .merged cs => mergedApply b o l cs

/-- a whole history on one world object: the final state and what every call answered -/
def runOps (b : View) (o : Oracle) : Layer → List Op → Layer × List (Option Err)
  | l, [] => (l, [])
  | l, op :: rest =>
    ((runOps b o (l.step b o op).1 rest).1, (l.step b o op).2 :: (runOps b o (l.step b o op).1 rest).2)

def Store.step (o : Oracle) (s : Store) (op : Op) : Store × Option Err :=
  match s.layers with
  | [] => (s, some .noFeature)
  | l :: below =>
    let r := l.step s.baseView o op
    ({ s with layers := r.1 :: below }, r.2)

/-! ## `MutableTagsOverlayWorld`: a stack of `ModifiedTags` over a base -/

structure TagsStore where
  root : View
  /-- live modifications first, then the snapshots', newest first -/
  layers : List (List (Id × Mods))

def tagsFind (root : View) : List (List (Id × Mods)) → Id → Option FV
  | [] => root.find
  | m :: below => fun id =>
    (tagsFind root below id).map fun fv => ⟨{ fv.f with tags := applyMods (modsOf m id) fv.f.tags }, fv.pts⟩

/-- `MutableTagsOverlayWorld.AddTag` (no existence check, no index) -/
def TagsStore.addTag (s : TagsStore) (id : Id) (t : Tag) : TagsStore :=
  match s.layers with
  | [] => s
  | m :: below => { s with layers := modsSet m id t.1 (.set t.2) :: below }

def TagsStore.snapshot (s : TagsStore) : TagsStore × Nat :=
  ({ s with layers := [] :: s.layers }, s.layers.length)

def TagsStore.live (s : TagsStore) : Id → Option FV := tagsFind s.root s.layers
def TagsStore.snap (s : TagsStore) (h : Nat) : Id → Option FV :=
  tagsFind s.root (s.layers.drop (s.layers.length - h))

/-! ## A concrete root: `BasicMutableWorld` filled with valid features -/

def rootRefs (fs : List Feature) : List (Id × List Id) := fs.foldl refsAdd []

def rootFeats (fs : List Feature) : List (Id × Feature) := fs.foldl (fun m f => AMap.set m f.id f) []

def rootLoc (feats : List (Id × Feature)) (id : Id) : Option Pt :=
  match AMap.get feats id with
  | some f => pointOf f
  | none => none

def rootFind (feats : List (Id × Feature)) (id : Id) : Option FV :=
  (AMap.get feats id).map fun f => ⟨f, resolve (rootLoc feats) f.geom⟩

def rootSearchStep (feats : List (Id × Feature)) (t : Token) (acc : List Id) (id : Id) : List Id :=
  match AMap.get feats id with
  | some f => if (tokensFor f).contains t then insertSorted id acc else acc
  | none => acc

def rootView (fs : List Feature) : View :=
  let feats := rootFeats fs
  let rs := rootRefs fs
  { find := rootFind feats, hitFV := rootFind feats, loc := rootLoc feats,
    search := fun t => (AMap.keys feats).foldl (rootSearchStep feats t) [],
    refs := fun id => (dedup (closure rs (refDepth rs) id)).filter (fun r => AMap.contains feats r),
    ids := AMap.keys feats }

end B6.Model.Mutable
