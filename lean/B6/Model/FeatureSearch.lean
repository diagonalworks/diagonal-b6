import B6.Spec.TagQuery
import B6.Model.Search
/-!
# Model of tag search over features (C03)

Mirrors /repo/src/diagonal.works/b6:
* `search.go`            `TokenForTag`, `All/Empty/Tagged/Keyed/Typed/Intersection/Union .Compile`
* `ingest/tokens.go`     `TokensForFeature` (the tag part: `*`, one token per `#`/`@` tag, nothing for a point with
                         a single tag; the spatial `s2:`/`a2:` tokens are left out — no query of this property
                         can name them, see `QueryOK`)
* `ingest/basic.go`, `ingest/mutable.go`   the index = token ↦ strictly increasing list of feature IDs
* `world.go`             `NewSearchFeatureIterator` = a plain `Next` loop over the compiled iterator

`Tagged.Compile` is mirrored as it is: a key that does not start with `#` compiles to the empty iterator (also for
`@` keys, which *are* indexed, by key only).  `Typed.Compile` panics for types other than point/path/area/relation/collection; an `Intersection` without
children compiles like `All` (both after the C03 fixes).
-/
namespace B6.Model.FeatureSearch
open B6.Spec.Cursor B6.Spec.SearchQuery B6.Spec.TagQuery B6.Model.Search

/-- `TokenForTag` -/
def tokenForTag (t : Token × Token) : Option Token :=
  match t.1 with
  | '#' :: k => some (k ++ '=' :: t.2)
  | '@' :: k => some k
  | _ => none

def allToken : Token := ['*']

/-- `TokensForFeature`, tag part -/
def tokensFor (f : Feature) : List Token :=
  if f.typ == 0 && f.tags.length == 1 then [] else allToken :: f.tags.filterMap tokenForTag

/-- add `id` to the posting list of `t`, keeping tokens and lists increasing -/
def insertPosting (id : Nat) (t : Token) : List (Token × List Nat) → List (Token × List Nat)
  | [] => [(t, [id])]
  | (t', l) :: rest =>
    if t < t' then (t, [id]) :: (t', l) :: rest
    else if t = t' then (t', insertSorted id l) :: rest
    else (t', l) :: insertPosting id t rest

def addFeature (lists : List (Token × List Nat)) (f : Feature) : List (Token × List Nat) :=
  (tokensFor f).foldl (fun ls t => insertPosting f.id t ls) lists

/-- the search index of a world holding exactly `fs` -/
def buildIndex (kind : LeafKind) (fs : List Feature) (names : List String := []) : Index :=
  { kind := kind, lists := fs.foldl addFeature [], names := names }

/-- `FeatureIDPointBegin` … : `{Type: t, Namespace: "", Value: 0}` -/
def typeBegin (t : Nat) : Nat := key t 0 0

mutual
/-- `Query.Compile` down to the search package's query; `none` = `panic("Bad FeatureType")` -/
def lower : Query → Option SQuery
  | .all => some (.all allToken)
  | .empty => some .empty
  | .tagged k v =>
    match k with
    | '#' :: k' => some (.all (k' ++ '=' :: v))
    | _ => some .empty
  | .keyed k =>
    match k with
    | '#' :: k' => some (.tokenPrefix (k' ++ ['=']))
    | '@' :: k' => some (.all k')
    | _ => some .empty
  | .typed t q =>
    if t < 4 || t == 5 then (lower q).map (fun sq => .keyRange (typeBegin t) (typeBegin (t + 1)) sq) else none
  | .and qs => match qs with
    | [] => some (.all allToken)      -- `if len(i) == 0 { return All{}.Compile(index, w) }`
    | _ => (lowerList qs).map .inter
  | .or qs => (lowerList qs).map .union
def lowerList : List Query → Option (List SQuery)
  | [] => some []
  | q :: qs =>
    match lower q, lowerList qs with
    | some sq, some sqs => some (sq :: sqs)
    | _, _ => none
end

/-- a plain `Next` loop (`searchFeatureIterator`): the values yielded until the first `false` -/
def drain (o : IterOps Iter) : Nat → Iter → Except Err (List Nat)
  | 0, _ => .error .fuel
  | n + 1, it =>
    match o.next it with
    | .ok (true, it') =>
      match o.value it', drain o n it' with
      | some v, .ok vs => .ok (v :: vs)
      | none, _ => .error .panic
      | _, .error e => .error e
    | .ok (false, _) => .ok []
    | .error e => .error e

/-- `World.FindFeatures(q)` as a list of IDs, for a world whose index is `ix` -/
def findFeatures (ix : Index) (q : Query) : Except Err (List Nat) :=
  match lower q with
  | none => .error .panic
  | some sq =>
    let fuel := ix.total + 1
    drain (ops ix.dom fuel (depth sq)) (ix.total + 1) (compile fuel ix sq)

end B6.Model.FeatureSearch
