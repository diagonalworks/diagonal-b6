import B6.Model.RefIndex
/-!
# Specification of reference queries — C15

`ReachPlus fs id s`: feature `s` of the CURRENT feature set `fs` references `id` directly or through
a chain of current features (the chain `findReferences` follows).  `referrers` computes that set by
naive iteration to a fixed point and returns it only once it has *checked* that the set is closed,
so its answer is exact whenever it answers (`referrers_spec`); it shares no code with the model.
-/
namespace B6.Spec.Referrers
open B6.Model.RefIndex

/-- `s` is a current feature that lists `t` among its references -/
def Refers (fs : List Feature) (t s : Id) : Prop := ∃ f ∈ fs, f.id = s ∧ t ∈ f.refs

inductive ReachPlus (fs : List Feature) (id : Id) : Id → Prop where
  | direct {s} : Refers fs id s → ReachPlus fs id s
  | step {t s} : ReachPlus fs id t → Refers fs t s → ReachPlus fs id s

/-- IDs of the features that reference `id` or a member of `S` -/
def direct (fs : List Feature) (id : Id) (S : List Id) : List Id :=
  (fs.filter fun f => f.refs.any fun t => decide (t = id) || decide (t ∈ S)).map (·.id)

def closure (fs : List Feature) (id : Id) : Nat → List Id → Option (List Id)
  | 0, _ => none
  | k + 1, S =>
    let new := (direct fs id S).filter (fun s => decide (s ∉ S))
    if new.isEmpty then some S else closure fs id k (S ++ new)

/-- the referrers of `id` in `fs` (`none` only if `|fs| + 2` rounds were not enough — never observed) -/
def referrers (fs : List Feature) (id : Id) : Option (List Id) := closure fs id (fs.length + 2) []

/-- `direct fs id S` holds the features that reference `id` or a member of `S` -/
theorem mem_direct {fs : List Feature} {id : Id} {S : List Id} {s : Id} :
    s ∈ direct fs id S ↔ ∃ t, (t = id ∨ t ∈ S) ∧ Refers fs t s := by
  simp only [direct, List.mem_map, List.mem_filter, List.any_eq_true, Bool.or_eq_true, decide_eq_true_eq, Refers]
  constructor
  · rintro ⟨f, ⟨hf, t, ht, htt⟩, hid⟩; exact ⟨t, htt, f, hf, hid, ht⟩
  · rintro ⟨t, htt, f, hf, hid, ht⟩; exact ⟨f, ⟨hf, t, ht, htt⟩, hid⟩

theorem closure_spec (fs : List Feature) (id : Id) :
    ∀ (k : Nat) (S A : List Id), (∀ s ∈ S, ReachPlus fs id s) → closure fs id k S = some A →
      ∀ s, s ∈ A ↔ ReachPlus fs id s := by
  intro k S A hS h
  fun_induction closure fs id k S with
  | case1 S => cases h
  | case2 k S new hnew =>
    -- closed: nothing new
    have hclosed : ∀ x, x ∈ direct fs id S → x ∈ S := by
      intro x hx
      have : ¬ x ∈ new := by rw [List.isEmpty_iff.mp hnew]; simp
      simpa [new, hx] using this
    cases h
    intro s
    refine ⟨hS s, fun hr => ?_⟩
    induction hr with
    | direct hd => exact hclosed _ (mem_direct.mpr ⟨id, Or.inl rfl, hd⟩)
    | step _ hd iht => exact hclosed _ (mem_direct.mpr ⟨_, Or.inr iht, hd⟩)
  | case3 k S new hnew ih =>
    refine ih (fun s hs => ?_) h
    rcases List.mem_append.mp hs with hs | hs
    · exact hS s hs
    · obtain ⟨t, htt, hd⟩ := mem_direct.mp (List.mem_filter.mp hs).1
      rcases htt with rfl | htt
      · exact .direct hd
      · exact .step (hS t htt) hd

/-- whenever `referrers` answers, the answer is exactly the set of (transitive) referrers -/
theorem referrers_spec (fs : List Feature) (id : Id) (A : List Id) (h : referrers fs id = some A) :
    ∀ s, s ∈ A ↔ ReachPlus fs id s :=
  closure_spec fs id _ [] A (by simp) h

end B6.Spec.Referrers
