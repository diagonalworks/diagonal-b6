import B6.Spec.Cursor
/-!
# Search queries over a token index and the sorted set each one denotes (C06, shared)

`Index`: posting lists by token (tokens in increasing order, each list strictly increasing).
`SQuery`: the query trees of /repo/src/diagonal.works/b6/search (`Empty`, `All`, `Union`, `Intersection`,
`KeyRange`, `TokenPrefix`).  `SQuery.denote ix q` is the strictly increasing list of values the query
stands for — plain list functions (`filter`, sorted insertion), no iterators.
-/
namespace B6.Spec.SearchQuery
open B6.Spec.Cursor

abbrev Token := List Char

/-- which index implementation the posting lists come from (array and tree differ in `EstimateLength` only; a compact
leaf is C08's byte-level iterator, with its own key domain `Index.dom`) -/
inductive LeafKind where
  | array | tree | compact
  deriving Repr, DecidableEq

structure Index where
  kind : LeafKind
  lists : List (Token × List Nat)
  /-- compact only: the file's namespace table (`NamespaceTable.FromEncoded`) -/
  names : List String := []
  deriving Repr

/-- The keys `Advance` may be called with.  A key is `TypeAndNamespace * 2^64 + value`,
`TypeAndNamespace = type * 8192 + namespace index`; a compact iterator panics (`nt.Encode`) on a key whose namespace is
not in the file's table. -/
def Index.dom (ix : Index) (k : Nat) : Prop :=
  match ix.kind with
  | .compact => (k / 2 ^ 64) / 8192 < 8 ∧ (k / 2 ^ 64) % 8192 < ix.names.length
  | _ => True

/-- tokens strictly increasing, posting lists strictly increasing -/
def Index.Valid (ix : Index) : Prop :=
  (ix.lists.map (·.1)).Pairwise (· < ·) ∧ ∀ e ∈ ix.lists, StrictSorted e.2

def Index.lookup (ix : Index) (t : Token) : Option (List Nat) :=
  (ix.lists.find? (fun e => e.1 == t)).map (·.2)

/-- the posting list of a token (empty when the token is not in the index) -/
def Index.get (ix : Index) (t : Token) : List Nat :=
  match ix.lookup t with
  | some xs => xs
  | none => []

/-- total number of postings -/
def Index.total (ix : Index) : Nat := ((ix.lists.map (·.2)).flatten).length

inductive SQuery where
  | empty
  | all (t : Token)
  | union (qs : List SQuery)
  | inter (qs : List SQuery)
  | keyRange (b e : Nat) (q : SQuery)
  | tokenPrefix (p : Token)
  deriving Repr

/-- insert into a strictly increasing list, dropping duplicates -/
def insertSorted (x : Nat) : List Nat → List Nat
  | [] => [x]
  | y :: l => if x < y then x :: y :: l else if x = y then y :: l else y :: insertSorted x l

/-- the strictly increasing list with the same elements -/
def sortDedup (l : List Nat) : List Nat := l.foldr insertSorted []

/-- the elements of `xs` inside `[b, e)` -/
def rangeList (b e : Nat) (xs : List Nat) : List Nat := xs.filter (fun x => decide (b ≤ x) && decide (x < e))

/-- the elements of the first list that occur in all the others (`[]` for no list at all: the Go code
panics on an intersection without children, see `SQuery.WF`) -/
def interLists : List (List Nat) → List Nat
  | [] => []
  | l :: ls => l.filter (fun x => ls.all (fun l' => l'.contains x))

mutual
def SQuery.denote (ix : Index) : SQuery → List Nat
  | .empty => []
  | .all t => ix.get t
  | .union qs => sortDedup (SQuery.denoteList ix qs).flatten
  | .inter qs => interLists (SQuery.denoteList ix qs)
  | .keyRange b e q => rangeList b e (q.denote ix)
  | .tokenPrefix p => sortDedup ((ix.lists.filter (fun e => p.isPrefixOf e.1)).map (·.2)).flatten
def SQuery.denoteList (ix : Index) : List SQuery → List (List Nat)
  | [] => []
  | q :: qs => q.denote ix :: SQuery.denoteList ix qs
end

mutual
/-- every intersection has at least one child -/
def SQuery.WF : SQuery → Prop
  | .empty => True
  | .all _ => True
  | .union qs => SQuery.WFList qs
  | .inter qs => qs ≠ [] ∧ SQuery.WFList qs
  | .keyRange _ _ q => q.WF
  | .tokenPrefix _ => True
def SQuery.WFList : List SQuery → Prop
  | [] => True
  | q :: qs => q.WF ∧ SQuery.WFList qs
end

mutual
/-- every `KeyRange` begins at a key of the domain (it is passed to `Advance`) -/
def SQuery.KeysIn (K : Nat → Prop) : SQuery → Prop
  | .empty => True
  | .all _ => True
  | .union qs => SQuery.KeysInList K qs
  | .inter qs => SQuery.KeysInList K qs
  | .keyRange b _ q => K b ∧ q.KeysIn K
  | .tokenPrefix _ => True
def SQuery.KeysInList (K : Nat → Prop) : List SQuery → Prop
  | [] => True
  | q :: qs => q.KeysIn K ∧ SQuery.KeysInList K qs
end

end B6.Spec.SearchQuery
