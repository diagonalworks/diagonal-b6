import B6.Model.Collections
import B6.Model.CollectionsExpr
/-!
# List reference definitions for the collection functions (C24)

What each function is documented to compute, as plain list functions on "the items the argument yields +
how its iteration ends".  An error (inner iteration error, or the applied function failing on a value) ends
the result at that point with `Fin.err`.
-/
namespace B6.Spec.Collections
open B6.Model.Collections

def finOf : End → Fin
  | .done => .done
  | .err => .err

/-- take: the first `n` items (`n ≤ 0`: none); the inner end only shows if fewer than `n` items exist -/
def takeRef (n : Int) (s : Src) : List Item × Fin :=
  if n.toNat ≤ s.rest.length then (s.rest.take n.toNat, .done) else (s.rest, finOf s.fin)

/-- map: `f` on every value, keys unchanged -/
def mapRef (f : Val → Option Val) (fin : End) : List Item → List Item × Fin
  | [] => ([], finOf fin)
  | (k, v) :: xs =>
    match f v with
    | some v' => ((k, v') :: (mapRef f fin xs).1, (mapRef f fin xs).2)
    | none => ([], .err)

/-- map-items: `g` on every (key, value) -/
def mapItemsRef (g : Val → Val → Option Item) (fin : End) : List Item → List Item × Fin
  | [] => ([], finOf fin)
  | (k, v) :: xs =>
    match g k v with
    | some kv => (kv :: (mapItemsRef g fin xs).1, (mapItemsRef g fin xs).2)
    | none => ([], .err)

/-- filter: the items whose value satisfies `p` (anything but a bool answer is an error) -/
def filterRef (p : Val → Option Val) (fin : End) : List Item → List Item × Fin
  | [] => ([], finOf fin)
  | (k, v) :: xs =>
    match p v with
    | some (.bool true) => ((k, v) :: (filterRef p fin xs).1, (filterRef p fin xs).2)
    | some (.bool false) => filterRef p fin xs
    | _ => ([], .err)

/-- flatten: the inner collections one after the other -/
def flattenRef (ofin : End) : List Src → List Item × Fin
  | [] => ([], finOf ofin)
  | c :: cs =>
    match c.fin with
    | .done => (c.rest ++ (flattenRef ofin cs).1, (flattenRef ofin cs).2)
    | .err => (c.rest, .err)

/-- join-missing as a three-way merge: a joined entry whose key equals the current base key is dropped,
otherwise the entry with the lesser key goes first (base first when neither is less).
`none` from a comparison = error. -/
def joinRef (bfin jfin : End) : List Item → List Item → List Item × Fin
  | [], [] => (match bfin, jfin with
    | .done, .done => ([], .done)
    | _, _ => ([], .err))
  | [], j :: js => (match bfin with
    | .err => ([], .err)
    | .done => (j :: (joinRef bfin jfin [] js).1, (joinRef bfin jfin [] js).2))
  | b :: bs, [] => (match jfin with
    | .err => ([], .err)
    | .done => (b :: (joinRef bfin jfin bs []).1, (joinRef bfin jfin bs []).2))
  | b :: bs, j :: js =>
    match goEqual j.1 b.1 with
    | none => ([], .err)
    | some true => joinRef bfin jfin (b :: bs) js
    | some false =>
      match goLess j.1 b.1 with
      | none => ([], .err)
      | some true => (j :: (joinRef bfin jfin (b :: bs) js).1, (joinRef bfin jfin (b :: bs) js).2)
      | some false => (b :: (joinRef bfin jfin bs (j :: js)).1, (joinRef bfin jfin bs (j :: js)).2)

/-- the sum of the (int) values stored under `k` -/
def sumFor (k : Val) : List Item → Int
  | [] => 0
  | (k', .int v) :: xs => if k' = k then v + sumFor k xs else sumFor k xs
  | _ :: xs => sumFor k xs

/-- how often `k` is produced by `keyOf`, weighted by `delta` -/
def weightFor (keyOf : Item → Val) (delta : Item → Int) (k : Val) : List Item → Int
  | [] => 0
  | it :: xs => if keyOf it = k then delta it + weightFor keyOf delta k xs else weightFor keyOf delta k xs

def lookup (k : Val) : List (Val × Int) → Option Int
  | [] => none
  | (k', c) :: rest => if k' = k then some c else lookup k rest

/-- linear scan of a collection feature: value at the first key equal to `key` -/
def scanFirst (keys vals : Array Val) (key : Val) : Option Val :=
  match (List.range keys.size).find? (eqAt keys key) with
  | some i => vals[i]?
  | none => none

/-- linear scan: values at all keys equal to `key`, in order -/
def scanAll (keys vals : Array Val) (key : Val) : List Val :=
  ((List.range keys.size).filter (eqAt keys key)).filterMap (vals[·]?)

/-- `out` is "the n greatest of `input`, greatest first": a selection of `input` (as a multiset) of length
`min n |input|`, sorted descending by value, and nothing left out is greater than anything selected -/
def IsTopOf (n : Int) (input out : List Item) : Prop :=
  ∃ rest : List Item, (out ++ rest).Perm input ∧
    out.length = min n.toNat input.length ∧
    out.Pairwise (fun a b => ¬ itemLess a b) ∧
    ∀ r ∈ rest, ∀ o ∈ out, ¬ itemLess o r

/-- the ordinary merge of two key-sorted lists (the first list wins ties) -/
def mergeRef (lt : Val → Val → Bool) : List Item → List Item → List Item
  | [], js => js
  | b :: bs, [] => b :: bs
  | b :: bs, j :: js =>
    if lt j.1 b.1 then j :: mergeRef lt (b :: bs) js else b :: mergeRef lt bs (j :: js)

/-- `j`'s key does not occur in `base` -/
def absentFrom (base : List Item) (j : Item) : Bool := base.all fun b => decide (b.1 ≠ j.1)

/-- `b6.Less` / `b6.Equal` restricted to a set `S` of keys behave as a strict total order `lt` and equality -/
structure KeyOrder (S : Val → Prop) (lt : Val → Val → Bool) : Prop where
  less : ∀ a b, S a → S b → goLess a b = some (lt a b)
  equal : ∀ a b, S a → S b → goEqual a b = some (decide (a = b))
  irrefl : ∀ a, S a → lt a a = false
  trans : ∀ a b c, S a → S b → S c → lt a b = true → lt b c = true → lt a c = true
  total : ∀ a b, S a → S b → lt a b = true ∨ a = b ∨ lt b a = true

/-- keys never decrease -/
def KeySorted (lt : Val → Val → Bool) (l : List Item) : Prop := l.Pairwise fun x y => lt y.1 x.1 = false

/-! ## compositions: the reference meaning of a `Co` expression -/

def srcOf (d : Den) : Option Src := d.src?

mutual
def specDen : Co → Den
  | .arr items => ⟨items, .done, some items.length⟩
  | .take c n =>
    let d := specDen c
    match d.src? with
    | none => outOfFuel
    | some s => ⟨(takeRef n s).1, (takeRef n s).2, d.count.map fun k => min k (max n 0)⟩
  | .filter c p =>
    match (specDen c).src? with
    | none => outOfFuel
    | some s => ⟨(filterRef p.apply s.fin s.rest).1, (filterRef p.apply s.fin s.rest).2, none⟩
  | .map c f =>
    let d := specDen c
    match d.src? with
    | none => outOfFuel
    | some s => ⟨(mapRef f.apply s.fin s.rest).1, (mapRef f.apply s.fin s.rest).2, d.count⟩
  | .mapItems c g =>
    let d := specDen c
    match d.src? with
    | none => outOfFuel
    | some s => ⟨(mapItemsRef g.apply s.fin s.rest).1, (mapItemsRef g.apply s.fin s.rest).2, d.count⟩
  | .flatten cs =>
    match specDenList cs with
    | none => outOfFuel
    | some ss => ⟨(flattenRef .done ss).1, (flattenRef .done ss).2, none⟩
  | .join b j =>
    match (specDen b).src?, (specDen j).src? with
    | some sb, some sj =>
      ⟨(joinRef sb.fin sj.fin sb.rest sj.rest).1, (joinRef sb.fin sj.fin sb.rest sj.rest).2, none⟩
    | _, _ => outOfFuel
def specDenList : CoList → Option (List Src)
  | .nil => some []
  | .cons c rest =>
    match (specDen c).src?, specDenList rest with
    | some s, some ss => some (s :: ss)
    | _, _ => none
end

/-- part of `isTopOfB` below, the executable form of `IsTopOf` used by the driver on the implementation's answer -/
def eraseFirst (x : Item) : List Item → Option (List Item)
  | [] => none
  | y :: ys => if x = y then some ys else (eraseFirst x ys).map (y :: ·)

def eraseAll : List Item → List Item → Option (List Item)
  | [], input => some input
  | x :: xs, input => match eraseFirst x input with
    | none => none
    | some input' => eraseAll xs input'

def sortedDesc : List Item → Bool
  | a :: b :: rest => !itemLess a b && sortedDesc (b :: rest)
  | _ => true

def isTopOfB (n : Int) (input out : List Item) : Bool :=
  match eraseAll out input with
  | none => false
  | some rest =>
    out.length == min n.toNat input.length && sortedDesc out &&
      rest.all fun r => out.all fun o => !itemLess o r

end B6.Spec.Collections
