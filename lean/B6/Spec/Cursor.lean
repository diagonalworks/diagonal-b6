import B6.Lemmas.Basic.Sorted
import B6.Lemmas.Basic.List
/-!
# Spec cursor over a strictly increasing list, iterator interface, and the `Refines` simulation (C06, shared)

`Cursor` is a strictly increasing list with a position, kept as a zipper: `before` are the elements
already consumed (the last one is the *current* element), `rest` the elements still ahead.
`xs = before ++ rest`, `pos = before.length` (0 = not started).

* `next`      moves to the following element (`false` at the end);
* `advance k` moves to the first element `≥ k` **at or after** the current one — it never moves
              backwards, and stays put when the current element is already `≥ k`.

Histories end at the first `false`: nothing is specified about calls made after it.

`IterOps σ` is the interface of an implementation iterator (`search.Iterator` in
/repo/src/diagonal.works/b6/search/search.go): a state type with `next`, `advance`, `value`
(`none` where Go would panic or return nil) and `estimate` (`EstimateLength`).  `Refines ops s xs` says that
the implementation started in state `s` answers every finite sequence of `next`/`advance k` calls exactly
like the spec cursor over `xs` (same `Bool`, same value on `true`), up to the first `false`.
-/
namespace B6.Spec.Cursor

/-- strictly increasing -/
def StrictSorted (xs : List Nat) : Prop := xs.Pairwise (· < ·)

instance (xs : List Nat) : Decidable (StrictSorted xs) := by unfold StrictSorted; infer_instance

structure Cursor where
  before : List Nat
  rest : List Nat
  deriving Repr, DecidableEq

namespace Cursor

def xs (c : Cursor) : List Nat := c.before ++ c.rest
def pos (c : Cursor) : Nat := c.before.length
/-- the current element (`none` before the first successful call) -/
def cur (c : Cursor) : Option Nat := c.before.getLast?
def WF (c : Cursor) : Prop := StrictSorted c.xs

def next (c : Cursor) : Bool × Cursor :=
  match c.rest with
  | [] => (false, c)
  | x :: r => (true, ⟨c.before ++ [x], r⟩)

/-- skip the elements `< k` of `rest`, land on the first one `≥ k` -/
def seek (k : Nat) (c : Cursor) : Bool × Cursor :=
  match c.rest.dropWhile (· < k) with
  | [] => (false, ⟨c.before ++ c.rest, []⟩)
  | x :: r => (true, ⟨c.before ++ c.rest.takeWhile (· < k) ++ [x], r⟩)

def advance (k : Nat) (c : Cursor) : Bool × Cursor :=
  match c.cur with
  | some v => if k ≤ v then (true, c) else c.seek k
  | none => c.seek k

/-- the least key `next` is allowed to land on -/
def lo (c : Cursor) : Nat := match c.cur with | none => 0 | some v => v + 1

end Cursor

def start (xs : List Nat) : Cursor := ⟨[], xs⟩

@[simp] theorem start_xs (xs : List Nat) : (start xs).xs = xs := rfl
@[simp] theorem start_cur (xs : List Nat) : (start xs).cur = none := rfl

/-! ## Iterator interface and refinement -/

inductive Err where
  | panic   -- the Go code panics (index out of range, nil dereference)
  | fuel    -- a loop of the Go code did not finish within the model's bound
  deriving Repr, DecidableEq

abbrev Res (σ : Type) := Except Err (Bool × σ)

structure IterOps (σ : Type) where
  next : σ → Res σ
  advance : Nat → σ → Res σ
  value : σ → Option Nat
  estimate : σ → Nat
  /-- the keys `advance` may be called with.  Everything for the in-memory indices; for a compact posting list
  the keys whose namespace is in the file's namespace table (`nt.Encode` panics on any other). -/
  dom : Nat → Prop := fun _ => True

/-- `R` is a simulation between implementation states and spec cursors. -/
structure Simulation {σ : Type} (ops : IterOps σ) (R : σ → Cursor → Prop) : Prop where
  wf : ∀ s c, R s c → c.WF
  value : ∀ s c, R s c → c.cur.isSome → ops.value s = c.cur
  next : ∀ s c, R s c → ∃ s', ops.next s = .ok (c.next.1, s') ∧ (c.next.1 = true → R s' c.next.2)
  advance : ∀ k s c, R s c → ops.dom k →
    ∃ s', ops.advance k s = .ok ((c.advance k).1, s') ∧ ((c.advance k).1 = true → R s' (c.advance k).2)

/-- the implementation in state `s` behaves like the spec cursor `c` from here on -/
def RefinesAt {σ : Type} (ops : IterOps σ) (s : σ) (c : Cursor) : Prop :=
  ∃ R, Simulation ops R ∧ R s c

/-- the implementation started in `s` behaves like the spec cursor over `xs` -/
def Refines {σ : Type} (ops : IterOps σ) (s : σ) (xs : List Nat) : Prop :=
  RefinesAt ops s (start xs)

/-! ## A call sequence and its transcript -/

inductive Call where
  | next
  | advance (k : Nat)
  deriving Repr, DecidableEq

/-- transcript entry: the `Bool`, and the value when `true` -/
abbrev Obs := Bool × Option Nat

/-- spec transcript; stops after the first `false` -/
def runSpec : Cursor → List Call → List Obs
  | _, [] => []
  | c, call :: calls =>
    let r := match call with | .next => c.next | .advance k => c.advance k
    if r.1 then (true, r.2.cur) :: runSpec r.2 calls else [(false, none)]

/-- implementation transcript; stops after the first `false`; `none` if the implementation errs -/
def runImpl {σ : Type} (ops : IterOps σ) : σ → List Call → Option (List Obs)
  | _, [] => some []
  | s, call :: calls =>
    match (match call with | .next => ops.next s | .advance k => ops.advance k s) with
    | .ok (true, s') => (runImpl ops s' calls).map ((true, ops.value s') :: ·)
    | .ok (false, _) => some [(false, none)]
    | .error _ => none

/-! ## Facts about the spec cursor -/

theorem strictSorted_append {a b : List Nat} :
    StrictSorted (a ++ b) ↔ StrictSorted a ∧ StrictSorted b ∧ ∀ x ∈ a, ∀ y ∈ b, x < y := by
  unfold StrictSorted; exact List.pairwise_append

theorem strictSorted_cons {a : Nat} {l : List Nat} :
    StrictSorted (a :: l) ↔ (∀ y ∈ l, a < y) ∧ StrictSorted l := by
  unfold StrictSorted; exact List.pairwise_cons

theorem StrictSorted.nodup {l : List Nat} (h : StrictSorted l) : l.Nodup :=
  List.Pairwise.nodup_of_irrefl Nat.lt_irrefl h

theorem StrictSorted.ext : ∀ {a b : List Nat}, StrictSorted a → StrictSorted b →
    (∀ x, x ∈ a ↔ x ∈ b) → a = b :=
  List.Pairwise.ext_of_asymm fun _ _ => Nat.lt_asymm

namespace Cursor

theorem cur_mem {c : Cursor} {v : Nat} (h : c.cur = some v) : v ∈ c.xs := by
  unfold cur at h; unfold xs
  exact List.mem_append_left _ (List.mem_of_getLast? h)

theorem before_eq_of_cur {c : Cursor} {v : Nat} (h : c.cur = some v) :
    c.before = c.before.dropLast ++ [v] := by
  obtain ⟨ys, hys⟩ := List.getLast?_eq_some_iff.1 h
  rw [hys, List.dropLast_concat]

theorem before_nil_of_cur {c : Cursor} (h : c.cur = none) : c.before = [] := by
  unfold cur at h; simpa using h

theorem before_le_cur {c : Cursor} (hw : c.WF) {v : Nat} (h : c.cur = some v) :
    ∀ y ∈ c.before, y ≤ v := by
  intro y hy
  have hb := before_eq_of_cur h
  unfold WF xs at hw
  rw [strictSorted_append] at hw
  have hs := hw.1
  rw [hb, strictSorted_append] at hs
  rw [hb] at hy
  rcases List.mem_append.1 hy with h1 | h1
  · exact Nat.le_of_lt (hs.2.2 y h1 v (by simp))
  · simp at h1; omega

theorem cur_lt_rest {c : Cursor} (hw : c.WF) {v : Nat} (h : c.cur = some v) :
    ∀ y ∈ c.rest, v < y := by
  intro y hy
  unfold WF xs at hw
  rw [strictSorted_append] at hw
  exact hw.2.2 v (List.mem_of_getLast? h) y hy

theorem mem_xs {c : Cursor} {y : Nat} : y ∈ c.xs ↔ y ∈ c.before ∨ y ∈ c.rest := by
  unfold xs; exact List.mem_append

/-- an element of the list that is `≥ lo` is still ahead -/
theorem mem_rest_of_lo_le {c : Cursor} (hw : c.WF) {y : Nat} (hy : y ∈ c.xs) (hlo : c.lo ≤ y) :
    y ∈ c.rest := by
  rcases mem_xs.1 hy with h | h
  · cases hc : c.cur with
    | none => rw [before_nil_of_cur hc] at h; simp at h
    | some v =>
      simp only [lo, hc] at hlo
      have := before_le_cur hw hc y h
      omega
  · exact h

theorem lo_le_of_mem_rest {c : Cursor} (hw : c.WF) {y : Nat} (hy : y ∈ c.rest) : c.lo ≤ y := by
  unfold lo
  cases hc : c.cur with
  | none => simp
  | some v => have := cur_lt_rest hw hc y hy; simp only; omega

/-- `seek k` on a well-formed cursor: lands on the least remaining element `≥ k` -/
theorem seek_spec {c : Cursor} (hw : c.WF) (k : Nat) :
    ((c.seek k).1 = true →
      (c.seek k).2.WF ∧ (c.seek k).2.xs = c.xs ∧ c.pos < (c.seek k).2.pos ∧
      ∃ x, (c.seek k).2.cur = some x ∧ x ∈ c.rest ∧ k ≤ x ∧ ∀ y ∈ c.rest, k ≤ y → x ≤ y) ∧
    ((c.seek k).1 = false → ∀ y ∈ c.rest, y < k) := by
  have hsplit := List.takeWhile_append_dropWhile (p := (· < k)) (l := c.rest)
  have hr : StrictSorted c.rest := (strictSorted_append.1 hw).2.1
  -- what is left after the skip is the part of `rest` that is `≥ k`, in order
  have hd : c.rest.dropWhile (· < k) = c.rest.filter (fun x => !decide (x < k)) :=
    List.Pairwise.dropWhile_eq_filter hr fun x _ y _ hxy hy =>
      decide_eq_true (Nat.lt_trans hxy (of_decide_eq_true hy))
  have hmem : ∀ y, y ∈ c.rest.dropWhile (· < k) ↔ y ∈ c.rest ∧ k ≤ y := fun y => by
    rw [hd, List.mem_filter, Bool.not_eq_true', decide_eq_false_iff_not, Nat.not_lt]
  unfold seek
  cases hdw : c.rest.dropWhile (· < k) with
  | nil =>
    exact ⟨fun h => Bool.noConfusion h, fun _ y hy => Nat.lt_of_not_le fun hky =>
      List.not_mem_nil (hdw ▸ (hmem y).2 ⟨hy, hky⟩)⟩
  | cons x r =>
    refine ⟨fun _ => ?_, fun h => Bool.noConfusion h⟩
    rw [hdw] at hsplit
    have hxs : (⟨c.before ++ c.rest.takeWhile (· < k) ++ [x], r⟩ : Cursor).xs = c.xs := by
      unfold xs; simp only [List.append_assoc, List.singleton_append]; rw [hsplit]
    have hx := (hmem x).1 (hdw ▸ List.mem_cons_self)
    have hxr : ∀ y ∈ r, x < y := (List.pairwise_cons.1 (hdw ▸ hd ▸ hr.filter _ : (x :: r).Pairwise (· < ·))).1
    refine ⟨(by unfold WF; rw [hxs]; exact hw), hxs, ?_, x, List.getLast?_concat, hx.1, hx.2, fun y hy hky => ?_⟩
    · simp only [pos, List.length_append, List.length_cons, List.length_nil]; omega
    · rcases List.mem_cons.1 (hdw ▸ (hmem y).2 ⟨hy, hky⟩) with rfl | h
      · exact Nat.le_refl _
      · exact Nat.le_of_lt (hxr y h)

theorem next_cur_isSome {c : Cursor} (h : c.next.1 = true) : c.next.2.cur.isSome := by
  revert h
  fun_cases next c with
  | case1 => nofun
  | case2 x r => exact fun _ => by simp only [cur, List.getLast?_concat, Option.isSome_some]

theorem advance_cases (c : Cursor) (k : Nat) :
    (∃ v, c.cur = some v ∧ k ≤ v ∧ c.advance k = (true, c)) ∨
    ((∀ v, c.cur = some v → v < k) ∧ c.advance k = c.seek k) := by
  fun_cases advance k c with
  | case1 v hc hkv => exact Or.inl ⟨v, hc, hkv, rfl⟩
  | case2 v hc hkv => exact Or.inr ⟨fun v' h => (by cases hc.symm.trans h; exact Nat.lt_of_not_le hkv), rfl⟩
  | case3 hc => exact Or.inr ⟨fun _ h => (nomatch hc.symm.trans h), rfl⟩

theorem before_lt_of_cur_lt {c : Cursor} (hw : c.WF) {k : Nat} (h : ∀ v, c.cur = some v → v < k) :
    ∀ y ∈ c.before, y < k := by
  intro y hy
  cases hc : c.cur with
  | none => rw [before_nil_of_cur hc] at hy; cases hy
  | some v => exact Nat.lt_of_le_of_lt (before_le_cur hw hc y hy) (h v hc)

theorem seek_cur_isSome {c : Cursor} {k : Nat} : (c.seek k).1 = true → (c.seek k).2.cur.isSome := by
  fun_cases seek k c with
  | case1 => nofun
  | case2 x r => exact fun _ => by simp only [cur, List.getLast?_concat, Option.isSome_some]

theorem advance_cur_isSome {c : Cursor} {k : Nat} (h : (c.advance k).1 = true) : (c.advance k).2.cur.isSome := by
  rcases advance_cases c k with ⟨v, hc, _, he⟩ | ⟨_, he⟩
  · rw [he]; exact hc ▸ rfl
  · rw [he] at h ⊢; exact seek_cur_isSome h

theorem next_eq_advance_lo {c : Cursor} (hw : c.WF) :
    c.next.1 = (c.advance c.lo).1 ∧
    (c.next.1 = true → c.next.2 = (c.advance c.lo).2) := by
  rcases advance_cases c c.lo with ⟨v, hc, hkv, _⟩ | ⟨_, he⟩
  · exact absurd hkv (by unfold lo; rw [hc]; exact Nat.not_succ_le_self v)
  · rw [he]
    unfold next seek
    cases hr : c.rest with
    | nil => simp
    | cons x r =>
      have hx : c.lo ≤ x := lo_le_of_mem_rest hw (by rw [hr]; simp)
      have : ¬ x < c.lo := by omega
      simp [this]

/-- Characterisation of `advance k` on a well-formed cursor.  On `true` the new current element is the
least element of the list that is `≥ k` and not before the old current element; on `false` every
element is `< k`. -/
theorem advance_spec {c : Cursor} (hw : c.WF) (k : Nat) :
    ((c.advance k).1 = true →
      (c.advance k).2.WF ∧ (c.advance k).2.xs = c.xs ∧ c.pos ≤ (c.advance k).2.pos ∧
      ∃ x, (c.advance k).2.cur = some x ∧ x ∈ c.xs ∧ k ≤ x ∧ (∀ v, c.cur = some v → v ≤ x) ∧
        ∀ y ∈ c.xs, k ≤ y → (∀ v, c.cur = some v → v ≤ y) → x ≤ y) ∧
    ((c.advance k).1 = false → ∀ y ∈ c.xs, y < k) := by
  rcases advance_cases c k with ⟨v, hc, hkv, he⟩ | ⟨hlt, he⟩
  · rw [he]
    refine ⟨fun _ => ⟨hw, rfl, Nat.le_refl _, v, hc, cur_mem hc, hkv, fun v' hv' => ?_, fun y _ _ hvy => hvy v hc⟩,
      fun h => Bool.noConfusion h⟩
    cases hc.symm.trans hv'
    exact Nat.le_refl _
  · -- everything already consumed is `< k`, so the least element `≥ k` of the list is the one of `rest`
    rw [he]
    have hs := seek_spec hw k
    have hb := before_lt_of_cur_lt hw hlt
    refine ⟨fun ht => ?_, fun hf y hy => (mem_xs.1 hy).elim (hb y) (hs.2 hf y)⟩
    obtain ⟨h1, h2, h3, x, h4, h5, h6, h7⟩ := hs.1 ht
    exact ⟨h1, h2, Nat.le_of_lt h3, x, h4, mem_xs.2 (Or.inr h5), h6,
      fun v hv => Nat.le_of_lt (Nat.lt_of_lt_of_le (hlt v hv) h6),
      fun y hy hky _ => (mem_xs.1 hy).elim (fun h => absurd hky (Nat.not_le.2 (hb y h))) (fun h => h7 y h hky)⟩

theorem advance_pos_lt {c : Cursor} (hw : c.WF) {k : Nat} (hk : ∀ v, c.cur = some v → v < k)
    (ht : (c.advance k).1 = true) : c.pos < (c.advance k).2.pos := by
  rcases advance_cases c k with ⟨v, hc, hkv, _⟩ | ⟨_, he⟩
  · exact absurd (hk v hc) (Nat.not_lt.2 hkv)
  · rw [he] at ht ⊢
    exact ((seek_spec hw k).1 ht).2.2.1

/-- Characterisation of `next`: lands on the least element `≥ lo` (greater than the current one). -/
theorem next_spec {c : Cursor} (hw : c.WF) :
    (c.next.1 = true →
      c.next.2.WF ∧ c.next.2.xs = c.xs ∧ c.pos < c.next.2.pos ∧
      ∃ x, c.next.2.cur = some x ∧ x ∈ c.xs ∧ c.lo ≤ x ∧ ∀ y ∈ c.xs, c.lo ≤ y → x ≤ y) ∧
    (c.next.1 = false → ∀ y ∈ c.xs, y < c.lo) := by
  obtain ⟨hb, hs⟩ := next_eq_advance_lo hw
  have ha := advance_spec hw c.lo
  have hlo : ∀ v, c.cur = some v → v < c.lo := by intro v hv; unfold lo; rw [hv]; simp
  constructor
  · intro ht
    have ht' : (c.advance c.lo).1 = true := by rw [← hb]; exact ht
    obtain ⟨h1, h2, _, x, h4, h5, h6, _, h8⟩ := ha.1 ht'
    have hp := advance_pos_lt hw hlo ht'
    rw [hs ht]
    refine ⟨h1, h2, hp, x, h4, h5, h6, ?_⟩
    intro y hy hly
    apply h8 y hy hly
    intro v hv; have := hlo v hv; omega
  · intro hf
    exact ha.2 (by rw [← hb]; exact hf)

theorem pos_le_length (c : Cursor) : c.pos ≤ c.xs.length := by
  unfold pos xs; simp

end Cursor

/-! ## Where a call lands

Both calls move the cursor to its least element at or above a target (`next`: `lo`, just above the current element;
`advance k`: `k`, or the current element if that is larger), or report that there is none.  `next_spec` and
`advance_spec` in one vocabulary, without the `pos` clauses. -/

/-- `x` is the least element of `xs` that is `≥ t` -/
def LeastGE (xs : List Nat) (t x : Nat) : Prop := x ∈ xs ∧ t ≤ x ∧ ∀ y ∈ xs, t ≤ y → x ≤ y

theorem LeastGE.unique {xs : List Nat} {t x x' : Nat} (h : LeastGE xs t x) (h' : LeastGE xs t x') : x = x' :=
  Nat.le_antisymm (h.2.2 x' h'.1 h'.2.1) (h'.2.2 x h.1 h.2.1)

theorem LeastGE.retarget {xs : List Nat} {t t' x : Nat} (he : ∀ y ∈ xs, t ≤ y ↔ t' ≤ y) (h : LeastGE xs t x) :
    LeastGE xs t' x :=
  ⟨h.1, (he x h.1).1 h.2.1, fun y hy hty => h.2.2 y hy ((he y hy).2 hty)⟩

namespace Cursor

/-- `r` is the outcome of moving `c` to its least element `≥ t` -/
def MovesTo (c : Cursor) (t : Nat) (r : Bool × Cursor) : Prop :=
  (r.1 = false ∧ ∀ y ∈ c.xs, y < t) ∨
  (r.1 = true ∧ r.2.WF ∧ r.2.xs = c.xs ∧ ∃ x, r.2.cur = some x ∧ LeastGE c.xs t x)

theorem next_movesTo {c : Cursor} (hw : c.WF) : c.MovesTo c.lo c.next := by
  obtain ⟨h1, h2⟩ := next_spec hw
  cases hb : c.next.1 with
  | false => exact Or.inl ⟨hb, h2 hb⟩
  | true =>
    obtain ⟨hw', hxs, _, x, hx, hl⟩ := h1 hb
    exact Or.inr ⟨hb, hw', hxs, x, hx, hl⟩

theorem advance_movesTo {c : Cursor} (hw : c.WF) (k : Nat) : c.MovesTo (max k (c.cur.getD 0)) (c.advance k) := by
  obtain ⟨h1, h2⟩ := advance_spec hw k
  have hcur : ∀ y, (∀ v, c.cur = some v → v ≤ y) ↔ c.cur.getD 0 ≤ y := by
    intro y; cases c.cur <;> simp
  cases hb : (c.advance k).1 with
  | false => exact Or.inl ⟨hb, fun y hy => Nat.lt_of_lt_of_le (h2 hb y hy) (Nat.le_max_left _ _)⟩
  | true =>
    obtain ⟨hw', hxs, _, x, hx, hxm, hkx, hvx, hl⟩ := h1 hb
    exact Or.inr ⟨hb, hw', hxs, x, hx, hxm, Nat.max_le.2 ⟨hkx, (hcur x).1 hvx⟩, fun y hy hty =>
      hl y hy (Nat.le_trans (Nat.le_max_left _ _) hty) ((hcur y).2 (Nat.le_trans (Nat.le_max_right _ _) hty))⟩

end Cursor

/-! ## Consequences of refinement -/

section
variable {σ : Type} {ops : IterOps σ}

/-- `RefinesAt` is itself a simulation (the largest one). -/
theorem refinesAt_simulation : Simulation ops (RefinesAt ops) where
  wf _ _ := fun ⟨_, hR, h⟩ => hR.wf _ _ h
  value _ _ := fun ⟨_, hR, h⟩ => hR.value _ _ h
  next _ _ := fun ⟨R, hR, h⟩ =>
    let ⟨s', h1, h2⟩ := hR.next _ _ h
    ⟨s', h1, fun ht => ⟨R, hR, h2 ht⟩⟩
  advance k _ _ := fun ⟨R, hR, h⟩ hk =>
    let ⟨s', h1, h2⟩ := hR.advance k _ _ h hk
    ⟨s', h1, fun ht => ⟨R, hR, h2 ht⟩⟩

theorem RefinesAt.wf {s : σ} {c : Cursor} (h : RefinesAt ops s c) : c.WF :=
  refinesAt_simulation.wf s c h

theorem RefinesAt.value {s : σ} {c : Cursor} (h : RefinesAt ops s c) (hc : c.cur.isSome) :
    ops.value s = c.cur :=
  refinesAt_simulation.value s c h hc

theorem RefinesAt.next {s : σ} {c : Cursor} (h : RefinesAt ops s c) :
    ∃ s', ops.next s = .ok (c.next.1, s') ∧ (c.next.1 = true → RefinesAt ops s' c.next.2) :=
  refinesAt_simulation.next s c h

theorem RefinesAt.advance {s : σ} {c : Cursor} (h : RefinesAt ops s c) (k : Nat) (hk : ops.dom k) :
    ∃ s', ops.advance k s = .ok ((c.advance k).1, s') ∧
      ((c.advance k).1 = true → RefinesAt ops s' (c.advance k).2) :=
  refinesAt_simulation.advance k s c h hk

/-- The transcript of **every** finite call sequence (with `advance` keys in the domain) agrees with the spec
cursor's. -/
theorem RefinesAt.run {s : σ} {c : Cursor} (h : RefinesAt ops s c) (calls : List Call)
    (hdom : ∀ k, Call.advance k ∈ calls → ops.dom k) :
    runImpl ops s calls = some (runSpec c calls) := by
  induction calls generalizing s c with
  | nil => rfl
  | cons call calls ih =>
    have hdom' : ∀ k, Call.advance k ∈ calls → ops.dom k := fun k hk => hdom k (List.mem_cons_of_mem _ hk)
    have hstep : ∃ s' r, (match call with | .next => ops.next s | .advance k => ops.advance k s) = .ok (r.1, s') ∧
        r = (match call with | .next => c.next | .advance k => c.advance k) ∧
        (r.1 = true → RefinesAt ops s' r.2 ∧ r.2.cur.isSome) := by
      cases call with
      | next =>
        obtain ⟨s', h1, h2⟩ := h.next
        exact ⟨s', _, h1, rfl, fun hb => ⟨h2 hb, Cursor.next_cur_isSome hb⟩⟩
      | advance k =>
        obtain ⟨s', h1, h2⟩ := h.advance k (hdom k List.mem_cons_self)
        exact ⟨s', _, h1, rfl, fun hb => ⟨h2 hb, Cursor.advance_cur_isSome hb⟩⟩
    obtain ⟨s', r, h1, hr, h2⟩ := hstep
    simp only [runImpl, runSpec, h1, ← hr]
    cases hb : r.1 with
    | false => rfl
    | true =>
      obtain ⟨href, hsome⟩ := h2 hb
      simp only [ih href hdom', href.value hsome, Option.map_some, if_true]

end

end B6.Spec.Cursor
