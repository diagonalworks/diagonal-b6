import B6.Lemmas.CollectionsHeap
/-!
# C24 — Collection functions compute what their documentation says

Theorems about `B6.Model.Collections` (iterator-style models of api/functions/collections.go, map.go,
collections.go, ingest.CollectionFeature) against the list reference definitions of `B6.Spec.Collections`.
The model follows the code after the fixes C24-take-negative-count and C24-top-empty; the unrepaired
behaviour is kept as `takeCountOld` / `topOld` for the two `_counterexample` theorems.
-/
namespace B6.Props.C24
open B6.Model.Collections B6.Spec.Collections B6.Lemmas.Collections

/-! ## one theorem per function -/

/-- `collection` / an array collection yields its pairs in order and reports their number -/
theorem collection_spec (items : List Item) (fin : End) :
    drain Src.next (items.length + 1) ⟨items, fin⟩ = (items, finOf fin) ∧
    (denote (.arr items)).count = some (items.length : Int) :=
  ⟨drain_src fin items _ (Nat.lt_succ_self _), rfl⟩

/-- `take c n` yields the first `n` items (none for `n ≤ 0`) — every inner collection, every `n` -/
theorem take_spec (s : Src) (n : Int) :
    drain takeNext (s.rest.length + 1) (s, n) = takeRef n s := by
  obtain ⟨rest, fin⟩ := s
  exact drain_take fin rest n _ (Nat.lt_succ_self _)

theorem take_spec_list (items : List Item) (n : Int) :
    drain takeNext (items.length + 1) (⟨items, .done⟩, n) = (items.take n.toNat, .done) := by
  refine (take_spec ⟨items, .done⟩ n).trans ?_
  simp only [takeRef, finOf]
  split
  · rfl
  · next h => rw [List.take_of_length_le (by omega)]

/-- `filter c p` — for every function `p` (an error or a non-bool answer ends the result with an error) -/
theorem filter_spec (p : Val → Option Val) (s : Src) :
    drain (filterNext p) (s.rest.length + 1) s = filterRef p s.fin s.rest := by
  obtain ⟨rest, fin⟩ := s
  exact drain_filter p fin rest _ (Nat.lt_succ_self _)

theorem filter_spec_list (q : Val → Bool) (items : List Item) :
    drain (filterNext fun v => some (.bool (q v))) (items.length + 1) ⟨items, .done⟩
      = (items.filter (fun it => q it.2), .done) := by
  exact (filter_spec _ ⟨items, .done⟩).trans (filterRef_list q items)

/-- `map c f` — for every function `f` -/
theorem map_spec (f : Val → Option Val) (s : Src) :
    drain (mapNext f) (s.rest.length + 1) s = mapRef f s.fin s.rest := by
  obtain ⟨rest, fin⟩ := s
  exact drain_map f fin rest _ (Nat.lt_succ_self _)

theorem map_spec_list (g : Val → Val) (items : List Item) :
    drain (mapNext fun v => some (g v)) (items.length + 1) ⟨items, .done⟩
      = (items.map (fun it => (it.1, g it.2)), .done) := by
  exact (map_spec _ ⟨items, .done⟩).trans (mapRef_list g items)

/-- `map-items c g` — for every function `g` on (key, value) -/
theorem map_items_spec (g : Val → Val → Option Item) (s : Src) :
    drain (mapItemsNext g) (s.rest.length + 1) s = mapItemsRef g s.fin s.rest := by
  obtain ⟨rest, fin⟩ := s
  exact drain_mapItems g fin rest _ (Nat.lt_succ_self _)

/-- `flatten`: the inner collections one after the other -/
theorem flatten_spec (ofin : End) (ss : List Src) :
    drain (flattenNext ofin) (srcTotal ss + 1) (ss, none) = flattenRef ofin ss :=
  drain_flatten_none ofin ss _ (Nat.lt_succ_of_le (itemsTotal_le_srcTotal ss))

theorem flattenRef_list : ∀ ls : List (List Item),
    flattenRef .done (ls.map fun l => ⟨l, .done⟩) = (ls.flatten, .done) := by
  intro ls
  induction ls with
  | nil => rfl
  | cons l ls ih => simp [flattenRef, ih]

/-- `join-missing b j`, drained, is the three-way merge `joinRef` — all inputs, sorted or not,
comparison errors included -/
theorem join_missing_spec (b j : Src) :
    drain jmNext (b.rest.length + j.rest.length + 1)
      { started := false, b := b, j := j, bcur := none, jcur := none }
      = joinRef b.fin j.fin b.rest j.rest := by
  obtain ⟨B, bfin⟩ := b
  obtain ⟨J, jfin⟩ := j
  exact drain_jm bfin jfin B J _ (Nat.lt_succ_self _)

/-- `sum-by-key`: keys are distinct, and each key holds the (64-bit wrapped) sum of its values;
non-int values are an error -/
theorem sum_by_key_spec (items : List Item) (l : List (Val × Int)) (h : sumByKey items .done = some l) :
    (l.map (·.1)).Nodup ∧
    ∀ k, lookup k l = if k ∈ items.map (·.1) then some (wrap64 (sumFor k items)) else none := by
  -- on int values `sum-by-key` is the count of keys weighted by the values
  unfold sumByKey at h
  rw [sumByKey_go] at h
  split at h
  · simpa only [sumFor_eq_weightFor] using countBy_spec (·.1) intDelta items l h
  · cases h

theorem sum_by_key_error (items : List Item) :
    sumByKey items .done = none ↔ ∃ it ∈ items, ∀ i, it.2 ≠ .int i := by
  unfold sumByKey
  rw [sumByKey_go]
  split
  · next hall =>
    refine iff_of_false nofun fun ⟨it, hit, hne⟩ => ?_
    have := List.all_eq_true.mp hall it hit
    cases hv : it.2 with
    | int i => exact hne i hv
    | _ => simp [hv] at this
  · next hall =>
    refine iff_of_true rfl ?_
    obtain ⟨it, hit, hn⟩ := List.all_eq_false.mp (Bool.not_eq_true _ ▸ hall)
    exact ⟨it, hit, fun i hi => by simp [hi] at hn⟩

/-- `count-values`: how often each value occurs -/
theorem count_values_spec (items : List Item) (l : List (Val × Int)) (h : countValues items .done = some l) :
    (l.map (·.1)).Nodup ∧ ∀ v, lookup v l =
      if v ∈ items.map (·.2) then some (wrap64 (weightFor (·.2) (fun _ => 1) v items)) else none :=
  countBy_spec _ _ items l h

/-- `count-keys`: how often each key occurs -/
theorem count_keys_spec (items : List Item) (l : List (Val × Int)) (h : countKeys items .done = some l) :
    (l.map (·.1)).Nodup ∧ ∀ k, lookup k l =
      if k ∈ items.map (·.1) then some (wrap64 (weightFor (·.1) (fun _ => 1) k items)) else none :=
  countBy_spec _ _ items l h

/-- `count-valid-keys`: per key, the number of values that are not an invalid feature ID (the key appears
even when that number is 0) -/
theorem count_valid_keys_spec (items : List Item) (l : List (Val × Int))
    (h : countValidKeys items .done = some l) :
    (l.map (·.1)).Nodup ∧ ∀ k, lookup k l =
      if k ∈ items.map (·.1) then some (wrap64 (weightFor (·.1) validDelta k items)) else none :=
  countBy_spec _ _ items l h

/-- `top c n`: for every priority queue that keeps container/heap's contract (`PQLaw`), every input whose
values are all ints or all floats, and every `n` (zero and negative included), the result is the `n`
greatest entries, greatest first (`IsTopOf`; ties leave open which of several equal entries is kept). -/
theorem top_spec (pq : PQ) (law : PQLaw pq) (items : List Item) (n : Int) (out : List Item)
    (h : top pq items .done n = .ok out) : IsTopOf n items out := by
  revert h
  fun_cases top pq items .done n with
  | case1 => rintro ⟨⟩; exact ⟨[], by simp, by simp, by simp, by simp⟩
  | case6 k v xs _ hv q hl => -- the loop ran
    rintro ⟨⟩
    have hinv0 : TopInv n [] (law.elems pq.empty) [] := law.empty ▸ TopInv.nil n
    obtain ⟨D, hq, hinv⟩ := topLoop_inv pq law n v ((k, v) :: xs) [] pq.empty [] q law.inv_empty hinv0 hl
    simp only [List.nil_append] at hinv
    obtain ⟨o, ho, hperm, hsorted⟩ := popAll_spec pq law (pq.size q) q []
      (by rw [law.size]; exact Nat.le_refl _) hq hinv.numH
    rw [ho, List.append_nil]
    refine ⟨D, ?_, ?_, hsorted, ?_⟩
    · exact (List.Perm.append_right D hperm).trans hinv.perm
    · rw [hperm.length_eq]; exact hinv.len
    · intro r hr o' ho'
      exact hinv.low r hr o' (hperm.mem_iff.mp ho')
  | case2 | case3 | case4 | case5 => nofun

/-- `top` on values it cannot order (not int/float, or a mix) is an error, never a panic -/
theorem top_never_panics (pq : PQ) (items : List Item) (fin : End) (n : Int) :
    top pq items fin n ≠ .panic := by
  fun_cases top pq items fin n <;> nofun

/-- **`top` with the exact port of container/heap** (`goHeap`, proved to keep the priority-queue law in
`Lemmas/CollectionsHeap.lean` on top of C30's sift lemmas): the result is the `n` greatest entries, greatest
first; `PQLaw` is proved of this queue, not assumed. -/
theorem top_spec_goHeap (items : List Item) (n : Int) (out : List Item)
    (h : top goHeap items .done n = .ok out) : IsTopOf n items out :=
  top_spec goHeap B6.Lemmas.CollectionsHeap.goHeapLaw items n out h

/-- `FindValue` on a sorted collection feature (binary search) answers like the linear scan -/
theorem find_value_spec (keys vals : Array Val) (key : Val) (h : SearchOk keys key) :
    findValue true keys vals key = scanFirst keys vals key := by
  -- the scan finds the head of the run of equal keys, which starts where the search lands
  simp only [findValue, if_true, scanFirst]
  rw [← List.head?_filter, eqAt_run keys key h, List.head?_takeWhile]
  generalize sortSearch keys.size (notLess keys key) = i
  by_cases hin : i < keys.size
  · have e : keys.size - i = (keys.size - i - 1) + 1 := by omega
    rw [e, List.range'_succ, List.head?_cons]
    cases he : eqAt keys key i <;> simp [hin, he, Option.filter]
  · have e : keys.size - i = 0 := by omega
    simp [e, hin]

theorem find_value_unsorted (keys vals : Array Val) (key : Val) :
    findValue false keys vals key = scanFirst keys vals key := rfl

theorem find_values_unsorted (keys vals : Array Val) (key : Val) :
    findValues false keys vals key = scanAll keys vals key := rfl

/-- `FindValues` on a sorted collection feature answers like the linear scan -/
theorem find_values_spec (keys vals : Array Val) (key : Val) (h : SearchOk keys key)
    (hv : keys.size ≤ vals.size) :
    findValues true keys vals key = scanAll keys vals key := by
  simp only [findValues, if_true, scanAll]
  rw [eqAt_run keys key h, collectRun_eq keys vals key hv keys.size _ (Nat.sub_le _ _)]

mutual
/-- **Every expression tree of lazy collection functions evaluates, in the iterator-style model, to what the
list references say** (items, how the iteration ends, and the reported count). -/
theorem denote_eq_spec : ∀ c : Co, denote c = specDen c
  | .arr items => rfl
  | .take c n => by
    simp only [denote, specDen, denote_eq_spec c, take_spec, takeRef_takeArg, takeCount_takeArg]; rfl
  | .filter c p => by simp only [denote, specDen, denote_eq_spec c, filter_spec]; rfl
  | .map c f => by simp only [denote, specDen, denote_eq_spec c, map_spec]; rfl
  | .mapItems c g => by simp only [denote, specDen, denote_eq_spec c, map_items_spec]; rfl
  | .flatten cs => by simp only [denote, specDen, denoteList_eq_spec cs, flatten_spec]; rfl
  | .join b j => by simp only [denote, specDen, denote_eq_spec b, denote_eq_spec j, join_missing_spec]; rfl
theorem denoteList_eq_spec : ∀ cs : CoList, denoteList cs = specDenList cs
  | .nil => rfl
  | .cons c rest => by simp only [denoteList, specDenList, denote_eq_spec c, denoteList_eq_spec rest]; rfl
end

/-- **count_agrees**: whenever a collection (any composition of the lazy functions) reports a count `k`,
iterating it to the end yields exactly `k` items. -/
theorem count_agrees (c : Co) (k : Int) (hc : (denote c).count = some k) (hd : (denote c).fin = .done) :
    ((denote c).items.length : Int) = k := by
  rw [denote_eq_spec] at hc hd ⊢
  exact (count_bound c k hc).2 hd

/-- the library function `count` (`b6.Count`) therefore returns the number of items -/
theorem count_function_spec (c : Co) (hd : (denote c).fin = .done) :
    goCount (denote c).count (denote c).items (denote c).fin = some ((denote c).items.length : Int) := by
  cases hc : (denote c).count with
  | none => simp [goCount, hd]
  | some k => simp [goCount, count_agrees c k hc hd]

/-- **Before the fix** `take` reported its argument as the count: `take c -1` on three items says −1 and
yields nothing. -/
theorem take_negative_count_counterexample :
    takeCountOld (some 3) (-1) = some (-1) ∧
    drain takeNext 4 (⟨[(.int 1, .int 10), (.int 2, .int 30), (.int 3, .int 20)], .done⟩, (-1 : Int)) = ([], .done) := by
  decide

/-- **Before the fix** `top` on an empty collection called `Len()` on a nil heap. -/
theorem top_empty_counterexample : topOld goHeap [] .done 3 = .panic := by decide

/-! ## termination: no expression runs out of fuel

Every list reference is followed by an iterator (`StepSpec`), and such a reference never ends in `nofuel`. -/

mutual
theorem specDen_fin : ∀ c : Co, (specDen c).fin ≠ .nofuel
  | .arr items => nofun
  | .take c n => by
    obtain ⟨s, hs⟩ := src?_of_fin (specDen_fin c)
    simp only [specDen, hs]
    exact take_stepSpec.fin_ne_nofuel (i := (s, n)) rfl
  | .filter c p => by
    obtain ⟨s, hs⟩ := src?_of_fin (specDen_fin c)
    simp only [specDen, hs]
    exact (filter_stepSpec p.apply).fin_ne_nofuel (i := s) rfl
  | .map c f => by
    obtain ⟨s, hs⟩ := src?_of_fin (specDen_fin c)
    simp only [specDen, hs, mapRef_eq]
    exact (mapItems_stepSpec _).fin_ne_nofuel (i := s) rfl
  | .mapItems c g => by
    obtain ⟨s, hs⟩ := src?_of_fin (specDen_fin c)
    simp only [specDen, hs]
    exact (mapItems_stepSpec g.apply).fin_ne_nofuel (i := s) rfl
  | .flatten cs => by
    cases hs : specDenList cs with
    | none => exact absurd hs (specDenList_some cs)
    | some ss =>
      simp only [specDen, hs]
      exact (flatten_stepSpec .done).fin_ne_nofuel (i := ss) (s := (ss, none)) rfl
  | .join b j => by
    obtain ⟨sb, hb⟩ := src?_of_fin (specDen_fin b)
    obtain ⟨sj, hj⟩ := src?_of_fin (specDen_fin j)
    simp only [specDen, hb, hj]
    exact (jm_stepSpec sb.fin sj.fin).fin_ne_nofuel (pending_start sb.fin sj.fin sb.rest sj.rest)
theorem specDenList_some : ∀ cs : CoList, specDenList cs ≠ none
  | .nil => nofun
  | .cons c rest => by
    obtain ⟨s, hs⟩ := src?_of_fin (specDen_fin c)
    cases hr : specDenList rest with
    | none => exact absurd hr (specDenList_some rest)
    | some ss => simp [specDenList, hs, hr]
end

/-- **Termination**: the fuel the model hands to every loop suffices — no composition ever reports `nofuel`. -/
theorem denote_terminates (c : Co) : (denote c).fin ≠ .nofuel := by
  rw [denote_eq_spec]; exact specDen_fin c

/-! ## join-missing on key-sorted inputs -/

/-- **join-missing, key-sorted inputs**: the result is the ordinary merge of `base` with those entries of
`joined` whose key does not occur in `base`. -/
theorem join_missing_sorted (S : Val → Prop) (lt : Val → Val → Bool) (ord : KeyOrder S lt) :
    ∀ (B J : List Item), (∀ x ∈ B, S x.1) → (∀ x ∈ J, S x.1) → KeySorted lt B → KeySorted lt J →
      joinRef .done .done B J = (mergeRef lt B (J.filter (absentFrom B)), .done) := by
  intro B
  induction B with
  | nil =>
    intro J _ _ _ _
    rw [joinRef_nil_left, mergeRef_nil_left, (List.filter_eq_self (p := absentFrom [])).mpr fun _ _ => rfl]
  | cons b bs ihB =>
    intro J hSB hSJ hsB hsJ
    have hSb : S b.1 := hSB b (List.mem_cons_self ..)
    have ihB := fun J hSJ => ihB J (fun x hx => hSB x (List.mem_cons_of_mem _ hx)) hSJ (List.Pairwise.of_cons hsB)
    induction J with
    | nil => simp [joinRef, ihB [] (fun _ h => nomatch h) .nil, mergeRef_nil_right]
    | cons j js ihJ =>
      have hSj : S j.1 := hSJ j (List.mem_cons_self ..)
      have ihJ := ihJ (fun x hx => hSJ x (List.mem_cons_of_mem _ hx)) (List.Pairwise.of_cons hsJ)
      have he := ord.equal _ _ hSj hSb
      have hl := ord.less _ _ hSj hSb
      by_cases heq : j.1 = b.1
      · -- equal keys: the joined entry is dropped
        have hab : absentFrom (b :: bs) j = false := by simp [absentFrom, heq]
        rw [decide_eq_true heq] at he
        simp only [joinRef, he, ihJ, List.filter_cons, hab]
        simp
      · rw [decide_eq_false heq] at he
        cases hlt : lt j.1 b.1 with
        | true =>
          -- joined key below the base head, hence below all of base: it is absent and goes first
          have hab : absentFrom (b :: bs) j = true := by
            simp only [absentFrom, List.all_eq_true, decide_eq_true_eq]
            exact fun x hx => (ord.ne_of_lt hSj (ord.lt_all hSj hSB hsB hlt x hx)).symm
          simp only [joinRef, he, hl, hlt, ihJ, List.filter_cons, hab, if_true, mergeRef]
        | false =>
          -- base head first; it is below all joined keys, so none of them equals it any more
          have hbj : lt b.1 j.1 = true := by
            rcases ord.total j.1 b.1 hSj hSb with h | h | h
            · rw [hlt] at h; cases h
            · exact absurd h heq
            · exact h
          have hall := ord.lt_all hSb hSJ hsJ hbj
          simp only [joinRef, he, hl, hlt, ihB (j :: js) hSJ hsJ]
          rw [filter_absentFrom_cons bs fun x hx => ord.ne_of_lt hSb (hall x hx),
            mergeRef_head lt b bs _ fun x hx =>
              ord.asymm hSb (hSJ x (List.mem_filter.mp hx).1) (hall x (List.mem_filter.mp hx).1)]

example : joinRef .done .done [(.int 1, .str "b1"), (.int 3, .str "b3")]
    [(.int 0, .str "j0"), (.int 1, .str "j1"), (.int 2, .str "j2"), (.int 4, .str "j4")]
    = ([(.int 0, .str "j0"), (.int 1, .str "b1"), (.int 2, .str "j2"), (.int 3, .str "b3"), (.int 4, .str "j4")], .done) := by
  simp [joinRef, goEqual, goLess]

/-! ## key orders that `b6.Less` / `b6.Equal` realise: ints, strings -/

def isInt : Val → Prop
  | .int _ => True
  | _ => False

def intLt : Val → Val → Bool
  | .int x, .int y => decide (x < y)
  | _, _ => false

theorem isInt_iff {a : Val} : isInt a ↔ ∃ x, a = .int x := by
  cases a <;> simp [isInt]

/-- int keys with the order of `b6.Less` form a `KeyOrder`, so `join_missing_sorted` is not vacuous -/
theorem intKeyOrder : KeyOrder isInt intLt where
  less := by
    intro a b ha hb
    obtain ⟨x, rfl⟩ := isInt_iff.mp ha
    obtain ⟨y, rfl⟩ := isInt_iff.mp hb
    rfl
  equal := by
    intro a b ha hb
    obtain ⟨x, rfl⟩ := isInt_iff.mp ha
    obtain ⟨y, rfl⟩ := isInt_iff.mp hb
    simp [goEqual]
  irrefl := by
    intro a ha
    obtain ⟨x, rfl⟩ := isInt_iff.mp ha
    simp [intLt]
  trans := by
    intro a b c ha hb hc
    obtain ⟨x, rfl⟩ := isInt_iff.mp ha
    obtain ⟨y, rfl⟩ := isInt_iff.mp hb
    obtain ⟨z, rfl⟩ := isInt_iff.mp hc
    simp only [intLt, decide_eq_true_eq]
    exact Int.lt_trans
  total := by
    intro a b ha hb
    obtain ⟨x, rfl⟩ := isInt_iff.mp ha
    obtain ⟨y, rfl⟩ := isInt_iff.mp hb
    simp only [intLt, decide_eq_true_eq, Val.int.injEq]
    omega

/-- string keys with Go's string `<` -/
def isStr : Val → Prop
  | .str _ => True
  | _ => False

def strLt : Val → Val → Bool
  | .str x, .str y => decide (x < y)
  | _, _ => false

theorem isStr_iff {a : Val} : isStr a ↔ ∃ x, a = .str x := by
  cases a <;> simp [isStr]

theorem strKeyOrder : KeyOrder isStr strLt where
  less := by
    intro a b ha hb
    obtain ⟨x, rfl⟩ := isStr_iff.mp ha
    obtain ⟨y, rfl⟩ := isStr_iff.mp hb
    rfl
  equal := by
    intro a b ha hb
    obtain ⟨x, rfl⟩ := isStr_iff.mp ha
    obtain ⟨y, rfl⟩ := isStr_iff.mp hb
    simp [goEqual]
  irrefl := by
    intro a ha
    obtain ⟨x, rfl⟩ := isStr_iff.mp ha
    simp [strLt]
  trans := by
    intro a b c ha hb hc
    obtain ⟨x, rfl⟩ := isStr_iff.mp ha
    obtain ⟨y, rfl⟩ := isStr_iff.mp hb
    obtain ⟨z, rfl⟩ := isStr_iff.mp hc
    simp only [strLt, decide_eq_true_eq]
    exact String.lt_trans
  total := by
    intro a b ha hb
    obtain ⟨x, rfl⟩ := isStr_iff.mp ha
    obtain ⟨y, rfl⟩ := isStr_iff.mp hb
    simp only [strLt, decide_eq_true_eq, Val.str.injEq]
    by_cases h1 : x < y
    · exact Or.inl h1
    · by_cases h2 : y < x
      · exact Or.inr (Or.inr h2)
      · exact Or.inr (Or.inl (String.le_antisymm h2 h1))

/-! ## `SearchOk` proved for ascending keys of one kind: `FindValue` / `FindValues` without it as a hypothesis -/

/-- a probe that compares with none of the keys (every `Less`/`Equal` is an error): nothing is found either way -/
theorem searchOk_incomparable (ks : List Val) (key : Val)
    (hl : ∀ k ∈ ks, goLess k key = none) (he : ∀ k ∈ ks, goEqual k key = none) :
    SearchOk ks.toArray key := by
  have hE : ∀ i, eqAt ks.toArray key i = false := by
    intro i
    fun_cases eqAt ks.toArray key i with
    | case1 k hk => rw [he k (List.mem_of_getElem? (by simpa using hk))]; rfl
    | case2 => rfl
  have hL : ∀ i, notLess ks.toArray key i = true := by
    intro i
    fun_cases notLess ks.toArray key i with
    | case1 k hk => rw [hl k (List.mem_of_getElem? (by simpa using hk))]; rfl
    | case2 => rfl
  exact ⟨fun _ j _ _ _ => hL j, fun i h => (by rw [hE i] at h; cases h), fun _ j _ _ _ _ => hE j,
    fun i _ _ _ _ _ h _ => (by rw [hE i] at h; cases h)⟩

/-- **Keys sorted by any order `b6.Less`/`b6.Equal` realise (`KeyOrder`), probe of the same kind:** the
hypotheses of `find_value_spec` / `find_values_spec` hold. -/
theorem searchOk_of_keyOrder (S : Val → Prop) (lt : Val → Val → Bool) (ord : KeyOrder S lt)
    (ks : List Val) (hS : ∀ k ∈ ks, S k) (hs : ks.Pairwise fun x y => lt y x = false)
    (key : Val) (hk : S key) : SearchOk ks.toArray key := by
  have hS' : ∀ i (hi : i < ks.length), S ks[i] := fun i hi => hS _ (List.getElem_mem hi)
  -- the two observations of the code, in terms of the order: `¬ ks[i] < key` and `ks[i] = key`
  have hL : ∀ i (hi : i < ks.length), notLess ks.toArray key i = !(lt ks[i] key) := by
    intro i hi; simp [notLess, hi, ord.less _ key (hS' i hi) hk]
  have hE : ∀ i (hi : i < ks.length), eqAt ks.toArray key i = decide (ks[i] = key) := by
    intro i hi; simp [eqAt, hi, ord.equal _ key (hS' i hi) hk]
  have hEout : ∀ i, ¬ i < ks.length → eqAt ks.toArray key i = false := by
    intro i hi; simp [eqAt, hi]
  have hle : ∀ i j (hij : i ≤ j) (hj : j < ks.length), lt ks[j] (ks[i]'(Nat.lt_of_le_of_lt hij hj)) = false := by
    intro i j hij hj
    by_cases e : i = j
    · subst e; exact ord.irrefl _ (hS' i hj)
    · exact List.pairwise_iff_getElem.mp hs i j (Nat.lt_of_le_of_lt hij hj) hj (Nat.lt_of_le_of_ne hij e)
  refine ⟨?_, ?_, ?_, ?_⟩
  · -- `key ≤ ks[i] ≤ ks[j]`
    intro i j hij (hj : j < ks.length) hi
    have hil : i < ks.length := Nat.lt_of_le_of_lt hij hj
    rw [hL i hil, Bool.not_eq_true'] at hi
    rw [hL j hj, Bool.not_eq_true']
    exact ord.le_trans hk (hS' i hil) (hS' j hj) hi (hle i j hij hj)
  · intro i hi
    by_cases hil : i < ks.length
    · rw [hE i hil, decide_eq_true_eq] at hi
      rw [hL i hil, hi, ord.irrefl key hk]; rfl
    · rw [hEout i hil] at hi; cases hi
  · -- `key ≤ ks[i] ≤ ks[j] = key` gives `ks[i] = key`
    intro i j hij (hj : j < ks.length) hi he
    have hil : i < ks.length := Nat.lt_of_le_of_lt hij hj
    rw [hL i hil, Bool.not_eq_true'] at hi
    rw [hE i hil, decide_eq_false_iff_not] at he
    rw [hE j hj, decide_eq_false_iff_not]
    exact fun hjk => he (ord.le_antisymm (hS' i hil) hk (hjk ▸ hle i j hij hj) hi)
  · -- `key = ks[i] ≤ ks[x] ≤ ks[j] = key`
    intro i x j hix hxj (hj : j < ks.length) hi hej
    have hxl : x < ks.length := Nat.lt_of_le_of_lt hxj hj
    have hil : i < ks.length := Nat.lt_of_le_of_lt hix hxl
    rw [hE i hil, decide_eq_true_eq] at hi
    rw [hE j hj, decide_eq_true_eq] at hej
    rw [hE x hxl, decide_eq_true_eq]
    exact ord.le_antisymm (hS' x hxl) hk (hej ▸ hle x j hxj hj) (hi ▸ hle i x hix hxl)

theorem searchOk_of_kind (S : Val → Prop) (lt : Val → Val → Bool) (ord : KeyOrder S lt)
    (hother : ∀ k key, S k → ¬ S key → goLess k key = none ∧ goEqual k key = none)
    (ks : List Val) (hS : ∀ k ∈ ks, S k) (hs : ks.Pairwise fun x y => lt y x = false) (key : Val) :
    SearchOk ks.toArray key := by
  by_cases hk : S key
  · exact searchOk_of_keyOrder S lt ord ks hS hs key hk
  · exact searchOk_incomparable ks key (fun k h => (hother k key (hS k h) hk).1)
      (fun k h => (hother k key (hS k h) hk).2)

/-- int keys in ascending order, any probe: the hypotheses of the two search theorems hold -/
theorem searchOk_int (ks : List Int) (hs : ks.Pairwise (· ≤ ·)) (key : Val) :
    SearchOk (ks.map Val.int).toArray key := by
  refine searchOk_of_kind isInt intLt intKeyOrder ?_ _ ?_ ?_ key
  · intro k key hk hkey
    obtain ⟨x, rfl⟩ := isInt_iff.mp hk
    cases key with
    | int y => exact absurd trivial hkey
    | _ => exact ⟨rfl, rfl⟩
  · exact List.forall_mem_map.2 fun _ _ => trivial
  · exact List.pairwise_map.mpr (hs.imp fun h => by simpa [intLt] using h)

/-- **FindValue / FindValues on a `Sort()`ed feature with string keys, `SearchOk` not assumed** — ascending string keys,
any probe (a string, or a value of another type for which every comparison is an error). -/
theorem searchOk_str (ks : List String) (hs : ks.Pairwise fun a b => ¬ b < a) (key : Val) :
    SearchOk (ks.map Val.str).toArray key := by
  refine searchOk_of_kind isStr strLt strKeyOrder ?_ _ ?_ ?_ key
  · intro k key hk hkey
    obtain ⟨x, rfl⟩ := isStr_iff.mp hk
    cases key with
    | str y => exact absurd trivial hkey
    | _ => exact ⟨rfl, rfl⟩
  · exact List.forall_mem_map.2 fun _ _ => trivial
  · exact List.pairwise_map.mpr (hs.imp fun h => by simpa [strLt] using h)

theorem find_value_int_keys (ks : List Int) (hs : ks.Pairwise (· ≤ ·)) (vals : Array Val) (key : Val) :
    findValue true (ks.map Val.int).toArray vals key = scanFirst (ks.map Val.int).toArray vals key :=
  find_value_spec _ _ _ (searchOk_int ks hs key)

theorem find_value_str_keys (ks : List String) (hs : ks.Pairwise fun a b => ¬ b < a) (vals : Array Val)
    (key : Val) :
    findValue true (ks.map Val.str).toArray vals key = scanFirst (ks.map Val.str).toArray vals key :=
  find_value_spec _ _ _ (searchOk_str ks hs key)

theorem find_values_str_keys (ks : List String) (hs : ks.Pairwise fun a b => ¬ b < a) (vals : Array Val)
    (key : Val) (hv : ks.length ≤ vals.size) :
    findValues true (ks.map Val.str).toArray vals key = scanAll (ks.map Val.str).toArray vals key :=
  find_values_spec _ _ _ (searchOk_str ks hs key) (by simpa using hv)

/-! ## collection features replaced inside a mutable world -/

/-- what `Sort()` (or an ordered source) guarantees of a feature handed to `AddFeature`: if its flag is set, its
keys are ordered for every probe -/
def FlagOk (f : CF) : Prop := f.sorted = true → ∀ key, SearchOk f.keys key

theorem worldAdd_eq (stored : Option CF) (f : CF) : worldAdd stored f = some f := by
  cases stored <;> rfl

/-- after any history of replacements the world holds the last feature added — keys, values AND flag -/
theorem world_history_last (hist : List CF) (f : CF) (st0 : Option CF) :
    (hist ++ [f]).foldl worldAdd st0 = some f := by
  rw [List.foldl_append]; simp [worldAdd_eq]

/-- **Lookups after any replace history equal the linear scan**: start from any stored feature (or none), add
features with the same ID any number of times (each either unsorted or `Sort()`ed), then look up any key. -/
theorem world_lookup_after_history (hist : List CF) (st0 : Option CF)
    (h0 : ∀ e, st0 = some e → FlagOk e) (hh : ∀ f ∈ hist, FlagOk f)
    (e : CF) (he : hist.foldl worldAdd st0 = some e) (key : Val) :
    e.findValue key = scanFirst e.keys e.vals key ∧
    (e.keys.size ≤ e.vals.size → e.findValues key = scanAll e.keys e.vals key) := by
  have hok : FlagOk e := by
    -- the last feature added is what is stored; `st0` matters for the empty history only
    rcases List.eq_nil_or_concat hist with rfl | ⟨init, f, rfl⟩
    · exact h0 e he
    · rw [List.concat_eq_append] at he hh
      rw [world_history_last] at he
      cases he
      exact hh _ (List.mem_append_right _ (List.mem_singleton_self _))
  unfold CF.findValue CF.findValues
  cases hs : e.sorted with
  | false => exact ⟨rfl, fun _ => rfl⟩
  | true => exact ⟨find_value_spec _ _ _ (hok hs key), fun hv => find_values_spec _ _ _ (hok hs key) hv⟩

/-- what goes wrong when a replacement keeps the old flag (the class of seeded change C24-4): a sorted feature
replaced by one with unordered keys, flag still set — the binary search misses a key the scan finds -/
theorem stale_sorted_flag_counterexample :
    let e : CF := { keys := #[.int 3, .int 1, .int 2], vals := #[.str "c", .str "a", .str "b"], sorted := true }
    e.findValue (.int 1) = none ∧ scanFirst e.keys e.vals (.int 1) = some (.str "a") := by decide

/-! ## non-vacuity: concrete values on which the theorems above apply and compute -/

def exItems : List Item := [(.int 1, .int 10), (.int 2, .int 30), (.int 3, .int 20), (.int 4, .int 30)]

-- the law of `top_spec` is inhabited (`listPQLaw`), and both queues pick the two greatest, greatest first
example : top listPQ exItems .done 2 = .ok [(.int 2, .int 30), (.int 4, .int 30)] := by decide
example : top goHeap exItems .done 2 = .ok [(.int 2, .int 30), (.int 4, .int 30)] := by decide
example : IsTopOf 2 exItems [(.int 2, .int 30), (.int 4, .int 30)] :=
  top_spec listPQ listPQLaw exItems 2 _ (by decide)
example : top goHeap [] .done 3 = .ok [] := by decide
example : top goHeap exItems .done (-1) = .ok [] := by decide
example : top goHeap [(.int 1, .int 1), (.int 2, .float 5)] .done 1 = .error := by decide
-- take: counts and items agree also for negative and oversized arguments
example : denote (.take (.arr exItems) (-1)) = ⟨[], .done, some 0⟩ := by decide
example : denote (.take (.arr exItems) 9) = ⟨exItems, .done, some 4⟩ := by decide
example : (denote (.take (.map (.arr exItems) (.addc 1)) 3)).count = some 3 := by decide
-- an error inside map ends the iteration where it happens; the reported count is not reached
example : denote (.map (.arr [(.int 1, .int 10), (.int 2, .str "x"), (.int 3, .int 5)]) (.addc 1))
    = ⟨[(.int 1, .int 11)], .err, some 3⟩ := by decide
example : denote (.filter (.arr exItems) (.gtc (.int 15)))
    = ⟨[(.int 2, .int 30), (.int 3, .int 20), (.int 4, .int 30)], .done, none⟩ := by decide
example : denote (.flatten (.cons (.arr exItems) (.cons (.arr []) (.cons (.take (.arr exItems) 1) .nil))))
    = ⟨exItems ++ [(.int 1, .int 10)], .done, none⟩ := by decide
example : sumByKey [(.str "a", .int 100), (.str "b", .int 50), (.str "a", .int 200)] .done
    = some [(.str "a", 300), (.str "b", 50)] := by decide
example : countValidKeys [(.int 1, .fid 0 "ns" 7), (.int 1, .fid 4 "" 0), (.int 2, .fid 4 "" 0)] .done
    = some [(.int 1, 1), (.int 2, 0)] := by decide
-- FindValue: binary search and scan agree on a sorted feature with duplicate keys
example : findValue true #[.int 1, .int 1, .int 2, .int 3] #[.str "a", .str "a2", .str "b", .str "c"] (.int 1)
    = some (.str "a") := by decide
example : SearchOk ([1, 1, 2, 3].map Val.int).toArray (.int 1) := searchOk_int _ (by decide) _
example : findValues true #[.int 1, .int 1, .int 2, .int 3] #[.str "a", .str "a2", .str "b", .str "c"] (.int 1)
    = [.str "a", .str "a2"] := by decide
-- b6.Less is not symmetric in its error behaviour: int vs float is an error, float vs int is not
example : goLess (.int 1) (.float 0) = none ∧ goLess (.float 0) (.int 1) = some true := by decide

example : IsTopOf 2 exItems [(.int 2, .int 30), (.int 4, .int 30)] := top_spec_goHeap exItems 2 _ (by decide)

end B6.Props.C24
