import B6.Model.Shell
import B6.Lemmas.Shell
import B6.Lemmas.ShellSpans
import B6.Lemmas.ShellLex
/-!
# C20 — Printed shell expressions parse back to the same expression

Theorems about `B6.Model.Shell`: the token-level printer (`SE.toks`, mirroring `UnparseExpression` with the
fixes/C20-*.patch applied), the recursive-descent parser for `shell.y` with the `reduce*` functions'
positions (`parseTop`), the parse-normal form (`SE.normC`) and the printable subset (`SE.printable false`).

"Equivalent" is made precise by `normC`: the parsed tree is the printed tree up to
* a bare symbol in a call position (top level, pipeline member, group, lambda body) is a call without
  arguments (`x` ≡ `x` applied to nothing — `Simplify` undoes this using the function's arity);
* `a | f b …` is parsed as `(f b …)` applied to `a`: `Call{f,[a,b,…],pipelined}` ↦ `Call{Call{f,[b,…]},[a],pipelined}`;
* a non-pipelined call without arguments prints like its function;
* `Intersection`/`Union` lists nest to the right and a single member stands for itself;
* a tag's value is its `String()`.

Two levels.  Token level (`parse_unparse_tokens`, `span_nesting_partial`, `print_parse_roundtrip`): the printed
tokens at any ordered positions, so any white space between them.  Text level (`se_lexable`, `lex_render`,
`print_parse_roundtrip_text`): the printer's spacing rule (`render`) and the model of `lexer.Lex` (`lex`, byte level;
feature-ID tokens: the ASCII ones, which `Tok.lexable` demands and `se_lexable`, `print_parse_roundtrip_text` assume as
`asciiID`), for strings and tag values that need no escape.  `toksOf` (the tokens of a positioned list) is defined in
`Lemmas/Shell`, `Sorted` (positions in order) in `Lemmas/ShellSpans`.

Outside the theorems: goyacc's tables, `%q` beyond the plain bytes, `strconv`'s float text, the Unicode tables behind
non-ASCII feature IDs (the tie compares the model's text and positioned parse tree with the real `UnparseExpression` /
`ParseExpression` on every generated case).
-/
namespace B6.Props.C20
open B6.Model.Shell B6.Model.FeatureID B6.Lemmas.Shell B6.Lemmas.ShellSpans B6.Lemmas.ShellLex

/-- **Print, then parse.**  For every expression in the printable subset, of any depth: the printer
succeeds with some tokens `ts`, and for every way of placing those tokens in a text (`pts`: the same
tokens with arbitrary positions, i.e. any amount of white space) the parser, given enough fuel, returns a
tree whose shape is the normal form of the expression. -/
theorem parse_unparse_tokens (e : SE) (esc : Bool) (hp : e.printable esc = true) (ts : List Tok)
    (hts : e.toks true = .ok ts) (pts : List PTok) (hpts : toksOf pts = ts) :
    ∃ n pe, PE.strip pe = e.normC ∧ ∀ F, parseTop (F + n) pts = .ok pe := by
  cases (toks_eq e hp).1.symm.trans hts
  obtain ⟨pe, hs, n, hn⟩ := (readsSE e hp).pipe.top hpts
  exact ⟨n, pe, hs, hn⟩

theorem printable_toks_ok : ∀ (e : SE) (esc : Bool), e.printable esc = true →
    (∃ ts, e.toks true = .ok ts) ∧ (∃ ts, e.toks false = .ok ts) :=
  fun e _ hp => ⟨⟨_, (toks_eq e hp).1⟩, ⟨_, (toks_eq e hp).2⟩⟩

theorem printableArgs_toks_ok : ∀ (es : SEL) (esc : Bool), es.printable esc = true → ∃ ts, es.toks = .ok ts :=
  fun es _ hp => ⟨_, toksArgs_eq es hp⟩

/-- `span_nesting_partial` without its hypothesis `noPoint`: false, `latlng_span_counterexample` -/
def span_nesting_statement : Prop :=
  ∀ (F lo : Nat) (pts : List PTok) (pe : PE), Sorted lo pts → parseTop F pts = .ok pe →
    pe.nested = true ∧ lo ≤ pe.b ∧ pe.b ≤ pe.e

/-- **Spans nest** — unless a `lat, lng` literal is involved.  For any token list whose positions are in order
(`Sorted`), whatever the parser returns — for *any* input, printed or not — has `begin ≤ end` on every node,
every child inside its parent, and starts at or after the first token, provided the parsed tree holds no
`lat, lng` literal (`PE.noPoint`; `reduceLatLng` gives those no position: finding `latlng-span`). -/
theorem span_nesting_partial (F lo : Nat) (pts : List PTok) (pe : PE) (hs : Sorted lo pts)
    (h : parseTop F pts = .ok pe) (hnp : pe.noPoint = true) :
    pe.nested = true ∧ lo ≤ pe.b ∧ pe.b ≤ pe.e := by
  simp only [parseTop] at h
  obtain ⟨⟨e, r⟩, h1, h2⟩ := PR.bind_ok h
  cases r with
  | nil =>
    simp only [PR.ok.injEq] at h2
    subst h2
    obtain ⟨hn, hb, hbe, _⟩ := (spans F).1 hs h1 hnp
    exact ⟨hn, hb, hbe⟩
  | cons x xs => simp at h2

/-- `f 1.0, 2.0` at positions 0‥1, 2‥5, 5‥6, 7‥10: the point gets the span [0,0), the call inherits `End = 0` -/
theorem latlng_span_counterexample : ¬ span_nesting_statement := by
  intro h
  have := h 10 0 [⟨.sym [102], 0, 1⟩, ⟨.float [49, 46, 48], 2, 5⟩, ⟨.p 44, 5, 6⟩, ⟨.float [50, 46, 48], 7, 10⟩]
    (.mk (.call (.mk (.sym [102]) 0 1) (.cons (.mk (.lit (.point [49, 46, 48] [50, 46, 48])) 0 0) .nil) false) 0 0)
    (by simp [Sorted]) rfl
  revert this
  decide +kernel

/-- **The property, at token level.**  A printable expression prints; its tokens, laid out at any ordered
positions, parse to the normal form of the expression; and the spans of the parsed tree nest (if it holds no
`lat, lng` literal). -/
theorem print_parse_roundtrip (e : SE) (esc : Bool) (hp : e.printable esc = true) :
    ∃ ts, e.toks true = .ok ts ∧ ∀ (pts : List PTok) (lo : Nat), toksOf pts = ts → Sorted lo pts →
      ∃ n pe, PE.strip pe = e.normC ∧ (pe.noPoint = true → pe.nested = true ∧ lo ≤ pe.b) ∧
        ∀ F, parseTop (F + n) pts = .ok pe := by
  obtain ⟨⟨ts, hts⟩, _⟩ := printable_toks_ok e esc hp
  refine ⟨ts, hts, fun pts lo hpts hs => ?_⟩
  obtain ⟨n, pe, hstrip, hparse⟩ := parse_unparse_tokens e esc hp ts hts pts hpts
  refine ⟨n, pe, hstrip, fun hnp => ?_, hparse⟩
  obtain ⟨hn, hb, _⟩ := span_nesting_partial (0 + n) lo pts pe hs (hparse 0) hnp
  exact ⟨hn, hb⟩

/-! ## the text layer: every token of a printable expression lexes back, a feature ID if it is ASCII -/

/-- the token is a feature ID whose printed form is ASCII, or not a feature ID at all.  The lexer reads
feature-ID tokens rune by rune (`unicode.IsLetter / IsDigit`); the model does too (with a hand-written extract of
the Unicode tables, tied by the run only), but `Tok.lexable` admits ASCII IDs only: this is the hypothesis of `se_lexable`
(inside `AllLex`) and of `print_parse_roundtrip_text`, not of `lex_render` -/
def asciiID : Tok → Bool
  | .id f => (unparse f true).all (· < 128)
  | _ => true

/-- every token lexes back, the feature IDs among them provided they are ASCII -/
def AllLex (ts : List Tok) : Prop := ∀ t ∈ ts, asciiID t = true → t.lexable = true

theorem allLex_append {a b : List Tok} (ha : AllLex a) (hb : AllLex b) : AllLex (a ++ b) :=
  List.forall_mem_append.2 ⟨ha, hb⟩

theorem allLex_single {t : Tok} (h : t.lexable = true) : AllLex [t] :=
  List.forall_mem_singleton.2 fun _ => h

theorem allLex_paren {ts : List Tok} (o c : Nat) (ho : isPunct o = true) (hc : isPunct c = true) (h : AllLex ts) :
    AllLex ([Tok.p o] ++ ts ++ [Tok.p c]) :=
  allLex_append (allLex_append (allLex_single ho) h) (allLex_single hc)

theorem idRunes_ascii : ∀ (F : Nat) (s : Bytes), idRunesOK F s = true → s.all (· < 128) = true →
    s.all isIDByte = true := by
  intro F s h ha
  fun_induction idRunesOK F s with
  | case1 s => rw [List.isEmpty_iff.mp h]; rfl
  | case2 => rfl
  | case3 F c cs hc ih =>
    simp only [List.all_cons, Bool.and_eq_true] at h ha ⊢
    exact ⟨h.1, ih h.2 ha.2⟩
  | case4 => cases h
  | case5 F c cs hc => simp [hc] at ha

theorem keyTok_lexable (k : Bytes) (hne : k ≠ []) (hk : keyBare k = true) : (keyTok k).lexable = true := by
  fun_cases keyTok k with
  | case1 r => simp only [keyBare, Bool.and_eq_true] at hk; simp [Tok.lexable, hk.2]
  | case2 r => simp only [keyBare, Bool.and_eq_true] at hk; simp [Tok.lexable, hk.2]
  | case3 _ h35 h64 =>
    cases k with
    | nil => exact absurd rfl hne
    | cons c rest =>
      simp only [keyBare, Bool.and_eq_true, Bool.or_eq_true, beq_iff_eq] at hk
      have hl : isLetter c = true := by
        rcases hk.1 with (h | h) | h
        · exact h
        · exact absurd (by rw [h]) (h35 rest)
        · exact absurd (by rw [h]) (h64 rest)
      simp [Tok.lexable, hl, hk.2]

theorem valueTok_lexable (v : Bytes) (hv : (valueBare v || plain v) = true) :
    (if valueBare v then Tok.sym v else Tok.str v).lexable = true := by
  by_cases hb : valueBare v = true
  · simp only [hb, ↓reduceIte]
    cases v with
    | nil => simp [valueBare] at hb
    | cons c rest => simpa [Tok.lexable, valueBare] using hb
  · simp only [hb, Bool.false_eq_true, ↓reduceIte]
    simp only [hb, Bool.false_or] at hv
    simpa [Tok.lexable, plain, plainByte] using hv

theorem tagToks_lexable (k v : Bytes) (hne : k ≠ []) (hk : keyBare k = true)
    (hv : (valueBare v || plain v) = true) : AllLex (tagToks k v) := by
  rw [tagToks_printable k v hk]
  exact allLex_append (allLex_single (keyTok_lexable k hne hk))
    (allLex_append (allLex_single (t := .p 61) rfl) (allLex_single (valueTok_lexable v hv)))

mutual
theorem q_lexable : ∀ (q : Q), q.printable false = true → AllLex q.toks ∧ AllLex q.subToks
  | .keyed k, hp => by
    simp only [Q.printable, Bool.and_eq_true, decide_eq_true_eq] at hp
    have := allLex_single (keyTok_lexable k hp.1 hp.2)
    exact ⟨this, this⟩
  | .tagged k v, hp => by
    simp only [Q.printable, Bool.and_eq_true, decide_eq_true_eq, Bool.or_false] at hp
    have := tagToks_lexable k v hp.1.1 hp.1.2 hp.2
    exact ⟨this, this⟩
  | .and qs, hp => by
    simp only [Q.printable] at hp
    have := ql_lexable qs 38 (by decide) hp
    exact ⟨this, allLex_paren 91 93 rfl rfl this⟩
  | .or qs, hp => by
    simp only [Q.printable] at hp
    have := ql_lexable qs 124 (by decide) hp
    exact ⟨this, allLex_paren 91 93 rfl rfl this⟩
theorem ql_lexable : ∀ (qs : QL) (op : Nat), isPunct op = true → qs.printable false = true → AllLex (qs.toks op)
  | .nil, _, _, hp => by simp [QL.printable] at hp
  | .cons q .nil, _, _, hp => by
    simp only [QL.printable] at hp
    simpa only [QL.toks] using (q_lexable q hp).2
  | .cons q (.cons q' qs'), op, hop, hp => by
    simp only [QL.printable, Bool.and_eq_true] at hp
    have h1 := (q_lexable q hp.1).2
    have h2 := ql_lexable (.cons q' qs') op hop (by simpa only [QL.printable, Bool.and_eq_true] using hp.2)
    simp only [QL.toks]
    exact allLex_append (allLex_append h1 (allLex_single hop)) h2
end

theorem lit_lexable (l : Lit) (hp : l.printable false = true) : AllLex l.toks := by
  cases l with
  | str s => exact allLex_single (by simpa [Lit.printable, plain, plainByte, Tok.lexable] using hp)
  | int i => exact allLex_single (by simpa [Lit.printable, Tok.lexable] using hp)
  | float t => exact allLex_single (by simpa [Lit.printable, Tok.lexable] using hp)
  | point lat lng =>
    simp only [Lit.printable, Bool.and_eq_true] at hp
    exact allLex_append (allLex_single (t := .float lat) hp.1)
      (allLex_append (allLex_single (t := .p 44) rfl) (allLex_single (t := .float lng) hp.2))
  | id f =>
    intro t ht hascii
    simp only [Lit.toks, List.mem_singleton] at ht
    subst ht
    simp only [Lit.printable, idLexable, Bool.and_eq_true, decide_eq_true_eq] at hp
    simp only [asciiID] at hascii
    simp only [Tok.lexable, Bool.and_eq_true, decide_eq_true_eq]
    exact ⟨⟨hp.1.1, hp.1.2⟩, idRunes_ascii _ _ hp.2 hascii⟩
  | tag k v =>
    simp only [Lit.printable, Bool.and_eq_true, decide_eq_true_eq, Bool.or_false] at hp
    exact tagToks_lexable k v hp.1.1 hp.1.2 hp.2
  | query q =>
    simp only [Lit.printable] at hp
    exact allLex_paren 91 93 rfl rfl (q_lexable q hp).1

theorem sym_lexable : ∀ {s : Bytes}, symbolLike s = true → (Tok.sym s).lexable = true
  | [], h => nomatch h
  | _ :: _, h => h

theorem lambdaHead_lexable : ∀ (ps : List Bytes), ps.all symbolLike = true → AllLex (lambdaHead ps)
  | [], _ => by intro t ht _; simp [lambdaHead] at ht
  | [p], h => by
    simp only [List.all_cons, List.all_nil, Bool.and_true] at h
    exact allLex_single (sym_lexable h)
  | p :: p' :: ps, h => by
    simp only [List.all_cons, Bool.and_eq_true] at h
    have ih := lambdaHead_lexable (p' :: ps) (by simpa only [List.all_cons, Bool.and_eq_true] using h.2)
    simp only [lambdaHead]
    exact allLex_append (allLex_single (sym_lexable h.1)) (allLex_append (allLex_single (t := .p 44) rfl) ih)

theorem allLex_argParen (e : SE) {ts : List Tok} (h : AllLex ts) : AllLex (argParen e ts) := by
  cases e with
  | call f as p => exact allLex_paren 40 41 rfl rfl h
  | _ => exact h

mutual
theorem ptoks_lexable : ∀ (e : SE), e.printable false = true → AllLex (ptoks e)
  | .sym s, hp => allLex_single (sym_lexable hp)
  | .lit l, hp => lit_lexable l (by simpa only [SE.printable] using hp)
  | .lambda ps body, hp => by
    simp only [SE.printable, Bool.and_eq_true] at hp
    simpa only [ptoks, List.append_assoc] using allLex_paren 123 125 rfl rfl
      (allLex_append (allLex_append (lambdaHead_lexable ps hp.1) (allLex_single rfl)) (ptoks_lexable body hp.2))
  | .call f .nil false, hp => by
    simp only [SE.printable, Bool.and_eq_true] at hp
    exact ptoks_lexable f hp.1.2
  | .call f (.cons a as) false, hp => by
    simp only [SE.printable, Bool.and_eq_true] at hp
    exact allLex_append (ptoks_lexable f hp.1.2) (ptoksArgs_lexable (.cons a as) hp.2)
  | .call _ .nil true, hp => by simp [SE.printable] at hp
  | .call f (.cons a0 .nil) true, hp => by
    simp only [SE.printable, Bool.and_eq_true] at hp
    have h2 := ptoks_lexable f hp.1
    have h3 : AllLex (pipedParen f (ptoks f)) := by
      unfold pipedParen
      split
      · exact allLex_paren 40 41 rfl rfl h2
      · exact h2
    exact allLex_append (allLex_append (ptoks_lexable a0 hp.2) (allLex_single rfl)) h3
  | .call f (.cons a0 (.cons a1 as)) true, hp => by
    simp only [SE.printable, Bool.and_eq_true] at hp
    exact allLex_append (allLex_append (ptoks_lexable a0 hp.1.2) (allLex_single rfl))
      (allLex_append (ptoks_lexable f hp.1.1.2) (ptoksArgs_lexable (.cons a1 as) hp.2))
theorem ptoksArgs_lexable : ∀ (es : SEL), es.printable false = true → AllLex (ptoksArgs es)
  | .nil, _ => fun t ht => nomatch ht
  | .cons e es, hp => by
    simp only [SEL.printable, Bool.and_eq_true] at hp
    exact allLex_append (allLex_argParen e (ptoks_lexable e hp.1)) (ptoksArgs_lexable es hp.2)
end

theorem se_lexable : ∀ (e : SE), e.printable false = true → ∀ (top : Bool) ts, e.toks top = .ok ts → AllLex ts := by
  intro e hp top ts h
  cases top with
  | true => cases (toks_eq e hp).1.symm.trans h; exact ptoks_lexable e hp
  | false => cases (toks_eq e hp).2.symm.trans h; exact allLex_argParen e (ptoks_lexable e hp)

theorem sel_lexable : ∀ (es : SEL), es.printable false = true → ∀ ts, es.toks = .ok ts → AllLex ts := by
  intro es hp ts h
  cases (toksArgs_eq es hp).symm.trans h
  exact ptoksArgs_lexable es hp

/-- **`lex ∘ render`.**  For every list of lexable tokens the text written by the printer's spacing rule
lexes to exactly those tokens, in order, each with the span `[b, e)` of the text that was written for it. -/
theorem lex_render (ts : List Tok) (h : ∀ t ∈ ts, t.lexable = true) :
    ∃ pts, lex (render ts) = .ok pts ∧ toksOf pts = ts ∧ Sorted 0 pts ∧
      ∀ pt ∈ pts, pt.e = pt.b + pt.tok.text.length ∧
        ((render ts).drop pt.b).take (pt.e - pt.b) = pt.tok.text := by
  refine ⟨place ts 0, B6.Lemmas.ShellLex.lex_render ts h, toks_place ts 0, sorted_place ts 0 0 (Nat.le_refl _), ?_⟩
  intro pt hpt
  obtain ⟨_, h2, h3⟩ := slices_place ts 0 pt hpt
  exact ⟨h2, by simpa using h3⟩

/-- **The property at the text level.**  A printable expression (strings and tag values without escapes — see
the finding `string-needs-escape` —, finite floats in the printer's decimal form) prints to a text; lexing that
text gives back the printed tokens with spans that hold exactly their texts (feature-ID tokens: ASCII ones;
non-ASCII namespaces are covered by the rune-level model and the run, not by this theorem); parsing those tokens
gives the normal form of the expression; and the spans of the parsed tree nest (if it holds no `lat, lng`). -/
theorem print_parse_roundtrip_text (e : SE) (hp : e.printable false = true)
    (hascii : ∀ ts, e.toks true = .ok ts → ∀ t ∈ ts, asciiID t = true) :
    ∃ ts, e.toks true = .ok ts ∧
      ∃ pts, lex (render ts) = .ok pts ∧ toksOf pts = ts ∧
        (∀ pt ∈ pts, pt.e = pt.b + pt.tok.text.length ∧
          ((render ts).drop pt.b).take (pt.e - pt.b) = pt.tok.text) ∧
        ∃ n pe, PE.strip pe = e.normC ∧ (pe.noPoint = true → pe.nested = true) ∧
          ∀ F, parseTop (F + n) pts = .ok pe := by
  obtain ⟨ts, hts, hrt⟩ := print_parse_roundtrip e false hp
  have hall : ∀ t ∈ ts, t.lexable = true := fun t ht => se_lexable e hp true ts hts t ht (hascii ts hts t ht)
  obtain ⟨pts, hlex, htoks, hsorted, hslices⟩ := lex_render ts hall
  obtain ⟨n, pe, hstrip, hnest, hparse⟩ := hrt pts 0 htoks hsorted
  exact ⟨ts, hts, pts, hlex, htoks, hslices, n, pe, hstrip, fun h => (hnest h).1, hparse⟩

/-- `find [#amenity=cafe & [#a | b]] | filter {u -> gt (count u) 1}` with the pipeline in the client's flat shape -/
def sample : SE :=
  .call (.sym (bytes! "filter"))
    (.cons (.call (.sym (bytes! "find"))
        (.cons (.lit (.query (.and (.cons (.tagged (bytes! "#amenity") (bytes! "cafe"))
          (.cons (.or (.cons (.keyed (bytes! "#a")) (.cons (.keyed (bytes! "b")) .nil))) .nil))))) .nil) false)
      (.cons (.lambda [bytes! "u"]
        (.call (.sym (bytes! "gt"))
          (.cons (.call (.sym (bytes! "count")) (.cons (.sym (bytes! "u")) .nil) false)
            (.cons (.lit (.int 1)) .nil)) false)) .nil)) true

example : sample.printable false = true := by decide +kernel

example : (match sample.toks true with | .ok ts => render ts | _ => []) =
    bytes! "find [#amenity=cafe & [#a | b]] | filter {u -> gt (count u) 1}" := by decide +kernel

/-- the text layer is where strings break (finding `string-needs-escape`): the printed form of the string
`a"b` does not lex -/
theorem string_escape_counterexample : lex (render [Tok.str (bytes! "a\"b")]) = .err := by decide +kernel

/-- … while a plain string lexes back to the token it was printed from -/
example : (match lex (render [Tok.sym (bytes! "f"), Tok.str (bytes! "a b")]) with
    | .ok ts => ts.map (·.tok) | _ => []) = [Tok.sym (bytes! "f"), Tok.str (bytes! "a b")] := by decide +kernel

end B6.Props.C20
