import B6.Spec.Query
import B6.Props.C21
import B6.Lemmas.SimplifyFO3
import B6.Lemmas.EvalGuards
/-!
C22 — simplification never changes a program's result.

Model: `B6.Model.Simplify` mirrors `api.Simplify` (shell.go) with the repairs
`fixes/C22-eta-reduction.patch` and `fixes/C22-function-position.patch`, including what Go's slice
sharing does to the output tree; tied to the code on every run (`harness/cmd/c22`: returned tree,
argument tree afterwards, and `Evaluate` of both programs).

The property has a syntactic and a semantic half.  The syntactic one, `simplify_scope`, holds for all programs and any
function table; the unrepaired code violated both of its clauses (`{a -> add a a}` ↦ `add a`;
`{f -> pair (({-> f}) 5 6) 1}` ↦ `{f -> pair (f 5 6) 1}`: corpus witnesses of the harness).  The semantic one,
`simplify_preserves_statement`, is proved for lambda-free programs (`simplify_preserves_lambda_free`).  With lambdas it
is not: `{a -> f a}` and `f` are different values and closure bodies are rewritten, so it needs a fuel-indexed relation
on closures; proved there is each rewrite step at the root of a program and, for two of them, at any argument position
outside lambdas.  Its side condition is forced: `shadow_capture_counterexample` (finding `shadowed-global`).  The
correspondence run compares `Evaluate e` with `Evaluate (Simplify e)` and both with the interpreter on every generated
program; `evalpair_reduces_to_interp` says what the first comparison amounts to.
-/
namespace B6.Props.C22
open B6.Model B6.Spec

/-! ### query flattening keeps what a query matches -/

theorem denoteAll_append (leaf : Query → Bool) (ty : String → Bool) : ∀ (as bs : List Query),
    denoteAll leaf ty (as ++ bs) = (denoteAll leaf ty as && denoteAll leaf ty bs)
  | [], bs => by simp [denoteAll]
  | a :: as, bs => by simp [denoteAll, denoteAll_append leaf ty as bs, Bool.and_assoc]

theorem denoteAny_append (leaf : Query → Bool) (ty : String → Bool) : ∀ (as bs : List Query),
    denoteAny leaf ty (as ++ bs) = (denoteAny leaf ty as || denoteAny leaf ty bs)
  | [], bs => by simp [denoteAny]
  | a :: as, bs => by simp [denoteAny, denoteAny_append leaf ty as bs, Bool.or_assoc]

theorem denoteAll_splice (leaf : Query → Bool) (ty : String → Bool) (q : Query) :
    denoteAll leaf ty (match q with | .inter xs => xs | q' => [q']) = denote leaf ty q := by
  cases q <;> simp [denote, denoteAll]

theorem denoteAny_splice (leaf : Query → Bool) (ty : String → Bool) (q : Query) :
    denoteAny leaf ty (match q with | .union xs => xs | q' => [q']) = denote leaf ty q := by
  cases q <;> simp [denote, denoteAny]

mutual
  /-- the canonical form in which the check compares query values (`Query.canon`: flattening at
  every depth, also under `Typed`) matches the same features -/
  theorem canon_denote (leaf : Query → Bool) (ty : String → Bool) :
      (q : Query) → denote leaf ty q.canon = denote leaf ty q
    | .inter qs => by simp only [Query.canon, denote]; exact canonInter_denote leaf ty qs
    | .union qs => by simp only [Query.canon, denote]; exact canonUnion_denote leaf ty qs
    | .typed t q => by simp only [Query.canon, denote, canon_denote leaf ty q]
    | .keyed _ | .tagged _ _ | .other _ => by simp [Query.canon]
  theorem canonInter_denote (leaf : Query → Bool) (ty : String → Bool) :
      (qs : List Query) → denoteAll leaf ty (canonInter qs) = denoteAll leaf ty qs
    | [] => by rw [canonInter]
    | q :: qs => by
      rw [canonInter, denoteAll_append, canonInter_denote leaf ty qs, denoteAll, ← canon_denote leaf ty q]
      exact congrArg (· && _) (denoteAll_splice leaf ty _)
  theorem canonUnion_denote (leaf : Query → Bool) (ty : String → Bool) :
      (qs : List Query) → denoteAny leaf ty (canonUnion qs) = denoteAny leaf ty qs
    | [] => by rw [canonUnion]
    | q :: qs => by
      rw [canonUnion, denoteAny_append, canonUnion_denote leaf ty qs, denoteAny, ← canon_denote leaf ty q]
      exact congrArg (· || _) (denoteAny_splice leaf ty _)
end

/-- queries with the same canonical form match the same features: what comparing query values up to `canon` rests on -/
theorem denote_of_canon (leaf : Query → Bool) (ty : String → Bool) {q' q : Query} (h : q'.canon = q.canon) :
    denote leaf ty q' = denote leaf ty q := by
  rw [← canon_denote leaf ty q', h, canon_denote]

/-- **simplify_query_denote.** `simplifyQuery` (the flattening `Simplify` applies to every query
literal it meets or builds) matches exactly the features the original query matches. -/
theorem simplify_query_denote (leaf : Query → Bool) (ty : String → Bool) :
    (q : Query) → denote leaf ty (simplifyQuery q) = denote leaf ty q :=
  fun q => denote_of_canon leaf ty (B6.Lemmas.SimplifyFO.canon_simplifyQuery q)

theorem flattenInter_denote (leaf : Query → Bool) (ty : String → Bool) :
    (qs : List Query) → denoteAll leaf ty (flattenInter qs) = denoteAll leaf ty qs :=
  fun qs => simplify_query_denote leaf ty (.inter qs)

theorem flattenUnion_denote (leaf : Query → Bool) (ty : String → Bool) :
    (qs : List Query) → denoteAny leaf ty (flattenUnion qs) = denoteAny leaf ty qs :=
  fun qs => simplify_query_denote leaf ty (.union qs)

/-- non-vacuity: a nested query really is flattened, and under `Typed` only by `canon` -/
example :
    simplifyQuery (.inter [.keyed "a", .inter [.keyed "b", .union [.keyed "c", .union [.keyed "d"]]]])
      = .inter [.keyed "a", .keyed "b", .union [.keyed "c", .keyed "d"]] := rfl
example : simplifyQuery (.typed "area" (.inter [.inter [.keyed "a"]])) = .typed "area" (.inter [.inter [.keyed "a"]])
    ∧ Query.canon (.typed "area" (.inter [.inter [.keyed "a"]])) = .typed "area" (.inter [.keyed "a"]) := ⟨rfl, rfl⟩

open B6.Lemmas.Simplify in
/-- **simplify_scope.** For every program and every function table: a symbol that is free in value
position in `Simplify e` is free in value position in `e` or is the name of a global function, and a
symbol in function position in `Simplify e` is in function position in `e` or is the name of a
global function.  (`Simplify.scopeOK` is the same predicate the driver evaluates on the tree the Go
code returns.) -/
theorem simplify_scope (argc : String → Option Nat) (e s : Expr) (h : simplifyWith argc e = some s) :
    Simplify.scopeOK argc e s = true := by
  obtain ⟨m, hb⟩ := simplifyWith_eq_some h
  have h1 := ((simplifyBoth_good argc (e.size + 1)).sub false e s m hb).1
  have h2 := ((simplifyBoth_good argc (e.size + 1)).sub true e s m hb).1
  simp only [Simplify.scopeOK, Bool.and_eq_true, List.all_eq_true, Bool.or_eq_true, List.contains_iff_mem]
  exact ⟨fun x hx => h1 x hx, fun x hx => h2 x hx⟩

private def i (n : Int) : Expr := .lit (.int n)
private def c (f : Expr) (as : List Expr) : Expr := .call f as false

/-- non-vacuity: programs on which each rule fires, and the repaired η-rule refusing the shapes the
old code mangled -/
example : simplify (.lam ["a"] (c (.sym "first") [.sym "a"])) = some (.sym "first") := rfl
example : simplify (.lam ["a"] (c (.sym "mix") [.sym "a", i 2, i 3])) = some (c (.sym "mix") [i 2, i 3]) := rfl
example : simplify (.lam ["a"] (c (.sym "add") [.sym "a", .sym "a"]))
    = some (.lam ["a"] (c (.sym "add") [.sym "a", .sym "a"])) := rfl
example : simplify (.lam ["a", "b"] (c (.sym "first") [.sym "a"]))
    = some (.lam ["a", "b"] (c (.sym "first") [.sym "a"])) := rfl
example : simplify (c (.sym "pair") [c (.sym "add") [], c (.lam [] (c (.sym "sub") [i 1, i 2])) []])
    = some (c (.sym "pair") [.sym "add", c (.sym "sub") [i 1, i 2]]) := rfl
example : simplify (c (.sym "and") [c (.sym "keyed") [.lit (.str "a")], .lit (.query (.inter [.keyed "b", .keyed "c"]))])
    = some (.lit (.query (.inter [.keyed "a", .keyed "b", .keyed "c"]))) := rfl
/-- the body of a lambda keeps its unsimplified root (the copy `lambda.Expression` is dropped), but
arguments inside it are rewritten in place -/
example : simplify (.lam ["x"] (c (c (.sym "add") []) [c (.sym "sub") []]))
    = some (.lam ["x"] (c (c (.sym "add") []) [.sym "sub"])) := rfl
/-- fix C22-function-position: the nullary call stays when its body is a lambda parameter -/
example : simplify (.lam ["f"] (c (.sym "pair") [c (c (.lam [] (.sym "f")) []) [i 5, i 6], i 1]))
    = some (.lam ["f"] (c (.sym "pair") [c (c (.lam [] (.sym "f")) []) [i 5, i 6], i 1])) := rfl

/-- The semantic half of the property, with the side condition the counterexample below forces:
for a well-formed program in which no lambda parameter is named like a global function, the
simplified program has the same observable outcome as the original (data structurally, queries up to
`Query.canon`, functions by arity), given enough fuel. -/
def simplify_preserves_statement : Prop :=
  ∀ (e s : Expr), wellFormed e = true → Simplify.shadowsGlobal e = false → simplify e = some s →
    ∀ (fuel : Nat), interp fuel e ≠ .error .fuel →
      ∃ fuel', (interp fuel' s).map (fun v => (Simplify.canonVal v).obs)
             = (interp fuel e).map (fun v => (Simplify.canonVal v).obs)

/-- **evalpair_reduces_to_interp.** What the correspondence run compares is `Evaluate e` against
`Evaluate (Simplify e)`, both on the VM.  For two programs in C21's fragment `Expr.regSafe` that comparison is the
comparison of the interpreter's meanings — C21 `vm_lambda_partial` on both sides.  Outside the
fragment a VM difference between programs the language identifies is C21's finding (class
`vm-closure-registers` of the C22 driver = `!regSafe` of either tree). -/
theorem evalpair_reduces_to_interp (fuel : Nat) (e s : Expr) (he : e.regSafe = true) (hs : s.regSafe = true) :
    ((VM.run fuel e).map Val.obs = (VM.run fuel s).map Val.obs) ↔
      ((interp fuel e).map Val.obs = (interp fuel s).map Val.obs) := by
  rw [B6.Props.C21.vm_lambda_partial fuel e he, B6.Props.C21.vm_lambda_partial fuel s hs]

/-- non-vacuity: an η-shaped lambda and its simplification are both in the fragment -/
example : simplify (c (.sym "call1") [.lam ["a"] (c (.sym "first") [.sym "a"]), c (.sym "pair") [i 1, i 2]])
      = some (c (.sym "call1") [.sym "first", c (.sym "pair") [i 1, i 2]]) ∧
    Expr.regSafe (c (.sym "call1") [.lam ["a"] (c (.sym "first") [.sym "a"]), c (.sym "pair") [i 1, i 2]]) = true ∧
    Expr.regSafe (c (.sym "call1") [.sym "first", c (.sym "pair") [i 1, i 2]]) = true := ⟨rfl, rfl, rfl⟩

/-- `({-> b})` ↦ `b`: evaluating the nullary call with one more unit of fuel is evaluating the body -/
theorem beta0_step (fuel : Nat) (env : Env) (b : Expr) (p : Bool) :
    evalWith (applyFn (fuel + 1)) env (.call (.lam [] b) [] p) = evalWith (applyFn fuel) env b :=
  B6.Lemmas.InterpFuel.beta0_eval fuel env b p

/-- `(f)` ↦ `f` for a non-variadic global function `f` that wants arguments: the call makes a partial application
holding no arguments, and applying that is applying `f` -/
theorem noarg_step (fuel : Nat) (env : Env) (b : Builtin) (p : Bool) (hv : b.variadic = none) (hb : b.arity > 0)
    (hn : Builtin.ofName b.name = some b) :
    evalWith (applyFn (fuel + 1)) env (.call (.sym b.name) [] p) = .ok (.part (.builtin b) [] []) ∧
    ∀ args, args.length = b.arity →
      applyFn (fuel + 2) (.part (.builtin b) [] []) args = applyFn (fuel + 1) (.builtin b) args := by
  have hp : B6.Lemmas.SimplifyFO.FnLike (.part (.builtin b) [] []) b ([] ++ []) := .part (.base b) (by simpa using hb)
  refine ⟨B6.Lemmas.SimplifyFO.noarg_eval hn hv hb fuel env p, fun args hargs => ?_⟩
  · simpa [B6.Lemmas.SimplifyFO.depth] using B6.Lemmas.SimplifyFO.chain_eq (fuel + 1) args hp (by simpa using hargs)

/-- `and [a] [b]` ↦ `[a & b]` (likewise `or`): the call evaluates to the query the literal denotes -/
theorem build_query_step (fuel : Nat) (env : Env) (a b : Query) (p : Bool) :
    evalWith (applyFn (fuel + 1)) env (.call (.sym "and") [.lit (.query a), .lit (.query b)] p)
      = .ok (.query (.inter [a, b])) ∧
    evalWith (applyFn (fuel + 1)) env (.call (.sym "or") [.lit (.query a), .lit (.query b)] p)
      = .ok (.query (.union [a, b])) :=
  open B6.Lemmas.InterpFuel in
  ⟨evalWith_call_lits B6.Lemmas.SimplifyFO.ofName_and _ env [.query a, .query b] p,
   evalWith_call_lits B6.Lemmas.SimplifyFO.ofName_or _ env [.query a, .query b] p⟩

/-! ### fuel monotonicity; the value-preserving steps under argument contexts -/

/-- **interp_mono.** An outcome of the interpreter other than "out of fuel" is the outcome for every
larger fuel. -/
theorem interp_mono (fuel k : Nat) (e : Expr) (h : interp fuel e ≠ .error .fuel) :
    interp (fuel + k) e = interp fuel e := B6.Lemmas.InterpFuel.interp_mono fuel k e h

open B6.Lemmas.InterpFuel in
/-- **beta0_context.** `({-> b})` ↦ `b` at any argument position of a program (any depth of calls, not
under a lambda): whenever the original program has an outcome with some fuel, the rewritten program
has the same outcome with the same fuel (`beta0_step` and `applyFn_mono`, lifted through contexts by `Refines.fill`). -/
theorem beta0_context (c : ArgCtx) (b : Expr) (p : Bool) (fuel : Nat)
    (h : interp fuel (c.fill (.call (.lam [] b) [] p)) ≠ .error .fuel) :
    interp fuel (c.fill b) = interp fuel (c.fill (.call (.lam [] b) [] p)) :=
  interp_refines ((beta0_refines b p).fill c) ((beta0_statics b p).fill c) fuel h

open B6.Lemmas.InterpFuel in
/-- **build_query_context.** `and [a] [b]` ↦ `[a & b]`, `or [a] [b]` ↦ `[a | b]` (the literal before
`simplifyQuery`, whose effect is `simplify_query_denote`) at any argument position. -/
theorem build_query_context (c : ArgCtx) (a b : Query) (p : Bool) (fuel : Nat) :
    (interp fuel (c.fill (.call (.sym "and") [.lit (.query a), .lit (.query b)] p)) ≠ .error .fuel →
      interp fuel (c.fill (.lit (.query (.inter [a, b]))))
        = interp fuel (c.fill (.call (.sym "and") [.lit (.query a), .lit (.query b)] p))) ∧
    (interp fuel (c.fill (.call (.sym "or") [.lit (.query a), .lit (.query b)] p)) ≠ .error .fuel →
      interp fuel (c.fill (.lit (.query (.union [a, b]))))
        = interp fuel (c.fill (.call (.sym "or") [.lit (.query a), .lit (.query b)] p))) :=
  ⟨call_lits_context B6.Lemmas.SimplifyFO.ofName_and [.query a, .query b] _ p (fun _ => rfl) c fuel,
   call_lits_context B6.Lemmas.SimplifyFO.ofName_or [.query a, .query b] _ p (fun _ => rfl) c fuel⟩

open B6.Lemmas.InterpFuel in
/-- non-vacuity: `pair 1 (sub (({-> add 1 2})) 1)` -/
example :
    (ArgCtx.arg (.sym "pair") [i 1] (.arg (.sym "sub") [] .hole [i 1] false) [] false).fill
        (c (.lam [] (c (.sym "add") [i 1, i 2])) [])
      = c (.sym "pair") [i 1, c (.sym "sub") [c (.lam [] (c (.sym "add") [i 1, i 2])) [], i 1]] ∧
    interp 5 (c (.sym "pair") [i 1, c (.sym "sub") [c (.lam [] (c (.sym "add") [i 1, i 2])) [], i 1]])
      = .ok (.pair (.int 1) (.int 2)) := ⟨rfl, rfl⟩

/-! ### meaning preservation on lambda-free programs -/

/-- **simplify_preserves_lambda_free** (the `_partial` of `simplify_preserves_statement`).  For every
well-formed program without lambda expressions, every fuel with which the program has an outcome, the
simplified program has — with the same fuel — the same outcome: the same error, or a value with the same
observation (data structurally, queries up to `Query.canon`, functions by arity).  Covers every rewrite
`Simplify` performs on such programs at any depth: `(f)` ↦ `f` (also in function position:
`((add)) 1 2` ↦ `add 1 2`), building query literals from `and / or / typed / keyed / tagged` calls,
flattening query literals, and the in-place rewriting of the argument tree.  Function values (builtins
and partial applications at any depth, with any arguments) are compared by a simulation that normalises
chains of partial applications (`Lemmas/SimplifyFO*`: `Sim`, `apply_sim`, `simplifyBoth_sim`). -/
theorem simplify_preserves_lambda_free (e s : Expr) (hl : e.lambdaFree = true) (hw : wellFormed e = true)
    (hs : simplify e = some s) (fuel : Nat) (hne : interp fuel e ≠ .error .fuel) :
    (interp fuel s).map (fun v => (Simplify.canonVal v).obs) =
      (interp fuel e).map (fun v => (Simplify.canonVal v).obs) := by
  have hsl := B6.Lemmas.EvalGuards.simplify_lambdaFree e s hl hs
  obtain ⟨m, h1⟩ := B6.Lemmas.Simplify.simplifyWith_eq_some hs
  obtain ⟨hS, _⟩ := B6.Lemmas.SimplifyFO.simplifyBoth_sim _ e s m hl h1
  have he : interp fuel e = evalWith (applyFn fuel) [] e := by simp [interp, hw]
  rw [he] at hne ⊢
  have r := hS fuel hne
  unfold interp
  cases hws : wellFormed s with
  | true => exact r.map_cobs
  | false =>
    have hwf : wfAt [] s = false := B6.Props.C21.wellFormed_of_lambdaFree hsl ▸ hws
    -- an ill-formed `s` evaluates to an error, so `e` does too; it is neither "fuel" nor a panic
    obtain ⟨err, herr⟩ := B6.Lemmas.SimplifyFO.illformed_error (applyFn fuel) s hsl hwf
    rw [herr] at r
    obtain ⟨err', h1, h2⟩ | ⟨_, _, h1, _⟩ := r.follows.inv
    · have hnp := B6.Lemmas.EvalGuards.evalWith_noPanic (applyFn fuel) (B6.Lemmas.EvalGuards.applyFn_noPanic fuel) [] e
      rw [h2] at hne hnp ⊢
      cases err'
      · rfl
      · exact absurd rfl hnp
      · exact absurd rfl hne
    · cases h1

/-- non-vacuity: `pair (((sub)) 1 5) (and [a] [b & c])` ↦ `pair (sub 1 5) [a & b & c]` -/
example :
    simplify (c (.sym "pair") [c (c (.sym "sub") []) [i 1, i 5],
        c (.sym "and") [.lit (.query (.keyed "a")), .lit (.query (.inter [.keyed "b", .keyed "c"]))]])
      = some (c (.sym "pair") [c (.sym "sub") [i 1, i 5], .lit (.query (.inter [.keyed "a", .keyed "b", .keyed "c"]))]) ∧
    Expr.lambdaFree (c (.sym "pair") [c (c (.sym "sub") []) [i 1, i 5],
        c (.sym "and") [.lit (.query (.keyed "a")), .lit (.query (.inter [.keyed "b", .keyed "c"]))]]) = true ∧
    wellFormed (c (.sym "pair") [c (c (.sym "sub") []) [i 1, i 5],
        c (.sym "and") [.lit (.query (.keyed "a")), .lit (.query (.inter [.keyed "b", .keyed "c"]))]]) = true ∧
    interp 5 (c (.sym "pair") [c (c (.sym "sub") []) [i 1, i 5],
        c (.sym "and") [.lit (.query (.keyed "a")), .lit (.query (.inter [.keyed "b", .keyed "c"]))]])
      = .ok (.pair (.int (-4)) (.query (.inter [.keyed "a", .inter [.keyed "b", .keyed "c"]]))) := ⟨rfl, rfl, rfl, rfl⟩

/-- `simplify_preserves_statement` restricted to lambda-free programs (its conclusion holds with
`fuel' = fuel`; the side condition on parameter names is vacuous without lambdas) -/
theorem simplify_preserves_statement_lambda_free :
    ∀ (e s : Expr), e.lambdaFree = true → wellFormed e = true → Simplify.shadowsGlobal e = false →
      simplify e = some s → ∀ (fuel : Nat), interp fuel e ≠ .error .fuel →
        ∃ fuel', (interp fuel' s).map (fun v => (Simplify.canonVal v).obs)
               = (interp fuel e).map (fun v => (Simplify.canonVal v).obs) :=
  fun e s hl hw _ hs fuel hne => ⟨fuel, simplify_preserves_lambda_free e s hl hw hs fuel hne⟩

/-- the proved part of `simplify_preserves_statement` -/
theorem simplify_preserves_partial (e s : Expr) (hl : e.lambdaFree = true) (hw : wellFormed e = true)
    (hs : simplify e = some s) (fuel : Nat) (hne : interp fuel e ≠ .error .fuel) :
    (interp fuel s).map (fun v => (Simplify.canonVal v).obs) =
      (interp fuel e).map (fun v => (Simplify.canonVal v).obs) :=
  simplify_preserves_lambda_free e s hl hw hs fuel hne

section variadic
open B6.Model.Simplify

/-- the encoding `argcOf` reproduces the guard of `simplifyCallWithNoArguments`: `(f)` becomes `f`
exactly when `ArgCount` knows `f`, wants arguments, and `f` is not variadic; otherwise the call stays -/
theorem postCall_argcOf (count : String → Option Nat) (variadic : String → Bool)
    (simp : Expr → Option (Expr × Expr)) (s : String) (p : Bool) :
    postCall (argcOf count variadic) simp (.sym s) [] p =
      some (if noargGuard count variadic s then .sym s else .call (.sym s) [] p) := by
  unfold postCall argcOf noargGuard
  cases count s with
  | none => simp
  | some n =>
    cases variadic s <;> simp
    by_cases hn : n > 0 <;> simp [hn]

/-- the encoding `argcOf` reproduces `canDropLambdaArgs` (called with a non-empty parameter list that
is a prefix of the arguments): the count must equal the number of arguments and the function must not
be variadic -/
theorem canDrop_argcOf (count : String → Option Nat) (variadic : String → Bool)
    (ps : List String) (s : String) (args : List Expr) (hps : ps ≠ []) (hm : matchPrefix ps args = ps.length) :
    canDrop (argcOf count variadic) ps (.sym s) args =
      (count s == some args.length && !variadic s && ps.Nodup &&
        (args.drop ps.length).all (fun r => !isCallExpr r && ps.all (fun p => !mentions p r))) := by
  -- a non-empty parameter list matched as a prefix: there is at least one argument
  have hlen : (0 == args.length) = false := by
    cases args with
    | nil => cases ps <;> simp_all [matchPrefix]
    | cons _ _ => rfl
  unfold canDrop argcOf
  cases hc : count s with
  | none => simp [hc]
  | some n => cases hv : variadic s <;> simp [hc, hv, hlen]

/-- a variadic function called without arguments is left alone: `(collection)` is a complete call (the
empty collection), not the function `collection` -/
theorem noarg_variadic_kept (simp : Expr → Option (Expr × Expr)) (s : String) (p : Bool)
    (hv : variadicName s = true) :
    postCall tableArgcV simp (.sym s) [] p = some (.call (.sym s) [] p) := by
  unfold tableArgcV
  rw [postCall_argcOf]
  have : noargGuard tableCount variadicName s = false := by
    unfold noargGuard
    cases tableCount s <;> simp [hv]
  simp [this]

/-- **noarg_rewrite_sound.** With the function table of the run, `simplifyCallWithNoArguments` rewrites
`(f)` to `f` only for a global function `f` of the table that is not variadic and wants at least one
argument — and for those `(f)` and `f` denote the same function: the call evaluates to a partial
application holding no arguments, and applying that to the full argument list is applying `f`. -/
theorem noarg_rewrite_sound (simp : Expr → Option (Expr × Expr)) (s : String) (p : Bool)
    (h : postCall tableArgcV simp (.sym s) [] p = some (.sym s)) :
    variadicName s = false ∧ ∃ b, Builtin.ofName s = some b ∧ b.arity > 0 ∧
      ∀ (fuel : Nat) (env : Env),
        evalWith (applyFn (fuel + 1)) env (.call (.sym s) [] p) = .ok (.part (.builtin b) [] []) ∧
        ∀ args, args.length = b.arity →
          applyFn (fuel + 2) (.part (.builtin b) [] []) args = applyFn (fuel + 1) (.builtin b) args := by
  have hn : ∃ n, tableArgcV s = some n ∧ n > 0 := by
    obtain h' | ⟨x, n, hx, -, hn, hpos, -⟩ | ⟨_, _, hf, -⟩ | ⟨_, _, -, -, hq⟩ := B6.Lemmas.Simplify.postCall_inv h
    · cases h'
    · cases hx; exact ⟨n, hn, hpos⟩
    · cases hf
    · cases hq
  obtain ⟨n, hn, hpos⟩ := hn
  obtain ⟨b, hb, hv, ha⟩ := B6.Lemmas.SimplifyFO.tableArgcV_pos hn hpos
  cases B6.Lemmas.SimplifyFO.ofName_name hb
  refine ⟨?_, b, hb, ha, fun fuel env => noarg_step fuel env b p hv ha hb⟩
  rw [B6.Lemmas.SimplifyFO.variadicName_name, hv]
  rfl

end variadic

/-- `{add -> pair 1 (add)} 7`: inside the lambda `(add)` calls the global function; simplified to
`add` it is the lambda's parameter -/
def shadowWitness : Expr :=
  c (.lam ["add"] (c (.sym "pair") [i 1, c (.sym "add") []])) [i 7]

/-- The rewrite `(f)` ↦ `f` (and `{a -> f a}` ↦ `f`) moves `f` from function position, where it
names the global function, to value position, where an enclosing parameter of the same name captures
it: the original program yields a pair of 1 and a function, the simplified one `(pair 1 7)`. -/
theorem shadow_capture_counterexample :
    simplify shadowWitness = some (c (.lam ["add"] (c (.sym "pair") [i 1, .sym "add"])) [i 7]) ∧
    interp 50 shadowWitness = .ok (.pair (.int 1) (.part (.builtin .add) [] [])) ∧
    interp 50 (c (.lam ["add"] (c (.sym "pair") [i 1, .sym "add"])) [i 7]) = .ok (.pair (.int 1) (.int 7)) ∧
    Simplify.shadowsGlobal shadowWitness = true :=
  ⟨rfl, rfl, rfl, rfl⟩

end B6.Props.C22
