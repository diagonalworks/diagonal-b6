import B6.Lemmas.ChangeExport
import B6.Spec.World
/-!
# C18 — Exported change files reproduce the edited world

Model: `B6.Model.ChangeExport` (ingest/yaml.go, `Expression.MarshalYAML/UnmarshalYAML`, `ExpressionFromString`,
`LatLngFromString`, `FeatureIDFromString`, and the part of `MutableOverlayWorld` the export reads and the
import writes), after `fixes/C18-*.patch`.  Spec: the map feature id ⇀ (tag key ⇀ value) × body (`SMap`); `abs b s` is
the map a world denotes (`FindFeatureByID` for every id: existence, every tag, the body).

Standing assumptions, all satisfied by worlds the code builds itself (see the `example`s): `b.IdsOK` /
`s.FeatsId` — a feature found under an id carries that id; `ModsNodup s.mods` — `ModifiedTags` is a Go map of
Go maps (one entry per id, one per key).
-/
namespace B6.Props.C18
open B6.Model.ChangeExport
open B6.Model.Mutable (Id Key)
open B6.Model.Mutable.AMap (get)

/-! ## the text layer on whole files -/

def textDocs : List Doc → Except TextErr (List Doc)
  | [] => .ok []
  | d :: r => do
    let d' ← textDoc d
    let r' ← textDocs r
    pure (d' :: r')

/-- every exported document comes out of YAML encoding and decoding as it went in -/
def KindStable (s : St) (ord : List Id) : Prop := ∀ d, d ∈ exportDocs s ord → textDoc d = .ok d

theorem textDocs_of_stable (docs : List Doc) (h : ∀ d, d ∈ docs → textDoc d = .ok d) : textDocs docs = .ok docs := by
  induction docs with
  | nil => rfl
  | cons d r ih =>
    simp only [textDocs, h d List.mem_cons_self, ih (fun x hx => h x (List.mem_cons_of_mem _ hx))]
    rfl

/-- **C18.** Export a world `s` (any order `ord` of its overlay features that lists them all —
the order the code picks is one of them), push the documents through the YAML text layer, and apply them to
a fresh world over the same base.  If the documents survive the text layer unchanged (`KindStable`) and
`Apply` gets through them (whatever `AddFeature`'s validation `acc` is), the re-imported world denotes the
same map as the edited one: every id exists in one iff in the other, with the same value under every tag key
and the same body. -/
theorem export_import_refines {b : Base} {acc : St → Feat → Bool} (hb : b.IdsOK)
    {s s' : St} (hs : s.FeatsId) (hm : ModsNodup s.mods) (ord : List Id)
    (hcov : ∀ i, (get s.feats i).isSome → i ∈ ord)
    (hstable : KindStable s ord) {docs : List Doc}
    (htext : textDocs (exportDocs s ord) = .ok docs)
    (himport : importDocs b acc St.empty docs = some s') :
    abs b s' = abs b s := by
  rw [textDocs_of_stable _ hstable] at htext
  cases htext
  rw [(importDocs_refines hb _ St.empty s' featsId_empty himport).1]
  exact export_spec b hs hm ord hcov

/-- read pointwise: lookup, existence, every tag and the body agree -/
theorem export_import_reads {b : Base} {acc : St → Feat → Bool} (hb : b.IdsOK)
    {s s' : St} (hs : s.FeatsId) (hm : ModsNodup s.mods) (ord : List Id)
    (hcov : ∀ i, (get s.feats i).isSome → i ∈ ord)
    (hstable : KindStable s ord) {docs : List Doc}
    (htext : textDocs (exportDocs s ord) = .ok docs)
    (himport : importDocs b acc St.empty docs = some s') (id : Id) :
    ((s'.find b id).isSome = (s.find b id).isSome) ∧
    (∀ k, (s'.find b id).map (fun f => get f.tags k) = (s.find b id).map (fun f => get f.tags k)) ∧
    ((s'.find b id).map (·.body) = (s.find b id).map (·.body)) := by
  -- the three reads are three projections of one equation between views
  have h : (s'.find b id).map viewOf = (s.find b id).map viewOf :=
    congrFun (export_import_refines hb hs hm ord hcov hstable htext himport) id
  exact ⟨by simpa only [Option.isSome_map] using congrArg Option.isSome h,
    fun k => map_view_congr (·.tags k) h, map_view_congr (·.body) h⟩

/-- in terms of C12's spec (`B6.Spec.World`: feature id ⇀ tag key ⇀ value): a per-feature map that
describes the tag reads of the edited world — under any rendering `toVal` of values — describes those of the
re-imported world too -/
theorem export_import_same_spec_world {b : Base} {acc : St → Feat → Bool} (hb : b.IdsOK)
    {s s' : St} (hs : s.FeatsId) (hm : ModsNodup s.mods) (ord : List Id)
    (hcov : ∀ i, (get s.feats i).isSome → i ∈ ord)
    (hstable : KindStable s ord) {docs : List Doc}
    (htext : textDocs (exportDocs s ord) = .ok docs)
    (himport : importDocs b acc St.empty docs = some s')
    (toVal : V → B6.Model.Mutable.Val) (w : B6.Spec.World.World)
    (hw : ∀ id k, B6.Spec.World.tagOf w id k = ((abs b s id).map (fun fv => fv.tags k)).map (·.map toVal)) :
    ∀ id k, B6.Spec.World.tagOf w id k = ((abs b s' id).map (fun fv => fv.tags k)).map (·.map toVal) := by
  rw [export_import_refines hb hs hm ord hcov hstable htext himport]
  exact hw

/-! ## the standing assumptions hold for every world the code can reach -/

/-- the tables are well-formed initially (`wf_empty`) and stay so under every `AddTag` / `RemoveTag` / accepted
`AddFeature` -/
theorem wf_ops {b : Base} (hb : b.IdsOK) {s : St} (h : s.WF) :
    (∀ id t, (s.addTag b id t).WF) ∧ (∀ id k, (s.removeTag b id k).WF) ∧ (∀ f, (s.addFeature b f).WF) :=
  ⟨fun id t => wf_tagStep (addTag_step b s id t) hb h,
   fun id k => wf_tagStep (removeTag_step b s id k) hb h,
   fun f => ⟨featsId_addFeature h.1 f, modsNodup_addFeature h.2 f⟩⟩

/-! ## value kinds through the text layer -/

/-- **every string value keeps its kind** (after the fixes): a string tag value or collection literal comes
back as the same string, whatever it looks like — a number, a lat,lng, a feature id, a `;`-list, YAML's `null` -/
theorem string_kind_stable (x : String) :
    reinfer (.atom (.str x)) = some (.ok (.atom (.str x))) := by
  simp only [reinfer, encode]
  split
  · rename_i y hy
    have := infer_str_eq hy
    subst this
    by_cases hn : yamlNull y = true
    · simp [decode, hn]
    · simp [decode, hn, hy]
  · simp [decode]

/-- every scalar is stable through the text layer: any string, int, float, point, id -/
theorem atom_kind_stable (a : Atom) : textValue (.atom a) = .ok (.atom a) := by
  cases a with
  | str x => simp only [textValue, string_kind_stable x]
  | int n => rfl
  | flt b =>
    have : reinfer (.atom (.flt b)) = some (.ok (.atom (.flt b))) := by
      simp only [reinfer, encode]
      by_cases hb : integralBits b = true <;> simp [hb, decode]
    simp only [textValue, this]
  | pt la lo => rfl
  | fid t ns v => rfl
  | other x => rfl

/-- value by value: a list is stable if it reads back as itself (`ExpressionFromString` produces such
lists: two or more parts that are strings, points or ids) -/
def ValueStable (v : V) : Prop := textValue v = .ok v

theorem textTags_of_stable (ts : List Tag) (h : ∀ t, t ∈ ts → ValueStable t.2) : textTags ts = .ok ts := by
  induction ts with
  | nil => rfl
  | cons t r ih =>
    obtain ⟨k, v⟩ := t
    have hv : textValue v = .ok v := h (k, v) List.mem_cons_self
    simp only [textTags, hv, ih (fun x hx => h x (List.mem_cons_of_mem _ hx))]
    rfl

theorem textAtom_stable (a : Atom) : textAtom a = .ok a := by
  simp only [textAtom, atom_kind_stable a]

theorem textPairs_stable (es : List (Atom × Atom)) : textPairs es = .ok es := by
  induction es with
  | nil => rfl
  | cons e r ih =>
    obtain ⟨k, v⟩ := e
    simp only [textPairs, textAtom_stable k, textAtom_stable v, ih]
    rfl

theorem textBody_stable (bd : Body) : textBody bd = .ok bd := by
  cases bd with
  | collection es => simp only [textBody, textPairs_stable es]; rfl
  | generic => rfl
  | area ps => rfl
  | relation ms => rfl

/-- `KindStable` follows from the tag values: every value recorded in `ModifiedTags` or carried by an
overlay feature is stable (bodies always are).  With `atom_kind_stable` this covers all worlds whose tag
values are strings, ints, floats, points and ids. -/
theorem kindStable_of_values (s : St) (ord : List Id)
    (hmods : ∀ e, e ∈ s.mods → ∀ t, t ∈ sets e.2 → ValueStable t.2)
    (hfeats : ∀ e, e ∈ s.feats → ∀ t, t ∈ e.2.tags → ValueStable t.2) :
    KindStable s ord := by
  intro d hd
  simp only [exportDocs, List.mem_append] at hd
  rcases hd with hd | hd
  · simp only [exportMods, List.mem_filterMap] at hd
    obtain ⟨e, he, hd⟩ := hd
    split at hd
    · simp at hd
    · cases hd
      simp only [textDoc, textTags_of_stable _ (hmods e he)]
      rfl
  · simp only [exportFeats, List.mem_filterMap] at hd
    obtain ⟨id, _, hd⟩ := hd
    cases hg : get s.feats id with
    | none => simp [hg] at hd
    | some f =>
      simp only [hg, Option.map_some, Option.some.injEq] at hd; subst hd
      simp only [textDoc, textTags_of_stable _ (hfeats (id, f) (Model.Mutable.AMap.get_some_mem hg)), textBody_stable]
      rfl

/-! ## when `Apply` gets through -/

/-- **`Apply` gets through iff `applyGetsThrough`**, by definition the import's acceptance test `docsValid` run on
`exportDocs s ord`: every exported feature is accepted by `AddFeature` in the world rebuilt from the documents
before it.  Then `Apply` leaves exactly the rebuilt world; otherwise it returns the error.  What the rebuilt
world shows of the exporting one is `rebuilt_world_at`. -/
theorem apply_gets_through_of_valid (b : Base) (acc : St → Feat → Bool) (s : St) (ord : List Id)
    (h : applyGetsThrough b acc s ord = true) :
    importDocs b acc St.empty (exportDocs s ord) = some (rebuild b St.empty (exportDocs s ord)) := by
  rw [importDocs_eq]
  unfold applyGetsThrough at h
  simp [h]

theorem apply_fails_of_not_valid (b : Base) (acc : St → Feat → Bool) (s : St) (ord : List Id)
    (h : applyGetsThrough b acc s ord = false) :
    importDocs b acc St.empty (exportDocs s ord) = none := by
  rw [importDocs_eq]
  unfold applyGetsThrough at h
  simp [h]

/-- the predicate spelled out: each exported feature is valid in the world rebuilt from what was exported
before it … -/
theorem applyGetsThrough_iff (b : Base) (acc : St → Feat → Bool) (s : St) (ord : List Id) :
    applyGetsThrough b acc s ord = true ↔
      ∀ d1 f d2, exportDocs s ord = d1 ++ Doc.feat f :: d2 → acc (rebuild b St.empty d1) f = true :=
  docsValid_iff b acc _ _

/-- … and that world is "the base plus the features exported before": it shows what the exporting world
shows for every id except the overlay features still to come (for which it shows the base's version with
the modified tags).  References-first makes it agree with the edited world on everything the feature being
added refers to (`import_no_missing_reference`); it does not make it agree on the feature's referrers or on
the other vertices of a ring — that gap is the finding `import-intermediate-state`. -/
theorem rebuilt_world_at {b : Base} (hb : b.IdsOK) {s : St} (hwf : s.WF)
    (l1 : List Id) (i : Id) (hi : (get s.feats i).isSome → i ∈ l1) :
    abs b (rebuild b St.empty (exportDocs s l1)) i = abs b s i :=
  B6.Model.ChangeExport.rebuilt_world_at hb hwf.1 hwf.2 l1 i hi

/-- **C18 under `applyGetsThrough`**: for a well-formed world whose documents are kind-stable and which
satisfies `applyGetsThrough`, `Apply` on the exported file succeeds and the re-imported world denotes the same
map as the edited one. -/
theorem export_import_refines_of_valid {b : Base} {acc : St → Feat → Bool} (hb : b.IdsOK)
    {s : St} (hwf : s.WF) (ord : List Id) (hcov : ∀ i, (get s.feats i).isSome → i ∈ ord)
    (hstable : KindStable s ord) (hvalid : applyGetsThrough b acc s ord = true) :
    ∃ s', textDocs (exportDocs s ord) = .ok (exportDocs s ord) ∧
      importDocs b acc St.empty (exportDocs s ord) = some s' ∧ abs b s' = abs b s := by
  have htext := textDocs_of_stable _ hstable
  have himp := apply_gets_through_of_valid b acc s ord hvalid
  exact ⟨_, htext, himp, export_import_refines hb hwf.1 hwf.2 ord hcov hstable htext himp⟩

/-! ## ordering: references first -/

/-- In any list sorted by a rank that is non-increasing along the list, a feature whose
rank is strictly larger than that of one of its referrers does not come after that referrer: with ranks
rising strictly along references (`rank_lt_of_ref`-style facts, checked on every run for the real ranks),
every reference that is exported precedes its referrer. -/
theorem sorted_refs_first (rk : Id → Nat) (l : List Id) (hsorted : l.Pairwise (fun x y => rk x ≥ rk y))
    (a r : Id) (hrank : rk r > rk a) (l1 l2 : List Id) (hl : l = l1 ++ a :: l2) : r ∉ l2 := by
  intro hr
  subst hl
  have h := List.pairwise_append.mp hsorted
  have h2 := (List.pairwise_cons.mp h.2.1).1 r hr
  omega

/-- **the export rank rises strictly along references**, for overlays whose references are acyclic: there is a
height that drops along every reference of an overlay feature and stays below the closure's fuel (the number
of overlay features + 1).  Paths over points and areas over paths always are; relations and collections that
contain each other are not, and are never validated. -/
theorem rank_lt_of_ref {s : St} {h : Id → Nat} (hh : Height s h) (hb : ∀ t, h t < s.fuel)
    (e : Id × Feat) (he : e ∈ s.feats) (t : Id) (ht : t ∈ refsOf e.2) :
    rank s e.2.id < rank s t :=
  B6.Model.ChangeExport.rank_lt_of_ref hh hb e he t ht

/-- **the exported order puts references first**: in the order the export picks (rank descending), nothing
an overlay feature refers to comes after it -/
theorem export_order_refs_first {s : St} {h : Id → Nat} (hh : Height s h) (hb : ∀ t, h t < s.fuel)
    (e : Id × Feat) (he : e ∈ s.feats) (r : Id) (hr : r ∈ refsOf e.2)
    (l1 l2 : List Id) (hl : exportOrder s = l1 ++ e.2.id :: l2) : r ∉ l2 :=
  sorted_refs_first (rank s) (exportOrder s) (exportOrder_sorted s) e.2.id r
    (rank_lt_of_ref hh hb e he r hr) l1 l2 hl

/-- the main theorem for the order the export picks -/
theorem export_import_refines_exportOrder {b : Base} {acc : St → Feat → Bool} (hb : b.IdsOK)
    {s s' : St} (hwf : s.WF) (hstable : KindStable s (exportOrder s)) {docs : List Doc}
    (htext : textDocs (exportDocs s (exportOrder s)) = .ok docs)
    (himport : importDocs b acc St.empty docs = some s') :
    abs b s' = abs b s :=
  export_import_refines hb hwf.1 hwf.2 (exportOrder s) (exportOrder_covers s) hstable htext himport

/-- **references first ⇒ no missing reference on import.** Take an overlay feature `f` whose own references
resolve in the edited world (it was validated there).  When `Apply` has got through the modified-tag
documents and the feature documents `l1` — which include every exported feature `f` refers to, as the
ordering lemma guarantees for the features listed before `f` — then `f`'s references resolve in the world
being rebuilt as well: `AddFeature` cannot reject `f` for a missing reference.  (What it can still reject `f`
for is the finding `import-intermediate-state`: a referrer of `f`, or S2, in a world that never existed.) -/
theorem import_no_missing_reference {b : Base} {acc : St → Feat → Bool} (hb : b.IdsOK) {s : St} (hwf : s.WF)
    (l1 : List Id) (f : Feat) (ht : f.Typed)
    (hfirst : ∀ r, r ∈ refsOf f → (get s.feats r).isSome → r ∈ l1)
    (hclosed : validateFeature (s.find b) f ≠ .missing)
    {sk : St} (hk : importDocs b acc St.empty (exportDocs s l1) = some sk) :
    validateFeature (sk.find b) f ≠ .missing := by
  have habs := (importDocs_refines hb _ St.empty sk featsId_empty hk).1
  have hr : ∀ r, r ∈ refsOf f → (sk.find b r).map viewOf = (s.find b r).map viewOf := by
    intro r hr
    have := export_spec_at b hwf.1 hwf.2 l1 r (hfirst r hr)
    rw [← habs] at this
    exact this
  intro hm
  exact hclosed ((missing_congr _ _ f ht hr).mp hm)

/-! ## what the text layer does to values that are not stable -/

/-- before the fix every string was written bare: one that looks like a lat,lng came back as a point (with
another rendering, hence under another search token) -/
theorem bare_string_point_counterexample :
    decode (encodeBare (.atom (.str "51.50, -0.120"))) = some (.ok (.atom (.pt "515000000" "-1200000"))) := by
  decide +kernel

/-- … one that looks like a feature id as an id -/
theorem bare_string_id_counterexample :
    decode (encodeBare (.atom (.str "/point/ns/1"))) = some (.ok (.atom (.fid 0 "ns" 1))) := by decide +kernel

/-- … one that contains `;` as a list -/
theorem bare_string_list_counterexample :
    decode (encodeBare (.atom (.str "a;b"))) = some (.ok (.list [.str "a", .str "b"])) := by decide +kernel

/-- a numeric-looking string is safe even bare: `ExpressionFromString` has no number case (and YAML quotes it) -/
example : decode (encodeBare (.atom (.str "123"))) = some (.ok (.atom (.str "123"))) := by decide +kernel
example : decode (encodeBare (.atom (.str "1e3"))) = some (.ok (.atom (.str "1e3"))) := by decide +kernel
example : decode (encodeBare (.atom (.str "1,2,3"))) = some (.ok (.atom (.str "1,2,3"))) := by decide +kernel

/-- the string `null` written bare (as before `fixes/C18-export-null-string.patch`) makes the exported file
undecodable: yaml.v2 treats the scalar as null before `UnmarshalYAML` is reached, quoted or not; written in
the explicit form and read from the generic value it comes back -/
theorem null_string_counterexample :
    decode (encodeBare (.atom (.str "null"))) = none ∧ decode (encodeBare (.atom (.str "~"))) = none ∧
    reinfer (.atom (.str "null")) = some (.ok (.atom (.str "null"))) := by decide +kernel

/-- the `sorted` flag the import computes: `b6.Less` compares a float with an int but not an int with a
float, and a string with an int not at all — such neighbours must not make a collection "sorted" (binary
search would compare them and miss): before `fixes/C18-collection-sorted-mixed-keys.patch` the keys
`[-1, 1.0]` passed the one-way test -/
theorem mixed_keys_not_sorted :
    atomLess (.flt "3ff0000000000000") (.int (-1)) = some false ∧ atomLess (.int (-1)) (.flt "3ff0000000000000") = none ∧
    keysSorted [.int (-1), .flt "3ff0000000000000"] = false ∧
    keysSorted [.int 1, .str "a", .int 2] = false ∧
    keysSorted [.int 1, .int 1, .int 2, .int 5] = true ∧
    keysSorted [.flt "3fe0000000000000", .flt "3ff8000000000000", .flt "4004000000000000"] = true := by decide +kernel

/-- lists are written as their `;`-joined rendering: a one-element list comes back as a scalar, an int
element as a string (outside the property: such lists are not produced by `ExpressionFromString`) -/
theorem list_kind_counterexample :
    reinfer (.list [.str "a"]) = some (.ok (.atom (.str "a"))) ∧
    reinfer (.list [.int 3, .str "a"]) = some (.ok (.list [.str "3", .str "a"])) := by decide +kernel

/-! ## a concrete world: the hypotheses are satisfiable, the findings are real -/

def ptTag (la lo : String) : Tag := ("point", .atom (.pt la lo))
/-- the id atom of a model id (collections are type 5 in the code) -/
def nid (n : Nat) : Atom := .fid (if n / 1000 == 4 then 5 else n / 1000) NS (n % 1000)

def exBaseFeats : List Feat := [
  ⟨1, [ptTag "515370213" "-1250817", ("name", .atom (.str "one"))], .generic⟩,
  ⟨2, [ptTag "515360127" "-1251339"], .generic⟩,
  ⟨3, [ptTag "515359871" "-1240433"], .generic⟩,
  ⟨4, [ptTag "515371049" "-1239671"], .generic⟩,
  ⟨1007, [("path", .list [nid 1, nid 2, nid 3, nid 4, nid 1])], .generic⟩,
  ⟨2009, [], .area [.ids [1007]]⟩,
  ⟨3010, [], .relation [(1, "stop")]⟩,
  ⟨4011, [], .collection [(nid 1, .str "a")]⟩]

def exB : Base := baseOf exBaseFeats

/-- `AddFeature`'s validation with S2 answering "valid" -/
def exAcc (s : St) (f : Feat) : Bool := !(s.validateAdd exB f).isErr

/-- an edit history: plain tag edits on a base point (recorded in `ModifiedTags`), a new point whose name
looks like a feature id, a path over it, a relation over both, a tag that looks like a lat,lng -/
def exS : St :=
  ((((St.empty.addTag exB 1 ("note", .atom (.str "51.5,-0.12"))).removeTag exB 1 "name").addFeature exB
    ⟨21, [ptTag "515380001" "-1260003", ("name", .atom (.str "/point/ns/1"))], .generic⟩).addFeature exB
    ⟨1024, [("path", .list [nid 21, nid 2]), ("#highway", .atom (.str "a;b"))], .generic⟩).addFeature exB
    ⟨3028, [("type", .atom (.int 5))], .relation [(1024, "way"), (21, "stop")]⟩

example : exB.IdsOK := baseOf_idsOK _

example : exS.WF := by
  have h0 := wf_empty
  have h1 := (wf_ops (baseOf_idsOK exBaseFeats) h0).1 1 ("note", .atom (.str "51.5,-0.12"))
  have h2 := (wf_ops (baseOf_idsOK exBaseFeats) h1).2.1 1 "name"
  have h3 := (wf_ops (baseOf_idsOK exBaseFeats) h2).2.2
    ⟨21, [ptTag "515380001" "-1260003", ("name", .atom (.str "/point/ns/1"))], .generic⟩
  have h4 := (wf_ops (baseOf_idsOK exBaseFeats) h3).2.2
    ⟨1024, [("path", .list [nid 21, nid 2]), ("#highway", .atom (.str "a;b"))], .generic⟩
  exact (wf_ops (baseOf_idsOK exBaseFeats) h4).2.2
    ⟨3028, [("type", .atom (.int 5))], .relation [(1024, "way"), (21, "stop")]⟩

/-- the overlay of `exS` is acyclic: points above paths above everything else, below the fuel -/
example : Height exS (fun t => if idType t == 0 then 2 else if idType t == 1 then 1 else 0) ∧
    ∀ t, (fun t => if idType t == 0 then 2 else if idType t == 1 then 1 else 0) t < exS.fuel := by
  constructor
  · unfold Height
    decide +kernel
  · intro t
    have : exS.fuel = 4 := by decide +kernel
    rw [this]
    simp only
    split
    · omega
    · split <;> omega

/-- the export lists the point before the path before the relation, after the modified-tag document -/
example : exportOrder exS = [21, 1024, 3028] := by decide +kernel
example : (exportDocs exS (exportOrder exS)).length = 4 := by decide +kernel

/-- the documents survive the text layer … -/
example : (match textDocs (exportDocs exS (exportOrder exS)) with
    | .ok docs => docs == exportDocs exS (exportOrder exS)
    | .error _ => false) = true := by decide +kernel

/-- … the world satisfies the checkable condition … -/
example : applyGetsThrough exB exAcc exS (exportOrder exS) = true := by decide +kernel

/-- … and the import gets through them, validating every feature as it goes -/
example : (importDocs exB exAcc St.empty (exportDocs exS (exportOrder exS))).isSome = true := by decide +kernel

/-- FINDING import-intermediate-state, on the model: the ring 1007 is re-routed away from point 1, then
point 1 loses its location — both edits are accepted.  Point 1 is referred to by a relation and a collection
(rank 2), the ring by the area (rank 1): the export lists point 1 first, and the import rejects it because
the BASE's ring still runs through it.  Importing the ring first would have worked. -/
def exT : St :=
  (St.empty.addFeature exB ⟨1007, [("path", .list [nid 2, nid 3, nid 4, nid 2])], .generic⟩).addFeature exB
    ⟨1, [("name", .atom (.str "gone"))], .generic⟩

theorem intermediate_state_counterexample :
    exAcc St.empty ⟨1007, [("path", .list [nid 2, nid 3, nid 4, nid 2])], .generic⟩ = true ∧
    exAcc (St.empty.addFeature exB ⟨1007, [("path", .list [nid 2, nid 3, nid 4, nid 2])], .generic⟩)
      ⟨1, [("name", .atom (.str "gone"))], .generic⟩ = true ∧
    exportOrder exT = [1, 1007, 2009, 3010, 4011] ∧
    applyGetsThrough exB exAcc exT (exportOrder exT) = false ∧
    importDocs exB exAcc St.empty (exportDocs exT (exportOrder exT)) = none ∧
    (importDocs exB exAcc St.empty (exportDocs exT [1007, 1, 2009, 3010, 4011])).isSome = true := by decide +kernel

end B6.Props.C18
