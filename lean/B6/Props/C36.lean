import B6.Model.Validator
import B6.Lemmas.ValidatorPerm
/-!
# C36 — Builds give the same world for any degree of parallelism

The builders are modelled as folds over an *arrival order* (`B6.Model.Validator`): every locked call of
`compact.Validator`, every `AddFeature` of the in-memory builder and every `Reserve` / `WriteItem` of a
`Uint64Map` is one step, and a parallel build with any number of goroutines is some interleaving, i.e.
some permutation of the same arrivals.  The theorems quantify over all arrival lists and all
permutations of them (no bound on length or on the number of goroutines).

Each result is described without the order: the validator hands to `emitFeature`, as a multiset, the valid paths plus the
areas all of whose paths are present and valid (`validator_emits_spec`); the in-memory id map and a bucket of a `Uint64Map`
hold, under distinct keys, the arrivals with that key. Two orders of the same arrivals then give the same answers; the same
argument makes the reserve pass and the write pass of `writePathsAreasAndRelations` agree (`map_reserve_perm`).

Hypothesis throughout: ids are distinct within a source (a source with two features of the same id is
last-writer-wins in both builders, so its result does depend on the schedule; generated sources and OSM
extracts have distinct ids).  Not modelled: the Go scheduler and memory model (C35), string-table ids
(different tables decode to the same strings; tied by the observation dumps), S2.
-/
namespace B6.Props.C36
open B6.Model.Validator B6.Lemmas.ValidatorPerm

/-- the emitted multiset is: valid paths ∪ areas all of whose paths are valid and present -/
theorem validator_emits_spec (arr : List Arrival) (hnd : (pathIds arr).Nodup) : (run arr).Perm (spec arr) :=
  run_perm_spec arr hnd

/-- any two arrival orders of the same paths and areas make the validator emit the same multiset of features -/
theorem validator_perm (arr arr' : List Arrival) (hp : arr.Perm arr') (hnd : (pathIds arr).Nodup) :
    (run arr).Perm (run arr') :=
  (run_perm_spec arr hnd).trans ((spec_perm arr arr' hp hnd).trans
    (run_perm_spec arr' ((pathIds_perm hp).nodup_iff.mp hnd)).symm)

/-- non-vacuity: an area arriving before its two paths is queued and emitted when the second path arrives;
an area over an invalid path is dropped; the reverse order emits the same set. -/
example :
    run [.area 7 [1, 2], .area 8 [3], .path 1 .valid, .path 3 .invalid, .path 2 .valid]
      = [.path 1, .path 2, .area 7 [1, 2]] ∧
    run [.path 2 .valid, .path 3 .invalid, .path 1 .valid, .area 8 [3], .area 7 [1, 2]]
      = [.path 2, .path 1, .area 7 [1, 2]] := by decide

/-- the validator does depend on the order when two paths share an id (outside the hypothesis) -/
theorem validator_duplicate_ids_counterexample :
    ¬ (run [.path 1 .valid, .area 7 [1], .path 1 .invalid]).Perm
        (run [.path 1 .invalid, .area 7 [1], .path 1 .valid]) := by decide

/-! ## the in-memory builder (`basicAdd`) -/

theorem foldr_setF_some_iff {α} (key : α → Nat) (l : List α) (hnd : (l.map key).Nodup) (k : Nat) (f : α) :
    (l.foldr (fun f m => setF m (key f) f) (fun _ => none)) k = some f ↔ f ∈ l ∧ key f = k := by
  induction l with
  | nil => simp
  | cons a t ih =>
    simp only [List.map_cons, List.nodup_cons] at hnd
    simp only [List.foldr_cons, setF]
    by_cases hk : k = key a
    · simp only [hk, ite_true, Option.some.injEq, List.mem_cons]
      constructor
      · intro h; exact ⟨Or.inl h.symm, by rw [← h]⟩
      · intro ⟨hm, hkey⟩
        cases hm with
        | inl h => exact h.symm
        | inr h => exact absurd (List.mem_map.mpr ⟨f, h, hkey⟩) hnd.1
    · simp only [hk, ite_false, List.mem_cons]
      rw [ih hnd.2]
      constructor
      · intro ⟨hm, hkey⟩; exact ⟨Or.inr hm, hkey⟩
      · intro ⟨hm, hkey⟩
        cases hm with
        | inl h => exact absurd (by rw [← hkey, h]) hk
        | inr h => exact ⟨h, hkey⟩

theorem basicAdd_some_iff {α} (key : α → Nat) (arr : List α) (hnd : (arr.map key).Nodup) (k : Nat) (f : α) :
    basicAdd key arr k = some f ↔ f ∈ arr ∧ key f = k := by
  have h := foldr_setF_some_iff key arr.reverse (by rw [List.map_reverse]; exact (List.reverse_perm _).nodup_iff.mpr hnd) k f
  unfold basicAdd
  rw [List.foldr_reverse] at h
  simpa using h

/-- `AddFeature` in any order gives the same id map. -/
theorem basic_perm {α} (key : α → Nat) (arr arr' : List α) (hp : arr.Perm arr') (hnd : (arr.map key).Nodup) (k : Nat) :
    basicAdd key arr k = basicAdd key arr' k :=
  Option.ext fun f => by
    rw [basicAdd_some_iff key arr hnd, basicAdd_some_iff key arr' ((hp.map key).nodup_iff.mp hnd), hp.mem_iff]

example : basicAdd (fun (p : Nat × String) => p.1) [(1, "a"), (2, "b")] 2 = some (2, "b") := by decide

/-- with a repeated id the last arrival wins, so the order shows (outside the hypothesis) -/
theorem basic_duplicate_ids_counterexample :
    basicAdd (fun (p : Nat × String) => p.1) [(1, "a"), (1, "b")] 1 ≠
      basicAdd (fun (p : Nat × String) => p.1) [(1, "b"), (1, "a")] 1 := by decide

/-! ## `Uint64Map`: reserve pass and write pass (`writeAll`, `reserveAll`) -/

theorem foldl_writeItem (nb : Nat) (es : List Entry) : ∀ (b0 : Buckets) (i : Nat),
    (es.foldl (writeItem nb) b0) i = b0 i ++ es.filter (fun e => e.id % nb = i) := by
  induction es with
  | nil => intro b0 i; simp
  | cons e t ih =>
    intro b0 i
    rw [List.foldl_cons, ih]
    unfold writeItem
    by_cases h : i = e.id % nb
    · subst h; simp
    · simp [h, Ne.symm h]

theorem writeAll_bucket (nb : Nat) (es : List Entry) (i : Nat) :
    writeAll nb es i = es.filter (fun e => e.id % nb = i) := by
  unfold writeAll; rw [foldl_writeItem]; simp

theorem foldl_reserveItem (nb : Nat) (hdr : Entry → Nat) (es : List Entry) : ∀ (r0 : Nat → Nat) (i : Nat),
    (es.foldl (reserveItem nb hdr) r0) i = r0 i + bucketBytes hdr (es.filter (fun e => e.id % nb = i)) := by
  induction es with
  | nil => intro r0 i; simp [bucketBytes]
  | cons e t ih =>
    intro r0 i
    rw [List.foldl_cons, ih]
    unfold reserveItem
    by_cases h : i = e.id % nb
    · subst h; simp [bucketBytes]; omega
    · simp [h, Ne.symm h]

/-- one entry per (id, tag): what the builders emit into a block (a point record, a path, an area …) -/
def UniqueKeys (es : List Entry) : Prop := ∀ x ∈ es, ∀ y ∈ es, x.id = y.id → x.tag = y.tag → x = y

theorem find?_perm_unique {α} (p : α → Bool) (l l' : List α) (hp : l.Perm l')
    (hu : ∀ x ∈ l, ∀ y ∈ l, p x = true → p y = true → x = y) : l.find? p = l'.find? p :=
  Option.ext fun x => by
    rw [B6.Lemmas.Basic.find?_eq_some_iff_unique hu, hp.mem_iff,
      B6.Lemmas.Basic.find?_eq_some_iff_unique fun a ha b hb => hu a (hp.mem_iff.mpr ha) b (hp.mem_iff.mpr hb)]

/-- `FindFirstWithTag` does not depend on the order of the `WriteItem`s, one entry per (id, tag) given -/
theorem map_perm (nb : Nat) (es es' : List Entry) (hp : es.Perm es') (hu : UniqueKeys es) (id tag : Nat) :
    findFirstWithTag nb (writeAll nb es) id tag = findFirstWithTag nb (writeAll nb es') id tag := by
  unfold findFirstWithTag
  rw [writeAll_bucket, writeAll_bucket]
  congr 1
  apply find?_perm_unique _ _ _ (hp.filter _)
  intro x hx y hy hpx hpy
  have hx' := (List.mem_filter.mp hx).1
  have hy' := (List.mem_filter.mp hy).1
  simp only [decide_eq_true_eq] at hpx hpy
  exact hu x hx' y hy' (by rw [hpx.1, hpy.1]) (by rw [hpx.2, hpy.2])

/-- all entries under one id are the same up to their order (the order is the C09 exception) -/
theorem map_fill_perm (nb : Nat) (es es' : List Entry) (hp : es.Perm es') (id : Nat) :
    (fillTagged nb (writeAll nb es) id).Perm (fillTagged nb (writeAll nb es') id) := by
  unfold fillTagged
  rw [writeAll_bucket, writeAll_bucket]
  exact (hp.filter _).filter _

/-- the bytes the reserve pass sets aside in a bucket (one arrival order) are the bytes the write pass puts
there (another arrival order) — no write beyond the reserved space, no gap. -/
theorem map_reserve_perm (nb : Nat) (hdr : Entry → Nat) (es es' : List Entry) (hp : es.Perm es') (i : Nat) :
    reserveAll nb hdr es i = bucketBytes hdr (writeAll nb es' i) := by
  unfold reserveAll
  rw [foldl_reserveItem, writeAll_bucket]
  simp only [Nat.zero_add]
  exact ((hp.filter _).map _).sum_nat

example : findFirstWithTag 2 (writeAll 2 [⟨5, 0, [1]⟩, ⟨7, 1, [2]⟩, ⟨7, 0, [3]⟩]) 7 0 = some [3] := by decide

/-- two entries with the same id and tag are told apart by their order (outside the hypothesis) -/
theorem map_duplicate_key_counterexample :
    findFirstWithTag 2 (writeAll 2 [⟨7, 0, [1]⟩, ⟨7, 0, [2]⟩]) 7 0 ≠
      findFirstWithTag 2 (writeAll 2 [⟨7, 0, [2]⟩, ⟨7, 0, [1]⟩]) 7 0 := by decide

/-- block and id of an emitted feature (paths and areas live in separate blocks) -/
def outKey : Out → Nat × Nat
  | .path id => (0, id)
  | .area a _ => (1, a)

/-- a lookup by block and id in the list the validator emitted; the blocks themselves (`writeAll`, `findFirstWithTag`) are
`map_perm`'s, and the two are not composed -/
def compactLookup (arr : List Arrival) (k : Nat × Nat) : Option Out := (run arr).find? fun o => outKey o = k

def areaIds (arr : List Arrival) : List Nat := (areasOf arr).map (·.1)

/-- looking up any path or area id among what the validator emitted (`compactLookup`) gives the same answer for any two
interleavings of the same source. The second conjunct is `basic_perm` once more, for any list and any key: it does not
mention `arr`. -/
theorem build_perm (arr arr' : List Arrival) (hp : arr.Perm arr')
    (hnd : (pathIds arr).Nodup) (hna : (areaIds arr).Nodup) :
    (∀ k, compactLookup arr k = compactLookup arr' k) ∧
    (∀ {α} (key : α → Nat) (fs fs' : List α), fs.Perm fs' → (fs.map key).Nodup →
        ∀ k, basicAdd key fs k = basicAdd key fs' k) := by
  refine ⟨?_, fun key fs fs' h1 h2 k => basic_perm key fs fs' h1 h2 k⟩
  intro k
  unfold compactLookup
  apply find?_perm_unique _ _ _ (validator_perm arr arr' hp hnd)
  intro x hx y hy hpx hpy
  have hx' := (run_perm_spec arr hnd).mem_iff.mp hx
  have hy' := (run_perm_spec arr hnd).mem_iff.mp hy
  simp only [decide_eq_true_eq] at hpx hpy
  have hk : outKey x = outKey y := by rw [hpx, hpy]
  cases x with
  | path i =>
    cases y with
    | path j => simp only [outKey, Prod.mk.injEq, true_and] at hk; rw [hk]
    | area b qs => simp [outKey] at hk
  | area a ps =>
    cases y with
    | path j => simp [outKey] at hk
    | area b qs =>
      simp only [outKey, Prod.mk.injEq, true_and] at hk
      subst hk
      rw [show ps = qs from congrArg Prod.snd
        (B6.Lemmas.Basic.eq_of_nodup_map Prod.fst hna (mem_spec_area arr a ps hx') (mem_spec_area arr a qs hy') rfl)]

example : compactLookup [.area 7 [1, 2], .path 1 .valid, .path 2 .valid] (1, 7) = some (.area 7 [1, 2]) ∧
    compactLookup [.path 2 .valid, .area 7 [1, 2], .path 1 .validNotLoop] (1, 7) = none := by decide

end B6.Props.C36
