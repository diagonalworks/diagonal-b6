import B6.Lemmas.WorldRead
import B6.Props.C03
/-!
# C02 — Compact world answers every query like the in-memory world

Both read paths are modelled over one `World` (`B6.Model.WorldRead`): the in-memory ("basic") world's, suffix `B`
(`FeatureReferencesByID` closure, `traverse`), and the compact world's, suffix `C` (`findPathsByPoint`, `FindReferences`,
`FindRelationsByFeature`, `FindAreasByPoint`, `Traverse`), the latter reading the records the compact builder
writes from *every* source path and area.  The model mirrors the code **after** the C02 fixes
(fixes/C02-*.patch, including C02-compact-references-transitive) and C37's fix of `BasicWorldBuilder.Finish`.

Each `*_equiv` theorem says that one read operation answers alike in the two worlds, for every world satisfying the structural
invariants (`WellTyped`, `Consistent`, `UniqueKept`, `Typed`), with no bound on the number of features.  `build` establishes them
from `SourceOK` (`build_wellTyped`, `build_consistent`, `build_uniqueKept`; `build_typed` also needs the point ids typed).  The
referrer operations are compared as sets, for ids that have a record (`hasRecord`; `references_absent_counterexample` shows
why).  `search_equiv` is about C03's feature-list model, not about `World`.
-/
namespace B6.Props.C02
open B6.Model.WorldRead B6.Lemmas.WorldRead

/-- ids carry the type of the feature they name, and features refer to ids of the right type -/
structure WellTyped (w : World) : Prop where
  paths : ∀ q ∈ w.paths, q.id.t = .path ∧ ∀ r ∈ q.refs, r.t = .point
  areas : ∀ a ∈ w.areas, a.id.t = .area ∧ ∀ ids ∈ a.polys, ∀ i ∈ ids, i.t = .path
  relations : ∀ r ∈ w.relations, r.id.t = .relation

/-- how the kept features relate to the source the compact records are written from -/
structure Consistent (w : World) : Prop where
  pathFromSource : ∀ q' ∈ w.paths, ∃ q ∈ w.srcPaths, q.id = q'.id ∧ ∀ z, z ∈ q'.refs ↔ z ∈ visits q
  uniquePaths : (w.srcPaths.map (·.id)).Nodup
  areaFromSource : ∀ a ∈ w.areas, a ∈ w.srcAreas
  uniqueAreas : (w.srcAreas.map (·.id)).Nodup
  pointsExist : ∀ q ∈ w.paths, ∀ r ∈ q.refs, w.points.any (·.id = r) = true

abbrev UniqueKept (w : World) : Prop := (w.paths.map (·.id)).Nodup

/-- every kept feature's id carries the feature's type -/
structure Typed (w : World) : Prop where
  points : ∀ p ∈ w.points, p.id.t = .point
  paths : ∀ q ∈ w.paths, q.id.t = .path
  areas : ∀ a ∈ w.areas, a.id.t = .area
  relations : ∀ r ∈ w.relations, r.id.t = .relation

/-! ## the in-memory closure by type; kept paths against the source -/

theorem directReferrers_not_point (w : World) (hw : WellTyped w) (z y : Id) (h : y ∈ directReferrers w z) :
    y.t ≠ .point := by
  rcases (mem_directReferrers w z y).mp h with ⟨q, hq, _, rfl⟩ | ⟨a, ha, _, rfl⟩ | ⟨r, hr, _, rfl⟩
  · rw [(hw.paths q hq).1]; simp
  · rw [(hw.areas a ha).1]; simp
  · rw [hw.relations r hr]; simp

theorem closure_not_point (w : World) (hw : WellTyped w) (x y : Id) (h : y ∈ closure w x) : y.t ≠ .point := by
  obtain ⟨z, _, hyz⟩ := closure_sound w x y h
  exact directReferrers_not_point w hw z y hyz

theorem closure_paths (w : World) (hw : WellTyped w) (x y : Id) :
    (y ∈ closure w x ∧ y.t = .path) ↔ ∃ q ∈ w.paths, q.refs.contains x = true ∧ q.id = y := by
  constructor
  · rintro ⟨hc, ht⟩
    obtain ⟨z, hz, hyz⟩ := closure_sound w x y hc
    rcases (mem_directReferrers w z y).mp hyz with ⟨q, hq, hqz, rfl⟩ | ⟨a, ha, _, rfl⟩ | ⟨r, hr, _, rfl⟩
    · have hzt : z.t = .point := (hw.paths q hq).2 z (List.contains_iff_mem.mp hqz)
      cases hz with
      | inl hz => subst hz; exact ⟨q, hq, hqz, rfl⟩
      | inr hz => exact absurd hzt (closure_not_point w hw x z hz)
    · rw [(hw.areas a ha).1] at ht; simp at ht
    · rw [hw.relations r hr] at ht; simp at ht
  · rintro ⟨q, hq, hqx, rfl⟩
    refine ⟨direct_subset_closure w x q.id ?_, (hw.paths q hq).1⟩
    exact (mem_directReferrers w x q.id).mpr (Or.inl ⟨q, hq, hqx, rfl⟩)

theorem kept_path_iff (w : World) (hc : Consistent w) (x y : Id) :
    (∃ q ∈ w.paths, q.refs.contains x = true ∧ q.id = y) ↔ (y ∈ pointPaths w x ∧ pathExists w y = true) := by
  rw [mem_pointPaths, mem_pathExists]
  constructor
  · rintro ⟨q', hq', hx, rfl⟩
    obtain ⟨q, hq, hid, hrefs⟩ := hc.pathFromSource q' hq'
    exact ⟨⟨q, hq, (hrefs x).mp (List.contains_iff_mem.mp hx), hid⟩, ⟨q', hq', rfl⟩⟩
  · rintro ⟨⟨q, hq, hx, rfl⟩, ⟨q', hq', hid⟩⟩
    obtain ⟨q2, hq2, hid2, hrefs⟩ := hc.pathFromSource q' hq'
    have : q2 = q := B6.Lemmas.Basic.eq_of_nodup_map (·.id) hc.uniquePaths hq2 hq (by rw [hid2, hid])
    subst this
    exact ⟨q', hq', by simpa using (hrefs x).mpr hx, hid⟩

/-! ## FindAreasByPoint -/

theorem closure_areas (w : World) (hw : WellTyped w) (x : Id) (hx : x.t = .point) (y : Id) :
    (y ∈ closure w x ∧ y.t = .area) ↔
      ∃ a ∈ w.areas, a.id = y ∧ ∃ q ∈ w.paths, q.refs.contains x = true ∧ (a.polys.any fun ids => ids.contains q.id) = true := by
  constructor
  · rintro ⟨hc, ht⟩
    obtain ⟨z, hz, hyz⟩ := closure_sound w x y hc
    rcases (mem_directReferrers w z y).mp hyz with ⟨q, hq, _, rfl⟩ | ⟨a, ha, haz, rfl⟩ | ⟨r, hr, _, rfl⟩
    · rw [(hw.paths q hq).1] at ht; simp at ht
    · -- z is one of the area's paths, hence path-typed, hence in the closure (not the point itself)
      have hzt : z.t = .path := by
        rw [List.any_eq_true] at haz
        obtain ⟨ids, hids, hz'⟩ := haz
        exact (hw.areas a ha).2 ids hids z (List.contains_iff_mem.mp hz')
      have hzc : z ∈ closure w x := by
        cases hz with
        | inl hz => rw [hz, hx] at hzt; simp at hzt
        | inr hz => exact hz
      obtain ⟨q, hq, hqx, hqz⟩ := (closure_paths w hw x z).mp ⟨hzc, hzt⟩
      exact ⟨a, ha, rfl, q, hq, hqx, by rw [hqz]; exact haz⟩
    · rw [hw.relations r hr] at ht; simp at ht
  · rintro ⟨a, ha, rfl, q, hq, hqx, haq⟩
    refine ⟨?_, (hw.areas a ha).1⟩
    apply direct2_subset_closure w x q.id a.id
    · exact (mem_directReferrers w x q.id).mpr (Or.inl ⟨q, hq, hqx, rfl⟩)
    · exact (mem_directReferrers w q.id a.id).mpr (Or.inr (Or.inl ⟨a, ha, haq, rfl⟩))
    · exact allIds_pos_of_path w q hq

/-- `FindAreasByPoint`: the two worlds return the same set of areas. -/
theorem areas_by_point_equiv (w : World) (hw : WellTyped w) (hc : Consistent w) (x : Id) (hx : x.t = .point) (y : Id) :
    y ∈ areasB w x ↔ y ∈ areasC w x := by
  have hB : y ∈ areasB w x ↔ (y ∈ closure w x ∧ y.t = .area) := by
    simp [areasB, refsB, List.mem_filter]
  rw [hB, closure_areas w hw x hx, mem_areasC]
  constructor
  · rintro ⟨a, ha, rfl, q, hq, hqx, haq⟩
    have hk := (kept_path_iff w hc x q.id).mp ⟨q, hq, hqx, rfl⟩
    refine ⟨hx, ?_, ⟨q.id, hk.1, hk.2, a, hc.areaFromSource a ha, haq, rfl⟩, ?_⟩
    · have := hc.pointsExist q hq x (List.contains_iff_mem.mp hqx)
      simp [hasFeature, hx, this]
    · rw [List.any_eq_true]; exact ⟨a, ha, by simp⟩
  · rintro ⟨_, _, ⟨pid, hp1, hp2, a', ha', hap, rfl⟩, hex⟩
    rw [List.any_eq_true] at hex
    obtain ⟨a, ha, haid⟩ := hex
    have haid' : a.id = a'.id := by simpa using haid
    have : a = a' := B6.Lemmas.Basic.eq_of_nodup_map (·.id) hc.uniqueAreas (hc.areaFromSource a ha) ha' haid'
    subst this
    obtain ⟨q, hq, hqx, hqid⟩ := (kept_path_iff w hc x pid).mpr ⟨hp1, hp2⟩
    exact ⟨a, ha, rfl, q, hq, hqx, by rw [hqid]; exact hap⟩

/-! ## FindReferences / FindRelationsByFeature -/

theorem hasFeature_of_directReferrer (w : World) (hw : WellTyped w) (z y : Id) (h : y ∈ directReferrers w z) : hasFeature w y = true := by
  rcases (mem_directReferrers w z y).mp h with ⟨q, hq, _, rfl⟩ | ⟨a, ha, _, rfl⟩ | ⟨r, hr, _, rfl⟩
  · simp only [hasFeature, (hw.paths q hq).1, List.any_eq_true]; exact ⟨q, hq, by simp⟩
  · simp only [hasFeature, (hw.areas a ha).1, List.any_eq_true]; exact ⟨a, ha, by simp⟩
  · simp only [hasFeature, hw.relations r hr, List.any_eq_true]; exact ⟨r, hr, by simp⟩

/-- **one step agrees**: for an id that has a record, the features the compact world finds from its records are
exactly the direct referrers of the in-memory world's index — clause by clause: the paths through a point, the areas
over a path, the relations of anything. -/
theorem direct_equiv (w : World) (hw : WellTyped w) (hc : Consistent w) (z : Id) (hz : hasRecord w z = true) (y : Id) :
    y ∈ directReferrers w z ↔ y ∈ directC w z := by
  have hpaths : (∃ q ∈ w.paths, q.refs.contains z = true ∧ q.id = y) ↔
      z.t = .point ∧ y ∈ (findPathsByPoint w z).filter (pathExists w) := by
    rw [kept_path_iff w hc z y, List.mem_filter, findPathsByPoint, mem_dedup, iff_and_self, ← kept_path_iff w hc z y]
    rintro ⟨q, hq, hqz, _⟩
    exact (hw.paths q hq).2 z (List.contains_iff_mem.mp hqz)
  have hareas : (∃ a ∈ w.areas, (a.polys.any fun ids => ids.contains z) = true ∧ a.id = y) ↔
      z.t = .path ∧ y ∈ areasOfPathC w z := by
    rw [mem_areasOfPathC]
    constructor
    · rintro ⟨a, ha, haz, rfl⟩
      obtain ⟨ids, hids, hz'⟩ := List.any_eq_true.1 haz
      have hzt : z.t = .path := (hw.areas a ha).2 ids hids z (List.contains_iff_mem.mp hz')
      exact ⟨hzt, by simpa [hasRecord, hasFeature, hzt, pathExists] using hz, ⟨a, hc.areaFromSource a ha, haz, rfl⟩,
        List.any_eq_true.2 ⟨a, ha, by simp⟩⟩
    · rintro ⟨_, _, ⟨a', ha', haz, rfl⟩, hex⟩
      obtain ⟨a, ha, haid⟩ := List.any_eq_true.1 hex
      have : a = a' := B6.Lemmas.Basic.eq_of_nodup_map (·.id) hc.uniqueAreas (hc.areaFromSource a ha) ha'
        (by simpa using haid)
      subst this
      exact ⟨a, ha, haz, rfl⟩
  rw [mem_directReferrers, hpaths, hareas]
  simp only [directC, List.mem_append, List.mem_ite_nil_right, mem_relsDirectC, hz, true_and, or_assoc]

/-- **the two closures agree**: from an id that has a record, the compact world's worklist over its records
reaches exactly what the in-memory world's references index reaches. -/
theorem closure_equiv (w : World) (hw : WellTyped w) (hc : Consistent w) (x : Id) (hx : hasRecord w x = true) (y : Id) :
    y ∈ closure w x ↔ y ∈ closureC w x := by
  unfold closure closureC
  apply expand_congr (directReferrers w) (directC w) (fun z => hasRecord w z = true)
  · intro z _ y hy
    simp [hasRecord, hasFeature_of_directReferrer w hw z y hy]
  · intro z hz y; exact direct_equiv w hw hc z hz y
  · intro z hz; simp only [List.mem_singleton] at hz; rw [hz]; exact hx
  · intro y; rfl
  · intro y; rfl

/-- **`FindReferences`, any type filter**: same id set in both worlds, for every id that has a record (a feature,
or any point id). -/
theorem references_equiv (w : World) (hw : WellTyped w) (hc : Consistent w) (x : Id) (hx : hasRecord w x = true)
    (ts : List FT) (y : Id) : y ∈ refsB w x ts ↔ y ∈ refsC w x ts := by
  simp only [refsB, refsC, List.mem_filter, closure_equiv w hw hc x hx y]

/-- **`FindRelationsByFeature`**: same id set in both worlds, for every id that has a record. -/
theorem relations_by_feature_equiv (w : World) (hw : WellTyped w) (hc : Consistent w) (x : Id)
    (hx : hasRecord w x = true) (y : Id) : y ∈ relsB w x ↔ y ∈ relsC w x :=
  references_equiv w hw hc x hx [.relation] y

/-! ## Traverse -/

/-- **the scanning of `traverse` and of `fillPathSegments` agree**: for any test of the intermediate points,
"first node in each direction, end points are nodes" (in-memory world) and "`previous` / `next` with the end
points as defaults, dropped when equal to the origin" (compact world) give the same segments. -/
theorem traverse_scan_equiv (node : Nat → Bool) (qid : Id) (n idx : Nat) (h : idx < n) (s : Seg) :
    s ∈ scanB node qid n idx ↔ s ∈ scanC node qid n idx := by
  have htl : ∀ (c : Prop) [Decidable c] (x : Nat),
      (if c then some x else none).toList.map (fun i => Seg.mk qid idx i) = if c then [Seg.mk qid idx x] else [] := by
    intro c _ x; split <;> rfl
  have hdown := down_ends node n idx h
  by_cases hlast : idx + 1 < n
  · obtain ⟨k, rfl⟩ := Nat.exists_eq_add_of_lt hlast
    have e1 : idx + 1 + k + 1 - (idx + 1) = k + 1 := by rw [Nat.add_assoc]; exact Nat.add_sub_cancel_left _ _
    have e2 : idx + 1 + k - (idx + 1) = k := Nat.add_sub_cancel_left _ _
    obtain ⟨hup, hge⟩ := up_ends node _ idx k rfl
    have hne : (upFrom node (idx + 1) k).getD (idx + 1 + k) ≠ idx := Nat.ne_of_gt hge
    unfold scanB scanC
    dsimp only
    rw [e1, Nat.add_sub_cancel, e2, hup, hdown, if_pos hne]
    simp only [htl, List.mem_append]
    exact or_comm
  · obtain rfl : n = idx + 1 := Nat.le_antisymm (Nat.le_of_not_lt hlast) h
    have e1 : idx + 1 - (idx + 1) = 0 := Nat.sub_self _
    have e2 : idx + 1 - 1 - (idx + 1) = 0 := Nat.sub_eq_zero_of_le (Nat.le_succ idx)
    have hne : ¬ (upFrom node (idx + 1) 0).getD (idx + 1 - 1) ≠ idx := fun h => h rfl
    unfold scanB scanC
    dsimp only
    rw [e1, e2, hdown, if_neg hne]
    simp only [htl, List.mem_append]
    exact or_comm

/-- the two intersection tests count the same thing: the distinct kept paths through the point -/
theorem count_equiv (w : World) (hc : Consistent w) (hu : UniqueKept w) (p : Id) : pathCountB w p = countPaths w p := by
  unfold pathCountB countPaths
  have h1 : ((w.paths.filter fun q => q.refs.contains p).map (·.id)).Nodup :=
    List.Nodup.sublist (List.Sublist.map _ List.filter_sublist) hu
  have h2 : ((dedup (pointPaths w p)).filter (pathExists w)).Nodup :=
    List.Nodup.sublist List.filter_sublist (dedup_spec _).1
  have hperm : ((w.paths.filter fun q => q.refs.contains p).map (·.id)).Perm ((dedup (pointPaths w p)).filter (pathExists w)) := by
    rw [List.perm_ext_iff_of_nodup h1 h2]
    intro y
    simp only [List.mem_map, List.mem_filter, mem_dedup]
    have := kept_path_iff w hc p y
    constructor
    · rintro ⟨q, ⟨hq, hqp⟩, hid⟩; exact this.mp ⟨q, hq, hqp, hid⟩
    · intro h
      obtain ⟨q, hq, hqp, hid⟩ := this.mpr h
      exact ⟨q, ⟨hq, hqp⟩, hid⟩
  have := hperm.length_eq
  simpa using this

theorem interior_equiv (w : World) (hc : Consistent w) (hu : UniqueKept w) (refs : List Id) :
    interiorB w refs = interiorC w refs := by
  funext i
  unfold interiorB interiorC isNodeC
  cases refs[i]? with
  | none => rfl
  | some pid => simp only [count_equiv w hc hu pid]; exact Bool.or_comm _ _

theorem segments_equiv (w : World) (hc : Consistent w) (hu : UniqueKept w) (x : Id) (q : Path) (s : Seg) :
    s ∈ segmentsB w x q ↔ s ∈ segmentsC w x q := by
  unfold segmentsB segmentsC
  cases hl : lastIndexOf q.refs x with
  | none => simp
  | some idx =>
    simp only
    rw [interior_equiv w hc hu]
    by_cases hlt : idx < q.refs.length
    · exact traverse_scan_equiv _ _ _ _ hlt s
    · exact absurd (lastIndexOf_lt q.refs x idx hl) hlt

theorem findPath_iff (w : World) (hu : UniqueKept w) (pid : Id) (q : Path) :
    findPath w.paths pid = some q ↔ q ∈ w.paths ∧ q.id = pid := by
  unfold findPath
  rw [B6.Lemmas.Basic.find?_eq_some_iff_unique (fun a ha b hb pa pb => B6.Lemmas.Basic.eq_of_nodup_map (·.id) hu ha hb
    ((of_decide_eq_true pa).trans (of_decide_eq_true pb).symm)), decide_eq_true_iff]

/-- **`Traverse`: the two worlds return the same set of segments**, for every point id (the closed-way and
revisited-point cases included: both start from the last position of the origin along the path). -/
theorem traverse_equiv (w : World) (hc : Consistent w) (hu : UniqueKept w) (x : Id) (hx : x.t = .point) (s : Seg) :
    s ∈ traverseB w x ↔ s ∈ traverseC w x := by
  unfold traverseB traverseC
  simp only [List.mem_flatMap, findPathsByPoint, mem_dedup]
  constructor
  · intro h
    by_cases hf : hasFeature w x = true
    · simp only [hf, Bool.not_true, Bool.false_eq_true, ite_false, List.mem_flatMap, List.mem_filter] at h
      obtain ⟨q, ⟨hq, hqx⟩, hs⟩ := h
      have hk := (kept_path_iff w hc x q.id).mp ⟨q, hq, hqx, rfl⟩
      refine ⟨q.id, hk.1, ?_⟩
      rw [(findPath_iff w hu q.id q).mpr ⟨hq, rfl⟩]
      exact (segments_equiv w hc hu x q s).mp hs
    · have hf' : hasFeature w x = false := by simpa using hf
      simp [hf'] at h
  · rintro ⟨pid, hp, hs⟩
    cases hfp : findPath w.paths pid with
    | none => rw [hfp] at hs; simp at hs
    | some q =>
      rw [hfp] at hs
      simp only at hs
      obtain ⟨hq, hid⟩ := (findPath_iff w hu pid q).mp hfp
      obtain ⟨q', hq', hqx, hid'⟩ := (kept_path_iff w hc x pid).mpr ⟨hp, (mem_pathExists w pid).mpr ⟨q, hq, hid⟩⟩
      have : q' = q := B6.Lemmas.Basic.eq_of_nodup_map (·.id) hu hq' hq (by rw [hid', hid])
      subst this
      have hex : hasFeature w x = true := by
        have := hc.pointsExist q' hq' x (List.contains_iff_mem.mp hqx)
        simp [hasFeature, hx, this]
      simp only [hex, Bool.not_true, Bool.false_eq_true, ite_false, List.mem_flatMap, List.mem_filter]
      exact ⟨q', ⟨hq', hqx⟩, (segments_equiv w hc hu x q' s).mpr hs⟩

/-! ## lookup, existence, location, enumeration -/

/-- **`FindFeatureByID`**: looking the id up in the in-memory id map and in the compact blocks of its type give
the same feature (or both nothing). -/
theorem find_equiv (w : World) (ht : Typed w) (x : Id) : findB w x = findC w x := by
  have hp := find?_map_rec w.points Rec.point (·.id) (fun _ => rfl) x
  have hq := find?_map_rec w.paths Rec.path (·.id) (fun _ => rfl) x
  have ha := find?_map_rec w.areas Rec.area (·.id) (fun _ => rfl) x
  have hr := find?_map_rec w.relations Rec.relation (·.id) (fun _ => rfl) x
  -- a block of another type than the id's holds nothing under the id
  have n1 : x.t ≠ .point → w.points.find? (fun p => decide (p.id = x)) = none := fun h =>
    find?_none_of_type w.points (·.id) x (fun p hp' => by rw [ht.points p hp']; exact h.symm)
  have n2 : x.t ≠ .path → w.paths.find? (fun p => decide (p.id = x)) = none := fun h =>
    find?_none_of_type w.paths (·.id) x (fun p hp' => by rw [ht.paths p hp']; exact h.symm)
  have n3 : x.t ≠ .area → w.areas.find? (fun p => decide (p.id = x)) = none := fun h =>
    find?_none_of_type w.areas (·.id) x (fun p hp' => by rw [ht.areas p hp']; exact h.symm)
  have n4 : x.t ≠ .relation → w.relations.find? (fun p => decide (p.id = x)) = none := fun h =>
    find?_none_of_type w.relations (·.id) x (fun p hp' => by rw [ht.relations p hp']; exact h.symm)
  unfold findB findC allFeatures
  simp only [List.find?_append, hp, hq, ha, hr]
  cases hx : x.t <;> rw [hx] at n1 n2 n3 n4
  · simp [n2, n3, n4]
  · simp [n1, n3, n4]
  · simp [n1, n2, n4]
  · simp [n1, n2, n3]

/-- **`HasFeatureWithID`**: on both sides it is `FindFeatureByID` ≠ nil -/
theorem has_equiv (w : World) (ht : Typed w) (x : Id) : hasB w x = hasC w x := by
  unfold hasB hasC; rw [find_equiv w ht x]

/-- **`FindLocationByID`** of a point id: the in-memory world looks the feature up and asks whether it is a
point; the compact world scans the point blocks of the id's namespace by value. -/
theorem location_equiv (w : World) (ht : Typed w) (x : Id) (hx : x.t = .point) : locB w x = locC w x := by
  unfold locB locC
  rw [find_equiv w ht x]
  unfold findC
  simp only [hx]
  have : w.points.find? (fun p => decide (p.id.ns = x.ns ∧ p.id.v = x.v)) = w.points.find? (fun p => decide (p.id = x)) := by
    apply B6.Lemmas.Basic.find?_congr_mem
    intro p hp
    have hpt := ht.points p hp
    obtain ⟨⟨pt, pns, pv⟩, _, _⟩ := p
    obtain ⟨xt, xns, xv⟩ := x
    simp only at hpt hx
    simp [hpt, hx]
  rw [this]
  cases w.points.find? (fun p => decide (p.id = x)) <;> rfl

/-- **`EachFeature`**: the compact world's enumeration (blocks by type, buckets in order, ids sorted within a
bucket) visits exactly the features of the in-memory id map, each once — for any number of buckets. -/
theorem ids_equiv (w : World) (nb : Nat) (hnb : 0 < nb) : (idsC w nb).Perm (idsB w) := by
  unfold idsC idsB allFeatures
  simp only [List.map_append, List.map_map]
  have e1 : (Rec.id ∘ Rec.point) = fun (p : Point) => p.id := rfl
  have e2 : (Rec.id ∘ Rec.path) = fun (p : Path) => p.id := rfl
  have e3 : (Rec.id ∘ Rec.area) = fun (p : Area) => p.id := rfl
  have e4 : (Rec.id ∘ Rec.relation) = fun (p : Relation) => p.id := rfl
  rw [e1, e2, e3, e4]
  exact List.Perm.append (List.Perm.append (List.Perm.append (blockOrder_perm nb hnb _) (blockOrder_perm nb hnb _))
    (blockOrder_perm nb hnb _)) (blockOrder_perm nb hnb _)

/-! ## the worlds `build` produces satisfy the invariants -/

/-- what a source has to satisfy: path, area and relation ids typed by the feature they name, references typed, path and
area ids distinct -/
structure SourceOK (src : Source) : Prop where
  paths : ∀ q ∈ srcPaths src, q.id.t = .path ∧ ∀ r ∈ q.refs, r.t = .point
  areas : ∀ a ∈ srcAreas src, a.id.t = .area ∧ ∀ ids ∈ a.polys, ∀ i ∈ ids, i.t = .path
  relations : ∀ r ∈ srcRelations src, r.id.t = .relation
  uniquePaths : ((srcPaths src).map (·.id)).Nodup
  uniqueAreas : ((srcAreas src).map (·.id)).Nodup

theorem build_wellTyped (src : Source) (h : SourceOK src) : WellTyped (build src) := by
  constructor
  · intro q' hq'
    obtain ⟨q, hq, _, rfl⟩ := (mem_build_paths src q').mp hq'
    exact ⟨(h.paths q hq).1, fun r hr => (h.paths q hq).2 r ((mem_finalRefs q r).mp hr)⟩
  · intro a ha
    have : a ∈ srcAreas src := by
      simp only [build, List.mem_filter] at ha; exact ha.1
    exact h.areas a this
  · intro r hr
    exact h.relations r (by simpa [build] using hr)

theorem build_consistent (src : Source) (h : SourceOK src) : Consistent (build src) := by
  constructor
  · intro q' hq'
    obtain ⟨q, hq, hv, rfl⟩ := (mem_build_paths src q').mp hq'
    refine ⟨q, by simpa [build] using hq, rfl, ?_⟩
    intro z
    simp only [mem_finalRefs]
    fun_cases visits q with
    | case1 hcl =>
      have hl : 2 ≤ q.refs.length := by
        simp only [pathValid, Bool.and_eq_true, decide_eq_true_eq] at hv
        exact hv.1.1
      exact (mem_dropLast_of_closed q.refs hcl hl z).symm
    | case2 hcl => rfl
  · simpa [build] using h.uniquePaths
  · intro a ha
    simp only [build, List.mem_filter] at ha ⊢; exact ha.1
  · simpa [build] using h.uniqueAreas
  · intro q' hq' r hr
    obtain ⟨q, hq, hv, rfl⟩ := (mem_build_paths src q').mp hq'
    have hr' : r ∈ q.refs := (mem_finalRefs q r).mp hr
    simp only [pathValid, Bool.and_eq_true, List.all_eq_true] at hv
    have := hv.1.2 r hr'
    simp only [locOf, Option.isSome_map] at this
    rw [List.any_eq_true]
    cases hf : (srcPoints src).find? (fun p => decide (p.id = r)) with
    | none => rw [hf] at this; simp at this
    | some p =>
      exact ⟨p, by simpa [build] using List.mem_of_find?_eq_some hf, by simpa using List.find?_some hf⟩

theorem build_uniqueKept (src : Source) (h : SourceOK src) : UniqueKept (build src) := by
  unfold UniqueKept
  have : ((build src).paths.map (·.id)) = ((srcPaths src).filter (pathValid (srcPoints src))).map (·.id) := by
    simp [build, List.map_map, Function.comp_def]
  rw [this]
  exact List.Nodup.sublist (List.Sublist.map _ List.filter_sublist) h.uniquePaths

theorem build_typed (src : Source) (h : SourceOK src) (hp : ∀ p ∈ srcPoints src, p.id.t = .point) : Typed (build src) := by
  have hw := build_wellTyped src h
  exact ⟨fun p hp' => hp p (by simpa [build] using hp'), fun q hq => (hw.paths q hq).1,
    fun a ha => (hw.areas a ha).1, hw.relations⟩

/-! ## tag search -/

section search
open B6.Spec.Cursor B6.Spec.SearchQuery B6.Spec.TagQuery B6.Model.FeatureSearch B6.Lemmas.Search B6.Lemmas.TagQuery

/-- **tag search, in ID order**, in C03's model: an in-memory index (array or tree) built from a feature list and the
compact index (C08 posting lists read by the byte-level `compact.Iterator` model, namespace table `names`) built from any
permutation of it return the same ids in the same order for every query over searchable tags — both return `expected`
(C03 `find_features_spec`, `find_features_spec_compact`).  The lists are not tied to a `World`. -/
theorem search_equiv (kind : LeafKind) (hkind : kind ≠ .compact) (names : List String)
    (ht : B6.Model.Posting.TableOK ⟨names⟩) (hne : names ≠ [])
    (fs fs' : List B6.Spec.TagQuery.Feature) (hp : fs.Perm fs') (hfs : ∀ f ∈ fs, FeatureOK f)
    (hid : (fs.map B6.Spec.TagQuery.Feature.id).Nodup) (hcf : ∀ f ∈ fs, B6.Props.C03.CompactFeatureOK names f)
    (q : B6.Spec.TagQuery.Query) (hq : QueryOK q) :
    findFeatures (buildIndex kind fs) q = findFeatures (buildIndex .compact fs' names) q := by
  have hfs' : ∀ f ∈ fs', FeatureOK f := fun f hf => hfs f (hp.mem_iff.mpr hf)
  have hcf' : ∀ f ∈ fs', B6.Props.C03.CompactFeatureOK names f := fun f hf => hcf f (hp.mem_iff.mpr hf)
  have hid' : (fs'.map B6.Spec.TagQuery.Feature.id).Nodup := (hp.map _).nodup_iff.mp hid
  rw [B6.Props.C03.find_features_spec kind hkind fs hfs hid q hq,
    B6.Props.C03.find_features_spec_compact names ht hne fs' hfs' hid' hcf' q hq, expected_perm fs fs' hp q]

/-- non-vacuity: C03's example features, table and query satisfy the hypotheses (shown there); the two worlds'
searches over them, indexed in opposite orders, agree -/
example : (findFeatures (buildIndex .array B6.Props.C03.exFeatures) B6.Props.C03.exQuery).toOption =
    (findFeatures (buildIndex .compact B6.Props.C03.exFeatures.reverse ["", "a", "b"]) B6.Props.C03.exQuery).toOption := by
  decide +kernel

end search

/-! ## non-vacuity, and the witness of the known disagreement -/

def n (v : Nat) : Id := ⟨.point, 0, v⟩
def wy (v : Nat) : Id := ⟨.path, 2, v⟩
def pt (v : Nat) : Feature := .point { id := n v, loc := toString v, tags := [("point", toString v)] }

/-- points 1..4, a closed clockwise way 10 = [1,2,3,1] (stored inverted) with its area, an open way 11 = [4,1],
a route relation 50 over way 11 and a relation 51 over relation 50 -/
def demo : Source :=
  [pt 1, pt 2, pt 3, pt 4,
   .path { id := wy 10, refs := [n 1, n 2, n 3, n 1], loopOk := true, cw := true, tags := [] },
   .area { id := ⟨.area, 2, 10⟩, polys := [[wy 10]], tags := [] },
   .path { id := wy 11, refs := [n 4, n 1], loopOk := false, cw := false, tags := [] },
   .relation { id := ⟨.relation, 1, 50⟩, members := [(wy 11, "")], tags := [] },
   .relation { id := ⟨.relation, 1, 51⟩, members := [(⟨.relation, 1, 50⟩, "")], tags := [] }]

example : SourceOK demo := by
  constructor <;> decide

example : refsB (build demo) (n 1) [.path] = [wy 10, wy 11] ∧ refsC (build demo) (n 1) [.path] = [wy 10, wy 11] := by decide +kernel

example : areasB (build demo) (n 2) = [⟨.area, 2, 10⟩] ∧ areasC (build demo) (n 2) = [⟨.area, 2, 10⟩] := by decide +kernel

example : traverseB (build demo) (n 1) = [⟨wy 10, 3, 0⟩, ⟨wy 11, 1, 0⟩] ∧ traverseC (build demo) (n 1) = [⟨wy 10, 3, 0⟩, ⟨wy 11, 1, 0⟩] := by decide +kernel

example : findB (build demo) (wy 10) = findC (build demo) (wy 10) ∧ (findC (build demo) (wy 10)).isSome = true ∧
    locB (build demo) (n 2) = some "2" ∧ locC (build demo) (n 2) = some "2" ∧
    idsC (build demo) 4 ≠ idsB (build demo) := by decide +kernel

example : refsB (build demo) (n 4) [] = refsC (build demo) (n 4) [] ∧
    refsC (build demo) (n 4) [] = [wy 11, ⟨.relation, 1, 50⟩, ⟨.relation, 1, 51⟩] ∧
    relsC (build demo) (n 1) = [⟨.relation, 1, 50⟩, ⟨.relation, 1, 51⟩] ∧ hasRecord (build demo) (n 9) = true := by decide +kernel

/-- a relation over a way that does not exist -/
def demoAbsent : Source := demo ++ [.relation { id := ⟨.relation, 1, 52⟩, members := [(wy 14, "")], tags := [] }]

/-- **the hypothesis `hasRecord` is needed**: way 14 does not exist but relation 52 lists it. The in-memory world's
references index is keyed by id whether or not the feature exists and returns relation 52; the compact world
keeps the back-references on the member's own record, and there is none (finding
`compact-referrers-of-absent-id`). -/
theorem references_absent_counterexample :
    hasRecord (build demoAbsent) (wy 14) = false ∧
    relsB (build demoAbsent) (wy 14) = [⟨.relation, 1, 52⟩] ∧ relsC (build demoAbsent) (wy 14) = [] := by decide +kernel

end B6.Props.C02
