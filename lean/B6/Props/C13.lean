import B6.Lemmas.MutableAtomic
/-!
# C13 — A rejected change leaves the world as it was

Model: `B6.Model.Mutable` — `Layer.addFeature` performs the temporary replacement
`(*m.features)[id] = f`, validates the referrers against that world, and puts the existing feature
back (or deletes the temporary entry) on **both** outcomes, as mutable.go does after
`fixes/C13-restore-on-rejected-replacement.patch` and `fixes/C13-validate-referrers-of-base-features.patch`;
`mergedApply` is `MergedChange.Apply` (canary overlay over the world, then the real thing).
Validation decisions (`validate`) use the `Oracle` for what S2 decides; the theorems hold for every oracle.
-/
namespace B6.Props.C13
open B6.Model.Mutable
open B6.Spec.World (changeIds)

/-- every observation C13 speaks about: lookups (tags, geometry, resolved coordinates), locations,
search hits and what they are wrapped as, references, enumeration (as a set of ids) -/
structure ObsEq (v v' : View) : Prop where
  find : v'.find = v.find
  hitFV : v'.hitFV = v.hitFV
  loc : v'.loc = v.loc
  search : v'.search = v.search
  refs : v'.refs = v.refs
  ids : ∀ id, id ∈ v'.ids ↔ id ∈ v.ids

theorem obsEq_of_same {l l' : Layer} (h : l.Same l') (b : View) (ll : Id → Option Pt) :
    ObsEq (l.view b ll) (l'.view b ll) :=
  ⟨h.find b, h.hitFV b ll, h.loc b, h.search b, h.refsOf b, h.mem_ids b⟩

/-- **Rejected AddFeature.** If `AddFeature` reports an error — because the feature itself, or a feature
that references it, would be invalid — the world it leaves behind answers every query as before. -/
theorem rejected_unchanged {b : View} {o : Oracle} {l l' : Layer} {f : Feature} {e : Err}
    (h : l.addFeature b o f = (l', some e)) (ll : Id → Option Pt) :
    ObsEq (l.view b ll) (l'.view b ll) :=
  obsEq_of_same (prim_rejected (p := .feat f) h).2 b ll

/-- the same for every operation of the mutable world that reports an error other than the
"partially applied" one of a merged change (excluded by `merged_atomic_partial` below) -/
theorem rejected_unchanged_step {b : View} {o : Oracle} {l l' : Layer} {op : Op} {e : Err}
    (h : l.step b o op = (l', some e)) (he : e ≠ .partiallyApplied) (ll : Id → Option Pt) :
    ObsEq (l.view b ll) (l'.view b ll) := by
  rcases step_cases b o l op with ⟨l1, h1, _⟩ | ⟨l1, e1, h1, _, hs⟩ | ⟨l1, e1, h1, _⟩ <;> rw [h1] at h <;> cases h
  · exact obsEq_of_same hs b ll
  · exact absurd rfl he

/-! ## Merged changes -/

/-- the outcome C13 demands of a merged change on the world `l` over `b`: all parts applied, or an error
and the world literally untouched — never "partially applied" -/
def AtomicOutcome (b : View) (o : Oracle) (l : Layer) (cs : List Change) : Prop :=
  (∃ l', mergedApply b o l cs = (l', none) ∧ applyAll b o l cs = (l', none)) ∨
  (∃ e, e ≠ Err.partiallyApplied ∧ mergedApply b o l cs = (l, some e))

/-- **the full statement**: over any valid base whose `FindReferences` is complete, in every world reachable
by any history of AddFeature / AddTag / RemoveTag / merged changes (whatever they answered), every merged
change is atomic.  (`opOKsf` / `changesOK`: paths and areas do not name themselves — automatic with
typed ids.)  Proved below: `merged_atomic`. -/
def merged_atomic_statement : Prop :=
  ∀ (b : View) (o : Oracle) (ops : List Op) (cs : List Change),
    BaseOK b → AllValid b o → (∀ op ∈ ops, opOKsf op) → changesOK cs →
    AtomicOutcome b o (runOps b o Layer.empty ops).1 cs

/-- the canary is faithful for a change list: whatever the fresh overlay over the world accepts, the
world accepts -/
def CanaryFaithful (b : View) (o : Oracle) (l : Layer) (cs : List Change) : Prop :=
  (applyAll (l.view b (l.loc b)) o Layer.empty cs).2 = none → (applyAll b o l cs).2 = none

/-- **Merged change, reduced to the canary.** Atomicity holds for every change list on which the canary is
faithful.  `CanaryFaithful` is proved below for tag-only lists (`canary_faithful_tags`), for lists on which
the two worlds' `FindReferences` agree (`canary_faithful`), and in every reachable world
(`canary_faithful_reachable`); the correspondence run checks it too (`propfail merged-partially-applied`). -/
theorem merged_atomic_partial (b : View) (o : Oracle) (l : Layer) (cs : List Change)
    (hc : CanaryFaithful b o l cs) :
    (∃ l', mergedApply b o l cs = (l', none) ∧ applyAll b o l cs = (l', none)) ∨
    (∃ e, e ≠ Err.partiallyApplied ∧ mergedApply b o l cs = (l, some e)) := by
  rcases mergedApply_cases b o l cs with ⟨e, he, h1, _⟩ | ⟨l1, h1, h2⟩ | ⟨l1, e, _, h2, h3⟩
  · exact Or.inr ⟨e, he, h1⟩
  · exact Or.inl ⟨l1, h1, h2⟩
  · have := hc h3
    rw [h2] at this
    cases this

/-! ### the canary is faithful for tag changes -/

def tagOnly : Change → Bool
  | .addFeatures _ => false
  | _ => true

theorem edits_of_tagOnly {cs : List Change} (hc : ∀ c ∈ cs, tagOnly c = true) :
    ∀ p ∈ cs.flatMap Change.prims, ∃ k m, p.Edits p.target k m := by
  refine List.forall_mem_flatMap.2 fun c hcs => ?_
  cases c with
  | addFeatures fs => cases hc _ hcs
  | addTags ts => exact List.forall_mem_map.2 fun e _ => ⟨_, _, .tag e.1 e.2⟩
  | removeTags ts => exact List.forall_mem_map.2 fun e _ => ⟨_, _, .untag e.1 e.2⟩

/-- **The canary is faithful for tag changes** (`AddTags` / `RemoveTags` parts in any number and order). -/
theorem canary_faithful_tags {b : View} {o : Oracle} {l : Layer} (hb : b.IdsOK) (hl : l.FeatsId)
    (cs : List Change) (hc : ∀ c ∈ cs, tagOnly c = true) : CanaryFaithful b o l cs := by
  intro h
  rw [applyAll_eq_prims] at h ⊢
  rwa [prims_faithful_edits (view_idsOK hb hl _) hb _ _ _ (sim_init b l hl) (edits_of_tagOnly hc)] at h

/-- **Merged tag changes are atomic** — unconditionally. -/
theorem merged_atomic_tags {b : View} {o : Oracle} {l : Layer} (hb : b.IdsOK) (hl : l.FeatsId)
    (cs : List Change) (hc : ∀ c ∈ cs, tagOnly c = true) :
    (∃ l', mergedApply b o l cs = (l', none) ∧ applyAll b o l cs = (l', none)) ∨
    (∃ e, e ≠ Err.partiallyApplied ∧ mergedApply b o l cs = (l, some e)) :=
  merged_atomic_partial b o l cs (canary_faithful_tags hb hl cs hc)

/-! ### the canary is faithful for every change list, given agreeing `FindReferences` -/

/-- **Canary faithfulness, general.** For ANY change list (AddFeatures, AddTags, RemoveTags parts in any
number and order): if, run in lock step, the canary and the world return the same referrers from
`FindReferences` before every `AddFeature` (`canaryRefsAgree`, an executable check the driver evaluates on
every merged change; it is what C15's `overlay_find_refs_spec` asserts, for upward-closed overlays, of each of the two worlds), then
the fresh overlay over the world accepts the change **iff** the world does — they give the same answer.
The proof is a simulation: the two worlds show the same under every id (`Sim`), hence the same geometry
skeletons and locations, which is all validation reads; it relies
on `ValidateArea` locating path ends in the world being validated
(`fixes/C13-validate-area-locates-ends-in-world.patch` — before it the statement was false, see the corpus). -/
theorem canary_faithful_of_refs {b : View} {o : Oracle} {l : Layer} (hb : b.IdsOK) (hbl : b.LocOK)
    (hl : l.FeatsId) (cs : List Change) (href : canaryRefsAgree b o l cs = true) :
    (applyAll (l.view b (l.loc b)) o Layer.empty cs).2 = (applyAll b o l cs).2 := by
  rw [applyAll_eq_prims, applyAll_eq_prims]
  exact prims_faithful (view_idsOK hb hl (l.loc b)) (view_locOK hbl l (l.loc b)) hb hbl _
    Layer.empty l (sim_init b l hl) href

theorem canary_faithful {b : View} {o : Oracle} {l : Layer} (hb : b.IdsOK) (hbl : b.LocOK)
    (hl : l.FeatsId) (cs : List Change) (href : canaryRefsAgree b o l cs = true) : CanaryFaithful b o l cs := by
  intro h
  rw [← canary_faithful_of_refs hb hbl hl cs href]; exact h

/-- **Merged changes are atomic** — for every change list on which the two `FindReferences` agree. -/
theorem merged_atomic_of_refs {b : View} {o : Oracle} {l : Layer} (hb : b.IdsOK) (hbl : b.LocOK)
    (hl : l.FeatsId) (cs : List Change) (href : canaryRefsAgree b o l cs = true) :
    (∃ l', mergedApply b o l cs = (l', none) ∧ applyAll b o l cs = (l', none)) ∨
    (∃ e, e ≠ Err.partiallyApplied ∧ mergedApply b o l cs = (l, some e)) :=
  merged_atomic_partial b o l cs (canary_faithful hb hbl hl cs href)

/-! ### the canary is faithful in every reachable world -/

/-- **Canary faithfulness from the invariants.** In a world satisfying `Inv` (reference table = inverse of
the overlay's references, copy discipline, every feature valid) over a base with a complete
`FindReferences`, the fresh overlay `MergedChange.Apply` tries a change on gives the SAME answer as the
world, for every change list.  Proof: `AddFeature`'s answer is "f invalid, or a feature depending on f.id
becomes invalid" (`addFeature_err_iff`: validity makes extra referrers harmless, completeness
(`refsComplete_view`) makes the referrer list sufficient) — a function of geometry and locations, on
which canary and world agree (`Sim`); the invariants are preserved by every call on both (`inv_prim`). -/
theorem canary_faithful_inv {b : View} {o : Oracle} {l : Layer} (hb : BaseOK b) (h : Inv b o l)
    (cs : List Change) (hok : changesOK cs) :
    (applyAll (l.view b (l.loc b)) o Layer.empty cs).2 = (applyAll b o l cs).2 := by
  rw [applyAll_eq_prims, applyAll_eq_prims]
  obtain ⟨hv0, hc⟩ := canary_init hb h
  exact prims_faithful_inv hv0 hb _ Layer.empty l (sim_init b l h.feats) hc h hok

/-- **Merged changes are atomic** in every world satisfying the invariants. -/
theorem merged_atomic_inv {b : View} {o : Oracle} {l : Layer} (hb : BaseOK b) (h : Inv b o l)
    (cs : List Change) (hok : changesOK cs) : AtomicOutcome b o l cs :=
  merged_atomic_partial b o l cs (fun hc => by rw [← canary_faithful_inv hb h cs hok]; exact hc)

theorem inv_reachable {b : View} {o : Oracle} (hb : BaseOK b) (hav : AllValid b o) (ops : List Op)
    (hops : ∀ op ∈ ops, opOKsf op) : Inv b o (runOps b o Layer.empty ops).1 :=
  inv_runOps hb ops Layer.empty (inv_empty hav) hops

theorem merged_atomic : merged_atomic_statement :=
  fun _ _ ops cs hb hav hops hcs => merged_atomic_inv hb (inv_reachable hb hav ops hops) cs hcs

/-- the canary is faithful in every reachable world: there the run-time check `canaryRefsAgree` (the hypothesis of
`merged_atomic_of_refs`) is not needed -/
theorem canary_faithful_reachable {b : View} {o : Oracle} (hb : BaseOK b) (hav : AllValid b o) (ops : List Op)
    (hops : ∀ op ∈ ops, opOKsf op) (cs : List Change) (hcs : changesOK cs) :
    CanaryFaithful b o (runOps b o Layer.empty ops).1 cs := by
  intro hc
  rw [← canary_faithful_inv hb (inv_reachable hb hav ops hops) cs hcs]; exact hc

/-! ## Non-vacuity -/

/-- base: a counter-clockwise triangle 1-2-3, closed path 1005 through it, area 2006 over the path -/
def exampleRoot : List Feature :=
  [⟨1, [], .point (0, 0)⟩, ⟨2, [], .point (0, 10)⟩, ⟨3, [], .point (10, 0)⟩,
   ⟨1005, [], .path [1, 2, 3, 1]⟩, ⟨2006, [], .area [1005]⟩]

def exampleOracle : Oracle := ⟨fun pts => decide (pts.length ≥ 3), fun _ => false⟩

/-- the hypothesis of `rejected_unchanged` is satisfiable in the interesting way: the path under the
area is replaced by an open one; the path is valid by itself, the referrer (the area) is not, and the call
is rejected (the temporary entry is written and removed again). -/
example :
    let b := rootView exampleRoot
    let r := Layer.empty.addFeature b exampleOracle ⟨1005, [], .path [1, 2, 3]⟩
    r.2 = some Err.invalid ∧ validate (Layer.empty.view b (Layer.empty.loc b)) exampleOracle ⟨1005, [], .path [1, 2, 3]⟩ = true := by
  decide

/-- a merged change whose second part is rejected leaves the first part unapplied -/
example :
    let b := rootView exampleRoot
    let r := mergedApply b exampleOracle Layer.empty
      [.addTags [(1, ("name", ⟨"s", "x"⟩))], .addFeatures [⟨1005, [], .path [1, 2, 3]⟩]]
    r.2 = some Err.invalid ∧ tagOf (r.1.view b (r.1.loc b)) 1 "name" = some none := by
  decide

/-- the hypotheses of `merged_atomic_of_refs` hold for the merged change above (a tag part and a feature
part that is rejected through its referrer) -/
example : (rootView exampleRoot).IdsOK ∧ (rootView exampleRoot).LocOK ∧ Layer.empty.FeatsId ∧
    canaryRefsAgree (rootView exampleRoot) exampleOracle Layer.empty
      [.addTags [(1, ("name", ⟨"s", "x"⟩))], .addFeatures [⟨1005, [], .path [1, 2, 3]⟩]] = true :=
  ⟨rootView_idsOK _, rootView_locOK _, fun i f h => by simp [Layer.empty] at h, by decide⟩

/-- the hypotheses of `merged_atomic` are met by the root of the examples above (a valid triangle under an
area) with a history that copies the path by a tag edit (the case in which C15's copy discipline fails)
and a merged change with a rejected feature part -/
example : BaseOK (rootView exampleRoot) ∧ AllValid (rootView exampleRoot) exampleOracle ∧
    (∀ op ∈ [Op.addTag 1005 ("#highway", ⟨"s", "a"⟩), Op.addFeature ⟨2, [], .point (0, 11)⟩], opOKsf op) ∧
    changesOK [.addTags [(1, ("name", ⟨"s", "x"⟩))], .addFeatures [⟨1005, [], .path [1, 2, 3]⟩]] := by
  refine ⟨rootView_baseOK _, rootView_allValid _ _ (by decide), ?_, ?_⟩
  · intro op hop
    simp only [List.mem_cons, List.not_mem_nil, or_false] at hop
    rcases hop with rfl | rfl
    · trivial
    · show selfFree _ = true; decide
  · intro p hp
    simp only [List.flatMap_cons, List.flatMap_nil, Change.prims, List.map_cons, List.map_nil, List.append_nil,
      List.cons_append, List.nil_append, List.mem_cons, List.not_mem_nil, or_false] at hp
    rcases hp with rfl | rfl <;> decide

end B6.Props.C13
