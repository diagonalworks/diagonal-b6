import B6.Lemmas.FeatureIndex
import B6.Props.C06
/-!
# C03 — Tag search returns exactly the matching features in ID order

Spec: `B6.Spec.TagQuery` (`denote`, `searchable`, `expected`).  Model: `B6.Model.FeatureSearch` (`TokenForTag`,
`TokensForFeature`, `Query.Compile` = `lower` into the search package's queries, the index built from the features,
`FindFeatures` = a `Next` loop over the compiled iterator of `B6.Model.Search`), `Merged` (`b6.MergeFeatures`).
Theorems are for all feature lists, all query trees (any depth) and all indices satisfying the invariant.
-/
namespace B6.Props.C03
open B6.Spec.Cursor B6.Spec.SearchQuery B6.Spec.TagQuery B6.Model.Search B6.Model.FeatureSearch
open B6.Lemmas.Search B6.Lemmas.TagQuery

/-- **Sound and complete.** For features with well-formed keys and distinct IDs, an index that holds exactly their
postings, and any query over searchable tags, `Query.Compile` yields a well-formed search query that denotes
exactly `expected fs q`: the IDs of the searchable features whose tags satisfy the query, strictly increasing,
each once (and whose key-range bounds lie in any key domain containing the type bounds). -/
theorem compile_sound_complete (fs : List Feature) (ix : Index) (hinv : IndexInv fs ix)
    (hfs : ∀ f ∈ fs, FeatureOK f) (hid : (fs.map Feature.id).Nodup) (q : Query) (hq : QueryOK q)
    (K : Nat → Prop) (hK : ∀ t, (t < 4 ∨ t = 5) → K (typeBegin t)) :
    ∃ sq, lower q = some sq ∧ sq.WF ∧ sq.KeysIn K ∧ sq.denote ix = expected fs q ∧
      StrictSorted (expected fs q) := by
  obtain ⟨sq, h1, h2, hk, h3⟩ := lower_spec fs ix K hinv hfs hid hK q hq
  exact ⟨sq, h1, h2, hk, StrictSorted.ext (denote_spec ix hinv.1 sq).1 (sortDedup_sorted _)
    fun x => (h3 x).trans (mem_expected fs q x).symm, sortDedup_sorted _⟩

/-- The index every world builds (`TokensForFeature` per feature, posting lists kept sorted) satisfies the
invariant — for every feature list. -/
theorem build_index_inv (kind : LeafKind) (fs : List Feature) (names : List String) :
    IndexInv fs (buildIndex kind fs names) := by
  obtain ⟨h1, h2⟩ := foldl_addFeature_spec fs [] ⟨List.Pairwise.nil, fun _ h => nomatch h⟩
  exact ⟨h1, fun t x => (h2 t x).trans (or_iff_left fun h => nomatch h)⟩

/-- what a compact file asks of a feature ID: three type bits, a namespace of the file's table, and not
point/`""` (`TypeAndNamespace` 0, which the posting-list encoder takes for "no namespace yet") -/
def CompactFeatureOK (names : List String) (f : Feature) : Prop :=
  f.typ < 8 ∧ f.ns < names.length ∧ (f.typ ≠ 0 ∨ f.ns ≠ 0)

theorem find_features_of_inv (fs : List Feature) (ix : Index) (hinv : IndexInv fs ix) (hc : CompactOK ix)
    (hK : ∀ t, (t < 4 ∨ t = 5) → ix.dom (typeBegin t)) (hfs : ∀ f ∈ fs, FeatureOK f)
    (hid : (fs.map Feature.id).Nodup) (q : Query) (hq : QueryOK q) :
    findFeatures ix q = .ok (expected fs q) := by
  obtain ⟨sq, h1, h2, hk, h3, _⟩ := compile_sound_complete fs ix hinv hfs hid q hq _ hK
  have href := B6.Props.C06.compile_refines (ix.total + 1) ix hinv.1 hc (Nat.lt_succ_self _) sq h2 hk (depth sq)
    (Nat.le_refl _)
  have hlen : (start (sq.denote ix)).rest.length < ix.total + 1 := Nat.lt_succ_of_le (denote_length_le ix hinv.1 sq)
  unfold findFeatures
  simp only [h1]
  rw [drain_of_refinesAt _ _ _ _ href hlen, ← h3]; rfl

/-- **FindFeatures, any index kind.** On the index built from `fs` — array, tree, or compact (posting lists =
`PostingList.Fill` of each token's IDs, namespace table `names`) — running the compiled iterator with plain `Next`
calls returns exactly `expected fs q`, in that order. -/
theorem find_features_spec_general (kind : LeafKind) (names : List String) (fs : List Feature)
    (hfs : ∀ f ∈ fs, FeatureOK f) (hid : (fs.map Feature.id).Nodup)
    (hcompact : kind = .compact →
      B6.Model.Posting.TableOK ⟨names⟩ ∧ names ≠ [] ∧ ∀ f ∈ fs, CompactFeatureOK names f)
    (q : Query) (hq : QueryOK q) :
    findFeatures (buildIndex kind fs names) q = .ok (expected fs q) := by
  have hinv := build_index_inv kind fs names
  refine find_features_of_inv fs _ hinv ?_ ?_ hfs hid q hq
  · -- the built index is a legitimate compact index: every posted key is the id of a feature
    intro hk
    obtain ⟨ht, _, hcf⟩ := hcompact hk
    refine ⟨ht, fun e he x hx => ?_⟩
    obtain ⟨f, hf, rfl, _⟩ := (hinv.2 e.1 x).1 ((mem_get_iff _ hinv.1 e.1 x).2 ⟨e, he, rfl, hx⟩)
    obtain ⟨h1, h2, h3⟩ := hcf f hf
    have hns : f.ns < 8192 := (hfs f hf).1
    rw [Feature.id, key_div (hfs f hf).2.1, nsBound]
    exact ⟨by omega, show (f.typ * 8192 + f.ns) / 8192 < 8 by omega,
      show (f.typ * 8192 + f.ns) % 8192 < names.length by omega⟩
  · intro t ht
    by_cases hk : kind = .compact
    · have hlen : 0 < names.length := List.length_pos_iff.2 (hcompact hk).2.1
      refine (dom_compact (ix := buildIndex kind fs names) hk _).2 ?_
      show B6.Model.Posting.TnOK ⟨names⟩ (key t 0 0 / 2 ^ 64)
      rw [key_div (show 0 < valBound by decide), nsBound]
      exact ⟨by omega, show (t * 8192 + 0) % 8192 < names.length by omega⟩
    · exact dom_of_not_compact (ix := buildIndex kind fs names) hk _

/-- **FindFeatures** on the in-memory worlds (basic: array index; mutable: tree index). -/
theorem find_features_spec (kind : LeafKind) (hkind : kind ≠ .compact) (fs : List Feature)
    (hfs : ∀ f ∈ fs, FeatureOK f) (hid : (fs.map Feature.id).Nodup) (q : Query) (hq : QueryOK q) :
    findFeatures (buildIndex kind fs) q = .ok (expected fs q) :=
  find_features_spec_general kind [] fs hfs hid (fun h => absurd h hkind) q hq

/-- **FindFeatures on a compact world**: the index's token lists are C08 posting lists (`PostingList.Fill` of each
token's feature IDs), read by the byte-level `compact.Iterator` model under the same iterator algebra. -/
theorem find_features_spec_compact (names : List String) (ht : B6.Model.Posting.TableOK ⟨names⟩)
    (hne : names ≠ []) (fs : List Feature) (hfs : ∀ f ∈ fs, FeatureOK f) (hid : (fs.map Feature.id).Nodup)
    (hcf : ∀ f ∈ fs, CompactFeatureOK names f) (q : Query) (hq : QueryOK q) :
    findFeatures (buildIndex .compact fs names) q = .ok (expected fs q) :=
  find_features_spec_general .compact names fs hfs hid (fun _ => ⟨ht, hne, hcf⟩) q hq

/-- **k-way merge.** `b6.MergeFeatures` over streams that yield strictly increasing ID lists yields, under any
number of `Next` calls, what the spec cursor over the merged, duplicate-free list yields. -/
theorem merge_sorted_dedup {σ : Type} (o : IterOps σ) (streams : List (σ × List Nat)) (ys : List Nat)
    (hch : ∀ p ∈ streams, Refines o p.1 p.2) (hys : StrictSorted ys)
    (hmem : ∀ x, x ∈ ys ↔ ∃ p ∈ streams, x ∈ p.2) (n : Nat) :
    runImpl (mergedOps o) (.fresh (streams.map (·.1))) (List.replicate n Call.next) =
      some (runSpec (start ys) (List.replicate n Call.next)) :=
  merged_run o n _ _ (B6.Lemmas.Search.union_refines o streams ys hch hys hmem)

/-- … in particular a full drain returns exactly the merged list, then `false`. -/
theorem merge_drain {σ : Type} (o : IterOps σ) (streams : List (σ × List Nat)) (ys : List Nat)
    (hch : ∀ p ∈ streams, Refines o p.1 p.2) (hys : StrictSorted ys)
    (hmem : ∀ x, x ∈ ys ↔ ∃ p ∈ streams, x ∈ p.2) :
    runImpl (mergedOps o) (.fresh (streams.map (·.1))) (List.replicate (ys.length + 1) Call.next) =
      some (ys.map (fun x => (true, some x)) ++ [(false, none)]) := by
  rw [merge_sorted_dedup o streams ys hch hys hmem]
  exact congrArg some (B6.Props.C06.spec_drain (start ys))

/-! ## The known finding: `Tagged` on an `@` key (the clause `QueryOK` excludes) -/

def exFeatures : List Feature :=
  [⟨0, 1, 1, [("point".toList, "51.5,-0.1".toList), ("@name".toList, "yes".toList)]⟩,
   ⟨0, 1, 2, [("point".toList, "51.5,-0.1".toList), ("#amenity".toList, "cafe".toList)]⟩,
   ⟨0, 1, 3, [("point".toList, "51.5,-0.1".toList)]⟩,
   ⟨1, 1, 10, [("path".toList, "".toList), ("#highway".toList, "1".toList), ("#amenity".toList, "pub".toList)]⟩]

/-- the full statement, without the restriction to `#` keys on `tagged` -/
def find_features_statement : Prop :=
  ∀ (fs : List Feature) (q : Query), (∀ f ∈ fs, FeatureOK f) → (fs.map Feature.id).Nodup →
    findFeatures (buildIndex .array fs) q = .ok (expected fs q)

/-- `Tagged{@name=yes}` compiles to the empty iterator although the point is tagged `@name=yes`. -/
theorem tagged_at_key_counterexample :
    (findFeatures (buildIndex .array exFeatures) (.tagged "@name".toList "yes".toList)).toOption = some [] ∧
    expected exFeatures (.tagged "@name".toList "yes".toList) = [key 0 1 1] := by
  decide +kernel

/-! ## Non-vacuity -/

example : B6.Model.Posting.TableOK ⟨["", "a", "b"]⟩ ∧ ∀ f ∈ exFeatures, CompactFeatureOK ["", "a", "b"] f := by
  unfold B6.Model.Posting.TableOK CompactFeatureOK exFeatures
  decide +kernel

/-- the compact index of the example really runs on posting-list bytes and returns the expected IDs -/
example : (findFeatures (buildIndex .compact exFeatures ["", "a", "b"])
    (.typed 0 (.keyed "#amenity".toList))).toOption = some [key 0 1 2] := by decide +kernel

example : ∀ f ∈ exFeatures, FeatureOK f := by
  unfold FeatureOK; decide +kernel

example : (exFeatures.map Feature.id).Nodup := by decide +kernel

def exQuery : Query :=
  .or [.typed 0 (.keyed "#amenity".toList), .and [.keyed "#highway".toList, .tagged "#amenity".toList "pub".toList]]

example : QueryOK exQuery := by
  simp [exQuery, QueryOK, QueryOKList, KeyOK]

example : (findFeatures (buildIndex .array exFeatures) exQuery).toOption = some [key 0 1 2, key 1 1 10] := by decide +kernel

example : expected exFeatures exQuery = [key 0 1 2, key 1 1 10] := by decide +kernel

end B6.Props.C03
