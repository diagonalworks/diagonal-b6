import B6.Gen.Facts.C27
import B6.Model.Pbf
/-!
# T3 facts for C27 — constants of osm/pbf.go (and the generated proto default) that `B6/Model/Pbf.lean` assumes
(regenerated from /repo by `tools/facts` on every `./check C27`; kernel only)
-/
namespace B6.Props.Facts
open B6.Gen.Facts.C27

/-- `elementsPerGroup` (a group is flushed at 8000 dense nodes / ways / relations) -/
theorem C27_elementsPerGroup : elementsPerGroup = B6.Model.Pbf.elementsPerGroup := rfl

/-- the proto default of `PrimitiveBlock.granularity`, which the writer never overrides -/
theorem C27_defaultGranularity : (defaultGranularity : Int) = B6.Model.Pbf.defaultGranularity.toInt := by decide

/-- `decodeAngle` multiplies by exactly 10⁻⁹ (compared with the literal): what the model's `decodeAngle`, in nano-degrees, assumes -/
theorem C27_decodeAngleUnit : decodeAngleUnit = (1, 1000000000) := rfl

/-- `encodeAngle` divides by exactly 10⁻⁹ (compared with the literal): what the model's `encodeAngle?`, in nano-degrees, assumes -/
theorem C27_encodeAngleUnit : encodeAngleUnit = (1, 1000000000) := rfl

end B6.Props.Facts
