import B6.Gen.Facts.C18
import B6.Model.ChangeExport
/-!
# T3 facts for C18 — `FeatureType.String` (world.go) as `B6/Model/ChangeExport.lean` transcribes it
(regenerated from /repo by `tools/facts` on every `./check C18`; kernel only)
-/
namespace B6.Props.Facts
open B6.Gen.Facts.C18 B6.Model.ChangeExport

/-- the (name, number) table of the YAML id syntax is `FeatureType.String`, case by case -/
theorem C18_featureTypeNames : featureTypeNames.map (fun e => (e.2, e.1)) = typeNames := by decide +kernel

/-- every other number prints as `invalid` (model: `typeName`) -/
theorem C18_featureTypeDefaultName : featureTypeDefaultName = typeName 4 := by decide +kernel

end B6.Props.Facts
