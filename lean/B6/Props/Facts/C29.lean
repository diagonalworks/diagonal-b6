import B6.Gen.Facts.C29
import B6.Model.Osm
/-!
# T3 facts for C29 — the searchable-key table of ingest/osm.go that `B6/Model/Osm.lean` transcribes
(regenerated from /repo by `tools/facts` on every `./check C29`; kernel only)
-/
namespace B6.Props.Facts
open B6.Gen.Facts.C29

/-- `osmTagMapping`, entry by entry and in source order, is the model's table (17 `#` keys, 3 `@` keys) -/
theorem C29_osmTagMapping : osmTagMapping = B6.Model.Osm.osmTagMapping := rfl

/-- … so `KeyForOSMKey` of the model maps exactly the extracted keys, each to its extracted image -/
theorem C29_osmTagMapping_keyFor :
    osmTagMapping.all (fun kv => B6.Model.Osm.keyForOSMKey kv.1 == kv.2) = true ∧ osmTagMapping.length = 20 :=
  ⟨by decide +kernel, rfl⟩

/-- `isRelationArea`: a relation is an area iff its `type` tag is `multipolygon` -/
theorem C29_relationArea :
    relationAreaKey = "type" ∧ relationAreaValue = "multipolygon" ∧
    B6.Model.Osm.isRelationArea [⟨relationAreaKey, relationAreaValue⟩] = true := ⟨rfl, rfl, by decide⟩

/-- `reassembleMultiPolygon` starts a new polygon at a way member whose role is `outer` or empty (compared with the
literals; the model's `assemble` spells the same two) -/
theorem C29_outerRoles : outerRoles = ["outer", ""] := rfl

/-- `b6.PointTag`, `b6.PathTag` (compared with the literals; the model's `featuresOf` adds tags with these two keys) -/
theorem C29_geometryTags : pointTag = "point" ∧ pathTag = "path" := ⟨rfl, rfl⟩

end B6.Props.Facts
