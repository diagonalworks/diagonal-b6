import B6.Gen.Facts.C01
import B6.Props.C01
/-!
# T3 facts for C01 — constants of world.go and the primary-namespace arguments of the record codecs of
ingest/compact/encoding.go that `B6/Model/CompactIndex.lean` and `Props/C01.primaryTable` transcribe
(regenerated from /repo by `tools/facts` on every `./check C01`).

Extracted: for every record type (`CommonPoint`, `PointReferences`, `FullPoint`, `Path`, `Area`, `Relation`) and every
field its `Marshal` / `Unmarshal` method passes on, the primary it marshals the field against
(`TypeAndNamespaceInvalid` or `CombineTypeAndNamespace(T, nss.ForType(T') | nss[T'])`).  NOT extracted: which
`Namespaces` value the callers in build.go / world.go pass (`OSMNamespaces(nt)` vs. the block header) — that half of
`primaryTable` stays a hand transcription tied by the correspondence run.
-/
namespace B6.Props.Facts
open B6.Gen.Facts.C01 B6.Model.CompactIndex

theorem C01_pointTag : pointTag = kPoint.map (·.toNat) := by decide
theorem C01_pathTag : pathTag = kPath.map (·.toNat) := by decide
theorem C01_nsOSMNode : nsOSMNode = nsOsmNode.map (·.toNat) := by decide
theorem C01_nsOSMWay : nsOSMWay = nsOsmWay.map (·.toNat) := by decide
theorem C01_nsOSMRelation : nsOSMRelation = nsOsmRel.map (·.toNat) := by decide

/-- `FID.typ`: 0 point, 1 path, 2 area, 3 relation, 4 = `FeatureTypeInvalid` -/
theorem C01_featureTypes :
    featureTypes.take 5 = [("FeatureTypePoint", 0), ("FeatureTypePath", 1), ("FeatureTypeArea", 2),
      ("FeatureTypeRelation", 3), ("FeatureTypeInvalid", 4)] := by decide +kernel

/-- the name of the feature type a `primaryTable` entry means -/
def C01_typeName : B6.Props.C01.NsSrc → String
  | .osm t | .hdr t => ((featureTypes.find? (·.2 == t)).map (·.1)).getD "?"
  | .invalid => "invalid"

/-- the extracted primary of (record, field) on the writer side; `Point` rows of the table are `FullPoint` in the code -/
def C01_marshalPrimary (record field : String) : Option (String × String) :=
  (marshalPrimaries.find? (fun e => e.1 == (if record == "Point" then "FullPoint" else record) && e.2.1 == field)).map (·.2.2)

/-- the type half of `primaryTable` is what encoding.go says: for every row the `Marshal` method of that record
marshals that field against the namespace of exactly that feature type (for `Relation.Members` the type is the
method's `primary` parameter), the type passed to `CombineTypeAndNamespace` and to `ForType` being the same -/
theorem C01_marshalPrimaries :
    B6.Props.C01.primaryTable.all (fun u =>
      C01_marshalPrimary u.record u.field == some (C01_typeName u.writer, C01_typeName u.writer) ||
      (u.record == "Relation" && u.field == "Members" && C01_marshalPrimary u.record u.field == some ("primary", "primary"))) = true ∧
    marshalPrimaries.length = B6.Props.C01.primaryTable.length + 1 := by decide +kernel

/-- `Unmarshal` of every record reads every field against the primary `Marshal` wrote it with (same order, same
types; the field name is not compared because `Area.Unmarshal` goes through `UnmarshalAreaGeometry`) -/
theorem C01_unmarshalPrimaries :
    unmarshalPrimaries.map (fun e => (e.1, e.2.2)) = marshalPrimaries.map (fun e => (e.1, e.2.2)) := by decide +kernel

end B6.Props.Facts
