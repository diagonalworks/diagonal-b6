import B6.Gen.Facts.C32
import B6.Model.GeoJSON
/-!
# T3 facts for C32 — string constants of geojson/geojson.go and world.go that `B6/Model/GeoJSON.lean` assumes
(regenerated from /repo by `tools/facts` on every `./check C32`; kernel only)
-/
namespace B6.Props.Facts
open B6.Gen.Facts.C32

/-- `geojson.Unmarshal` switches on FeatureCollection / Feature / the six geometry types of the model -/
theorem C32_unmarshalTypeCases :
    unmarshalTypeCases = [["FeatureCollection"], ["Feature"], B6.Model.GeoJSON.topLevelGeometryTypes] := by decide +kernel

theorem C32_pointTag : pointTag = B6.Model.GeoJSON.pointTag := by decide +kernel
theorem C32_pathTag : pathTag = B6.Model.GeoJSON.pathTag := by decide +kernel

end B6.Props.Facts
