import B6.Gen.Facts.C21
import B6.Model.VM
/-!
# T3 facts for C21 — constants of api/vm.go that `B6/Model/Interp.lean` / `B6/Model/VM.lean` assume
(regenerated from /repo by `tools/facts` on every `./check C21`; kernel only)
-/
namespace B6.Props.Facts
open B6.Gen.Facts.C21

/-- `MaxArgs` is the model's register-file bound (`compile`: error at `n ≥ maxArgs`; `execList`: `r < maxArgs`) -/
theorem C21_maxArgs : maxArgs = B6.Model.maxArgs := rfl

/-- the Go opcode a model instruction stands for (`Model/VM.lean`, comments on `Instr`) -/
def C21_opOf : B6.Model.VM.Instr → String
  | .pushVal _ | .pushFn _ | .pushLam .. => "OpPushValue"
  | .store _ => "OpStore"
  | .discard => "OpDiscard"
  | .load _ => "OpLoad"
  | .callFn .. | .callLam .. => "OpCallValue"
  | .callStack _ => "OpCallStack"
  | .ret => "OpReturn"

/-- the instruction set of api/vm.go is the one the model was written for: the eight `Op` constants in iota
order (`OpJump` exists but is never emitted by the compiler, see Model/VM.lean) -/
theorem C21_opcodes : opcodes =
    [("OpPushValue", 0), ("OpStore", 1), ("OpDiscard", 2), ("OpLoad", 3), ("OpJump", 4), ("OpCallValue", 5),
     ("OpCallStack", 6), ("OpReturn", 7)] := rfl

/-- every model instruction is one of the extracted opcodes, and every extracted opcode except `OpJump` is
the opcode of a model instruction -/
theorem C21_opcodes_cover :
    (∀ i, (opcodes.map Prod.fst).contains (C21_opOf i) = true) ∧
    (opcodes.map Prod.fst).filter (· != "OpJump") =
      ([.pushLam 0 0, .store 0, .discard, .load 0, .callLam 0 0 0, .callStack 0, .ret] :
        List B6.Model.VM.Instr).map C21_opOf := by
  refine ⟨fun i => ?_, rfl⟩
  cases i <;> rfl

end B6.Props.Facts
