import B6.Gen.Facts.C31
import B6.Model.FeatureID
/-!
# T3 facts for C31 — the tables of world.go and api/shell.go that `B6/Model/FeatureID.lean` transcribes
(regenerated from /repo by `tools/facts` on every `./check C31`; kernel only)
-/
namespace B6.Props.Facts
open B6.Gen.Facts.C31 B6.Model.FeatureID

/-- the `FeatureType` constants and their numbers (`FType.toNat`) -/
theorem C31_featureTypes :
    featureTypes = [("FeatureTypePoint", FType.point.toNat), ("FeatureTypePath", FType.path.toNat),
      ("FeatureTypeArea", FType.area.toNat), ("FeatureTypeRelation", FType.relation.toNat),
      ("FeatureTypeInvalid", FType.invalid.toNat), ("FeatureTypeCollection", FType.collection.toNat),
      ("FeatureTypeExpression", FType.expression.toNat)] := by decide +kernel

/-- `FeatureType.String`, case by case (`FType.name`) -/
theorem C31_featureTypeNames :
    featureTypeNames =
      ([.point, .path, .area, .relation, .collection, .expression] : List FType).map (fun t => (t.toNat, t.name)) := by
  decide +kernel

/-- … and `"invalid"` for everything else -/
theorem C31_featureTypeDefaultName : featureTypeDefaultName = FType.name .invalid := by decide +kernel

/-- the Go function names of a model codec -/
def C31_codecFuns : Codec → String × String
  | .uint => ("idFromUint64", "idToUint64")
  | .ons => ("idFromUKONS", "idToUKONS")
  | .codepoint => ("idFromGBCodePoint", "idToGBCodePoint")

/-- the shell's alias table: prefix, namespace, feature type and parse/print functions of every entry, in order -/
theorem C31_aliases :
    B6.Gen.Facts.C31.aliases =
      B6.Model.FeatureID.aliases.map (fun a => (a.pre, a.ns, a.type.toNat, (C31_codecFuns a.codec).1, (C31_codecFuns a.codec).2)) := by
  decide +kernel

/-- `NewFeatureTypeFromProto`, case by case (`ftypeFromProto`; shared with C19's wire model) -/
theorem C31_featureTypeFromProto :
    featureTypeFromProto.all (fun e => (ftypeFromProto e.1).map FType.toNat == some e.2) = true ∧
    featureTypeFromProto.map (·.1) = [0, 1, 2, 3, 4, 5, 6] := by decide +kernel

/-- … and any number outside the enum is `FeatureTypeInvalid` (the wildcard arm of `ftypeFromProto`) -/
theorem C31_featureTypeFromProtoDefault :
    (ftypeFromProto 7).map FType.toNat = some featureTypeFromProtoDefault ∧
    ∀ n, (ftypeFromProto (n + 7)).map FType.toNat = some featureTypeFromProtoDefault := ⟨rfl, fun _ => rfl⟩

/-- `NewProtoFromFeatureType`, case by case (`FType.toProto`) -/
theorem C31_featureTypeToProto :
    featureTypeToProto =
      ([.point, .path, .area, .relation, .collection, .expression, .invalid] : List FType).map (fun t => (t.toNat, t.toProto)) := by
  decide +kernel

theorem C31_nsOSMNode : B6.Gen.Facts.C31.nsOSMNode = B6.Model.FeatureID.nsOSMNode := by decide +kernel
theorem C31_nsOSMWay : B6.Gen.Facts.C31.nsOSMWay = B6.Model.FeatureID.nsOSMWay := by decide +kernel
theorem C31_nsOSMRelation : B6.Gen.Facts.C31.nsOSMRelation = B6.Model.FeatureID.nsOSMRelation := by decide +kernel
theorem C31_nsUKONSBoundaries : nsUKONSBoundaries = nsUKONS := by decide +kernel
theorem C31_nsGBCodePoint : B6.Gen.Facts.C31.nsGBCodePoint = B6.Model.FeatureID.nsGBCodePoint := by decide +kernel
theorem C31_nsGBUPRN : B6.Gen.Facts.C31.nsGBUPRN = B6.Model.FeatureID.nsGBUPRN := by decide +kernel

end B6.Props.Facts
