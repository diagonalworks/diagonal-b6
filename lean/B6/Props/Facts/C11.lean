import B6.Gen.Facts.C11
import B6.Model.Records
import B6.Model.RecordsTokenMap
/-!
# T3 facts for C11 — constants of ingest/compact/encoding.go, encoding/strings.go and world.go that
`B6/Model/Records.lean` / `B6/Model/RecordsTokenMap.lean` / `B6/Model/Bits.lean` assume
(regenerated from /repo by `tools/facts` on every `./check C11`; kernel only)
-/
namespace B6.Props.Facts
open B6.Gen.Facts.C11 B6.Model.Records

/-- `ValueTypeBits`: the model's `* 4`, `/ 4` are `<< ValueTypeBits`, `>> ValueTypeBits` -/
theorem C11_valueTypeBits (t v : Nat) :
    encodeValueType t v = v * 2 ^ valueTypeBits % 2 ^ 64 + t ∧
    valueTypeOk v = (v * 2 ^ valueTypeBits % 2 ^ 64 / 2 ^ valueTypeBits == v) := ⟨rfl, rfl⟩

/-- `b6.FeatureTypeBits`: `Member.word` packs the role above `FeatureTypeBits` type bits -/
theorem C11_featureTypeBits (m : Member) :
    m.word = (m.role.toNat * 2 ^ featureTypeBits % 2 ^ 64 ||| m.type.toNat) ∧
    m.ok = (m.role.toNat * 2 ^ featureTypeBits % 2 ^ 64 / 2 ^ featureTypeBits == m.role.toNat) := ⟨rfl, rfl⟩

/-- the value-type codes: `Value.enc (.int _)` writes type 0, `LatLng.enc` type 1, the geometry words type 2;
`Value.dec` dispatches on `v % 4 = 0 / 1 / 2` and panics (`none`) on 3 -/
theorem C11_expressionTypes :
    expressionTypes = [("ExpressionTypeString", 0), ("ExpressionTypePoint", 1), ("ExpressionTypeExpressions", 2),
      ("ExpressionTypeFeatureID", 3), ("ExpressionTypeInvalid", 4)] := rfl

/-- the geometry-encoding codes of `encodeGeometry` / `geometryEncoding` (0 references, 1 lat/lngs, 2 mixed) -/
theorem C11_geometryEncodings :
    geometryEncodings = [("GeometryEncodingReferences", 0), ("GeometryEncodingLatLngs", 1),
      ("GeometryEncodingMixed", 2), ("GeometryEncodingInvalid", 3)] ∧
    (geometryEncoding (encodeGeometry 0 5), geometryEncoding (encodeGeometry 1 5), geometryEncoding (encodeGeometry 2 5)) = (0, 1, 2) :=
  ⟨rfl, rfl⟩

/-- `CombineTypeAndNamespace` shifts the type by 13 bits (`memberPrimary`, every `tn*` of Records.lean) -/
theorem C11_namespaceShift (t : BitVec 64) (ns : BitVec 16) :
    B6.Model.Bits.combineTypeNs t ns = ((t <<< namespaceShift).setWidth 16 ||| ns) ∧
    (B6.Model.Bits.splitTypeNs ns).1 = (ns >>> namespaceShift).setWidth 64 := ⟨rfl, rfl⟩

/-- FNV-1a offset basis of `encoding.HashString` -/
theorem C11_fnv64Offset : fnv64Offset = B6.Model.RecordsTokenMap.fnvOffset := rfl

/-- FNV-1a prime of `encoding.HashString` -/
theorem C11_fnv64Prime : fnv64Prime = B6.Model.RecordsTokenMap.fnvPrime := rfl

open B6.Model.RecordsTokenMap in
/-- `TokenMapMaxLoadFactor = 0.6 = 3/5`: the model's resize test `(n+1)*5 > 3*len` -/
theorem C11_tokenMapMaxLoadFactor (e : Encoder) (tok : B6.Model.Varint.Bytes) (ix : BitVec 64) :
    tokenMapMaxLoadFactor = (3, 5) ∧
    add e tok ix = addRaw (if (e.n + 1) * tokenMapMaxLoadFactor.2 > tokenMapMaxLoadFactor.1 * e.buckets.length
                           then grow e else e) tok ix := ⟨rfl, rfl⟩

open B6.Model.RecordsTokenMap in
/-- the table doubles on resize -/
theorem C11_tokenMapGrowth (e : Encoder) :
    grow e = e.buckets.flatten.foldl (fun acc x => addRaw acc x.1 x.2)
      ⟨List.replicate (tokenMapGrowth * e.buckets.length) [], 0⟩ := rfl

end B6.Props.Facts
