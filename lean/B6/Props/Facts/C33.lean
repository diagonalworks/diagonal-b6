import B6.Gen.Facts.C33
import B6.Model.TileEncoder
/-!
# T3 facts for C33 — constants of renderer/encoder.go that `B6/Model/TileEncoder.lean` assumes
(regenerated from /repo by `tools/facts` on every `./check C33`; kernel only)
-/
namespace B6.Props.Facts
open B6.Gen.Facts.C33 B6.Model.TileEncoder

/-- `TileExtent = 12` bits: the model's tile origin is `x * 4096 = x <<< TileExtent` -/
theorem C33_tileExtent (x y : Nat) : tileOrigin x y = (((x * 2 ^ tileExtent : Nat) : Int), ((y * 2 ^ tileExtent : Nat) : Int)) := rfl

theorem C33_cmdMoveTo : B6.Gen.Facts.C33.cmdMoveTo = B6.Model.TileEncoder.cmdMoveTo := rfl
theorem C33_cmdLineTo : B6.Gen.Facts.C33.cmdLineTo = B6.Model.TileEncoder.cmdLineTo := rfl
theorem C33_cmdClosePath : B6.Gen.Facts.C33.cmdClosePath = B6.Model.TileEncoder.cmdClosePath := rfl

/-- loops are simplified only above 1000 projected points: `Simplify` is outside the model; for a longer ring the
harness (harness/cmd/c33) calls `renderer.Simplify` itself and hands the model the points that remain -/
theorem C33_simplifyThreshold : simplifyThreshold = 1000 := rfl

end B6.Props.Facts
