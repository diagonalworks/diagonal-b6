import B6.Gen.Facts.C23
import B6.Model.EvalGuards
/-!
# T3 facts for C23 — enum tables of protos.go / world.go and `MaxArgs` that `B6/Model/EvalGuards.lean` (and the VM
model it runs) assume (regenerated from /repo by `tools/facts` on every `./check C23`; kernel only)
-/
namespace B6.Props.Facts
open B6.Gen.Facts.C23

/-- `FeatureType.String` of a `b6.FeatureType` number, from the extracted tables -/
def C23_nameOf (t : Nat) : String := ((featureTypeNames.find? (·.1 == t)).map (·.2)).getD featureTypeDefaultName

/-- `NewFeatureTypeFromProto` followed by `String()`: for every enum number of the switch the model's
`featureType` answers the name of the feature type the code maps it to -/
theorem C23_featureTypeFromProto :
    featureTypeFromProto.all (fun e => B6.Model.EvalGuards.featureType (e.1 : Int) == C23_nameOf e.2) = true ∧
    featureTypeFromProto.map (·.1) = [0, 1, 2, 3, 4, 5, 6] := by decide

/-- a number outside the enum names no feature type: `FeatureTypeInvalid`, printed `invalid` -/
theorem C23_featureTypeFromProtoDefault :
    B6.Model.EvalGuards.featureType 7 = C23_nameOf featureTypeFromProtoDefault ∧
    B6.Model.EvalGuards.featureType (-1) = C23_nameOf featureTypeFromProtoDefault := by decide

/-- the names themselves -/
theorem C23_featureTypeNames :
    featureTypeNames = [(0, "point"), (1, "path"), (2, "area"), (3, "relation"), (5, "collection"), (6, "expression")] ∧
    featureTypeDefaultName = "invalid" := ⟨rfl, rfl⟩

/-- the instruction set of api/vm.go is the one Model/VM.lean was written for (see `B6.Props.Facts.C21_opcodes_cover`
for the instruction-by-instruction cover) -/
theorem C23_opcodes : opcodes =
    [("OpPushValue", 0), ("OpStore", 1), ("OpDiscard", 2), ("OpLoad", 3), ("OpJump", 4), ("OpCallValue", 5),
     ("OpCallStack", 6), ("OpReturn", 7)] := rfl

/-- `MaxArgs` is the register-file bound of the VM model -/
theorem C23_maxArgs : maxArgs = B6.Model.maxArgs := rfl

end B6.Props.Facts
