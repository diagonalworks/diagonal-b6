import B6.Gen.Facts.C20
import B6.Model.Shell
/-!
# T3 facts for C20 — the character classes of api/shell.go (lexer and tag escaping) that `B6/Model/Shell.lean` hard-codes
(regenerated from /repo by `tools/facts` on every `./check C20`; kernel only).  The model works on bytes, so
the classes are compared on all 256 byte values.
-/
namespace B6.Props.Facts
open B6.Gen.Facts.C20 B6.Model.Shell

def C20_inRanges (rs : List (Nat × Nat)) (c : Nat) : Bool := rs.any fun r => r.1 ≤ c && c ≤ r.2

/-- the clause of `lexer.Lex`'s `switch c` a byte falls into: what that clause returns -/
def C20_dispatchOf (c : Nat) : Option String := (lexDispatch.find? (·.1.contains c)).map (·.2)

/-- `isValidSymbolRune`: the three ranges `a-z A-Z 0-9` … -/
theorem C20_symbolRuneRanges : symbolRuneRanges = [(97, 122), (65, 90), (48, 57)] := by decide +kernel

/-- … and `-`, `:`, `_`: together exactly the model's `isSymbolRune` -/
theorem C20_symbolRuneExtra :
    ∀ c < 256, isSymbolRune c = (C20_inRanges symbolRuneRanges c || symbolRuneExtra.contains c) := by decide +kernel

def C20_allBelow (p : Nat → Bool) : Nat → Bool
  | 0 => true
  | n + 1 => p n && C20_allBelow p n

theorem C20_allBelow_spec {p : Nat → Bool} : ∀ {n : Nat}, C20_allBelow p n = true → ∀ c < n, p c = true
  | n + 1, h, c, hc => by
    rw [C20_allBelow, Bool.and_eq_true] at h
    by_cases e : c = n
    · exact e ▸ h.1
    · exact C20_allBelow_spec h.2 c (by omega)

/-- the bytes of class `p` are those whose clause in the dispatch table `t` returns `s`, checked clause by clause
instead of byte by byte: each byte a clause lists is in `p` or not according to what the clause returns, and each
byte of `p` is listed somewhere -/
def C20_classOK (t : List (List Nat × String)) (p : Nat → Bool) (s : String) : Bool :=
  t.all (fun cl => if cl.2 == s then cl.1.all p else cl.1.all fun c => !p c) &&
    C20_allBelow (fun c => !p c || t.any (·.1.contains c)) 256

theorem C20_classOK_spec {t : List (List Nat × String)} {p : Nat → Bool} {s : String}
    (h : C20_classOK t p s = true) :
    ∀ c < 256, p c = ((t.find? (·.1.contains c)).map (·.2) == some s) := by
  intro c hc
  rw [C20_classOK, Bool.and_eq_true] at h
  cases hf : t.find? (·.1.contains c) with
  | none =>
    have hany : t.any (·.1.contains c) = false := by
      rw [List.any_eq_false]
      exact fun cl hcl => List.find?_eq_none.mp hf cl hcl
    have := C20_allBelow_spec h.2 c hc
    simp only [hany, Bool.or_false, Bool.not_eq_true'] at this
    rw [this]; rfl
  | some cl =>
    have hmem : c ∈ cl.1 :=
      List.contains_iff_mem.mp (List.find?_some (p := fun x : List Nat × String => x.1.contains c) hf)
    have hcl := List.all_eq_true.mp h.1 cl (List.mem_of_find?_eq_some hf)
    rw [Option.map_some, Option.some_beq_some]
    by_cases hs : (cl.2 == s) = true
    · rw [if_pos hs] at hcl
      rw [hs]; exact List.all_eq_true.mp hcl c hmem
    · rw [if_neg hs] at hcl
      rw [Bool.not_eq_true] at hs
      rw [hs]; simpa using List.all_eq_true.mp hcl c hmem

/-- `lexer.Lex` dispatches on the first byte as the model's `lex` does: punctuation (`isPunct`) returns the byte
itself, `"` starts a string, `/` a feature ID, `#`/`@` a tag key, a digit, `-` or `.` a number (or `->`), a
letter (`isLetter`) a symbol; every other byte is a bad token -/
theorem C20_lexDispatch :
    (∀ c < 256, isPunct c = (C20_dispatchOf c == some "int(c)")) ∧
    (∀ c < 256, isLetter c = (C20_dispatchOf c == some "l.lexSymbolLiteral(yylval)")) ∧
    (∀ c < 256, (isDigitB c || c == 45 || c == 46) = (C20_dispatchOf c == some "l.lexNumericLiteral(yylval)")) ∧
    (∀ c < 256, (c == 35 || c == 64) = (C20_dispatchOf c == some "l.lexTagKeyLiteral(yylval)")) ∧
    (∀ c < 256, (c == 34) = (C20_dispatchOf c == some "l.lexStringLiteral(yylval)")) ∧
    (∀ c < 256, (c == 47) = (C20_dispatchOf c == some "l.lexFeatureIDLiteral(yylval)")) ∧
    lexDispatch.length = 7 :=
  ⟨C20_classOK_spec (by decide +kernel), C20_classOK_spec (by decide +kernel),
    C20_classOK_spec (by decide +kernel), C20_classOK_spec (by decide +kernel),
    C20_classOK_spec (by decide +kernel), C20_classOK_spec (by decide +kernel), rfl⟩

/-- `lexFeatureIDLiteral` accepts letters, digits and `. - / _` (model `isIDByte`; ASCII only, see notes/C20.md) -/
theorem C20_featureIDExtra :
    ∀ c < 256, isIDByte c = (isLetter c || isDigitB c || featureIDExtra.contains c) := by decide +kernel

/-- `EscapeTagKey`: a key stays bare when its first byte is a letter … -/
theorem C20_escapeKeyFirstRanges : ∀ c < 256, isLetter c = C20_inRanges escapeKeyFirstRanges c := by decide +kernel

/-- … or `#` or `@` (model `keyBare`) -/
theorem C20_escapeKeyFirstExtra :
    ∀ c < 256, keyBare [c] = (C20_inRanges escapeKeyFirstRanges c || escapeKeyFirstExtra.contains c) := by decide +kernel

/-- `EscapeTagValue`: a value stays bare only when its first byte is a letter (model `valueBare`) … -/
theorem C20_escapeValueFirstRanges :
    ∀ c < 256, valueBare [c] = (C20_inRanges escapeValueFirstRanges c || escapeValueFirstExtra.contains c) := by decide +kernel

/-- … with no further first characters allowed -/
theorem C20_escapeValueFirstExtra : escapeValueFirstExtra = [] := rfl

end B6.Props.Facts
