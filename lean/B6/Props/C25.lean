import B6.Lemmas.ProtoMapParallel
import B6.Lemmas.MapSeq
/-!
# C25 — map-parallel returns map's results for any core count and schedule

Model: `B6/Model/Proto/MapParallel.lean` (dispatcher, `n` workers, closer, consumer; one-slot channels), for ANY
number of cores `n ≥ 1`, any number of items `N`, any set of failing items and any schedule.  Items are their
indices; `map` yields `f xs[0], f xs[1], …` up to the first failing item and then that item's error.

The output is decided by one stuttering simulation with the sequential `map` (`Inv.out`, `Inv.okout`: the consumer has taken
items `0 … read-1`, none failing); the lane invariant shows that nothing is lost on the way, and the ORDER `m.err = g.Wait()` …
`close(out[i])` is an obligation (`mp_err_before_close`, `mp_swapped_counterexample`).
-/
namespace B6.Props.C25
open B6.Model.Proto B6.Model.Proto.MapParallel

/-- In every reachable state the consumer has taken exactly items `0 … read-1`, item `k` only ever sits in lane `k % n`,
lanes are in order, and the value waiting in `out[j]` is the next one the consumer expects from lane `j`. -/
theorem mp_invariant (c : Cfg) (hn : 0 < c.n) (s : St) (h : Reachable (step c) (init c) s) :
    s.out = List.range s.read ∧ s.read ≤ s.write ∧ s.write ≤ c.N ∧
    ∀ (j : Nat) (l : Lane), s.lanes[j]? = some l →
      (∀ k ∈ l.pipe, k % c.n = j ∧ s.read ≤ k ∧ k < s.write) ∧ l.pipe.Pairwise (· < ·) ∧
      (∀ k, l.outq = some k → k < s.read + c.n) := by
  have I := inv_reachable hn h
  exact ⟨I.out, I.rle, I.wle, fun j l hl => ⟨(I.lanes j l hl).A, (I.lanes j l hl).B, (I.lanes j l hl).E⟩⟩

/-- In every terminal state the output is `0 … read-1`, none of them failing; without an error `read = N` (everything `map`
yields) and the source did not fail; with an error it is the error of a failing item or — when the SOURCE iterator fails after
`N` items, in either style, `(false, err)` or `(true, err)` — the source's error, and `read ≤` that position (so the output is a
prefix of `map`'s, which stops at the first failure). -/
theorem mp_result (c : Cfg) (hn : 0 < c.n) (s : St) (h : Reachable (step c) (init c) s)
    (r : Option Nat) (hr : s.fin = some r) :
    s.out = List.range s.read ∧ (∀ k, k < s.read → c.fails k = false) ∧ s.read ≤ c.N ∧
    (r = none → s.read = c.N ∧ c.srcFails = false) ∧
    (∀ e, r = some e → ((c.fails e = true ∧ e < c.N) ∨ (c.srcFails = true ∧ e = c.N)) ∧ s.read ≤ e) := by
  have I := inv_reachable hn h
  obtain ⟨hrg, hoc, hq⟩ := I.finI r hr
  obtain ⟨hde, hall, _⟩ := I.closer (I.closed hoc)
  refine ⟨I.out, I.okout, Nat.le_trans I.rle I.wle, ?_, ?_⟩
  · -- no error: everything was dispatched, nothing lost, every lane is empty — so everything was consumed
    intro hrn
    have hg : s.gerr = none := by rw [← hrg, hrn]
    have hw : s.write = c.N := I.dispF (by rw [hde]; simp) hg
    refine ⟨?_, by
      cases hsf : c.srcFails with
      | false => rfl
      | true => exact absurd hg (I.srcI hde hsf)⟩
    have hlen : s.read % c.n < s.lanes.length := I.len.symm ▸ Nat.mod_lt _ hn
    have hl := List.getElem?_eq_getElem hlen
    have hwk := hall _ (List.getElem_mem hlen)
    have hinq := ((I.lanes _ _ hl).D hwk hg).1
    exact (I.drained hg hl (by simp [Lane.pipe, Wk.item, hwk, hinq, hq _ hl])).trans hw
  · intro e he
    have hg : s.gerr = some e := by rw [← hrg, he]
    refine ⟨I.gerrI e hg, ?_⟩
    rcases I.gerrI e hg with ⟨h1, _⟩ | ⟨_, h2⟩
    · rcases Nat.lt_or_ge e s.read with hlt | hge
      · have := I.okout e hlt; rw [h1] at this; cases this
      · exact hge
    · have := I.rle; have := I.wle; omega

/-- The consumer can observe a closed `out[i]` only after `m.err` has been recorded: whenever the `out` channels
are closed, `m.err = g.Wait()` has been executed, every goroutine of the group has returned, and `m.err` holds the
group's error — so the value `Next()` returns with `false` is that error (`mp_fin_is_group_error`). -/
theorem mp_err_before_close (c : Cfg) (hn : 0 < c.n) (s : St) (h : Reachable (step c) (init c) s)
    (hc : s.outClosed = true) : s.stored = true ∧ s.merr = s.gerr ∧ s.disp = D.exited ∧ allExited s := by
  have I := inv_reachable hn h
  obtain ⟨h1, h2, h3⟩ := I.closer (I.closed hc)
  exact ⟨I.closed hc, h3, h1, h2⟩

/-- … and a consumer that has finished has returned exactly that error. -/
theorem mp_fin_is_group_error (c : Cfg) (hn : 0 < c.n) (s : St) (h : Reachable (step c) (init c) s)
    (r : Option Nat) (hr : s.fin = some r) : r = s.gerr :=
  ((inv_reachable hn h).finI r hr).1

/-- The protocol with the two statements exchanged (`err := g.Wait(); close every out[i]; m.err = err`,
`MapParallel.stepSwapped`): 2 cores, 1 item, `f` fails on it — the consumer, woken by the close of `out[0]`, reads
`m.err` before it is assigned and reports success: `Next()` = (false, nil) although the group's error is set. -/
theorem mp_swapped_counterexample :
    ∃ s, Reachable (stepSwapped ⟨2, 1, fun _ => true, false⟩) (init ⟨2, 1, fun _ => true, false⟩) s ∧
      s.gerr = some 0 ∧ s.fin = some none ∧ s.out = [] :=
  exists_reachable [0, 0, 0, 0, 0, 0, 0, 0, 1] _ (by decide)

/-- Every reachable non-terminal state has an enabled step. -/
theorem mp_no_deadlock (c : Cfg) (hn : 0 < c.n) (s : St) (h : Reachable (step c) (init c) s)
    (ht : terminal s = false) : step c s ≠ [] := by
  intro hd
  have I := inv_reachable hn h
  have hfin : s.fin = none := Option.not_isSome_iff_eq_none.mp (Bool.eq_false_iff.mp ht)
  obtain ⟨hdisp, hstore, hclose, hcons, hwk⟩ := (step_eq_nil hfin).mp hd
  -- the consumer finds `out` empty and open in its lane
  have hlen : s.read % c.n < s.lanes.length := I.len.symm ▸ Nat.mod_lt _ hn
  have hl := List.getElem?_eq_getElem hlen
  generalize s.lanes[s.read % c.n] = lr at hl
  obtain ⟨hoq, hoc⟩ := hcons lr hl
  have L := I.lanes _ _ hl
  -- so the closer is not waiting to close `out`: it waits for the group
  have hst : s.stored = false := Bool.eq_false_iff.mpr fun e => hclose ⟨e, hoc⟩
  have hgroup : s.disp = D.exited → ¬ allExited s := fun hde ha => hstore ⟨hde, ha, hst⟩
  cases hg : s.gerr with
  | some e =>
    -- cancelled: the dispatcher has returned, and a worker is only blocked when it has returned too
    have hde : s.disp = D.exited := hdisp.resolve_right fun h => nomatch (hg ▸ h.2.2.1 : (some e).isSome = false)
    refine hgroup hde fun l hm => ?_
    obtain ⟨j, hj⟩ := List.mem_iff_getElem?.mp hm
    rcases hwk j l hj with e | ⟨-, -, hic⟩ | ⟨k, -, -, hgn⟩
    · exact e
    · exact nomatch hic ▸ I.dispc.mpr hde
    · exact nomatch (hg ▸ hgn : (some e).isSome = false)
  | none =>
    -- nothing has failed, so once the consumer's lane is empty everything dispatched has been consumed (`Inv.drained`)
    rcases hwk _ lr hl with hw | ⟨hw, hiq, hic⟩ | ⟨k, -, ho, -⟩
    · -- its worker returned without an error: `in` is closed, nothing is in flight, so everybody has returned
      obtain ⟨hiq, hic⟩ := L.D hw hg
      have hde : s.disp = D.exited := I.dispc.mp hic
      have hrw := I.drained hg hl (by simp [Lane.pipe, Wk.item, hw, hiq, hoq])
      refine hgroup hde fun l hm => ?_
      obtain ⟨j, hj⟩ := List.mem_iff_getElem?.mp hm
      rcases hwk j l hj with e | ⟨-, -, hic'⟩ | ⟨k, hk, -, -⟩
      · exact e
      · exact nomatch hic ▸ hic'
      · have := (I.lanes j l hj).A k (by simp [Lane.pipe, Wk.item, hk]); omega
    · -- its worker waits for input: the dispatcher has not returned, and can send the next item into this very lane
      have hrw := I.drained hg hl (by simp [Lane.pipe, Wk.item, hw, hiq, hoq])
      rcases hdisp with hde | ⟨-, -, -, hfull⟩
      · exact nomatch hic ▸ I.dispc.mpr hde
      · exact hfull lr (hrw ▸ hl) hiq
    · exact ho hoq

/-- Every step strictly decreases `measure` (5 per item not yet dispatched, 4/3/2/1 per item in `in` / being
computed / computed / in `out`, 1 per goroutine that has not returned) — from ANY state, reachable or not. -/
theorem mp_terminates (c : Cfg) (s s' : St) (h : s' ∈ step c s) : measure c s' < measure c s :=
  measure_step h

/-- … so every schedule is finite: no run is longer than the measure of the initial state. -/
theorem mp_schedule_bounded (c : Cfg) : ∀ (sched : List Nat) (s s' : St),
    runSched (step c) s sched = some s' → sched.length + measure c s' ≤ measure c s :=
  runSched_bounded (step c) (measure c) (fun _ _ => measure_step)

/-! ## The same in terms of the values: `map-parallel f xs` against `map f xs` -/
section Spec
open B6.Spec.MapSeq
variable {α β ε : Type}

/-- the protocol instance for a concrete collection and function -/
def cfgOf (n : Nat) (f : α → Except ε β) (xs : List α) : Cfg := { n := n, N := xs.length, fails := bad f xs }

/-- the values the consumer has been handed -/
def outVals (f : α → Except ε β) (xs : List α) (s : St) : List β := s.out.filterMap (val f xs)

/-- **C25.** When `map-parallel` over `xs` (a source that does not fail: `cfgOf`; `mp_result` covers a failing one) with `n ≥ 1`
cores ends (under any schedule):
without an error the consumer has received exactly what `map` yields, in the same order, and `map` yields no
error either; with an error it has received a prefix of what `map` yields, the error is the one `f` returns on
some item of the collection, and `map` fails too. -/
theorem mp_result_spec (n : Nat) (hn : 0 < n) (f : α → Except ε β) (xs : List α) (s : St)
    (h : Reachable (step (cfgOf n f xs)) (init (cfgOf n f xs)) s) (r : Option Nat) (hr : s.fin = some r) :
    (r = none → outVals f xs s = (mapSeq f xs).1 ∧ (mapSeq f xs).2 = none) ∧
    (∀ e, r = some e → outVals f xs s <+: (mapSeq f xs).1 ∧ (mapSeq f xs).2.isSome = true ∧
      ∃ x err, xs[e]? = some x ∧ f x = .error err) := by
  obtain ⟨hout, hok, hle, hnone, hsome⟩ := mp_result (cfgOf n f xs) hn s h r hr
  replace hok : ∀ k, k < s.read → bad f xs k = false := hok
  replace hle : s.read ≤ xs.length := hle
  replace hnone : r = none → s.read = xs.length := fun h => (hnone h).1
  obtain ⟨r0, hok0, h1, h2⟩ := mapSeq_spec f xs
  -- the consumer has not got past the first failing item
  have hrd : s.read ≤ r0 := by
    rcases h2 with ⟨e, -⟩ | ⟨-, hb, -⟩
    · exact e ▸ hle
    · exact Nat.le_of_not_lt fun hlt => by rw [hok r0 hlt] at hb; cases hb
  have hvals : outVals f xs s = (List.range s.read).filterMap (val f xs) := by rw [outVals, hout]
  constructor
  · intro hrn
    obtain rfl : r0 = xs.length := Nat.le_antisymm (h2.elim (fun h => Nat.le_of_eq h.1) fun h => Nat.le_of_lt h.1)
      (hnone hrn ▸ hrd)
    refine ⟨by rw [hvals, h1, hnone hrn], h2.elim (·.2) fun h => absurd h.1 (Nat.lt_irrefl _)⟩
  · intro e he
    obtain ⟨hcase, _⟩ := hsome e he
    have hbad : bad f xs e = true ∧ e < xs.length := by
      rcases hcase with h1 | ⟨h1, _⟩
      · exact h1
      · cases h1
    refine ⟨?_, ?_, ?_⟩
    · rw [hvals, h1]
      have := List.take_prefix s.read (List.range r0)
      rw [List.take_range, Nat.min_eq_left hrd] at this
      exact this.filterMap _
    · -- the failing item `e` is not before the first failing one
      refine h2.elim (fun h => ?_) (·.2.2)
      have := hok0 e (h.1 ▸ hbad.2); rw [hbad.1] at this; cases this
    · have hbad := hbad.1
      revert hbad
      fun_cases bad f xs e with
      | case1 x hx err hfx => exact fun _ => ⟨x, err, hx, hfx⟩
      | case2 | case3 => nofun

end Spec

/-! ## non-vacuity -/

/-- 2 cores, 3 items, item 1 fails: a run that ends with the error after the consumer got item 0 -/
def exCfg : Cfg := { n := 2, N := 3, fails := fun k => k == 1 }
example : ∃ s, Reachable (step exCfg) (init exCfg) s ∧ s.fin = some (some 1) ∧ s.out = [0] :=
  exists_reachable (List.replicate 19 0) _ (by decide)
/-- … and 3 cores, 4 items, nothing fails: everything arrives in order -/
def exCfg2 : Cfg := { n := 3, N := 4, fails := fun _ => false }
example : ∃ s, Reachable (step exCfg2) (init exCfg2) s ∧ s.fin = some none ∧ s.out = [0, 1, 2, 3] :=
  exists_reachable (List.replicate 28 0) _ (by decide)
/-- … and a source that yields 2 items and then fails (2 cores, `f` never fails): both values arrive, then the
source's error (written as the index `N = 2`) -/
def exCfgSrc : Cfg := { n := 2, N := 2, fails := fun _ => false, srcFails := true }
example : ∃ s, Reachable (step exCfgSrc) (init exCfgSrc) s ∧ s.fin = some (some 2) ∧ s.out = [0, 1] :=
  exists_reachable (List.replicate 17 0) _ (by decide)
example : terminal (init exCfg) = false ∧ 0 < exCfg.n := by decide

end B6.Props.C25
