import B6.Model.SpatialPred
import B6.Spec.SpatialPred
/-!
# C05 — Spatial predicates agree with exact geometry (decision logic)

Model: `B6.Model.SpatialPred` — the control flow of the `Matches` functions of spatial.go on a table of S2
primitive values.  The theorems say: for EVERY table (any number of cells, polygons, loops, edges, vertices)
the decision equals the geometric statement it stands for, phrased with ∃ over the table (`*_spec`; the meanings
`Touches`, `Meets`, `CapMeets`, `GeoMeets` are defined here), and the repaired model equals the executable `Bool` spec
the driver runs, `B6.Spec.SpatialPred` (`*_eq_spec`).  `fixed = false` is the code as found: for a point the first
polygon of a multipolygon decides; cap against polygon goes by the parity of loops that have the centre on the left of
all their edges, exact under a loop contract that holds for convex loops only; `p.Loop(0)` panics on a polygon without
loops.  The interior/exterior covering shortcut of `IntersectsPolygon` is exact under `CoveringContract` (a hypothesis).

`∃ b ∈ bs, b = true` is how the statements say that `true` is an entry of `bs` (the model says `bs.any id`, the
executable spec `bs.contains true`).

All S2 numerics are outside: the tables are evaluated by S2 itself in the correspondence run.
-/
namespace B6.Props.C05
open B6.Model.SpatialPred

theorem anyTrue_iff (bs : List Bool) : anyTrue bs = true ↔ ∃ b ∈ bs, b = true := by
  simp only [anyTrue, List.any_eq_true, id]

theorem any_anyTrue_iff (rows : List (List Bool)) :
    rows.any anyTrue = true ↔ ∃ row ∈ rows, ∃ b ∈ row, b = true := by
  simp only [List.any_eq_true, anyTrue_iff]

theorem polylineIntersectsPolygon_eq : polylineIntersectsPolygon = anyTrue := rfl

/-- what a cell query is meant to accept: some query cell touches some part of the feature -/
def CellsTable.Touches : CellsTable → Prop
  | .point hits => ∃ h ∈ hits, h = true
  | .path hits => ∃ h ∈ hits, h = true
  | .area hits => ∃ row ∈ hits, ∃ h ∈ row, h = true
  | .other => False

theorem cells_spec (t : CellsTable) : cellsIntersectFeature t = true ↔ CellsTable.Touches t := by
  cases t <;>
    simp only [cellsIntersectFeature, CellsTable.Touches, anyTrue_iff, any_anyTrue_iff, Bool.false_eq_true]

example : cellsIntersectFeature (.area [[false, false], [false, true]]) = true :=
  (cells_spec _).mpr ⟨[false, true], .tail _ (.head _), true, .tail _ (.head _), rfl⟩

def PointTable.Meets : PointTable → Prop
  | .point eq => eq = true
  | .path within => within = true
  | .area cs => ∃ c ∈ cs, c = true
  | .other => False

theorem point_spec (t : PointTable) : pointIntersectsFeature t = true ↔ PointTable.Meets t := by
  cases t <;> simp only [pointIntersectsFeature, PointTable.Meets, anyTrue_iff, Bool.false_eq_true]

example : pointIntersectsFeature (.area [false, true]) = true :=
  (point_spec _).mpr ⟨true, .tail _ (.head _), rfl⟩

/-- the documented approximation: a polyline meets a polygon when one of its vertices is inside -/
def LineTable.Meets : LineTable → Prop
  | .point within => within = true
  | .path crosses => crosses = true
  | .area vs => ∃ row ∈ vs, ∃ v ∈ row, v = true
  | .other => False

theorem polyline_spec (t : LineTable) : polylineIntersectsFeature t = true ↔ LineTable.Meets t := by
  cases t <;> simp only [polylineIntersectsFeature, polylineIntersectsPolygon_eq, LineTable.Meets,
    any_anyTrue_iff, Bool.false_eq_true]

example : polylineIntersectsFeature (.area [[false], [false, true, false]]) = true :=
  (polyline_spec _).mpr ⟨[false, true, false], .tail _ (.head _), true, .tail _ (.head _), rfl⟩

/-- A point is matched by a multipolygon query iff SOME polygon contains it (repaired code). -/
theorem multipolygon_point_spec (contains : List Bool) :
    multiPolygonIntersectsFeature true (.point contains) = true ↔ ∃ c ∈ contains, c = true :=
  anyTrue_iff contains

example : multiPolygonIntersectsFeature true (.point [false, true]) = true :=
  (multipolygon_point_spec _).mpr ⟨true, .tail _ (.head _), rfl⟩

def multipolygon_point_statement (fixed : Bool) : Prop :=
  ∀ contains : List Bool,
    multiPolygonIntersectsFeature fixed (.point contains) = true ↔ ∃ c ∈ contains, c = true

theorem multipolygon_point_repaired : multipolygon_point_statement true := multipolygon_point_spec

/-- Code as found: two squares, the point inside the second → `Matches` = false. -/
theorem multipolygon_point_counterexample :
    multiPolygonIntersectsFeature false (.point [false, true]) = false ∧ (∃ c ∈ [false, true], c = true) := by
  decide

theorem multipolygon_point_as_found_fails : ¬ multipolygon_point_statement false :=
  fun h => Bool.false_ne_true
    (multipolygon_point_counterexample.1.symm.trans ((h _).mpr multipolygon_point_counterexample.2))

/-- Code as found is right when the first polygon decides: at most one polygon, or the first contains the
point, or none does. -/
theorem multipolygon_point_partial (contains : List Bool)
    (h : contains.length ≤ 1 ∨ contains.head? = some true ∨ ∀ c ∈ contains, c = false) :
    multiPolygonIntersectsFeature false (.point contains) = true ↔ ∃ c ∈ contains, c = true := by
  cases contains with
  | nil => exact ⟨nofun, nofun⟩
  | cons c cs =>
    -- the answer is `c`; a later polygon that contains the point is ruled out by each disjunct
    refine ⟨fun e => ⟨c, .head _, e⟩, ?_⟩
    rintro ⟨d, hd, rfl⟩
    rcases h with h | h | h
    · cases cs with
      | nil => exact (List.mem_singleton.mp hd).symm
      | cons _ _ => exact absurd (Nat.le_of_succ_le_succ h) (Nat.not_succ_le_zero _)
    · exact (Option.some.inj h)
    · exact absurd (h true hd) nofun

example : multiPolygonIntersectsFeature false (.point [true, false]) = true :=
  (multipolygon_point_partial _ (Or.inr (Or.inl rfl))).mpr ⟨true, .head _, rfl⟩

/-- path vs multipolygon: the documented vertex approximation, over all polygons -/
theorem multipolygon_path_spec (fixed : Bool) (vertexIn : List (List Bool)) :
    multiPolygonIntersectsFeature fixed (.path vertexIn) = true ↔ ∃ row ∈ vertexIn, ∃ v ∈ row, v = true :=
  any_anyTrue_iff vertexIn

example : multiPolygonIntersectsFeature false (.path [[false, false], [true]]) = true :=
  (multipolygon_path_spec _ _).mpr ⟨[true], .tail _ (.head _), true, .head _, rfl⟩

theorem multipolygon_area_spec (fixed : Bool) (meets : List (List Bool)) :
    multiPolygonIntersectsFeature fixed (.area meets) = true ↔ ∃ row ∈ meets, ∃ m ∈ row, m = true :=
  any_anyTrue_iff meets

example : multiPolygonIntersectsFeature true (.area [[false], [false, true]]) = true :=
  (multipolygon_area_spec _ _).mpr ⟨[false, true], .tail _ (.head _), true, .tail _ (.head _), rfl⟩

/-- exact geometry for a cap and a polygon: the centre is inside, or the boundary comes within the radius -/
def CapMeets (t : CapPoly) : Prop :=
  t.centreIn = true ∨ ∃ l ∈ t.loops, ∃ e ∈ l, e.within = true

instance (t : CapPoly) : Decidable (CapMeets t) := by unfold CapMeets; exact inferInstance

def someEdgeWithin (loops : List (List EdgeRow)) : Bool := loops.any fun l => l.any (·.within)
def leftOfAll (loops : List (List EdgeRow)) : Nat := (loops.filter fun l => l.all (·.left)).length

theorem capIntersectsPolygon_fixed_eq (t : CapPoly) :
    capIntersectsPolygon true t = (t.centreIn || someEdgeWithin t.loops) := rfl

theorem cap_polygon_spec (t : CapPoly) : capIntersectsPolygon true t = true ↔ CapMeets t := by
  simp only [capIntersectsPolygon_fixed_eq, someEdgeWithin, Bool.or_eq_true, List.any_eq_true, CapMeets]

example : capIntersectsPolygon true ⟨4, [], [], true, [[⟨false, true⟩, ⟨false, false⟩]]⟩ = true :=
  (cap_polygon_spec _).mpr (Or.inl rfl)

theorem someEdgeWithin_cons (l : List EdgeRow) (ls : List (List EdgeRow)) :
    someEdgeWithin (l :: ls) = (l.any (·.within) || someEdgeWithin ls) := rfl

theorem leftOfAll_cons (l : List EdgeRow) (ls : List (List EdgeRow)) :
    leftOfAll (l :: ls) = leftOfAll ls + if l.all (·.left) then 1 else 0 := by
  rw [leftOfAll, List.filter_cons]
  cases l.all (·.left) <;> rfl

theorem parity_go (loops : List (List EdgeRow)) (n : Nat) :
    capIntersectsPolygonParity.go loops n =
      (someEdgeWithin loops || ((n + leftOfAll loops) % 2 == 1)) := by
  induction loops generalizing n with
  | nil => rfl
  | cons l ls ih =>
    rw [capIntersectsPolygonParity.go, ih, someEdgeWithin_cons, leftOfAll_cons]
    cases l.any (·.within)
    · cases l.all (·.left)
      · rfl
      · exact congrArg (fun x => someEdgeWithin ls || x % 2 == 1) (Nat.add_right_comm n 1 _)
    · rfl

theorem capIntersectsPolygon_parity_eq (t : CapPoly) :
    capIntersectsPolygon false t = (someEdgeWithin t.loops || (leftOfAll t.loops % 2 == 1)) :=
  (parity_go t.loops 0).trans (by rw [Nat.zero_add])

/-- The parity formulation of the code as found is exact under the loop contract: whenever no edge is
within the radius, "centre inside the polygon" ⇔ "the centre is to the left of every edge of an odd number
of loops".  (S2 polygons are XOR of nested CCW loops, so this holds when every loop is convex.) -/
theorem cap_polygon_parity_spec (t : CapPoly)
    (contract : someEdgeWithin t.loops = false → (t.centreIn = (leftOfAll t.loops % 2 == 1))) :
    capIntersectsPolygon false t = true ↔ CapMeets t := by
  rw [← cap_polygon_spec, capIntersectsPolygon_parity_eq, capIntersectsPolygon_fixed_eq]
  cases hs : someEdgeWithin t.loops
  · rw [contract hs, Bool.false_or, Bool.or_false]
  · rw [Bool.true_or, Bool.or_true]

example : capIntersectsPolygon false ⟨4, [], [], true, [[⟨false, true⟩, ⟨false, true⟩, ⟨false, true⟩]]⟩ = true :=
  (cap_polygon_parity_spec _ (by decide)).mpr (Or.inl rfl)

/-- Code as found on an L-shaped (non-convex) loop with a small cap deep inside one arm: no edge within the
radius, the centre is on the right of the re-entrant edge, so the loop is not counted: false, though the
centre is inside the polygon. -/
theorem cap_polygon_parity_counterexample :
    let t : CapPoly := ⟨6, [], [], true,
      [[⟨false, true⟩, ⟨false, true⟩, ⟨false, false⟩, ⟨false, true⟩, ⟨false, true⟩, ⟨false, true⟩]]⟩
    capIntersectsPolygon false t = false ∧ CapMeets t ∧ capIntersectsPolygon true t = true := by
  decide

/-- covering contract for the shortcut of `IntersectsPolygon`: a hit on a cell of the cap's interior covering
means the polygon meets the cap; if it meets the cap it hits a cell of the exterior covering -/
def CoveringContract (t : CapPoly) : Prop :=
  (anyTrue t.interior = true → CapMeets t) ∧ (CapMeets t → anyTrue t.exterior = true)

theorem intersectsPolygon_fixed (t : CapPoly) :
    intersectsPolygon true t = some
      (if !t.loops.isEmpty && t.nv0 > indexUseFasterAboveVertexCount
       then anyTrue t.interior || anyTrue t.exterior && capIntersectsPolygon true t
       else capIntersectsPolygon true t) := by
  rw [intersectsPolygon, Bool.not_true, Bool.and_false, if_neg Bool.false_ne_true]
  cases !t.loops.isEmpty && decide (t.nv0 > indexUseFasterAboveVertexCount)
  · rfl
  · cases anyTrue t.interior <;> cases anyTrue t.exterior <;> rfl

theorem intersects_polygon_spec (t : CapPoly) (h : CoveringContract t) :
    intersectsPolygon true t = some (decide (CapMeets t)) := by
  rw [intersectsPolygon_fixed, Bool.eq_iff_iff.mpr ((cap_polygon_spec t).trans decide_eq_true_iff.symm)]
  by_cases hm : CapMeets t
  · simp only [hm, decide_true, h.2 hm, Bool.and_self, Bool.or_true, ite_self]
  · simp only [hm, decide_false, Bool.and_false, Bool.or_false, ite_self, Bool.eq_false_iff.mpr (mt h.1 hm)]

theorem anyPolygon_eq_some (fixed : Bool) (f : CapPoly → Bool) (ps : List CapPoly)
    (h : ∀ p ∈ ps, intersectsPolygon fixed p = some (f p)) : anyPolygon fixed ps = some (ps.any f) := by
  induction ps with
  | nil => rfl
  | cons p ps ih =>
    rw [anyPolygon, h p (.head _), List.any_cons]
    cases f p
    · exact ih fun q hq => h q (.tail _ hq)
    · rfl

/-- `IntersectsCap.Matches` on an area (repaired code): some polygon of the area meets the cap. -/
theorem cap_area_spec (ps : List CapPoly) (h : ∀ p ∈ ps, CoveringContract p) :
    capMatches true (.area ps) = some (ps.any fun p => decide (CapMeets p)) :=
  anyPolygon_eq_some true _ ps fun p hp => intersects_polygon_spec p (h p hp)

example : capMatches true (.area [⟨20, [false], [false, false], false, [[⟨false, true⟩]]⟩,
                                  ⟨4, [], [true], false, [[⟨false, false⟩, ⟨true, false⟩]]⟩]) = some true := by
  decide

/-- the repaired code never panics, whatever the table -/
theorem cap_never_panics (t : CapTable) : capMatches true t ≠ none := by
  cases t with
  | area ps =>
    rw [capMatches, anyPolygon_eq_some true _ ps fun p _ => intersectsPolygon_fixed p]
    exact Option.some_ne_none _
  | _ => exact Option.some_ne_none _

/-- Code as found: an area with a polygon that has no loops (e.g. `InvalidArea.Polygon`) panics in `p.Loop(0)`. -/
theorem cap_empty_polygon_counterexample :
    capMatches false (.area [⟨0, [], [], false, []⟩]) = none ∧
    capMatches true (.area [⟨0, [], [], false, []⟩]) = some false := by
  decide

theorem cap_point_path_spec (fixed b : Bool) :
    capMatches fixed (.point b) = some b ∧ capMatches fixed (.path b) = some b := ⟨rfl, rfl⟩

def GeoMeets : GeoQuery → Prop
  | .point t => PointTable.Meets t
  | .line t => LineTable.Meets t
  | .mp (.point cs) => ∃ c ∈ cs, c = true
  | .mp (.path vs) => ∃ row ∈ vs, ∃ v ∈ row, v = true
  | .mp (.area ms) => ∃ row ∈ ms, ∃ m ∈ row, m = true
  | .mp .other => False
  | .empty => False

theorem geoMatches_spec (q : GeoQuery) : geoMatches true q = true ↔ GeoMeets q := by
  cases q with
  | point t => exact point_spec t
  | line t => exact polyline_spec t
  | mp t =>
    cases t with
    | point cs => exact multipolygon_point_spec cs
    | path vs => exact multipolygon_path_spec true vs
    | area ms => exact multipolygon_area_spec true ms
    | other => exact ⟨nofun, False.elim⟩
  | empty => exact ⟨nofun, False.elim⟩

/-- `IntersectsFeature.Matches` (repaired): the named feature has geometry, and the feature is the named one
or meets the named feature's geometry. -/
theorem intersects_feature_spec (sameID : Bool) (q : GeoQuery) :
    intersectsFeatureMatches true sameID q = true ↔ q ≠ .empty ∧ (sameID = true ∨ GeoMeets q) := by
  rw [← geoMatches_spec]
  cases q <;> simp only [intersectsFeatureMatches, Bool.or_eq_true, ne_eq, reduceCtorEq, not_false_eq_true,
    true_and, if_true, Bool.false_eq_true, not_true, false_and]

example : intersectsFeatureMatches true false (.mp (.point [false, true])) = true :=
  (intersects_feature_spec _ _).mpr ⟨nofun, Or.inr ⟨true, .tail _ (.head _), rfl⟩⟩

/-- Code as found: a relation named by the query "intersects itself" although it has no geometry and the
compiled query is empty (the search returns nothing: C04's `self-without-geometry`). -/
theorem intersects_feature_self_counterexample :
    intersectsFeatureMatches false true .empty = true ∧ intersectsFeatureMatches true true .empty = false := by
  decide

/-- `MightIntersect.Matches` accepts everything. -/
theorem might_intersect_spec : mightIntersectMatches = true := rfl

/-! The executable spec used by the driver (`B6.Spec.SpatialPred`) equals the repaired model. -/

open B6.Spec.SpatialPred (someTrue someTrue2)

theorem someTrue_eq (bs : List Bool) : someTrue bs = anyTrue bs := by
  rw [Bool.eq_iff_iff, anyTrue_iff, someTrue, List.contains_iff_mem]
  exact ⟨fun h => ⟨true, h, rfl⟩, fun ⟨_, h, e⟩ => e ▸ h⟩

theorem someTrue2_eq (rows : List (List Bool)) : someTrue2 rows = rows.any anyTrue :=
  (someTrue_eq rows.flatten).trans List.any_flatten

theorem cells_eq_spec (t : CellsTable) : cellsIntersectFeature t = B6.Spec.SpatialPred.cells t := by
  cases t <;> simp only [cellsIntersectFeature, B6.Spec.SpatialPred.cells, someTrue_eq, someTrue2_eq]

theorem point_eq_spec (t : PointTable) : pointIntersectsFeature t = B6.Spec.SpatialPred.point t := by
  cases t <;> simp only [pointIntersectsFeature, B6.Spec.SpatialPred.point, someTrue_eq]

theorem polyline_eq_spec (t : LineTable) : polylineIntersectsFeature t = B6.Spec.SpatialPred.line t := by
  cases t <;> simp only [polylineIntersectsFeature, polylineIntersectsPolygon_eq, B6.Spec.SpatialPred.line,
    someTrue2_eq]

/-- `IntersectsPolyline.Matches` (repaired), any query length incl. the empty polyline -/
theorem polyline_query_eq_spec (nq : Nat) (t : LineTable) :
    intersectsPolylineMatches true nq t = some (B6.Spec.SpatialPred.lineQuery nq t) := by
  cases t with
  | area vs => cases nq <;> exact congrArg some (polyline_eq_spec (.area vs))
  | _ => cases nq <;> rfl

theorem polyline_never_panics (nq : Nat) (t : LineTable) : intersectsPolylineMatches true nq t ≠ none := by
  rw [polyline_query_eq_spec]; exact Option.some_ne_none _

/-- Code as found: an empty query polyline against a point feature panics in `Polyline.Project`. -/
theorem polyline_empty_query_counterexample :
    intersectsPolylineMatches false 0 (.point false) = none ∧
    intersectsPolylineMatches true 0 (.point false) = some false := by
  decide

/-- with at least one vertex the as-found code is the plain table decision -/
theorem polyline_query_partial (fixed : Bool) (nq : Nat) (t : LineTable) (h : nq ≠ 0) :
    intersectsPolylineMatches fixed nq t = some (polylineIntersectsFeature t) := by
  cases nq with
  | zero => exact absurd rfl h
  | succ n => cases t <;> rfl

example : intersectsPolylineMatches false 2 (.point true) = some true := polyline_query_partial _ _ _ (by decide)

theorem multipolygon_eq_spec (t : MpTable) :
    multiPolygonIntersectsFeature true t = B6.Spec.SpatialPred.mp t := by
  cases t <;> simp only [multiPolygonIntersectsFeature, multiPolygonContainsPoint, if_true,
    polylineIntersectsPolygon_eq, B6.Spec.SpatialPred.mp, someTrue_eq, someTrue2_eq]

theorem cap_polygon_eq_spec (t : CapPoly) : capIntersectsPolygon true t = B6.Spec.SpatialPred.capPoly t := by
  rw [capIntersectsPolygon_fixed_eq, B6.Spec.SpatialPred.capPoly, someTrue_eq, anyTrue, List.any_map,
    List.any_flatten]
  rfl

theorem capPoly_spec_iff (t : CapPoly) : B6.Spec.SpatialPred.capPoly t = true ↔ CapMeets t := by
  rw [← cap_polygon_eq_spec, cap_polygon_spec]

/-- `IntersectsCap.Matches` (repaired) equals the executable spec under the covering contract -/
theorem cap_eq_spec (t : CapTable)
    (h : ∀ ps, t = .area ps → ∀ p ∈ ps, CoveringContract p) :
    capMatches true t = some (B6.Spec.SpatialPred.cap t) := by
  cases t with
  | point b => rfl
  | path b => rfl
  | other => rfl
  | area ps =>
    rw [cap_area_spec ps (h ps rfl), B6.Spec.SpatialPred.cap, someTrue_eq, anyTrue, List.any_map]
    congr 2
    funext p
    exact Bool.eq_iff_iff.mpr (decide_eq_true_iff.trans (capPoly_spec_iff p).symm)

theorem intersects_feature_eq_spec (sameID : Bool) (q : GeoQuery) :
    intersectsFeatureMatches true sameID q = B6.Spec.SpatialPred.feature sameID q := by
  cases q with
  | empty => rfl
  | point t => exact congrArg (sameID || ·) (point_eq_spec t)
  | line t => exact congrArg (sameID || ·) (polyline_eq_spec t)
  | mp t => exact congrArg (sameID || ·) (multipolygon_eq_spec t)

end B6.Props.C05
