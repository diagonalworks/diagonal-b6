import B6.Lemmas.Merged
/-!
# C17 — worlds merged from several index files act as one world

Theorems about `B6.Model.Merged` (the model of `compact.World.Merge`, `findWithoutCache`,
`hasFeatureWithID`, `FindLocationByID`, `World.FindFeatures` / `b6.MergeFeatures`), for **any number of
files**, any namespace tables (shared or different per file), any merge order.

A merged world is the list of its files' blocks (`mergeBlocks`) and every read is a scan of that list. A lookup is the
first answer in merge order (`merged_lookup`), so an id of a known type that any file holds is found; when the blocks agree about an id (in
particular when the files' id sets are disjoint) it is the answer of any single index that holds the same features
(`merged_lookup_union`), whatever the order in which the files were merged (`ReadWorld` merges concurrently). A search is
the strictly ascending union of the files' ascending streams (`merged_search`). The points of a path resolve through
whichever block stores their location, so an overlay file, which carries only references-only entries for base points,
never hides a base location (`overlay_path_resolves`). `has_first_block_counterexample`: `HasFeatureWithID` as first written.

What is *not* proved here: that each file's blocks / index are what the builder should have written for its
features (C01 / C03 / C08); the driver checks the hypotheses (`Sorted` streams) on the data it sees.
-/
namespace B6.Props.C17
open B6.Model.Merged B6.Lemmas.Merged

variable {α β κ : Type}

theorem mergeBlocks_cons (f : File α β κ) (fs : List (File α β κ)) :
    mergeBlocks (f :: fs) = f.blocks ++ mergeBlocks fs := by
  simp [mergeBlocks]

theorem mem_mergeBlocks {fs : List (File α β κ)} {b : Block α β} :
    b ∈ mergeBlocks fs ↔ ∃ f ∈ fs, b ∈ f.blocks := by
  simp [mergeBlocks, List.mem_flatMap]

theorem mem_mergeBlocks_perm {fs fs' : List (File α β κ)} (hp : fs.Perm fs') (b : Block α β) :
    b ∈ mergeBlocks fs ↔ b ∈ mergeBlocks fs' := (hp.flatMap_right _).mem_iff

/-! ## `NewWorldWithBase` chains -/

/-- A world whose base is another world (`NewWorldWithBase`: `findWithoutCache` falls through to
`f.base.FindFeatureByID`) answers lookups like one world holding its own blocks followed by the base's. -/
theorem chain_lookup (top base : List (Block α β)) (id : ID) :
    find (top ++ base) id = (find top id).or (find base id) := find_append top base id

/-- … and locations likewise (`FindLocationByID` falls through to `f.base.FindLocationByID`). -/
theorem chain_location (top base : List (Block α β)) (id : ID) :
    loc (top ++ base) id = (loc top id).or (loc base id) := loc_append top base id

/-! ## Lookups -/

/-- `find (merge [ix₁ … ixₙ]) id` = the first hit in file order. -/
theorem merged_lookup (fs : List (File α β κ)) (id : ID) :
    find (mergeBlocks fs) id = (fs.map (fun f => find f.blocks id)).foldr Option.or none := by
  induction fs with
  | nil => unfold find; split <;> rfl
  | cons f fs ih => rw [mergeBlocks_cons, chain_lookup, ih]; rfl

example : find (mergeBlocks
    [ (⟨[0, 5], [⟨0, [1, 1, 1, 1], [0, 5], [⟨1, .full, "a", some "x", []⟩]⟩], fun _ => []⟩ : File String String Unit),
      ⟨[0, 5, 7], [⟨0, [1, 1, 1, 1], [0, 5, 7], [⟨2, .full, "b", some "y", []⟩]⟩], fun _ => []⟩ ]) ⟨0, 5, 2⟩
    = some "b" := by decide

/-- Lookups find features from any file: whatever a file holds under a type below `numTypes` is found in the
merged world. -/
theorem merged_lookup_from_any_file (fs : List (File α β κ)) (id : ID) (c : α)
    (ht : id.typ < numTypes) (h : ∃ f ∈ fs, ∃ b ∈ f.blocks, Holds b id c) :
    ∃ c', find (mergeBlocks fs) id = some c' := by
  obtain ⟨f, hf, b, hb, hh⟩ := h
  obtain ⟨c', hc'⟩ := findIn_complete (mem_mergeBlocks.2 ⟨f, hf, hb⟩) hh
  exact ⟨c', find_eq_some_iff.2 ⟨ht, hc'⟩⟩

/-- … and whatever the merged world answers is held by one of the files. -/
theorem merged_lookup_sound (fs : List (File α β κ)) (id : ID) (c : α)
    (h : find (mergeBlocks fs) id = some c) : ∃ f ∈ fs, ∃ b ∈ f.blocks, Holds b id c := by
  obtain ⟨b, hb, hh⟩ := findIn_sound (find_eq_some_iff.1 h).2
  obtain ⟨f, hf, hbf⟩ := mem_mergeBlocks.1 hb
  exact ⟨f, hf, b, hbf, hh⟩

/-- When the blocks agree about `id` (e.g. the files' id sets are disjoint), the merged world answers like
**any** world `u` — in particular the single index built from the union — that holds the same features. -/
theorem merged_lookup_union (w u : List (Block α β)) (id : ID) (hw : Agree w id)
    (hsame : ∀ c, (∃ b ∈ u, Holds b id c) ↔ (∃ b ∈ w, Holds b id c)) :
    find u id = find w id := by
  -- `u` agrees about `id` as well, so both lookups are characterised by what the blocks hold
  have hu : Agree u id := fun b1 h1 b2 h2 c1 c2 hc1 hc2 => by
    obtain ⟨b1', h1', hc1'⟩ := (hsame c1).1 ⟨b1, h1, hc1⟩
    obtain ⟨b2', h2', hc2'⟩ := (hsame c2).1 ⟨b2, h2, hc2⟩
    exact hw b1' h1' b2' h2' c1 c2 hc1' hc2'
  exact Option.ext fun c => by rw [find_eq_some_iff, find_eq_some_iff, findIn_iff hu, findIn_iff hw, hsame]

/-- The order in which the files are merged does not matter when they agree about the id. -/
theorem merged_lookup_order_irrelevant (fs fs' : List (File α β κ)) (id : ID) (hp : fs.Perm fs')
    (hw : Agree (mergeBlocks fs) id) : find (mergeBlocks fs') id = find (mergeBlocks fs) id :=
  merged_lookup_union _ _ _ hw fun _ =>
    ⟨fun ⟨b, hb, hh⟩ => ⟨b, (mem_mergeBlocks_perm hp b).2 hb, hh⟩,
      fun ⟨b, hb, hh⟩ => ⟨b, (mem_mergeBlocks_perm hp b).1 hb, hh⟩⟩

/-- `FeaturesByID.HasFeatureWithID` (repaired: every matching block, references-only entries are not
features) says exactly whether the lookup succeeds. -/
theorem has_eq_find (w : List (Block α β)) (id : ID) : hasByID w id = (find w id).isSome := by
  unfold hasByID find
  split
  · exact hasIn_eq w id
  · rfl

/-- `hasFeatureWithID` as first written returned the answer of the first block whose namespace matched:
one namespace split over two files, the id in the second — found, yet reported absent. -/
theorem has_first_block_counterexample :
    ∃ (w : List (Block Nat Nat)) (id : ID), find w id ≠ none ∧ hasFirstBlock w id = false :=
  ⟨[⟨0, [1, 1, 1, 1], [0, 5], [⟨1, .full, 10, some 100, []⟩]⟩,
    ⟨0, [1, 1, 1, 1], [0, 5], [⟨2, .full, 20, some 200, []⟩]⟩], ⟨0, 5, 2⟩, by decide⟩

/-- … and it reported a references-only entry (a point some path mentions, stored elsewhere or nowhere)
as a feature. -/
theorem has_first_block_refonly_counterexample :
    ∃ (w : List (Block Nat Nat)) (id : ID), find w id = none ∧ hasFirstBlock w id = true :=
  ⟨[⟨0, [1, 1, 1, 1], [0, 5], [⟨1, .refOnly, 0, none, []⟩]⟩], ⟨0, 5, 1⟩, by decide⟩

/-! ## Searches -/

/-- Searches merge the per-index results in id order without duplicates: for any number of files whose
index streams are ascending, the merged result is strictly ascending and contains exactly the ids some
index yields. -/
theorem merged_search (fs : List (File α β κ)) (q : κ) (hs : ∀ f ∈ fs, Sorted (f.index q)) :
    StrictSorted (search fs q) ∧ ∀ x, x ∈ search fs q ↔ ∃ f ∈ fs, x ∈ f.index q := by
  obtain ⟨h1, h2⟩ := merged_spec (fs.map (·.index q)) (List.forall_mem_map.2 hs)
  refine ⟨h1, fun x => ?_⟩
  rw [search, h2]
  constructor
  · rintro ⟨c, hc, hx⟩
    obtain ⟨f, hf, rfl⟩ := List.mem_map.1 hc
    exact ⟨f, hf, hx⟩
  · rintro ⟨f, hf, hx⟩
    exact ⟨_, List.mem_map_of_mem hf, hx⟩

example : search
    [ (⟨[], [], fun _ => [⟨0, 1, 1⟩, ⟨0, 1, 4⟩, ⟨1, 2, 1⟩]⟩ : File Unit Unit Unit),
      ⟨[], [], fun _ => [⟨0, 1, 2⟩, ⟨0, 1, 4⟩]⟩, ⟨[], [], fun _ => []⟩, ⟨[], [], fun _ => [⟨0, 0, 9⟩, ⟨1, 2, 1⟩]⟩ ] ()
    = [⟨0, 0, 9⟩, ⟨0, 1, 1⟩, ⟨0, 1, 2⟩, ⟨0, 1, 4⟩, ⟨1, 2, 1⟩] := by decide

/-- The merged result is the result of any single index `u` that yields, strictly ascending, the union of
what the files' indices yield — the one-file build of the union. -/
theorem merged_search_union (fs : List (File α β κ)) (q : κ) (hs : ∀ f ∈ fs, Sorted (f.index q))
    (u : List ID) (hu : StrictSorted u) (hsame : ∀ x, x ∈ u ↔ ∃ f ∈ fs, x ∈ f.index q) :
    search fs q = u := by
  obtain ⟨h1, h2⟩ := merged_search fs q hs
  exact StrictSorted.ext h1 hu (fun x => by rw [h2, hsame])

/-- The order in which the files were merged does not change a search result. -/
theorem merged_search_order_irrelevant (fs fs' : List (File α β κ)) (q : κ) (hp : fs.Perm fs')
    (hs : ∀ f ∈ fs, Sorted (f.index q)) : search fs' q = search fs q := by
  obtain ⟨h1, h2⟩ := merged_search fs q hs
  refine merged_search_union fs' q (fun f hf => hs f (hp.mem_iff.2 hf)) _ h1 fun x => ?_
  rw [h2]
  exact ⟨fun ⟨f, hf, hx⟩ => ⟨f, hp.mem_iff.1 hf, hx⟩, fun ⟨f, hf, hx⟩ => ⟨f, hp.mem_iff.2 hf, hx⟩⟩

/-! ## Overlay paths -/

/-- Blocks that store no location for any of the referenced points — an overlay file, which carries only
references-only entries for the base points its paths run over — never change how a path resolves,
wherever they sit in the merge order. -/
theorem overlay_path_resolves (pre o post : List (Block α β)) (refs : List ID)
    (ho : ∀ r ∈ refs, ∀ b ∈ o, ∀ l, ¬ Locates b r l) :
    pathPoints (pre ++ o ++ post) refs = pathPoints (pre ++ post) refs := by
  unfold pathPoints
  apply B6.Lemmas.Basic.mapM_congr
  intro r hr
  have hn : loc o r = none := loc_eq_none_iff.2 (ho r hr)
  rw [List.append_assoc, loc_append, loc_append, loc_append, hn]
  simp

/-- A references-only entry stores no location. -/
theorem refOnly_not_located (b : Block α β) (id : ID)
    (h : ∀ e, b.findFirst id.val = some e → e.kind = .refOnly) (l : β) : ¬ Locates b id l := by
  rintro ⟨_, e, he, hr, _⟩
  have := h e he
  simp [Entry.real, this] at hr

/-- If every point a path references has its location stored by some merged block (of the base, of the
overlay itself, in whatever order they were merged), resolving the path does not panic and yields one
location per reference. -/
theorem overlay_path_no_panic (w : List (Block α β)) (refs : List ID)
    (h : ∀ r ∈ refs, ∃ b ∈ w, ∃ l, Locates b r l) :
    ∃ ls, pathPoints w refs = some ls ∧ ls.length = refs.length := by
  unfold pathPoints
  apply B6.Lemmas.Basic.mapM_some_of_forall
  intro r hr
  obtain ⟨b, hb, l, hl⟩ := h r hr
  exact loc_complete hb hl

/-- overlay merged *before* its base: the path 42 over base points 1 and 3 resolves to the base's locations -/
example : pathPoints
    ([ (⟨0, [1, 2, 2, 3], [0, 1, 2, 3], [⟨1, .refOnly, "", none, [⟨1, 2, 42⟩]⟩, ⟨3, .refOnly, "", none, [⟨1, 2, 42⟩]⟩]⟩ : Block String String) ] ++
     [ ⟨0, [1, 2, 2, 3], [0, 1, 2, 3], [⟨1, .full, "p1", some "A", []⟩, ⟨2, .full, "p2", some "B", []⟩, ⟨3, .full, "p3", some "C", []⟩]⟩ ])
    [⟨0, 1, 1⟩, ⟨0, 1, 3⟩] = some ["A", "C"] := by decide

/-! ## Paths through a point, across files -/

/-- `FindReferences(p, path)` on the merged world: exactly the paths that *some* merged block records against
the point — the point's own file, or an overlay's references-only entry for a base point, in any merge
order — and that exist in the merged world; each once. -/
theorem paths_by_point_any_file (w : List (Block α β)) (p q : ID) (hp : p.typ = 0) :
    q ∈ pathRefs w p ↔ (∃ b ∈ w, Lists b p q) ∧ (find w q).isSome = true := by
  unfold pathRefs
  rw [if_pos hp, List.mem_filter, mem_pathsByPoint]
  simp

theorem paths_by_point_nodup (w : List (Block α β)) (p : ID) : (pathRefs w p).Nodup := by
  fun_cases pathRefs w p with
  | case1 => exact (nodup_pathsByPoint w [] (by simp)).filter _
  | case2 => simp

/-- the overlay path 42 is found from base point 1, with the overlay merged before its base -/
example : pathRefs
    ([ (⟨0, [1, 2, 2, 3], [0, 1, 2, 3], [⟨1, .refOnly, "", none, [⟨1, 2, 42⟩]⟩]⟩ : Block String String),
       ⟨1, [1, 2, 2, 3], [0, 1, 2, 3], [⟨42, .plain, "w42", none, []⟩]⟩ ] ++
     [ ⟨0, [1, 2, 2, 3], [0, 1, 2, 3], [⟨1, .common, "p1", some "A", [⟨1, 2, 7⟩]⟩]⟩,
       ⟨1, [1, 2, 2, 3], [0, 1, 2, 3], [⟨7, .plain, "w7", none, []⟩]⟩ ])
    ⟨0, 1, 1⟩ = [⟨1, 2, 42⟩, ⟨1, 2, 7⟩] := by decide

/-! ## EachFeature -/

/-- `EachFeature` over the merged world, when no block's namespace code lies beyond its table (`each w = some ids`),
lists exactly the ids the lookup finds, whatever file they came from (blocks with duplicate-free tables and one entry
per value). -/
theorem each_agrees_with_lookup (w : List (Block α β)) (ids : List ID) (h : each w = some ids)
    (hwf : ∀ b ∈ w, WFBlock b) (id : ID) : id ∈ ids ↔ (find w id).isSome = true := by
  rw [mem_each h]
  constructor
  · rintro ⟨b, hb, hlt, he⟩
    obtain ⟨c, hc⟩ := holds_of_emits (hwf b hb) he
    obtain ⟨c', hc'⟩ := findIn_complete hb hc
    exact Option.isSome_iff_exists.2 ⟨c', find_eq_some_iff.2 ⟨he.1 ▸ hlt, hc'⟩⟩
  · intro hf
    obtain ⟨c, hc⟩ := Option.isSome_iff_exists.1 hf
    obtain ⟨ht, hfi⟩ := find_eq_some_iff.1 hc
    obtain ⟨b, hb, hh⟩ := findIn_sound hfi
    have he := emits_of_holds hh
    exact ⟨b, hb, he.1 ▸ ht, he⟩

example : each
    [ (⟨0, [1, 2, 2, 3], [0, 1, 2, 3], [⟨1, .refOnly, "", none, []⟩, ⟨4, .full, "p4", some "D", []⟩]⟩ : Block String String),
      ⟨1, [1, 2, 2, 3], [0, 1, 2, 3], [⟨42, .plain, "w42", none, []⟩]⟩,
      ⟨0, [1, 2, 2, 3], [0, 1, 2, 3], [⟨1, .common, "p1", some "A", []⟩]⟩ ]
    = some [⟨0, 1, 4⟩, ⟨0, 1, 1⟩, ⟨1, 2, 42⟩] := by decide

/-! ## The class of finding `cross-file-referrer` -/

/-- What the driver's class predicate says: the merged answer `m` only lacks referrers of the union's answer
`u`, and each referrer it lacks shares no file with the feature asked about. -/
theorem crossFileOnly_spec (fs : List (File α β κ)) (id : ID) (m u : List ID)
    (h : crossFileOnly fs id m u = true) :
    (∀ x ∈ m, x ∈ u) ∧ ∀ x ∈ u, x ∉ m → sameFile fs x id = false := by
  unfold crossFileOnly at h
  simp only [Bool.and_eq_true, List.all_eq_true, List.mem_filter, Bool.not_eq_true', and_imp] at h
  refine ⟨fun x hx => by simpa using h.1 x hx, fun x hx hnm => ?_⟩
  exact h.2 x hx (by simpa using hnm)

end B6.Props.C17
