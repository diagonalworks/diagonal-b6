import B6.Lemmas.PostingAdvance2
import B6.Lemmas.PostingMarshal
import B6.Spec.Cursor
/-!
# C08 — Posting lists decode to exactly the IDs encoded

Theorems about `B6.Model.Posting` (the model of `PostingListEncoder.Append` / `PostingList.Fill` /
`Iterator.Next` / `Iterator.Advance` in ingest/compact/encoding.go), for **every** id list that is strictly
increasing in `(TypeAndNamespace, value)` — any length, any number of namespaces, any 64-bit values, hence any
varint widths, block splits and paddings.

An id is `(TypeAndNamespace, value)`; `ValidIds` = values `< 2^64` and `TypeAndNamespace ≠ 0`
(0 is point/`""`, the invalid namespace, which the encoder takes for "no namespace seen yet").
-/
namespace B6.Props.C08
open B6.Model.Posting B6.Model.Varint
open B6.Spec.Cursor (Cursor Call runSpec)

/-- **posting_roundtrip**: calling `Next` until it returns false on the posting list built by `Fill` yields
exactly the ids given — for every valid strictly increasing id list. -/
theorem posting_roundtrip (token : Bytes) (ids : List Id) (hv : ValidIds ids) (hs : SortedIds ids) :
    drain (fill token ids) = some ids ∧ (fill token ids).header.features = ids.length :=
  ⟨drain_fill token ids hv hs, rfl⟩

/-- the same for the `(Header, bytes)` pair `encode` returns -/
theorem posting_roundtrip_encode (ids : List Id) (hv : ValidIds ids) (hs : SortedIds ids) :
    drain ⟨(encode ids).1, (encode ids).2⟩ = some ids :=
  drain_fill [] ids hv hs

/-- **posting_roundtrip_bytes**: the same through the wire format — `NewIterator` on the bytes written by
`PostingList.Marshal` drains to exactly the ids (token length, count and buffer length below `2^64`, the
range of their varints, where Go holds an `int`; TypeAndNamespace below `2^16`). -/
theorem posting_roundtrip_bytes (token : Bytes) (ids : List Id) (hv : ValidIds ids) (hs : SortedIds ids)
    (htn : ∀ id ∈ ids, id.1 < 65536) (htok : token.length < 2 ^ 64) (hcount : ids.length < 2 ^ 64)
    (hbuf : (fill token ids).ids.length < 2 ^ 64) :
    (unmarshal (marshal (fill token ids))).bind drain = some ids :=
  drain_unmarshal_marshal_fill token ids hv hs htn htok hcount hbuf

/-- the encoder does not even need the `TypeAndNamespace`s to increase: it is enough that values do not
decrease inside a run of equal `TypeAndNamespace` (`Chain`).  Sufficient, not necessary: a decrease is written as a
wrapped delta (`wrapSub`) and reads back. -/
theorem posting_roundtrip_chain (token : Bytes) (ids : List Id) (h : Chain 0 0 ids) :
    drain (fill token ids) = some ids :=
  drain_fill_chain token ids h

def exIds : List Id := [(1, 1), (3, 5), (3, 9), (8193, 0), (8193, 18446744073709551615)]

example : ValidIds exIds ∧ SortedIds exIds := by
  unfold ValidIds SortedIds exIds idLt; decide
example : Chain 0 0 [(3, 5), (1, 1), (1, 1), (3, 2)] := by
  simp [Chain]

/-- **block_inv**: every 64-byte block of the encoder output starts on a varint boundary with the
*absolute* value of an id of the list, and `Next`-ing from that block start — with whatever stale value and
the namespace index still at 0 — yields exactly the rest of the list from that id on.
(`Advance` relies on this, for any namespace index not beyond the block's (`next_atBlock`), when it drops the
cursor on a block start after its binary search.) -/
theorem block_inv (token : Bytes) (ids : List Id) (hv : ValidIds ids) (hs : SortedIds ids) (b : Nat)
    (hb : 64 * b < (fill token ids).ids.length) :
    ∃ a id c, ids = a ++ id :: c ∧
      putUvarint id.2 <+: (fill token ids).ids.drop (64 * b) ∧
      ∀ stale fuel, c.length + 1 < fuel → drainFuel (fill token ids) fuel ⟨0, 64 * b, stale⟩ = some (id :: c) := by
  obtain ⟨a, id, c, k', h1, hat⟩ := fill_blocks token ids hv hs b hb
  refine ⟨a, id, c, h1, hat.varint, ?_⟩
  intro stale fuel hf
  have hsorted := fill_nss_sorted token ids
  obtain ⟨fuel, rfl⟩ := Nat.exists_eq_succ_of_ne_zero (Nat.ne_of_gt (Nat.zero_lt_of_lt hf))
  obtain ⟨idx, hk', _⟩ := hat.ns
  exact drainFuel_succ (next_atBlock hsorted hat 0 stale (Nat.zero_le _)) hk'
    (drainFuel_lay hsorted c _ _ _ fuel hat.lay (Nat.lt_of_succ_lt_succ hf))

/-- **padding_inv**: for every id of the list some position `p` shows one of two shapes: the id's delta varint
(to some value `prev ≤` it) inside a block, or `p` is the end of a block's data, the rest of that block is exactly
padding bytes `0x80` (and the byte before is not `0x80`), and the next block starts with the id's absolute varint.
(In the proof `p`, `prev` are the iterator's position and value after `done` — `lay_suffix` — but the statement
does not tie them to `done`, and other positions can satisfy it.) -/
theorem padding_inv (token : Bytes) (done : List Id) (id : Id) (rest : List Id)
    (hv : ValidIds (done ++ id :: rest)) (hs : SortedIds (done ++ id :: rest)) :
    let full := (fill token (done ++ id :: rest)).ids
    ∃ p prev,
      (p % 64 ≠ 0 ∧ prev ≤ id.2 ∧ putUvarint (id.2 - prev) <+: full.drop p ∧
        p % 64 + (putUvarint (id.2 - prev)).length ≤ 64)
      ∨
      ((∀ i, p ≤ i → i < p + padLen p → full[i]? = some 128) ∧
        (p % 64 ≠ 0 → ∃ b, full[p - 1]? = some b ∧ b ≠ 128) ∧
        (p + padLen p) % 64 = 0 ∧ putUvarint id.2 <+: full.drop (p + padLen p)) := by
  intro full
  obtain ⟨p, prev, k, h⟩ := lay_suffix done 0 0 0 (fill_lay token (done ++ id :: rest) hv hs)
  refine ⟨p, prev, ?_⟩
  rcases h.cases with ⟨h1, h2, h3, h4, _⟩ | ⟨k', _, h1, h2, hat⟩
  · exact Or.inl ⟨h1, h2, h3, h4⟩
  · exact Or.inr ⟨h1, h2, hat.aligned, hat.varint⟩

/-! ## Next / Advance refine the spec cursor (`B6.Spec.Cursor`) over the id list

The spec cursor runs over the keys `keyNat id = TypeAndNamespace * 2^64 + value` of the list.  `Canon pl ids it done rest`
(Lemmas/PostingAdvance) says that the iterator state `it` is the one reached after reading exactly `done`.  Targets
are all ids `T` with `TnOK tbl T.1`: three type bits and a namespace index inside the table — the namespace need
not occur in the list. -/

/-- the spec cursor that has consumed `done` and has `rest` ahead -/
def cursorOf (done rest : List Id) : Cursor := ⟨done.map keyNat, rest.map keyNat⟩

theorem keyNat_lt {a b : Id} (ha : a.2 < 2 ^ 64) (hb : b.2 < 2 ^ 64) : keyNat a < keyNat b ↔ idLt a b := by
  unfold keyNat idLt; omega

theorem keyNat_le {a b : Id} (ha : a.2 < 2 ^ 64) (hb : b.2 < 2 ^ 64) : keyNat a ≤ keyNat b ↔ ¬ idLt b a :=
  Nat.not_lt.symm.trans (not_congr (keyNat_lt hb ha))

theorem map_dropWhile_takeWhile (T : Id) (hT : T.2 < 2 ^ 64) (l : List Id) (h : ∀ x ∈ l, x.2 < 2 ^ 64) :
    (l.map keyNat).dropWhile (· < keyNat T) = (l.dropWhile (fun x => decide (idLt x T))).map keyNat ∧
    (l.map keyNat).takeWhile (· < keyNat T) = (l.takeWhile (fun x => decide (idLt x T))).map keyNat := by
  have hp : ∀ x ∈ l, ((fun k => decide (k < keyNat T)) ∘ keyNat) x = decide (idLt x T) := fun x hx =>
    Function.comp_apply.trans (decide_eq_decide.mpr (keyNat_lt (h x hx) hT))
  rw [List.dropWhile_map, List.takeWhile_map, B6.Lemmas.Basic.dropWhile_congr_mem hp,
    B6.Lemmas.Basic.takeWhile_congr_mem hp]
  exact ⟨rfl, rfl⟩

theorem ctx_fill (token : Bytes) (ids : List Id) (tbl : Table) (hv : ValidIds ids) (hs : SortedIds ids)
    (ht : TableOK tbl) (htn : ∀ id ∈ ids, TnOK tbl id.1) : Ctx (fill token ids) tbl ids where
  lay := fill_lay token ids hv hs
  sortedNs := fill_nss_sorted token ids
  aligned := fill_nss_aligned token ids
  inRange := fill_nss_inRange token ids
  sorted := hs
  valid := hv
  tblOK := ht
  tnOK := htn

/-- the value an iterator state reports, as a key of the spec cursor -/
def curKey (pl : PostingList) (it : It) : Option Nat :=
  match cur pl it with
  | .ok id => some (keyNat id)
  | .error _ => none

theorem curKey_canon {pl : PostingList} {ids : List Id} {it : It} {done rest : List Id}
    (hc : Canon pl ids it done rest) : ∀ x, (cursorOf done rest).cur = some x → curKey pl it = some x := by
  intro x hx
  obtain ⟨c, hl, rfl⟩ := Option.map_eq_some_iff.1 ((List.getLast?_map (f := keyNat)).symm.trans hx)
  unfold curKey
  rw [canon_cur hc hl]

/-- **next_spec**: `Next` from a canonical state answers like the spec cursor's `next` and lands in the canonical
state of the new cursor. -/
theorem next_spec {pl : PostingList} {tbl : Table} {ids : List Id} (ctx : Ctx pl tbl ids)
    {it : It} {done rest : List Id} (hc : Canon pl ids it done rest) :
    ∃ it', next pl it = .ok ((cursorOf done rest).next.1, it') ∧
      ((cursorOf done rest).next.1 = true →
        ∃ done' rest', Canon pl ids it' done' rest' ∧ (cursorOf done rest).next.2 = cursorOf done' rest') := by
  cases rest with
  | nil =>
    refine ⟨it, ?_, fun h => ?_⟩
    · rw [canon_end hc]; rfl
    · simp [cursorOf, Cursor.next] at h
  | cons id rest =>
    obtain ⟨it', hn, _, hc'⟩ := canon_next ctx hc
    refine ⟨it', ?_, fun _ => ⟨done ++ [id], rest, hc', ?_⟩⟩
    · rw [hn]; rfl
    · simp [cursorOf, Cursor.next]

/-- **advance_spec**: `Advance(T)` from a canonical state answers like the spec cursor's `advance (keyNat T)` —
stay when the current id is `≥ T`, else the first remaining id `≥ T`, else false — for **every** target `T`
whose namespace is in the table (present in the list or not), and lands in the canonical state of the new cursor. -/
theorem advance_spec {pl : PostingList} {tbl : Table} {ids : List Id} (ctx : Ctx pl tbl ids)
    {it : It} {done rest : List Id} (hc : Canon pl ids it done rest)
    (T : Id) (hT : TnOK tbl T.1) (hTv : T.2 < 2 ^ 64) :
    ∃ it', advance pl tbl (keyOf tbl T) it = .ok (((cursorOf done rest).advance (keyNat T)).1, it') ∧
      (((cursorOf done rest).advance (keyNat T)).1 = true →
        ∃ done' rest', Canon pl ids it' done' rest' ∧
          ((cursorOf done rest).advance (keyNat T)).2 = cursorOf done' rest') := by
  obtain ⟨hstay, hmove⟩ := B6.Model.Posting.advance_spec ctx hc hT
  have hvalid : ∀ x ∈ done ++ rest, x.2 < 2 ^ 64 := fun x hx => (ctx.valid x (by rw [hc.split]; exact hx)).1
  have hlast : ∀ c, done.getLast? = some c → c.2 < 2 ^ 64 := fun c hl =>
    hvalid c (List.mem_append_left _ (List.mem_of_getLast? hl))
  have hcur : (cursorOf done rest).cur = done.getLast?.map keyNat := List.getLast?_map
  rcases Cursor.advance_cases (cursorOf done rest) (keyNat T) with ⟨v, hv, hkv, he⟩ | ⟨hbelow, he⟩
  · -- the current id is `≥ T`: iterator and cursor stay
    rw [he]
    obtain ⟨c, hl, rfl⟩ := Option.map_eq_some_iff.1 (hcur.symm.trans hv)
    exact ⟨it, hstay c hl ((keyNat_le hTv (hlast c hl)).1 hkv), fun _ => ⟨done, rest, hc, rfl⟩⟩
  · -- otherwise both seek: the first id `≥ T` ahead is the first key `≥ keyNat T` ahead
    rw [he]
    obtain ⟨it1, hsp⟩ := hmove fun c hl => (keyNat_lt (hlast c hl) hTv).1 (hbelow _ (by rw [hcur, hl]; rfl))
    obtain ⟨hdw, htw⟩ := map_dropWhile_takeWhile T hTv rest fun x hx => hvalid x (List.mem_append_right _ hx)
    unfold Cursor.seek cursorOf
    simp only
    rw [hdw, htw]
    cases hd : rest.dropWhile (fun x => decide (idLt x T)) with
    | nil =>
      refine ⟨it1, ?_, fun h => ?_⟩
      · rw [hsp.2 hd]; rfl
      · simp at h
    | cons x hi =>
      obtain ⟨it', h1, _, h3⟩ := hsp.1 x hi hd
      refine ⟨it', ?_, fun _ => ⟨_, hi, h3, ?_⟩⟩
      · rw [h1]; rfl
      · simp [List.map_append]

end B6.Props.C08

/-! ## The iterator as an `IterOps` of `B6.Spec.Cursor`

`postingOps tbl` packages `next`/`advance`/`cur` as an iterator on states `(posting list, iterator)`, with values and
keys read as the naturals `TypeAndNamespace * 2^64 + value` (`keyNat`) and the key domain `dom k` = "the namespace of
`k` is in the file's namespace table" (`nt.Encode` panics on any other).  `posting_simulation` is `next_spec` /
`advance_spec` in that vocabulary; `posting_transcript` below and `posting_refines` (Lemmas/SearchPosting) are read
off it.  The block is in `namespace B6.Lemmas.Search` because the statements of Props/C06 mention
`B6.Lemmas.Search.postingOps`; it stands here because `posting_transcript` needs it. -/

namespace B6.Lemmas.Search
open B6.Spec.Cursor B6.Model.Posting

def liftPostingErr : B6.Model.Posting.Err → B6.Spec.Cursor.Err
  | .panic => .panic
  | .corrupt => .panic
  | .fuel => .fuel

def liftPosting (pl : PostingList) (r : Except B6.Model.Posting.Err (Bool × It)) : Res (PostingList × It) :=
  match r with
  | .ok p => .ok (p.1, (pl, p.2))
  | .error e => .error (liftPostingErr e)

/-- `compact.Iterator`s over the posting lists of a file whose namespace table is `tbl` -/
def postingOps (tbl : Table) : IterOps (PostingList × It) where
  next s := liftPosting s.1 (B6.Model.Posting.next s.1 s.2)
  advance k s := liftPosting s.1 (B6.Model.Posting.advance s.1 tbl (keyOf tbl (k / 2 ^ 64, k % 2 ^ 64)) s.2)
  value s := B6.Props.C08.curKey s.1 s.2
  estimate s := (s.1.ids.length - s.2.i) / 3
  dom k := TnOK tbl (k / 2 ^ 64)

/-- the iterator is in the state reached after reading exactly `done`, and the cursor has consumed `done` -/
def PostingRel (tbl : Table) (s : PostingList × It) (c : Cursor) : Prop :=
  ∃ ids done rest, Ctx s.1 tbl ids ∧ Canon s.1 ids s.2 done rest ∧ c = B6.Props.C08.cursorOf done rest

theorem cursorOf_wf {pl : PostingList} {tbl : Table} {ids : List Id} (ctx : Ctx pl tbl ids) {it : It}
    {done rest : List Id} (hc : Canon pl ids it done rest) : (B6.Props.C08.cursorOf done rest).WF := by
  unfold Cursor.WF Cursor.xs B6.Props.C08.cursorOf
  simp only [← List.map_append, ← hc.split]
  unfold StrictSorted
  rw [List.pairwise_map]
  exact ctx.sorted.imp_of_mem (fun {a b} ha hb hab =>
    (B6.Props.C08.keyNat_lt (ctx.valid a ha).1 (ctx.valid b hb).1).2 hab)

theorem posting_simulation (tbl : Table) : Simulation (postingOps tbl) (PostingRel tbl) where
  wf s c h := by
    obtain ⟨ids, done, rest, ctx, hc, rfl⟩ := h
    exact cursorOf_wf ctx hc
  value s c h hcur := by
    obtain ⟨ids, done, rest, ctx, hc, rfl⟩ := h
    obtain ⟨x, hx⟩ := Option.isSome_iff_exists.1 hcur
    show B6.Props.C08.curKey s.1 s.2 = _
    rw [hx]; exact B6.Props.C08.curKey_canon hc x hx
  next s c h := by
    obtain ⟨ids, done, rest, ctx, hc, rfl⟩ := h
    obtain ⟨it', h1, h2⟩ := B6.Props.C08.next_spec ctx hc
    refine ⟨(s.1, it'), by show liftPosting _ _ = _; rw [h1]; rfl, fun hb => ?_⟩
    obtain ⟨done', rest', hc', heq⟩ := h2 hb
    exact ⟨ids, done', rest', ctx, hc', heq⟩
  advance k s c h hk := by
    obtain ⟨ids, done, rest, ctx, hc, rfl⟩ := h
    have hTv : k % 2 ^ 64 < 2 ^ 64 := Nat.mod_lt _ (Nat.two_pow_pos 64)
    have hkey : keyNat (k / 2 ^ 64, k % 2 ^ 64) = k := Nat.div_add_mod' k (2 ^ 64)
    obtain ⟨it', h1, h2⟩ := B6.Props.C08.advance_spec ctx hc (k / 2 ^ 64, k % 2 ^ 64) hk hTv
    rw [hkey] at h1 h2
    refine ⟨(s.1, it'), by show liftPosting _ _ = _; rw [h1]; rfl, fun hb => ?_⟩
    obtain ⟨done', rest', hc', heq⟩ := h2 hb
    exact ⟨ids, done', rest', ctx, hc', heq⟩

end B6.Lemmas.Search

namespace B6.Props.C08
open B6.Model.Posting B6.Model.Varint
open B6.Spec.Cursor (Cursor Call runSpec)

/-- the model's transcript of a call sequence (`advance k` takes the key of the target id); it ends at the first
`false`; `none` = the model reported a panic / error -/
def runModel (pl : PostingList) (tbl : Table) : It → List Call → Option (List (Bool × Option Nat))
  | _, [] => some []
  | it, call :: calls =>
    match (match call with
      | .next => next pl it
      | .advance k => advance pl tbl (keyOf tbl (k / 2 ^ 64, k % 2 ^ 64)) it) with
    | .ok (true, it') => (runModel pl tbl it' calls).map ((true, curKey pl it') :: ·)
    | .ok (false, _) => some [(false, none)]
    | .error _ => none

theorem runModel_eq_runImpl (pl : PostingList) (tbl : Table) : ∀ (calls : List Call) (it : It),
    runModel pl tbl it calls = B6.Spec.Cursor.runImpl (B6.Lemmas.Search.postingOps tbl) (pl, it) calls
  | [], _ => rfl
  | call :: calls, it => by
    -- both run the same call; `runImpl` sees the answer through `liftPosting`
    have ih := runModel_eq_runImpl pl tbl calls
    cases call with
    | next =>
      simp only [runModel, B6.Spec.Cursor.runImpl]
      rw [show (B6.Lemmas.Search.postingOps tbl).next (pl, it) = B6.Lemmas.Search.liftPosting pl (next pl it) from rfl]
      cases next pl it with
      | error _ => rfl
      | ok r => obtain ⟨_ | _, it'⟩ := r <;> simp only [B6.Lemmas.Search.liftPosting, ih] <;> rfl
    | advance k =>
      simp only [runModel, B6.Spec.Cursor.runImpl]
      rw [show (B6.Lemmas.Search.postingOps tbl).advance k (pl, it)
        = B6.Lemmas.Search.liftPosting pl (advance pl tbl (keyOf tbl (k / 2 ^ 64, k % 2 ^ 64)) it) from rfl]
      cases advance pl tbl (keyOf tbl (k / 2 ^ 64, k % 2 ^ 64)) it with
      | error _ => rfl
      | ok r => obtain ⟨_ | _, it'⟩ := r <;> simp only [B6.Lemmas.Search.liftPosting, ih] <;> rfl

/-- **posting_transcript**: for the posting list built by `Fill` from any valid strictly increasing id list, and
**every** finite sequence of `Next` / `Advance(T)` calls (every `T` whose namespace is in the table), the
iterator's answers — the booleans and the ids reported — are exactly those of the spec cursor over the list
(up to the first `false`). -/
theorem posting_transcript (token : Bytes) (ids : List Id) (tbl : Table) (hv : ValidIds ids) (hs : SortedIds ids)
    (ht : TableOK tbl) (htn : ∀ id ∈ ids, TnOK tbl id.1) (calls : List Call)
    (hk : ∀ k, Call.advance k ∈ calls → TnOK tbl (k / 2 ^ 64)) :
    runModel (fill token ids) tbl It.start calls
      = some (runSpec (B6.Spec.Cursor.start (ids.map keyNat)) calls) := by
  have ctx := ctx_fill token ids tbl hv hs ht htn
  exact (runModel_eq_runImpl _ tbl calls It.start).trans (B6.Spec.Cursor.RefinesAt.run
    ⟨B6.Lemmas.Search.PostingRel tbl, B6.Lemmas.Search.posting_simulation tbl, ids, [], ids, ctx, canon_start ctx, rfl⟩
    calls hk)

/-- **table_order_preserving**: `FillFromNamespaces` on distinct non-empty names (fewer than 2^13) builds a table in
which `Encode`/`Decode` are inverse on the given names and `Encode` preserves the string order — which is what
lets the iterator compare `TypeAndNamespace` integers instead of namespace strings. -/
theorem table_order_preserving (nss : List String) (hnd : nss.Nodup) (hne : "" ∉ nss) (hlen : nss.length < 8192)
    (a b : String) (ha : a ∈ nss) (hb : b ∈ nss) :
    ∃ i j, (fillFromNamespaces nss).encode a = .ok i ∧ (fillFromNamespaces nss).encode b = .ok j ∧
      (fillFromNamespaces nss).decode i = .ok a ∧ (fillFromNamespaces nss).decode j = .ok b ∧ (a < b ↔ i < j) := by
  obtain ⟨hok, hmem⟩ := fillFromNamespaces_ok nss hnd hne hlen
  obtain ⟨i, hi, hia⟩ := List.mem_iff_getElem.1 ((hmem a).2 (Or.inr ha))
  obtain ⟨j, hj, hjb⟩ := List.mem_iff_getElem.1 ((hmem b).2 (Or.inr hb))
  refine ⟨i, j, ?_, ?_, ?_, ?_, ?_⟩
  · rw [← hia]; exact encode_name hok hi
  · rw [← hjb]; exact encode_name hok hj
  · unfold Table.decode; rw [List.getElem?_eq_getElem hi, hia]
  · unfold Table.decode; rw [List.getElem?_eq_getElem hj, hjb]
  · rw [← hia, ← hjb]; exact names_lt_iff hok hi hj

example : (fillFromNamespaces ["c", "a", "b"]).names = ["", "a", "b", "c"] := by decide

/-! ## the defect that was repaired (fixes/C08-advance-absent-namespace.patch) -/

def wTbl : Table := ⟨["", "a", "b", "c"]⟩
/-- `{point/a/1, point/c/5, point/c/9}` -/
def wIds : List Id := [(1, 1), (3, 5), (3, 9)]
def wPl : PostingList := fill [] wIds

def isOk (r : Except Err (Bool × It)) (b : Bool) (it : It) : Bool :=
  match r with
  | .ok (b', it') => b' == b && decide (it' = it)
  | .error _ => false

/-- the code before the repair: `Advance(point/b/3)` (namespace `b` is in the table, not in the list) lands
on `c/5` but leaves `i.i = 64` on that value, so the following `Next` returns `c/5` again (`value = 5` twice). -/
theorem advance_absent_namespace_counterexample :
    isOk (advanceOld wPl wTbl ⟨0, "b", 3⟩ It.start) true ⟨1, 64, 5⟩ = true ∧
    isOk (next wPl ⟨1, 64, 5⟩) true ⟨1, 65, 5⟩ = true := by decide +kernel

/-- the repaired code consumes the value: `Advance` → `c/5`, `Next` → `c/9`. -/
theorem advance_absent_namespace_fixed :
    isOk (advance wPl wTbl ⟨0, "b", 3⟩ It.start) true ⟨1, 65, 5⟩ = true ∧
    isOk (next wPl ⟨1, 65, 5⟩) true ⟨1, 66, 9⟩ = true := by decide +kernel

example : TableOK wTbl ∧ (∀ id ∈ wIds, TnOK wTbl id.1) ∧ TnOK wTbl 2 := by
  unfold TableOK TnOK wTbl wIds; decide

end B6.Props.C08
