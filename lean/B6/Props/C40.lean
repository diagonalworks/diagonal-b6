import B6.Model.Proto.Service
import B6.Model.Proto.Worlds
import B6.Lemmas.ProtoService
import B6.Lemmas.ProtoServiceInv
import B6.Lemmas.ProtoServiceLive
import B6.Lemmas.ProtoWorlds
/-!
# C40 — Concurrent client requests behave like some serial order

About `B6.Model.Proto.Service` (the lock protocol of the gRPC service: `RLock` … `RUnlock; Lock; apply;
Unlock; RLock` … `RUnlock`, the `MutableWorlds` map with orphaned world objects, writer-preferring or plain
`RWMutex`) and `B6.Model.Proto.Worlds` (`MutableWorlds` with its mutex spelled out).  Every theorem is for
ALL interleavings: any number of clients, any requests, any initial worlds (for `MutableWorlds`: any map without a
repeated ID), any reachable state, both `RWMutex` disciplines (`pref`); a counterexample exhibits one schedule, and
`add_world_writes_during_read_phase` does so for the writer-preferring discipline only.  `isReader`, `isWriter` (the
program counters at which a client holds the read / write lock) are defined in `Lemmas/ProtoService.lean`, `inCS` in
`Lemmas/ProtoWorlds.lean`.
-/
namespace B6.Props.C40
open B6.Model.Proto B6.Model.Proto.Service B6.Lemmas.ProtoService

/-! ## no deadlock, exclusion -/

/-- **No deadlock**: in no reachable state is every unfinished client blocked — for any set of evaluate (query or
change), delete-world and list-worlds requests.  (The upgrade releases the read lock before asking for the
write lock.) -/
theorem svc_no_deadlock (pref : Bool) (base : World) (v0 : View) (reqs : List Req) (s : State)
    (h : Reachable (step pref) (init base v0 reqs) s) : deadlocked (step pref) terminal s = false :=
  not_deadlocked pref s (reachable_weakInv h) (reachable_lockInv h)

/-- **The write phase is exclusive**: while a client is between `Lock()` and `Unlock()` (applying its change),
no client is in a read phase and no other client is in a write phase. -/
theorem writer_excludes_readers (pref : Bool) (base : World) (v0 : View) (reqs : List Req) (s : State)
    (h : Reachable (step pref) (init base v0 reqs) s) (i : Nat) (ci : Client) (hi : s.clients[i]? = some ci)
    (hw : isWriter ci = true) :
    (∀ (j : Nat) (cj : Client), s.clients[j]? = some cj → isReader cj = false) ∧
    (∀ (j : Nat) (cj : Client), s.clients[j]? = some cj → isWriter cj = true → j = i) :=
  (reachable_lockInv h).exclusive hi hw

/-! ### lock balance — also on the path of a change that FAILS while being applied

A request's change may contain a failing element (`Write.fail`: add-tag on a missing feature, an invalid
feature, a failing part of a merged change); `Apply` then stops and returns an error (`applyFails`).  In
`service.go` the error is looked at after `Unlock(); RLock()`, so the failing path takes exactly the lock steps
of the succeeding one — that is `clientStep`, and `svc_no_deadlock`, `writer_excludes_readers` and the three
theorems below hold for every request set, failing changes included. -/

/-- A client only ever `RUnlock`s while it holds the read lock (it is one of the `readers` holders), and only
`Unlock`s while it holds the write lock. -/
theorem unlock_only_when_held (pref : Bool) (base : World) (v0 : View) (reqs : List Req) (s : State)
    (h : Reachable (step pref) (init base v0 reqs) s) (i : Nat) (c : Client) (hc : s.clients[i]? = some c) :
    ((c.pc = .upRUnlock ∨ c.pc = .finalRUnlock) → isReader c = true ∧ 0 < s.readers) ∧
    (c.pc = .wunlock → isWriter c = true ∧ s.writer = true) := by
  have hl := reachable_lockInv h
  have hm := List.mem_of_getElem? hc
  constructor
  · intro hpc
    have hr : isReader c = true := by rcases hpc with e | e <;> simp [isReader, e]
    exact ⟨hr, hl.readers_pos hm hr⟩
  · intro hpc
    have hw : isWriter c = true := by simp [isWriter, hpc]
    exact ⟨hw, hl.writer_iff.mpr ⟨c, hm, hw⟩⟩

/-- The number of read-lock holders is exactly the number of clients inside a read phase, at every moment. -/
theorem readers_balance (pref : Bool) (base : World) (v0 : View) (reqs : List Req) (s : State)
    (h : Reachable (step pref) (init base v0 reqs) s) : s.readers = s.clients.countP isReader :=
  (reachable_lockInv h).readers

/-- When every request has returned, every lock has been released: each client released what it acquired. -/
theorem locks_released_at_end (pref : Bool) (base : World) (v0 : View) (reqs : List Req) (s : State)
    (h : Reachable (step pref) (init base v0 reqs) s) (ht : terminal s = true) :
    s.readers = 0 ∧ s.writer = false := by
  refine (reachable_lockInv h).idle fun c hc => ?_
  have hdone : c.pc = Pc.done := by simpa using (List.all_eq_true.mp ht) c hc
  simp [isReader, isWriter, hdone]

/-- a change that fails while being applied -/
def failing : Req := .change 0 [⟨none, .fail 9⟩]

/-- **The early-return order breaks the balance** (`stepEarlyReturn`: `Unlock(); if err != nil { return };
RLock()`): a single failing change reaches its deferred `RUnlock` with nobody holding the read lock — Go's
`fatal error: sync: RUnlock of unlocked RWMutex`. -/
theorem early_return_runlock_unheld (pref : Bool) :
    ∃ s, Reachable (stepEarlyReturn pref) (init [] [(0, [])] [failing]) s ∧
      s.clients.map (·.pc) = [Pc.finalRUnlock] ∧ s.readers = 0 := by
  cases pref <;> exact exists_reachable [0, 0, 0, 0, 0, 0, 0] _ (by decide)

/-- … and with a reader in flight the stray `RUnlock` releases THAT reader's hold: a writer then applies its
change while the reader is still in its read phase (`writer_excludes_readers` fails for the early-return order). -/
theorem early_return_writer_meets_reader (pref : Bool) :
    ∃ s, Reachable (stepEarlyReturn pref) (init [] [(0, [])] [failing, .query 0, .change 0 [⟨none, .set 1 1⟩]]) s ∧
      s.clients.map (·.pc) = [Pc.done, Pc.eval, Pc.apply] ∧ s.writer = true := by
  cases pref <;> exact exists_reachable [0, 0, 0, 0, 0, 0, 0, 1, 1, 0, 1, 1, 1, 1, 1] _ (by decide)

-- the failing path exists in the model of the code as it is: the change fails, the world keeps what was applied
-- before the failing element, and the client still walks through rlock2 and finalRUnlock
example : applyFails [.set 1 1, .fail 9, .set 2 2] = true ∧ applyWrites [] [.set 1 1, .fail 9, .set 2 2] = [(1, 1)] := by decide
example : ((runSched (step true) (init [] [(0, [])] [failing]) [0, 0, 0, 0, 0, 0, 0, 0]).map
    fun s => (s.clients.map (·.pc), s.readers)) = some ([Pc.finalRUnlock], 1) := by decide

/-- The full statement of the property for the final worlds. -/
def SerializableStatement : Prop :=
  ∀ (pref : Bool) (base : World) (v0 : View) (reqs : List Req) (s : State),
    Reachable (step pref) (init base v0 reqs) s → terminal s = true →
    ∃ order : List Req, order.Perm reqs ∧ ∀ wid, lookupWorld s wid = vfind (serialRun base v0 order) wid

/-- **Serializable when no request's change depends on state another request writes** (`conflictFree`: no guard
of one request reads a key of the same world that another request's change writes): after all requests have
returned, the worlds are exactly those produced by running the same requests one at a time in some order
(a permutation of the requests), including which world IDs exist.  Deletions, re-creations and orphaned world
objects included. -/
theorem serializable_blind (pref : Bool) (base : World) (v0 : View) (reqs : List Req)
    (hcf : conflictFree reqs = true) (s : State)
    (h : Reachable (step pref) (init base v0 reqs) s) (ht : terminal s = true) :
    ∃ order : List Req, order.Perm reqs ∧ ∀ wid, lookupWorld s wid = vfind (serialRun base v0 order) wid := by
  obtain ⟨hp, hv⟩ := inv_serial (reachable_inv hcf h) fun c hc => by
    obtain ⟨j, hj⟩ := List.getElem?_of_mem hc
    exact phase_done ((reachable_weakInv h).ph j c hj) (by simpa using List.all_eq_true.mp ht c hc)
  exact ⟨s.log, hp, hv⟩

/-! ## the full statement is false: write skew -/

/-- A: "tag q (key 1) onto the feature if it has p (key 0)" -/
def skewA : Req := .change 0 [⟨some (0, true), .set 1 1⟩]
/-- B: "remove p from the feature if it has no q" -/
def skewB : Req := .change 0 [⟨some (1, false), .del 0⟩]
/-- one world with one feature tagged p -/
def skewV0 : View := [(0, [(0, 1)])]

/-- both requests read before either writes (schedule for writer-preferring and for plain RWMutex) -/
def skewSched : Bool → List Nat
  | true => [0, 0, 0, 1, 1, 1, 0, 0, 0, 0, 0, 0, 0, 0, 0, 0, 0, 0]
  | false => [0, 0, 0, 1, 1, 1, 0, 0, 0, 0, 0, 1, 0, 0, 0, 0, 0, 0]

theorem perm_pair {α} {a b : α} {l : List α} (h : l.Perm [a, b]) : l = [a, b] ∨ l = [b, a] := by
  match l, h.length_eq with
  | [x, y], _ =>
    have hx : x = a ∨ x = b := by simpa using h.subset (List.mem_cons_self ..)
    rcases hx with rfl | rfl
    · exact .inl (congrArg (x :: ·) (List.perm_singleton.mp h.cons_inv))
    · exact .inr (congrArg (x :: ·) (List.perm_singleton.mp (h.trans (List.Perm.swap x a [])).cons_inv))

theorem skew_serial {order : List Req} (hp : order.Perm [skewA, skewB]) :
    vfind (serialRun [] skewV0 order) 0 ≠ some [(1, 1)] := by
  rcases perm_pair hp with rfl | rfl <;> decide

theorem skew_not_conflictFree : conflictFree [skewA, skewB] = false := by decide

/-- **Write skew**: with `skewA` and `skewB` issued concurrently on a world holding one feature tagged p, both
read `{p}` under the read lock, then both apply: the result `{q}` is produced by neither serial order
(`A;B` gives `{p,q}`, `B;A` gives `{}`).  For both RWMutex disciplines.  The change is computed under the read
lock and applied later under the write lock — a property of the design, recorded as a finding. -/
theorem write_skew_counterexample (pref : Bool) :
    ∃ s, Reachable (step pref) (init [] skewV0 [skewA, skewB]) s ∧ terminal s = true ∧
      ¬ ∃ order : List Req, order.Perm [skewA, skewB] ∧
          ∀ wid, lookupWorld s wid = vfind (serialRun [] skewV0 order) wid := by
  obtain ⟨s, hr, ht, h0⟩ : ∃ s, Reachable (step pref) (init [] skewV0 [skewA, skewB]) s ∧ terminal s = true ∧
      lookupWorld s 0 = some [(1, 1)] :=
    exists_reachable (skewSched pref) _ (by cases pref <;> decide)
  exact ⟨s, hr, ht, fun ⟨_, hp, hv⟩ => skew_serial hp ((hv 0).symm.trans h0)⟩

theorem not_serializable : ¬ SerializableStatement := by
  intro h
  obtain ⟨s, hr, ht, hn⟩ := write_skew_counterexample true
  exact hn (h true [] skewV0 [skewA, skewB] s hr ht)

/-! ## `add-world-with-change` writes inside the read phase -/

/-- **`add-world-with-change` is outside the protocol**: with a reader of world 2 in its read phase (client 0,
holding the world object it fetched) and a second client evaluating `add-world-with-change` for world 2 (client
1, also only a reader), the effect replaces and writes world 2 while `writer = false` and both clients hold the
read lock: the first reader's object is orphaned mid-read and the new object is written with no exclusion — on
the real service the race detector reports the write (`MutableOverlayWorld.AddTag`) against a concurrent
`FindFeatureByID` of a reader that fetched the new world.  Recorded as a finding. -/
theorem add_world_writes_during_read_phase :
    ∃ s, Reachable (step true) (init [] [(2, [(0, 1)])] [.query 2, .query 0]) s ∧
      s.clients.map (·.pc) = [Pc.eval, Pc.eval] ∧ s.writer = false ∧ s.readers = 2 ∧
      (addWorldEffect s 2 [.set 1 1]).writer = false ∧
      lookupWorld (addWorldEffect s 2 [.set 1 1]) 2 = some [(1, 1)] ∧ lookupWorld s 2 = some [(0, 1)] ∧
      (s.clients[0]?.bind (·.obj)) = some 0 ∧ mfind (addWorldEffect s 2 [.set 1 1]).map 2 = some 2 :=
  exists_reachable [0, 0, 1, 1] _ (by decide)

/-! ## `MutableWorlds.lock` -/

open B6.Model.Proto.Worlds B6.Lemmas.ProtoWorlds in
/-- **The `MutableWorlds` mutex never deadlocks**: any calls of `FindOrCreateWorld`, `DeleteWorld`, `ListWorlds`, from a
map without a repeated ID. -/
theorem worlds_no_deadlock (m : List (Nat × Nat)) (next : Nat) (ops : List Op) (hk : (m.map (·.1)).Nodup)
    (s : Worlds.State) (h : Reachable Worlds.step (Worlds.init m next ops) s) :
    deadlocked Worlds.step Worlds.terminal s = false :=
  worlds_not_deadlocked s (reachable_winv hk h)

open B6.Model.Proto.Worlds B6.Lemmas.ProtoWorlds in
/-- **Exactly one world per world ID**: along every interleaving of `FindOrCreateWorld`, `DeleteWorld` and
`ListWorlds` calls from a map without a repeated ID, (1) at most one caller is inside `MutableWorlds.lock`; (2) the
map never holds two entries for one ID; (3) an insertion never replaces a world object that is already registered
(the ID is still absent when the caller that missed it inserts); (4) the object `FindOrCreateWorld` is about to
return is the one registered for the ID. -/
theorem one_world_per_id (m : List (Nat × Nat)) (next : Nat) (ops : List Op) (hk : (m.map (·.1)).Nodup)
    (s : Worlds.State) (h : Reachable Worlds.step (Worlds.init m next ops) s) :
    (∀ (i j : Nat) (ci cj : Worlds.Client), s.clients[i]? = some ci → s.clients[j]? = some cj →
        inCS ci.pc = true → inCS cj.pc = true → i = j) ∧
    (s.map.map (·.1)).Nodup ∧
    (∀ (j : Nat) (c : Worlds.Client), s.clients[j]? = some c → c.pc = .insert →
        ∃ wid, c.op = .findOrCreate wid ∧ mfind s.map wid = none) ∧
    (∀ (j : Nat) (c : Worlds.Client) (wid : Nat), s.clients[j]? = some c → c.pc = .unlock →
        c.op = .findOrCreate wid → ∃ o, c.result = some o ∧ mfind s.map wid = some o) := by
  have hw := reachable_winv hk h
  refine ⟨?_, hw.keys, hw.ins, hw.unl⟩
  intro i j ci cj hi hj hci hcj
  have h1 := (hw.hold i ci hi).mp hci
  have h2 := (hw.hold j cj hj).mp hcj
  rw [h1] at h2
  simpa using h2

/-! ## the hypotheses are satisfiable / the statements are not vacuous -/

/-- a conflict-free mix with a guard, a blind write, a delete, a query and a list on two worlds -/
def mix : List Req :=
  [.change 0 [⟨some (3, true), .set 1 7⟩, ⟨none, .del 2⟩], .change 0 [⟨none, .set 4 1⟩], .delete 0, .query 1, .list]

example : conflictFree mix = true := by decide
example : (step true (init [(3, 1)] [] mix)).length = 5 := by decide
example : conflictFree [skewA, skewB] = false := by decide
-- the orphan: the evaluate fetches world 0, the delete removes it, the write lands on the orphan
example : ((runSched (step true) (init [] [(0, [])] [.change 0 [⟨none, .set 5 5⟩], .delete 0]) [0, 0, 0, 1, 0, 0, 0, 0, 0, 0]).map
    fun s => (terminal s, lookupWorld s 0 == none, s.heap == [[(5, 5)]])) = some (true, true, true) := by decide

end B6.Props.C40
