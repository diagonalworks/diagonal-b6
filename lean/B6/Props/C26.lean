import B6.Model.Service
import B6.Spec.ChangeSpec
import B6.Lemmas.Service
/-!
# C26 — Callers are told whether their change was applied

About `B6.Model.Service` (the change branch of `service.Evaluate` and of `Evaluator.EvaluateExpression`,
with `Change.Apply` for `AddFeatures`/`AddTags`/`RemoveTags`/`MergedChange` as written) against
`B6.Spec.ChangeSpec` (`specApply` = the world a successful application produces, `none` = not applicable;
`targets` = the IDs the change names).  The reference folds the model's own one-element functions (`addFeature`,
`addTag`, `removeTag`), so what is compared is the loops, the accumulators, the canary and the two passes; what one
element does to its feature is the same function on both sides.  All theorems are for every world and every change,
of any nesting depth of `MergedChange`.
-/
namespace B6.Props.C26
open B6.Model.Service B6.Spec.ChangeSpec B6.Lemmas.Service

/-- What `Apply` does, against the reference: it fails exactly when the change is not applicable; when it
succeeds the world is the reference world and the returned IDs are, as a set, the IDs the change names. -/
def ApplyMeets (w : World) (c : Change) : Prop :=
  match specApply w c with
  | some w' => (apply false w c).ok = true ∧ (apply false w c).world = w' ∧ SameIds (apply false w c).ids (targets c)
  | none => (apply false w c).ok = false

theorem applyMeets_some {w w' : World} {c : Change} (h : ApplyMeets w c) (hs : specApply w c = some w') :
    (apply false w c).ok = true ∧ (apply false w c).world = w' ∧ SameIds (apply false w c).ids (targets c) := by
  unfold ApplyMeets at h; rw [hs] at h; exact h

theorem applyMeets_none {w : World} {c : Change} (h : ApplyMeets w c) (hs : specApply w c = none) :
    (apply false w c).ok = false := by
  unfold ApplyMeets at h; rw [hs] at h; exact h

mutual
theorem apply_meets (w : World) : (c : Change) → ApplyMeets w c
  | .addFeatures fs => by
    unfold ApplyMeets
    have h := addFeatures_loop fs w []
    simp only [specApply, apply, targets, applyAddFeaturesR, Bool.false_eq_true, ↓reduceIte]
    cases hs : addFeaturesSpec w fs with
    | none => exact h.2 hs
    | some w' =>
      obtain ⟨a, b, c⟩ := h.1 w' hs
      exact ⟨a, b, fun id => by simpa using c id⟩
  | .addTags ts => by
    unfold ApplyMeets
    have h := addTags_loop ts w []
    simp only [specApply, apply, targets, applyAddTagsR, Bool.false_eq_true, ↓reduceIte]
    cases hs : addTagsSpec w ts with
    | none => exact h.2 hs
    | some w' => rw [h.1 w' hs]; exact ⟨rfl, rfl, fun _ => Iff.rfl⟩
  | .removeTags ts => by
    unfold ApplyMeets
    have h := removeTags_loop ts w []
    simp only [specApply, apply, targets, applyRemoveTagsR, Bool.false_eq_true, ↓reduceIte]
    cases hs : removeTagsSpec w ts with
    | none => exact h.2 hs
    | some w' => rw [h.1 w' hs]; exact ⟨rfl, rfl, fun _ => Iff.rfl⟩
  | .merged cs => by
    unfold ApplyMeets
    have hc := canary_meets w cs
    have hp := pass_meets w cs []
    simp only [specApply, apply, targets]
    cases hs : specApplyAll w cs with
    | none => simp [hs] at hc; simp [hc]
    | some w' =>
      simp [hs] at hc hp
      simp [hc]
      refine ⟨hp.1, hp.2.1, ?_⟩
      intro id; rw [hp.2.2 id]
theorem canary_meets (w : World) : (cs : Changes) → canaryOk w cs = (specApplyAll w cs).isSome
  | .nil => by simp [canaryOk, specApplyAll]
  | .cons c cs => by
    have h := apply_meets w c
    unfold canaryOk specApplyAll
    cases hs : specApply w c with
    | none => simp [applyMeets_none h hs]
    | some w1 =>
      obtain ⟨h1, h2, _⟩ := applyMeets_some h hs
      simp only [h1, ↓reduceIte, h2]
      exact canary_meets w1 cs
theorem pass_meets (w : World) : (cs : Changes) → (acc : List FId) →
    match specApplyAll w cs with
    | some w' => (mergedPass false w cs acc).ok = true ∧ (mergedPass false w cs acc).world = w' ∧
        (∀ id, id ∈ (mergedPass false w cs acc).ids ↔ id ∈ acc ∨ id ∈ targetsAll cs)
    | none => (mergedPass false w cs acc).ok = false
  | .nil, acc => by simp [specApplyAll, mergedPass, targetsAll]
  | .cons c cs, acc => by
    have h := apply_meets w c
    unfold specApplyAll mergedPass
    cases hs : specApply w c with
    | none => simp [applyMeets_none h hs]
    | some w1 =>
      have h := applyMeets_some h hs
      simp only [h.1, ↓reduceIte, h.2.1]
      have ih := pass_meets w1 cs (acc ++ (apply false w c).ids)
      cases hs2 : specApplyAll w1 cs with
      | none => simp [hs2] at ih ⊢; exact ih
      | some w2 =>
        simp [hs2] at ih ⊢
        refine ⟨ih.1, ih.2.1, ?_⟩
        intro id
        rw [ih.2.2 id, targetsAll, h.2.2 id]
        simp [or_assoc]
end

mutual
/-- Frame and existence for the reference: a feature the change does not name is what it was; a feature it
names exists afterwards.  (This is what makes `targets` "the features the change modified".) -/
theorem spec_frame (w w' : World) : (c : Change) → specApply w c = some w' →
    (∀ id, id ∉ targets c → find w' id = find w id) ∧
    (∀ id, (find w id).isSome ∨ id ∈ targets c → (find w' id).isSome)
  | .addFeatures fs => by intro h; simp only [specApply] at h; simp only [targets]; exact frame_of addFeature_touches (fun _ => rfl) addFeaturesSpec_cons fs w w' h
  | .addTags ts => by intro h; simp only [specApply] at h; simp only [targets]; exact frame_of addTag_touches (fun _ => rfl) addTagsSpec_cons ts w w' h
  | .removeTags ts => by intro h; simp only [specApply] at h; simp only [targets]; exact frame_of removeTag_touches (fun _ => rfl) removeTagsSpec_cons ts w w' h
  | .merged cs => by intro h; simp only [specApply] at h; simp only [targets]; exact spec_frame_all w w' cs h
theorem spec_frame_all (w w' : World) : (cs : Changes) → specApplyAll w cs = some w' →
    (∀ id, id ∉ targetsAll cs → find w' id = find w id) ∧
    (∀ id, (find w id).isSome ∨ id ∈ targetsAll cs → (find w' id).isSome)
  | .nil => by intro h; simp [specApplyAll] at h; subst h; simp [targetsAll]
  | .cons c cs => by
    intro h
    unfold specApplyAll at h
    cases hs : specApply w c with
    | none => simp [hs] at h
    | some w1 =>
      simp [hs] at h
      obtain ⟨f1, e1⟩ := spec_frame w w1 c hs
      obtain ⟨f2, e2⟩ := spec_frame_all w1 w' cs h
      constructor
      · intro id hid
        simp [targetsAll] at hid
        rw [f2 id hid.2, f1 id hid.1]
      · intro id hid
        simp only [targetsAll, List.mem_append] at hid
        apply e2
        rcases hid with hid | hid | hid
        · left; exact e1 id (Or.inl hid)
        · left; exact e1 id (Or.inr hid)
        · right; exact hid
end

/-! ### read-only worlds: the real pass fails although the canary accepted -/

mutual
theorem elementFree_apply : ∀ (w : World) (c : Change), elementFree c = true → apply false w c = ⟨w, [], true⟩
  | w, .addFeatures fs, h => by
    cases fs with
    | nil => rfl
    | cons _ _ => simp [elementFree] at h
  | w, .addTags ts, h => by
    cases ts with
    | nil => rfl
    | cons _ _ => simp [elementFree] at h
  | w, .removeTags ts, h => by
    cases ts with
    | nil => rfl
    | cons _ _ => simp [elementFree] at h
  | w, .merged cs, h => by
    simp only [elementFree] at h
    have hc := elementFree_canary w cs h
    have hp := elementFree_pass w cs [] h
    simp [apply, hc, hp]
theorem elementFree_canary : ∀ (w : World) (cs : Changes), elementFreeAll cs = true → canaryOk w cs = true
  | w, .nil, _ => by simp [canaryOk]
  | w, .cons c cs, h => by
    simp only [elementFreeAll, Bool.and_eq_true] at h
    simp [canaryOk, elementFree_apply w c h.1, elementFree_canary w cs h.2]
theorem elementFree_pass : ∀ (w : World) (cs : Changes) (acc : List FId), elementFreeAll cs = true →
    mergedPass false w cs acc = ⟨w, acc, true⟩
  | w, .nil, acc, _ => by simp [mergedPass]
  | w, .cons c cs, acc, h => by
    simp only [elementFreeAll, Bool.and_eq_true] at h
    simp [mergedPass, elementFree_apply w c h.1, elementFree_pass w cs acc h.2]
end

mutual
/-- `ingest.ReadOnlyWorld` rejects every element -/
theorem apply_ro (w : World) : (c : Change) → apply true w c = ⟨w, [], elementFree c⟩
  | .addFeatures fs => by cases fs <;> rfl
  | .addTags ts => by cases ts <;> rfl
  | .removeTags ts => by cases ts <;> rfl
  | .merged cs => by
    rw [apply, pass_ro w cs [], elementFree]
    split
    · rfl
    · next hc =>
      cases he : elementFreeAll cs with
      | false => rfl
      | true => exact absurd (elementFree_canary w cs he) hc
theorem pass_ro (w : World) : (cs : Changes) → (acc : List FId) →
    mergedPass true w cs acc = ⟨w, acc, elementFreeAll cs⟩
  | .nil, acc => rfl
  | .cons c cs, acc => by
    rw [mergedPass, apply_ro w c, elementFreeAll]
    cases elementFree c
    · rfl
    · simpa using pass_ro w cs acc
end

/-- on a read-only world `Apply` never changes the world, and succeeds (with no IDs) exactly when the change has no
element — in particular a `MergedChange` whose parts the canary accepted still FAILS in the real pass -/
theorem apply_readonly (w : World) : (c : Change) →
    (apply true w c).world = w ∧ (apply true w c).ok = elementFree c
  | c => by rw [apply_ro]; exact ⟨rfl, rfl⟩
theorem pass_readonly (w : World) : (cs : Changes) → (acc : List FId) →
    (mergedPass true w cs acc).world = w ∧ (mergedPass true w cs acc).ok = elementFreeAll cs
  | cs, acc => by rw [pass_ro]; exact ⟨rfl, rfl⟩

/-- The statement of C26 for one evaluator `ev` on worlds of kind `ro` (read-only or mutable):
* the response is an error **iff** applying the change to the REAL world failed (`specApplyR ro` = `none`);
* on success the response carries IDs that are, as a set, the features the change names, the world is the
  reference world, every feature outside the returned IDs is untouched and every returned ID exists. -/
def ReportsIff (ro : Bool) (ev : World → Change → World × Resp) : Prop :=
  ∀ (w : World) (c : Change),
    ((ev w c).2 = Resp.error ↔ specApplyR ro w c = none) ∧
    (∀ w', specApplyR ro w c = some w' →
      ∃ ids, ev w c = (w', Resp.ids ids) ∧ SameIds ids (if ro then [] else targets c) ∧
        (∀ id, id ∉ ids → find w' id = find w id) ∧ (∀ id, id ∈ ids → (find w' id).isSome))

theorem reports_of_meets (ro : Bool) (ev : World → Change → World × Resp)
    (hev : ∀ w c, ev w c = if (apply ro w c).ok then ((apply ro w c).world, Resp.ids (apply ro w c).ids)
                           else ((apply ro w c).world, Resp.error)) : ReportsIff ro ev := by
  intro w c
  rw [hev w c]
  cases ro with
  | true =>
    rw [apply_ro]
    simp only [specApplyR, ↓reduceIte]
    cases elementFree c with
    | false => simp
    | true =>
      refine ⟨by simp, fun w' hw' => ?_⟩
      cases hw'
      exact ⟨[], rfl, fun _ => Iff.rfl, fun _ _ => rfl, fun id hid => by simp at hid⟩
  | false =>
    simp only [specApplyR, Bool.false_eq_true, ↓reduceIte]
    cases hs : specApply w c with
    | none => simp [applyMeets_none (apply_meets w c) hs]
    | some w1 =>
      have h := applyMeets_some (apply_meets w c) hs
      simp only [h.1, ↓reduceIte]
      refine ⟨by simp, ?_⟩
      intro w' hw'
      simp at hw'; subst hw'
      obtain ⟨fr, ex⟩ := spec_frame w w1 c hs
      refine ⟨(apply false w c).ids, by rw [h.2.1], h.2.2, ?_, ?_⟩
      · intro id hid
        exact fr id (fun hm => hid ((h.2.2 id).2 hm))
      · intro id hid
        exact ex id (Or.inr ((h.2.2 id).1 hid))

/-- gRPC `service.Evaluate` (compatible client version, expression evaluated to the change `c`), on mutable and on
read-only worlds. -/
theorem grpc_reports_iff (ro : Bool) : ReportsIff ro (fun w c => grpcEvaluate true ro w (.change c)) :=
  reports_of_meets ro _ (by intro w c; simp [grpcEvaluate])

/-- UI/api `Evaluator.EvaluateExpression` (after the repair), on mutable and on read-only worlds. -/
theorem ui_reports_iff (ro : Bool) : ReportsIff ro (fun w c => uiEvaluate ro w (.change c)) :=
  reports_of_meets ro _ (by intro w c; simp [uiEvaluate])

/-- Outside the change branch both evaluators leave the world alone: incompatible version, evaluation error,
non-change value. -/
theorem no_change_no_write (w : World) (v ro : Bool) :
    (∀ e, (grpcEvaluate false ro w e) = (w, Resp.error)) ∧
    (grpcEvaluate v ro w .error).1 = w ∧ (grpcEvaluate v ro w .plain).1 = w ∧
    (uiEvaluate ro w .error) = (w, Resp.error) ∧ (uiEvaluate ro w .plain) = (w, Resp.plain) := by
  cases v <;> simp [grpcEvaluate, uiEvaluate]

/-- A failed `MergedChange` is reported as an error and leaves the world as it was — on a mutable world because
the canary rejected it, on a read-only world because the real pass fails at the first element although the canary
accepted it. -/
theorem merged_error_world_unchanged (ro : Bool) (w : World) (cs : Changes)
    (h : specApplyR ro w (.merged cs) = none) :
    grpcEvaluate true ro w (.change (.merged cs)) = (w, Resp.error) ∧
    uiEvaluate ro w (.change (.merged cs)) = (w, Resp.error) := by
  cases ro with
  | false =>
    have hc := canary_meets w cs
    simp only [specApplyR, Bool.false_eq_true, ↓reduceIte, specApply] at h
    simp [h] at hc
    simp [grpcEvaluate, uiEvaluate, apply, hc]
  | true =>
    simp only [specApplyR, ↓reduceIte] at h
    have he : elementFree (.merged cs) = false := by
      cases hx : elementFree (Change.merged cs) with
      | false => rfl
      | true => simp [hx] at h
    simp [grpcEvaluate, uiEvaluate, apply_ro, he]

/-- The evaluator as it was before the repair swallowed the error: `add-tag` on a missing feature is not
applicable, yet the caller got a (successful) `AppliedChange` with no IDs.  The harness corpus replays this input
against the real evaluator. -/
theorem ui_swallowed_error_before_fix :
    ¬ ReportsIff false (fun w c => uiEvaluateBeforeFix false w (.change c)) := by
  intro h
  have := (h [] (.addTags [(⟨.point, 1⟩, "a", "b")])).1
  exact absurd (this.2 (by decide)) (by decide)

/-- **A `MergedChange.Apply` that trusts the canary** (`applyUnchecked`: the second loop does not look at the error
of a part) breaks the statement on a read-only world: `merge-changes` of one `add-tag` on an existing feature is
accepted by the canary, rejected by the real world, and `applyUnchecked` returns success with no IDs (what an evaluator
reports as applied with an empty ID collection) — while `Apply` of the merge, and of the same `add-tag` alone, fails. -/
theorem unchecked_merge_reports_success_on_readonly :
    let w : World := [⟨⟨.point, 1⟩, [], []⟩]
    let tag : Change := .addTags [(⟨.point, 1⟩, "a", "b")]
    specApplyR true w (.merged (.cons tag .nil)) = none ∧
    applyUnchecked true w (.merged (.cons tag .nil)) = ⟨w, [], true⟩ ∧
    (apply true w (.merged (.cons tag .nil))).ok = false ∧ (apply true w tag).ok = false := by decide

/-! ### the hypotheses are satisfiable / the statements are not vacuous -/

def p1 : Feature := ⟨⟨.point, 1⟩, [("a", "1")], []⟩
def p2 : Feature := ⟨⟨.point, 2⟩, [], []⟩
def way : Feature := ⟨⟨.path, 7⟩, [("#highway", "path")], [⟨.point, 1⟩, ⟨.point, 2⟩]⟩
def good : Change := .merged (.cons (.addFeatures [p2, way]) (.cons (.addTags [(⟨.point, 1⟩, "b", "2")]) .nil))
def bad : Change := .merged (.cons (.addTags [(⟨.point, 1⟩, "b", "2")]) (.cons (.addFeatures [way]) .nil))

example : (grpcEvaluate true false [p1] (.change good)).2 = Resp.ids [⟨.point, 2⟩, ⟨.path, 7⟩, ⟨.point, 1⟩] := by decide
example : (specApply [p1] good).isSome = true := by decide
example : specApply [p1] bad = none ∧ grpcEvaluate true false [p1] (.change bad) = ([p1], Resp.error) := by decide
example : uiEvaluate false [] (.change (.addTags [(⟨.point, 1⟩, "a", "b")])) = ([], Resp.error) := by decide
example : (uiEvaluateBeforeFix false [] (.change (.addTags [(⟨.point, 1⟩, "a", "b")]))).2 = Resp.ids [] := by decide
-- a non-atomic failure: the first tag stays although the caller is (rightly) told the change failed
example : grpcEvaluate true false [p1] (.change (.addTags [(⟨.point, 1⟩, "b", "2"), (⟨.point, 9⟩, "b", "2")]))
    = ([⟨⟨.point, 1⟩, [("a", "1"), ("b", "2")], []⟩], Resp.error) := by decide
-- read-only: the canary accepts `good`, the real world rejects it; an element-free change "applies"
example : canaryOk [p1] (.cons (.addFeatures [p2, way]) (.cons (.addTags [(⟨.point, 1⟩, "b", "2")]) .nil)) = true ∧
    grpcEvaluate true true [p1] (.change good) = ([p1], Resp.error) ∧
    uiEvaluate true [p1] (.change (.merged (.cons (.addTags []) .nil))) = ([p1], Resp.ids []) := by decide

end B6.Props.C26
