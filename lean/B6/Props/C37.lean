import B6.Lemmas.ValidateEdits
import B6.Lemmas.ValidatorUniq
import B6.Props.C15
/-!
# C37 — Every feature in a world is valid

Model: `B6.Model.Validate` (ingest/validate.go; `BasicWorldBuilder.Finish` after
fixes/C37-finish-validate-paths-before-areas.patch; `BasicMutableWorld.AddFeature`; `compact.Validator`).
S2's verdicts on a closed loop (valid? counter-clockwise?) are an `Oracle`.

The world `Finish` builds is valid because each stage keeps what a verdict accepts and no later stage changes that verdict:
paths are judged against the points, areas against the paths that were kept — provided inverting a clockwise loop yields a
valid counter-clockwise loop (`invertContract`; S2 breaks it for degenerate loops, finding `degenerate_loop`, so the statement
without that condition is false), or clockwise paths are rejected (`FailClockwisePaths`). The single-pass `Finish` before the
repairs keeps an area whose path it deletes, and panics on an area over a path whose first point is missing.
An accepted `AddFeature` keeps every feature valid because a feature that is not re-validated does not read the ID that is put.
For `MutableOverlayWorld.AddFeature` the re-validated set is the answer of C15's overlay model after any history; what ties
that model to the skeleton world `w` is the hypothesis `hview` alone (`addFeatureWith` is run by no driver).
`compact.Validator` is here the structure `Validator` of `Model/Validate.lean`, which computes the verdicts from the oracle
(C36's `Model/Validator.lean` models the same loop over arrivals that carry their verdict; no lemma relates the two): it
emits only valid paths and areas over emitted loops, in any order, and no ID twice.

The predicates in the hypotheses are defined in the lemma files: `Uniq` in Lemmas/Validate.lean, `featContract` there too
but in the namespace `B6.Lemmas.Validator`, `sameCtor` and `closedSet` in Lemmas/ValidateEdits.lean, `view` there in the
namespace `ValidateLink`.
-/
namespace B6.Props.C37
open B6.Model.Validate B6.Lemmas.Validate B6.Lemmas.ValidateEdits B6.Lemmas.Validator B6.Lemmas.ValidatorUniq B6.Lemmas.ValidateLink

/-- Every feature of the world `Finish` builds is valid in that world. -/
theorem build_all_valid_partial (O : Oracle) (invert : Bool) (src w : World) (hu : Uniq src)
    (hc : invert = true → invertContract O src src = true) (h : finish O invert src = some w) :
    allValid O w = true :=
  allValid_iff.mpr (finish_valid O invert src w hu hc h)

/-- with `FailClockwisePaths` no assumption about S2 is needed at all -/
theorem build_all_valid_no_invert (O : Oracle) (src w : World) (hu : Uniq src)
    (h : finish O false src = some w) : allValid O w = true :=
  build_all_valid_partial O false src w hu (by intro e; cases e) h

/-- the full statement (no side condition on the oracle) -/
def build_all_valid_statement : Prop :=
  ∀ (O : Oracle) (invert : Bool) (src w : World), Uniq src → finish O invert src = some w → allValid O w = true

/-- every loop is valid and counter-clockwise -/
def niceOracle : Oracle := ⟨fun _ => true, fun _ => true⟩

def pt (v k : Nat) : Feat := ⟨(0, v), .point (some k)⟩

/-- points 1,2,3; path 10 = [1,2,3,4,1] (point 4 missing); area 20 over path 10 -/
def danglingSrc : World :=
  [pt 1 1, pt 2 2, pt 3 3, ⟨(1, 10), .path [(0, 1), (0, 2), (0, 3), (0, 4), (0, 1)]⟩, ⟨(2, 20), .area [[(1, 10)]]⟩]

/-- Before the repair the single pass accepts area 20 while path 10
still exists, then deletes path 10: the built world contains an invalid area. After the repair the
area is dropped and the world is valid. -/
theorem dangling_area_counterexample :
    finishOld niceOracle true danglingSrc = some [pt 1 1, pt 2 2, pt 3 3, ⟨(2, 20), .area [[(1, 10)]]⟩] ∧
    (∃ w, finishOld niceOracle true danglingSrc = some w ∧ allValid niceOracle w = false) ∧
    finish niceOracle true danglingSrc = some [pt 1 1, pt 2 2, pt 3 3] := by
  refine ⟨by decide, ⟨[pt 1 1, pt 2 2, pt 3 3, ⟨(2, 20), .area [[(1, 10)]]⟩], by decide, by decide⟩, by decide⟩

/-- … and when the FIRST point of the path is missing, validating the area panics (fatal in a
goroutine of `Finish`); after the repair the path is gone before the area is looked at. -/
theorem finish_old_panics :
    finishOld niceOracle true [pt 2 2, pt 3 3, ⟨(1, 10), .path [(0, 1), (0, 2), (0, 3), (0, 1)]⟩, ⟨(2, 20), .area [[(1, 10)]]⟩] = none ∧
    finish niceOracle true [pt 2 2, pt 3 3, ⟨(1, 10), .path [(0, 1), (0, 2), (0, 3), (0, 1)]⟩, ⟨(2, 20), .area [[(1, 10)]]⟩] = some [pt 2 2, pt 3 3] := by
  decide

/-- non-vacuity of `build_all_valid_partial`: a source with a clockwise loop that inversion repairs -/
def cwOracle : Oracle := ⟨fun _ => true, fun l => decide (l = [1, 2, 3] ∨ l = [3, 1, 2])⟩
def cwSrc : World := [pt 1 1, pt 2 2, pt 3 3, ⟨(1, 10), .path [(0, 3), (0, 2), (0, 1), (0, 3)]⟩, ⟨(2, 20), .area [[(1, 10)]]⟩]
example : Uniq cwSrc ∧ invertContract cwOracle cwSrc cwSrc = true ∧
    finish cwOracle true cwSrc = some [pt 1 1, pt 2 2, pt 3 3, ⟨(1, 10), .path [(0, 3), (0, 1), (0, 2), (0, 3)]⟩, ⟨(2, 20), .area [[(1, 10)]]⟩] := by
  refine ⟨by unfold Uniq; decide, by decide, by decide⟩

/-- S2 on a loop through two coinciding points: valid, and "clockwise" in both directions -/
def degenerateOracle : Oracle := ⟨fun _ => true, fun _ => false⟩
def degenerateSrc : World :=
  [pt 1 25, pt 3 6, pt 5 5, pt 6 6, ⟨(1, 12), .path [(0, 1), (0, 3), (0, 5), (0, 6), (0, 1)]⟩]

/-- finding `degenerate_loop`: the path is inverted and kept although
it is still clockwise by the test that condemned it; the unconditional statement is false. -/
theorem degenerate_loop_counterexample :
    invertContract degenerateOracle degenerateSrc degenerateSrc = false ∧
    ∃ w, finish degenerateOracle true degenerateSrc = some w ∧ allValid degenerateOracle w = false :=
  ⟨by decide, [pt 1 25, pt 3 6, pt 5 5, pt 6 6, ⟨(1, 12), .path [(0, 1), (0, 6), (0, 5), (0, 3), (0, 1)]⟩], by decide, by decide⟩

theorem build_all_valid_statement_false : ¬ build_all_valid_statement := by
  intro h
  obtain ⟨_, w, h1, h2⟩ := degenerate_loop_counterexample
  have := h degenerateOracle true degenerateSrc w (by unfold Uniq; decide) h1
  rw [h2] at this; cases this

/-- the statement about edits (`BasicMutableWorld.AddFeature`): an accepted edit keeps every feature
valid. Neither proved nor refuted: `edits_preserve_valid_partial` is this under `hk` and `hfid`. -/
def edits_preserve_valid_statement : Prop :=
  ∀ (O : Oracle) (w w' : World) (f : Feat), Uniq w → allValid O w = true →
    (match addFeature O w f with | .ok x => x = w' | _ => False) → allValid O w' = true

/-- If every feature of `w` is valid and `AddFeature(f)` is accepted,
every feature of the resulting world is valid — for all worlds, features and oracles — given that a
replacement keeps the kind of the feature it replaces (IDs carry the feature type; type 9 is the model's
marker for inline path points, never a feature). The referrers that `AddFeature` re-validates are the
set C15's `find_refs_spec` guarantees: closed under "references a member" (the model's `referrers`
answers only with a set it has found closed). -/
theorem edits_preserve_valid_partial (O : Oracle) (w w' : World) (f : Feat) (hu : Uniq w)
    (hv : allValid O w = true)
    (hk : ∀ g ∈ w, g.id = f.id → sameCtor g f = true) (hfid : f.id.1 ≠ 9)
    (h : addFeature O w f = .ok w') : allValid O w' = true :=
  allValid_iff.mpr (edits_valid O w w' f hu (allValid_iff.mp hv) hk hfid h)

/-- The same for `MutableOverlayWorld.AddFeature`, seen through
the layered view `w`: the referrers `R` it re-validates come from the world's own `FindReferences`; if
that set is closed under "references a member" in `w` — which C15's `overlay_history_query` gives for
every edit history: `R` is exactly the set of transitive referrers — an accepted edit keeps every
feature of the layered world valid. -/
theorem overlay_edits_preserve_valid_partial (O : Oracle) (w w' : World) (f : Feat) (R : List Id) (hu : Uniq w)
    (hv : allValid O w = true)
    (hk : ∀ g ∈ w, g.id = f.id → sameCtor g f = true) (hfid : f.id.1 ≠ 9)
    (hcl : closedSet w f.id R = true)
    (h : addFeatureWith O w f R = .ok w') : allValid O w' = true :=
  allValid_iff.mpr (edits_valid_with O w w' f R hu (allValid_iff.mp hv) hk hfid hcl h)

/-- The two skeletons composed. Take a `MutableOverlayWorld` (C15's model)
after ANY history `ops` of `AddFeature` / `Snapshot` over a base with distinct IDs, and let `w` be a
validation-skeleton view of its current features (`hview`: same features, references = `refsOf`). The
referrers `R` that its `FindReferences(f.id)` returns are — by C15 `overlay_history_query` — exactly the
transitive referrers, so re-validating them suffices: an accepted `AddFeature(f)` keeps every feature
of the layered world valid. No hypothesis about the referrer set is left; `o` and `w` are tied by `hview` only. -/
theorem overlay_edits_preserve_valid (O : Oracle) (base : List B6.Model.RefIndex.Feature)
    (hb : (base.map (·.id)).Nodup) (ops : List B6.Lemmas.RefWorld.OOp)
    (w w' : World) (f : Feat) (hu : Uniq w) (hv : allValid O w = true)
    (hk : ∀ g ∈ w, g.id = f.id → sameCtor g f = true) (hfid : f.id.1 ≠ 9) :
    ∃ o R, B6.Lemmas.RefWorld.runOOps ⟨base, [], []⟩ ops = some o ∧ o.find f.id [] = some R ∧
      ((∀ g, g ∈ o.merged ↔ g ∈ view w) → addFeatureWith O w f R = .ok w' → allValid O w' = true) := by
  obtain ⟨o, R, ho, hR, _, hspec⟩ := B6.Props.C15.overlay_history_query base hb ops f.id []
  refine ⟨o, R, ho, hR, ?_⟩
  intro hview h
  have hcl : closedSet w f.id R = true := by
    apply closed_of_reach
    intro s
    rw [hspec s, B6.Lemmas.RefOverlay.reach_congr hview]
    simp [B6.Model.RefIndex.typeOk]
  exact overlay_edits_preserve_valid_partial O w w' f R hu hv hk hfid hcl h

/-- non-vacuity: moving point 2 under a closed path and its area is accepted and keeps the world valid -/
def editW : World := [pt 1 1, pt 2 2, pt 3 3, ⟨(1, 10), .path [(0, 1), (0, 2), (0, 3), (0, 1)]⟩, ⟨(2, 20), .area [[(1, 10)]]⟩]
example : Uniq editW ∧ allValid niceOracle editW = true ∧ referrers editW (0, 2) = some [(1, 10), (2, 20)] ∧
    (∀ g ∈ editW, g.id = (pt 2 26).id → sameCtor g (pt 2 26) = true) ∧
    (match addFeature niceOracle editW (pt 2 26) with | .ok _ => true | _ => false) = true ∧
    closedSet editW (0, 2) [(1, 10), (2, 20)] = true ∧
    (match addFeatureWith niceOracle editW (pt 2 26) [(1, 10), (2, 20)] with | .ok _ => true | _ => false) = true := by
  refine ⟨by unfold Uniq; decide, by decide, by decide, by decide, by decide, by decide, by decide⟩

/-- `compact.Validator`, fed the paths and areas of a source in ANY order:
every path it emits is valid with respect to the point locations, and every area it emits names only
paths that it has emitted as closed loops of at least three points — provided inversion repairs
clockwise loops (`featContract`, the per-feature form of `invertContract`). -/
theorem validator_emits_valid (O : Oracle) (pts : World) (src : List Feat)
    (hc : ∀ f ∈ src, featContract O pts f) :
    let out := (Validator.run O ⟨pts, [], []⟩ src).2
    (∀ i refs, (⟨i, .path refs⟩ : Feat) ∈ out → valid O pts ⟨i, .path refs⟩ = true) ∧
    (∀ i polys, (⟨i, .area polys⟩ : Feat) ∈ out → ∀ pid ∈ polys.flatten,
        ∃ refs, (⟨pid, .path refs⟩ : Feat) ∈ out ∧ isLoop pts refs = true) :=
  run_emitted O pts src hc

/-- When the IDs of the stream are distinct, no ID is emitted twice (an area
leaves the queue when it is emitted; a path is emitted by its own `ValidatePath` call only). -/
theorem validator_emits_once (O : Oracle) (pts : World) (src : List Feat) (hu : (src.map (·.id)).Nodup) :
    ((Validator.run O ⟨pts, [], []⟩ src).2.map (·.id)).Nodup :=
  run_nodup O pts src hu

/-- `validator_emits_valid` and `validator_emits_once` composed: the world a compact
build ends up with — the point features `pts` plus everything the validator emitted from the stream
`src` of paths, areas and relations (any order; IDs of `pts ++ src` distinct) — has distinct IDs, and
every feature it yields is `valid` IN THAT WORLD (same inversion contract). -/
theorem compact_world_valid (O : Oracle) (pts src : List Feat)
    (hpts : ∀ p ∈ pts, ∃ l, p.geo = .point l) (hsrc : ∀ f ∈ src, ∀ l, f.geo ≠ .point l)
    (hu : Uniq (pts ++ src)) (hc : ∀ f ∈ src, featContract O pts f) :
    Uniq (pts ++ (Validator.run O ⟨pts, [], []⟩ src).2) ∧
    allValid O (pts ++ (Validator.run O ⟨pts, [], []⟩ src).2) = true := by
  obtain ⟨h1, h2⟩ := validator_world_valid O pts src hpts hsrc hu hc
  exact ⟨h1, allValid_iff.mpr h2⟩

/-- non-vacuity: an area fed before its path is emitted once the path has been seen -/
example : (Validator.run niceOracle ⟨[pt 1 1, pt 2 2, pt 3 3], [], []⟩
    [⟨(2, 20), .area [[(1, 10)]]⟩, ⟨(1, 10), .path [(0, 1), (0, 2), (0, 3), (0, 1)]⟩]).2 =
    [⟨(1, 10), .path [(0, 1), (0, 2), (0, 3), (0, 1)]⟩, ⟨(2, 20), .area [[(1, 10)]]⟩] := by decide

end B6.Props.C37
