import B6.Spec.IterClauses
import B6.Lemmas.Avl
/-!
# C07 — the AVL tree index stays a balanced sorted set across any edit history

Theorems about `B6.Model.Avl` (the model of `search/tree.go`) against `B6.Spec.SortedMap`.  One edit is `ins_spec` / `del_spec`
of `Lemmas/Avl`, read as `insert_inv` / `delete_inv`.  A `treeList` changes in three ways, `treelist_insert` / `treelist_delete` /
`treelist_update`, and nothing after them looks at `ins`, `del` or `update` again.  One iterator call is a search for the least key
with a property (`Outcome`, chained by `Outcome.andThen`); `next_spec` and `advance_spec` say which, for a well-formed iterator
(`IterWF`) that has not finished, over any search tree.  With iterators open, the transcript of a history is judged by
`B6.Spec.IterClauses.clause`, the predicate the driver evaluates on the Go answers (`SimInv`, `trace_ok`).  A TreeIndex is a
`treeList` of `treeList`s, seen through what it denotes (`denote`, `index_contents`).
-/
namespace B6.Props.C07
open B6.Model.Avl B6.Model.Avl.Tree B6.Spec B6.Lemmas.Avl B6.Spec.IterClauses

variable {α : Type}

/-- `Insert` on a valid tree: no panic, still valid, contents = sorted insert (payload replaced when
the key exists), and the size grows by one exactly when the "added" flag that drives `length++` is set. -/
theorem insert_inv (t : Tree α) (k : Nat) (p : α) (h : Inv t) :
    ∃ t' g a, ins t k p = some (t', g, a) ∧ Inv t' ∧
      toList t' = SortedMap.insert (toList t) k p ∧
      (toList t').length = (toList t).length + (if a then 1 else 0) := by
  obtain ⟨t', g, a, e, bt, _, len, tl⟩ := ins_spec t k p h.2
  refine ⟨t', g, a, e, ⟨?_, bt.1⟩, tl h.1, len⟩
  rw [bst_iff_sorted, tl h.1]
  exact SM.sorted_insert ((bst_iff_sorted t).1 h.1)

example : Inv (node (node nil 1 "a" 0 nil) 2 "b" 1 (node (node nil 3 "c" 0 nil) 4 "d" (-1) nil)) := by decide
example : (ins (node (node nil 1 "a" 0 nil) 2 "b" 1 (node nil 4 "d" 0 nil)) 3 "c").isSome := by decide

/-- `DeleteKey` on a valid tree: no panic, still valid, contents = erase, "found" ⇔ the key was there. -/
theorem delete_inv (t : Tree α) (k : Nat) (h : Inv t) :
    ∃ t' s f, del t k = some (t', s, f) ∧ Inv t' ∧
      toList t' = SortedMap.erase (toList t) k ∧
      (toList t').length + (if f then 1 else 0) = (toList t).length ∧
      (f = true ↔ k ∈ keys t) := by
  obtain ⟨t', s, f, e, bt, _, tl, len⟩ := del_spec t k h.1 h.2
  refine ⟨t', s, f, e, ⟨?_, bt⟩, tl, len, ?_⟩
  · rw [bst_iff_sorted, tl]
    exact SM.sorted_erase ((bst_iff_sorted t).1 h.1)
  · -- the size drops exactly when the reference map loses an entry
    have h2 := SM.length_erase (toList t) k
    rw [← tl, keys_toList] at h2
    exact ite_one_zero_inj (Nat.add_left_cancel (len.trans h2.symm))

example : (del (node (node nil 1 "a" 0 nil) 2 "b" 1 (node (node nil 3 "c" 0 nil) 4 "d" (-1) nil)) 2) =
    some (node (node nil 1 "a" 0 nil) 3 "c" 0 (node nil 4 "d" 0 nil), true, true) := by decide

/-- the retracing flags mean what the Go loops use them for: `Insert` reports "continue above" exactly
when the subtree got one level higher, `DeleteKey` exactly when it got one level lower. -/
theorem retrace_flags (t : Tree α) (k : Nat) (p : α) (h : Inv t) :
    (∀ t' g a, ins t k p = some (t', g, a) → height t' = height t + (if g then 1 else 0)) ∧
    (∀ t' s f, del t k = some (t', s, f) → height t' + (if s then 1 else 0) = height t) := by
  constructor
  · intro t' g a e
    obtain ⟨t2, g2, a2, e2, hh, _⟩ := ins_spec t k p h.2
    cases e2.symm.trans e; exact hh.2
  · intro t' s f e
    obtain ⟨t2, s2, f2, e2, _, hh, _⟩ := del_spec t k h.1 h.2
    cases e2.symm.trans e; exact hh

/-! ### an equivalent mutant

`if child.balance <= 0` for `if child.balance < 0` in the `child == parent.right` branch of
`rebalanceAfterInsert` cannot be told from the original: the two tests differ
only for `child.balance == 0`, and a child whose subtree has just grown never has balance 0 while its
parent has balance > 0.  `insLe` is the model of the changed code; on every tree satisfying the
invariant it returns exactly what `ins` returns. -/

/-- `insRetraceRight` with `<= 0` in place of `< 0` -/
def insRetraceRightLe (l : Tree α) (k : Nat) (p : α) (b : Int) (r' : Tree α) : Option (Tree α × Bool) :=
  if b > 0 then
    match (if r'.rootBal ≤ 0 then rotateRightLeft l k p r' else rotateLeft l k p r') with
    | some t => some (t, false)
    | none => none
  else
    let b' := b + 1
    some (node l k p b' r', b' != 0)

def insLe : Tree α → Nat → α → Option (Tree α × Bool × Bool)
  | nil, k, p => some (node nil k p 0 nil, true, true)
  | node l x xp b r, k, p =>
    if x < k then
      match insLe r k p with
      | none => none
      | some (r', grew, added) =>
        if grew then
          match insRetraceRightLe l x xp b r' with
          | some (t, g) => some (t, g, added)
          | none => none
        else some (node l x xp b r', false, added)
    else if k < x then
      match insLe l k p with
      | none => none
      | some (l', grew, added) =>
        if grew then
          match insRetraceLeft l' x xp b r with
          | some (t, g) => some (t, g, added)
          | none => none
        else some (node l' x xp b r, false, added)
    else some (node l k p b r, false, false)

theorem insRetraceRightLe_eq (l : Tree α) (k : Nat) (p : α) (b : Int) (r' : Tree α)
    (h : b > 0 → rootBal r' ≠ 0) : insRetraceRightLe l k p b r' = insRetraceRight l k p b r' := by
  unfold insRetraceRightLe insRetraceRight
  by_cases c : b > 0
  · rw [if_pos c, if_pos c]
    by_cases c2 : rootBal r' < 0
    · rw [if_pos c2, if_pos (Int.le_of_lt c2)]
      rfl
    · rw [if_neg c2, if_neg (by have := h c; omega)]
      rfl
  · rw [if_neg c, if_neg c]

/-- the branch conditions coincide on all reachable states: the changed code and the original compute
the same result (tree shape, balance factors, flags) for every insertion into a valid tree. -/
theorem insLe_equiv (t : Tree α) (k : Nat) (p : α) (hb : Bal t) : insLe t k p = ins t k p := by
  induction t with
  | nil => rfl
  | node l x xp b r ihl ihr =>
    obtain ⟨hl, hr, hbal, h1, h2⟩ := hb
    unfold insLe ins
    by_cases c1 : x < k
    · rw [if_pos c1, if_pos c1, ihr hr]
      obtain ⟨r', g, a, e, _, nz, _⟩ := ins_spec r k p hr
      rw [e]
      cases g with
      | false => rfl
      | true =>
        -- the grown subtree is not evenly balanced when the parent leans right
        simp only [if_true]
        rw [insRetraceRightLe_eq l x xp b r' fun hpos => nz rfl (by omega)]
        rfl
    · rw [if_neg c1, if_neg c1]
      by_cases c2 : k < x
      · rw [if_pos c2, if_pos c2, ihl hl]
        rfl
      · rw [if_neg c2, if_neg c2]

/-- "balanced" in numbers: a tree satisfying `Bal` with `n` values has `2 ^ ⌊height / 2⌋ ≤ n + 1`, that is
height at most `2·log₂(n+1) + 1` (the division rounds down: an odd height gives the bound of the even height
below it). -/
theorem height_bound (t : Tree α) (h : Bal t) : 2 ^ (height t / 2) ≤ (toList t).length + 1 := by
  induction t with
  | nil => simp [height, toList]
  | node l k p b r ihl ihr =>
    obtain ⟨hl, hr, hb, h1, h2⟩ := h
    have il := ihl hl
    have ir := ihr hr
    simp only [height, toList, List.length_append, List.length_cons]
    -- the children's heights differ by at most one, so `h / 2 ≤ child / 2 + 1` for both
    have m : (max (height l) (height r) + 1) / 2 ≤ height l / 2 + 1 ∧
        (max (height l) (height r) + 1) / 2 ≤ height r / 2 + 1 := by omega
    have p1 := Nat.pow_le_pow_right (n := 2) (by decide) m.1
    have p2 := Nat.pow_le_pow_right (n := 2) (by decide) m.2
    rw [Nat.pow_succ] at p1 p2
    clear hb h1 h2 m
    omega

example : Bal (node (node nil 1 () 0 nil) 2 () 1 (node (node nil 3 () 0 nil) 4 () (-1) nil)) := by decide

def WF (t : TreeList α) : Prop := Inv t.root ∧ t.length = ((toList t.root).length : Int)

theorem WF.bst {t : TreeList α} (h : WF t) : Bst t.root := h.1.1

theorem wf_empty : WF (TreeList.empty : TreeList α) := by
  refine ⟨⟨trivial, trivial⟩, ?_⟩
  simp [TreeList.empty, toList]

theorem treelist_insert (t : TreeList α) (k : Nat) (p : α) (h : WF t) :
    ∃ t', t.insert k p = some t' ∧ WF t' ∧ t'.toList = SortedMap.insert t.toList k p := by
  obtain ⟨hi, hlen⟩ := h
  obtain ⟨r, g, a, e, hi', hl, hn⟩ := insert_inv t.root k p hi
  refine ⟨⟨r, if a then t.length + 1 else t.length⟩, by simp [TreeList.insert, e], ⟨hi', ?_⟩, hl⟩
  simp only
  cases a <;> simp at hn ⊢ <;> omega

theorem treelist_delete (t : TreeList α) (k : Nat) (h : WF t) :
    ∃ t' f, t.delete k = some (t', f) ∧ WF t' ∧ t'.toList = SortedMap.erase t.toList k ∧
      (f = true ↔ k ∈ keys t.root) := by
  obtain ⟨hi, hlen⟩ := h
  obtain ⟨r, s, f, e, hi', hl, hn, hf⟩ := delete_inv t.root k hi
  refine ⟨⟨r, if f then t.length - 1 else t.length⟩, f, by simp [TreeList.delete, e], ⟨hi', ?_⟩, hl, hf⟩
  simp only
  cases f <;> simp at hn ⊢ <;> omega

/-- `treeList.Lookup` finds what the reference map holds -/
theorem lookup_eq (t : Tree α) (k : Nat) (hb : Bst t) : t.lookup k = SortedMap.lookup (toList t) k := by
  fun_induction Tree.lookup t k with
  | case1 => rfl
  | case2 l x xp b r k c1 ih =>
    rw [SortedMap.lookup, find_node_right hb (fun y => y == k) (fun y hy => by simp; omega)]
    exact ih hb.right
  | case3 l x xp b r k c1 c2 ih =>
    rw [SortedMap.lookup, find_node_left hb (fun y => y == k) (fun y hy => by simp; omega)]
    exact ih hb.left
  | case4 l x xp b r k c1 c2 =>
    obtain rfl : x = k := by omega
    rw [SortedMap.lookup, find_node_left_or_here (fun y => y == x) (by simp),
      find_none_of_lt hb.lt_left (fun y => y == x) (fun y hy => by simp; omega)]
    rfl

theorem lookup_mem {t : Tree α} (hb : Bst t) {k : Nat} {v : α} (h : t.lookup k = some v) : (k, v) ∈ toList t := by
  rw [lookup_eq t k hb] at h
  obtain ⟨⟨k', v'⟩, he, rfl, rfl⟩ := SM.lookup_isLookup.exists_mem_of_eq_some h
  exact he

theorem treelist_update (t : TreeList α) (k : Nat) (f : α → α) {v : α} (h : WF t)
    (hlk : t.root.lookup k = some v) :
    WF { t with root := t.root.update k f } ∧
      ({ t with root := t.root.update k f } : TreeList α).toList = SortedMap.insert t.toList k (f v) := by
  have e := update_eq hlk f
  obtain ⟨t', g, a, e', hi, tl, len⟩ := insert_inv t.root k (f v) h.1
  cases e.symm.trans e'
  exact ⟨⟨hi, by rw [h.2, len]; rfl⟩, tl⟩

theorem keys_root_eq (l : TreeList α) : keys l.root = SortedMap.keys l.toList := by
  rw [TreeList.toList, keys_toList]

inductive Edit (α : Type) where
  | ins (k : Nat) (p : α)
  | del (k : Nat)

/-- `none` = some call panicked -/
def applyEdits (t : TreeList α) : List (Edit α) → Option (TreeList α)
  | [] => some t
  | .ins k p :: es =>
    match t.insert k p with
    | some t' => applyEdits t' es
    | none => none
  | .del k :: es =>
    match t.delete k with
    | some (t', _) => applyEdits t' es
    | none => none

def specEdits (m : SortedMap.SMap α) : List (Edit α) → SortedMap.SMap α
  | [] => m
  | .ins k p :: es => specEdits (SortedMap.insert m k p) es
  | .del k :: es => specEdits (SortedMap.erase m k) es

/-- After ANY sequence of inserts and deletes from a well-formed list (in particular from the empty
one) no call has panicked, the tree is a valid AVL tree, its in-order contents are exactly those of
the reference map — in strictly increasing key order — and `Len()` is their number. -/
theorem ops_inv (t : TreeList α) (h : WF t) (es : List (Edit α)) :
    ∃ t', applyEdits t es = some t' ∧ WF t' ∧ t'.toList = specEdits t.toList es ∧
      SortedMap.Sorted t'.toList ∧ t'.length = (t'.toList.length : Int) := by
  induction es generalizing t with
  | nil => exact ⟨t, rfl, h, rfl, (bst_iff_sorted _).1 h.bst, h.2⟩
  | cons e es ih =>
    cases e with
    | ins k p =>
      obtain ⟨t1, e1, h1, l1⟩ := treelist_insert t k p h
      obtain ⟨t2, e2, h2, l2, rest⟩ := ih t1 h1
      exact ⟨t2, by simp [applyEdits, e1, e2], h2, by simp [specEdits, l2, l1], rest⟩
    | del k =>
      obtain ⟨t1, f, e1, h1, l1, _⟩ := treelist_delete t k h
      obtain ⟨t2, e2, h2, l2, rest⟩ := ih t1 h1
      exact ⟨t2, by simp [applyEdits, e1, e2], h2, by simp [specEdits, l2, l1], rest⟩

theorem ops_inv_empty (es : List (Edit α)) :
    ∃ t', applyEdits TreeList.empty es = some t' ∧ WF t' ∧ t'.toList = specEdits [] es := by
  obtain ⟨t', e, h, l, _⟩ := ops_inv (TreeList.empty : TreeList α) wf_empty es
  exact ⟨t', e, h, by simpa [TreeList.toList, TreeList.empty, toList] using l⟩

example : (applyEdits (TreeList.empty : TreeList Nat)
    [.ins 3 0, .ins 1 1, .ins 2 2, .del 7, .ins 5 3, .ins 4 4, .del 3, .del 3]).map (fun t => (t.toList, t.length)) =
    some ([(1, 1), (2, 2), (4, 4), (5, 3)], 4) := by decide

/-- `k` is the least key of the tree that satisfies `q` -/
def Least (t : Tree α) (q : Nat → Prop) (k : Nat) : Prop :=
  k ∈ keys t ∧ q k ∧ ∀ x ∈ keys t, q x → k ≤ x

def NoneSat (t : Tree α) (q : Nat → Prop) : Prop := ∀ x ∈ keys t, ¬ q x

theorem min_least {t : Tree α} (hb : Bst t) {k' : Nat} {p' : α} (h : t.min = some (k', p')) :
    Least t (fun _ => True) k' := by
  rw [min_eq] at h
  refine find_least hb (fun _ => True) (e := (k', p')) ?_
  cases hm : toList t with
  | nil => rw [hm] at h; cases h
  | cons a m => rw [hm] at h; cases h; rfl

theorem min_none {t : Tree α} (h : t.min = none) : keys t = [] := by
  rw [min_eq, List.head?_eq_none_iff] at h
  rw [keys_eq, h]
  rfl

theorem Least.iff_le {t : Tree α} {q : Nat → Prop} {k : Nat} (h : Least t q k)
    (up : ∀ x y, q x → x ≤ y → q y) : ∀ x ∈ keys t, q x ↔ k ≤ x :=
  fun x hx => ⟨h.2.2 x hx, up k x h.2.1⟩

/-- the model-side validity of an iterator state w.r.t. the current tree: an iterator that has not
started holds no node; a node not marked deleted is in the tree -/
def IterWF (t : Tree α) (it : Iter) : Prop :=
  (it.started = false → it.node = none ∧ it.done = false) ∧ (∀ c, it.node = some (c, false) → c ∈ keys t)

/-- key under the iterator = the last key it returned -/
def pos (it : Iter) : Option Nat := it.node.map (·.1)

/-- `x` is above the position `c`; `none` = before the beginning, so every key qualifies (as for `SortedMap.succ`).
`B6.Spec.IterClauses.posLt` decides it (`posLt_iff`). -/
def GtPos (c : Option Nat) (x : Nat) : Prop := ∀ c', c = some c' → c' < x

/-- at or above the position (`posLe_iff`) -/
def GePos (c : Option Nat) (x : Nat) : Prop := ∀ c', c = some c' → c' ≤ x

theorem posLt_iff (c : Option Nat) (x : Nat) : posLt c x = true ↔ GtPos c x := by
  cases c <;> simp [posLt, GtPos]

theorem posLe_iff (c : Option Nat) (x : Nat) : posLe c x = true ↔ GePos c x := by
  cases c <;> simp [posLe, GePos]

theorem gt_ge {c : Option Nat} {x : Nat} (h : GtPos c x) : GePos c x :=
  fun c' hc => Nat.le_of_lt (h c' hc)

def Landed (r : Iter × Bool) (k' : Nat) : Prop :=
  r.2 = true ∧ r.1.node = some (k', false) ∧ r.1.started = true

/-- the call returned false and the iterator is finished for `Next` -/
def Failed (r : Iter × Bool) : Prop :=
  r.2 = false ∧ r.1.started = true ∧ (r.1.node = none ∨ r.1.done = true)

theorem landed_wf {t : Tree α} {r : Iter × Bool} {k' : Nat} (h : Landed r k') (hk : k' ∈ keys t) :
    IterWF t r.1 :=
  ⟨fun hs => (by rw [h.2.2] at hs; cases hs), fun c hc => (by rw [h.2.1] at hc; cases hc; exact hk)⟩

theorem failed_wf {t : Tree α} {r : Iter × Bool} (h : Failed r) (hn : r.1.node = none) : IterWF t r.1 :=
  ⟨fun hs => (by rw [h.2.1] at hs; cases hs), fun c hc => (by rw [hn] at hc; cases hc)⟩

/-- where a search for the least key satisfying `q` leaves the iterator: on that key with `done`
untouched, or finished on no node when there is no such key.  `advance_spec` states this, written out. -/
def Outcome (t : Tree α) (q : Nat → Prop) (dn : Bool) (r : Iter × Bool) : Prop :=
  (∃ k', Landed r k' ∧ r.1.done = dn ∧ Least t q k') ∨ (Failed r ∧ r.1.node = none ∧ NoneSat t q)

/-- the weaker form that `next_spec` states, written out: `done` stays off, and a failed call may keep its node
(`Next` at the end of the list sets `done` instead of dropping the node) -/
def Stops (t : Tree α) (q : Nat → Prop) (r : Iter × Bool) : Prop :=
  (∃ k', Landed r k' ∧ r.1.done = false ∧ Least t q k') ∨ (Failed r ∧ IterWF t r.1 ∧ NoneSat t q)

theorem Outcome.stops {t : Tree α} {q : Nat → Prop} {r : Iter × Bool} (h : Outcome t q false r) : Stops t q r :=
  h.imp id fun ⟨hf, hn, g⟩ => ⟨hf, failed_wf hf hn, g⟩

theorem Outcome.congr {t : Tree α} {q q' : Nat → Prop} {dn : Bool} {r : Iter × Bool}
    (h : Outcome t q dn r) (hq : ∀ x ∈ keys t, q x ↔ q' x) : Outcome t q' dn r := by
  rcases h with ⟨k', hl, hd, l1, l2, l3⟩ | ⟨hf, hn, g⟩
  · exact .inl ⟨k', hl, hd, l1, (hq k' l1).1 l2, fun x hx h => l3 x hx ((hq x hx).2 h)⟩
  · exact .inr ⟨hf, hn, fun x hx h => g x hx ((hq x hx).2 h)⟩

/-- the Go `a() && b()` on iterator calls -/
def andThen (r : Iter × Bool) (f : Iter → Iter × Bool) : Iter × Bool :=
  match r with
  | (it', false) => (it', false)
  | (it', true) => f it'

theorem Outcome.andThen {t : Tree α} {q1 q2 : Nat → Prop} {dn : Bool} {r : Iter × Bool}
    {f : Iter → Iter × Bool} (h1 : Outcome t q1 dn r) (up : ∀ x y, q1 x → x ≤ y → q1 y)
    (h2 : ∀ it1 k1, it1.node = some (k1, false) → it1.started = true → it1.done = dn → k1 ∈ keys t →
      Outcome t (fun x => k1 ≤ x ∧ q2 x) dn (f it1)) :
    Outcome t (fun x => q1 x ∧ q2 x) dn (andThen r f) := by
  obtain ⟨it1, ok⟩ := r
  rcases h1 with ⟨k1, ⟨(rfl : ok = true), hn, hs⟩, hd, l1, l2, l3⟩ | ⟨⟨(rfl : ok = false), hf⟩, hn, g⟩
  · exact (h2 it1 k1 hn hs hd l1).congr fun x hx =>
      and_congr_left' (Least.iff_le ⟨l1, l2, l3⟩ up x hx).symm
  · exact .inr ⟨⟨rfl, hf⟩, hn, fun x hx h => g x hx h.1⟩

theorem start_outcome (t : Tree α) (it : Iter) (hb : Bst t) :
    Outcome t (fun _ => True) it.done (it.start t) := by
  fun_cases Iter.start t it with
  | case1 k' p' hm => exact .inl ⟨k', ⟨rfl, rfl, rfl⟩, rfl, min_least hb hm⟩
  | case2 hm => exact .inr ⟨⟨rfl, rfl, .inl rfl⟩, rfl, fun x hx => by rw [min_none hm] at hx; cases hx⟩

theorem advanceLive_outcome (t : Tree α) (it : Iter) (key c : Nat) (hb : Bst t)
    (hn : it.node = some (c, false)) (hs : it.started = true) (hc : c ∈ keys t) :
    Outcome t (fun x => c ≤ x ∧ key ≤ x) it.done (it.advanceLive t key) := by
  fun_cases Iter.advanceLive t it key with
  | case1 hnode => rw [hn] at hnode; cases hnode
  | case2 c' b hnode c1 k' p' hl =>
    cases hn.symm.trans hnode
    obtain ⟨l1, l2, l3⟩ : Least t (fun x => key ≤ x) k' :=
      find_least hb _ ((lowerBound_eq t key hb).symm.trans hl)
    exact .inl ⟨k', ⟨rfl, rfl, hs⟩, rfl, l1, ⟨by omega, l2⟩, fun x hx h => l3 x hx h.2⟩
  | case3 c' b hnode c1 hl =>
    exact .inr ⟨⟨rfl, hs, .inl rfl⟩, rfl, fun x hx h => find_none _ ((lowerBound_eq t key hb).symm.trans hl) x hx h.2⟩
  | case4 c' b hnode c1 =>
    cases hn.symm.trans hnode
    exact .inl ⟨c, ⟨rfl, hn, hs⟩, rfl, hc, ⟨Nat.le_refl _, by omega⟩, fun x _ h => h.1⟩

/-- On a node deleted since, `Advance(key)` restarts from the minimum, advances to the deleted key and
then to `key`: three searches in a row. -/
theorem advanceStarted_outcome (t : Tree α) (it : Iter) (key : Nat) (hb : Bst t) (hw : IterWF t it)
    (hs : it.started = true) (hn : it.node ≠ none) :
    Outcome t (fun x => GePos (pos it) x ∧ key ≤ x) it.done (it.advanceStarted t key) := by
  obtain ⟨st, nd, dn⟩ := it
  obtain rfl : st = true := hs
  match nd with
  | none => exact absurd rfl hn
  | some (c, false) =>
    exact (advanceLive_outcome t _ key c hb rfl rfl (hw.2 c rfl)).congr fun x _ => by simp [pos, GePos]
  | some (c, true) =>
    have e : Iter.advanceStarted t ⟨true, some (c, true), dn⟩ key =
        andThen (Iter.start t ⟨false, some (c, true), dn⟩) fun it1 =>
          andThen (it1.advanceLive t c) fun it2 => it2.advanceLive t key := rfl
    rw [e]
    have rest : ∀ (it1 : Iter) (k0 : Nat), it1.node = some (k0, false) → it1.started = true → it1.done = dn → k0 ∈ keys t →
        Outcome t (fun x => k0 ≤ x ∧ (c ≤ x ∧ key ≤ x)) dn
          (andThen (it1.advanceLive t c) fun it2 => it2.advanceLive t key) := by
      intro it1 k0 n1 s1 d1 m1
      have h1 := advanceLive_outcome t it1 c k0 hb n1 s1 m1
      rw [d1] at h1
      exact (h1.andThen (fun x y h hxy => ⟨Nat.le_trans h.1 hxy, Nat.le_trans h.2 hxy⟩)
        fun it2 k1 n2 s2 d2 m2 => d2 ▸ advanceLive_outcome t it2 key k1 hb n2 s2 m2).congr
        fun x _ => and_assoc
    exact ((start_outcome t _ hb).andThen (fun _ _ _ _ => trivial) rest).congr
      fun x _ => by simp [pos, GePos]

/-- `Advance(key)` on an iterator whose `started` flag is off (a fresh iterator, or the restart of an
iterator whose node was deleted): whatever node it held, it ends on the least key ≥ `key`. -/
theorem restart_outcome (t : Tree α) (nd : Option (Nat × Bool)) (dn : Bool) (key : Nat) (hb : Bst t) :
    Outcome t (fun x => key ≤ x) dn (Iter.advance t ⟨false, nd, dn⟩ key) := by
  have e : Iter.advance t ⟨false, nd, dn⟩ key =
      andThen (Iter.start t ⟨false, nd, dn⟩) fun it1 => it1.advanceStarted t key := rfl
  rw [e]
  have rest : ∀ (it1 : Iter) (k0 : Nat), it1.node = some (k0, false) → it1.started = true → it1.done = dn → k0 ∈ keys t →
      Outcome t (fun x => k0 ≤ x ∧ key ≤ x) dn (it1.advanceStarted t key) := by
    intro it1 k0 n1 s1 d1 m1
    have : it1.advanceStarted t key = it1.advanceLive t key := by simp [Iter.advanceStarted, n1]
    rw [this]
    exact d1 ▸ advanceLive_outcome t it1 key k0 hb n1 s1 m1
  exact ((start_outcome t _ hb).andThen (fun _ _ _ _ => trivial) rest).congr fun x _ => by simp

/-- **`Advance(key)`**: from any iterator that holds a node or has not started, `Advance` ends on the least key of the
current tree that is ≥ `key` and ≥ the key it stood on (staying put when that key is still there),
or returns false when there is no such key. -/
theorem advance_spec (t : Tree α) (it : Iter) (key : Nat) (hb : Bst t) (hw : IterWF t it)
    (hn : it.started = true → it.node ≠ none) :
    (∃ k', Landed (it.advance t key) k' ∧ (it.advance t key).1.done = it.done ∧
        Least t (fun x => GePos (pos it) x ∧ key ≤ x) k') ∨
    (Failed (it.advance t key) ∧ (it.advance t key).1.node = none ∧
      NoneSat t (fun x => GePos (pos it) x ∧ key ≤ x)) := by
  obtain ⟨st, nd, dn⟩ := it
  cases st with
  | true => exact advanceStarted_outcome t _ key hb hw rfl (hn rfl)
  | false =>
    obtain rfl : nd = none := (hw.1 rfl).1
    exact (restart_outcome t none dn key hb).congr fun x _ => by simp [pos, GePos]

theorem nextLive_spec (t : Tree α) (it : Iter) (c : Nat) (hb : Bst t)
    (hnode : it.node = some (c, false)) (hc : c ∈ keys t) (hs : it.started = true) (hd : it.done = false) :
    Stops t (GtPos (some c)) (it.nextLive t c) := by
  have gp : ∀ x, GtPos (some c) x ↔ c < x := fun x => by simp [GtPos]
  fun_cases Iter.nextLive t it c with
  | case1 k' p' hsu =>
    obtain ⟨l1, l2, l3⟩ : Least t (fun x => c < x) k' :=
      find_least hb _ ((succ_eq t c hb).symm.trans hsu)
    exact .inl ⟨k', ⟨rfl, rfl, hs⟩, hd, l1, (gp k').2 l2, fun x hx h => l3 x hx ((gp x).1 h)⟩
  | case2 hsu =>
    refine .inr ⟨⟨rfl, hs, .inr rfl⟩, ⟨fun h => (by rw [hs] at h; cases h), fun c' hc' => ?_⟩,
      fun x hx h => find_none _ ((succ_eq t c hb).symm.trans hsu) x hx ((gp x).1 h)⟩
    rw [show it.node = some (c', false) from hc'] at hnode
    cases hnode; exact hc

/-- **`Next()`**: from any iterator that has not finished, `Next` ends on the least key of the current
tree greater than the key it stood on (the least key at all for a fresh iterator) — whether that node is
still in the tree, was deleted, or was deleted and re-inserted — or returns false when there is none. -/
theorem next_spec (t : Tree α) (it : Iter) (hb : Bst t) (hw : IterWF t it)
    (hd : it.done = false) (hn : it.started = true → it.node ≠ none) :
    (∃ k', Landed (it.next t) k' ∧ (it.next t).1.done = false ∧ Least t (GtPos (pos it)) k') ∨
    (Failed (it.next t) ∧ IterWF t (it.next t).1 ∧ NoneSat t (GtPos (pos it))) := by
  obtain ⟨st, nd, dn⟩ := it
  obtain rfl : dn = false := hd
  match st, nd with
  | false, nd =>
    obtain rfl : nd = none := (hw.1 rfl).1
    exact ((start_outcome t ⟨false, none, false⟩ hb).congr fun x _ =>
      ⟨fun _ _ h => (by cases h), fun _ => trivial⟩).stops
  | true, none => exact absurd rfl (hn rfl)
  | true, some (c, false) => exact nextLive_spec t _ c hb rfl (hw.2 c rfl) rfl rfl
  | true, some (c, true) =>
    have e : Iter.next t ⟨true, some (c, true), false⟩ =
        andThen (Iter.advance t ⟨false, some (c, true), false⟩ c) fun it1 =>
          match it1.node with
          | some (c', _) => if c' = c then it1.nextLive t c else (it1, true)
          | none => (it1, true) := rfl
    rw [e]
    have h := restart_outcome t (some (c, true)) false c hb
    generalize Iter.advance t ⟨false, some (c, true), false⟩ c = r at h
    obtain ⟨it1, ok⟩ := r
    rcases h with ⟨k', ⟨(rfl : ok = true), a2, a3⟩, ad, l1, l2, l3⟩ | ⟨⟨(rfl : ok = false), g⟩, g4, g5⟩
    · replace a2 : it1.node = some (k', false) := a2
      simp only [andThen, a2]
      by_cases hk : k' = c
      · subst hk
        rw [if_pos rfl]
        exact nextLive_spec t it1 k' hb a2 l1 a3 ad
      · rw [if_neg hk]
        exact .inl ⟨k', ⟨rfl, a2, a3⟩, ad, l1, fun c' h => (by cases h; exact Nat.lt_of_le_of_ne l2 fun h => hk h.symm),
          fun x hx h => l3 x hx (Nat.le_of_lt (h c rfl))⟩
    · exact .inr ⟨⟨rfl, g⟩, failed_wf ⟨rfl, g⟩ g4, fun x hx h => g5 x hx (Nat.le_of_lt (h c rfl))⟩

/-- the branch of the model's `Next` marked unreachable is unreachable: a successful `Advance` stands on a node -/
theorem advance_ok_node (t : Tree α) (nd : Option (Nat × Bool)) (dn : Bool) (key : Nat) (hb : Bst t)
    (h : (Iter.advance t ⟨false, nd, dn⟩ key).2 = true) :
    (Iter.advance t ⟨false, nd, dn⟩ key).1.node.isSome = true := by
  rcases restart_outcome t nd dn key hb with ⟨k', ⟨_, a2, _⟩, _⟩ | ⟨⟨g1, _⟩, _⟩
  · simp [a2]
  · rw [g1] at h; cases h

theorem live_or_finished {t : Tree α} {it : Iter} (hw : IterWF t it) :
    (it.done = false ∧ (it.started = true → it.node ≠ none)) ∨
    (it.started = true ∧ (it.node = none ∨ it.done = true)) := by
  obtain ⟨st, nd, dn⟩ := it
  have := hw.1
  cases st <;> cases dn <;> cases nd <;> simp_all

theorem next_finished (t : Tree α) {it : Iter} (hs : it.started = true)
    (hf : it.node = none ∨ it.done = true) : it.next t = (it, false) := by
  obtain ⟨st, nd, dn⟩ := it
  obtain rfl : st = true := hs
  rcases hf with (rfl : nd = none) | (rfl : dn = true)
  · rfl
  · cases nd <;> rfl

theorem next_wf (t : Tree α) (it : Iter) (hb : Bst t) (hw : IterWF t it) : IterWF t (it.next t).1 := by
  rcases live_or_finished hw with ⟨hd, hn⟩ | ⟨hs, hf⟩
  · rcases next_spec t it hb hw hd hn with ⟨k', hl, _, l1, _⟩ | ⟨_, g2, _⟩
    · exact landed_wf hl l1
    · exact g2
  · rw [next_finished t hs hf]; exact hw

theorem advance_wf (t : Tree α) (it : Iter) (key : Nat) (hb : Bst t) (hw : IterWF t it) :
    IterWF t (it.advance t key).1 := by
  by_cases h : it.started = true ∧ it.node = none
  · have : it.advance t key = (it, false) := by simp [Iter.advance, Iter.advanceStarted, h.1, h.2]
    rw [this]; exact hw
  · rcases advance_spec t it key hb hw (fun hs hn => h ⟨hs, hn⟩) with ⟨k', hl, _, l1, _⟩ | ⟨hf, g4, _⟩
    · exact landed_wf hl l1
    · exact failed_wf hf g4

theorem next_true {t : Tree α} {it : Iter} (hb : Bst t) (hw : IterWF t it) (h : (it.next t).2 = true) :
    ∃ k', (it.next t).1.node = some (k', false) ∧ Least t (GtPos (pos it)) k' := by
  rcases live_or_finished hw with ⟨hd, hn⟩ | ⟨hs, hf⟩
  · rcases next_spec t it hb hw hd hn with ⟨k', ⟨_, a2, _⟩, _, l⟩ | ⟨⟨g1, _⟩, _⟩
    · exact ⟨k', a2, l⟩
    · rw [g1] at h; cases h
  · rw [next_finished t hs hf] at h; cases h

/-- **continues in order, never repeats**: a value returned by `Next` is strictly greater than the one
the iterator stood on, whatever edits happened in between. -/
theorem iter_monotone (t : Tree α) (it : Iter) (hb : Bst t) (hw : IterWF t it)
    (h : (it.next t).2 = true) :
    ∃ k', (it.next t).1.node = some (k', false) ∧ ∀ c, pos it = some c → c < k' :=
  (next_true hb hw h).imp fun _ h => ⟨h.1, h.2.2.1⟩

/-- **never returns a value after it was deleted**: a value returned by `Next` is in the tree now. -/
theorem iter_no_deleted (t : Tree α) (it : Iter) (hb : Bst t) (hw : IterWF t it)
    (h : (it.next t).2 = true) :
    ∃ k', (it.next t).1.node = some (k', false) ∧ k' ∈ keys t :=
  (next_true hb hw h).imp fun _ h => ⟨h.1, h.2.1⟩

/-- **returns every value present**: `Next` skips no key of the current tree above the iterator's
position, and it only gives up (first false) when no such key exists. -/
theorem iter_complete (t : Tree α) (it : Iter) (hb : Bst t) (hw : IterWF t it)
    (hd : it.done = false) (hn : it.started = true → it.node ≠ none) :
    ((it.next t).2 = true → ∃ k', (it.next t).1.node = some (k', false) ∧
        ∀ x ∈ keys t, GtPos (pos it) x → k' ≤ x) ∧
    ((it.next t).2 = false → ∀ x ∈ keys t, ¬ GtPos (pos it) x) := by
  rcases next_spec t it hb hw hd hn with ⟨k', ⟨a1, a2, _⟩, _, _, _, l3⟩ | ⟨⟨g1, _⟩, _, g3⟩
  · exact ⟨fun _ => ⟨k', a2, l3⟩, fun h => by rw [a1] at h; cases h⟩
  · exact ⟨fun h => (by rw [g1] at h; cases h), fun _ => g3⟩

def drain (t : Tree α) : Nat → Iter → List Nat
  | 0, _ => []
  | fuel + 1, it =>
    match it.next t with
    | (it', true) =>
      match it'.node with
      | some (k, _) => k :: drain t fuel it'
      | none => []
    | (_, false) => []

/-- running `Next` to exhaustion from any unfinished iterator over a tree that is not edited meanwhile
yields exactly the keys above its position, in order -/
theorem drain_spec (t : Tree α) (hb : Bst t) (fuel : Nat) (it : Iter) (hw : IterWF t it)
    (hd : it.done = false) (hn : it.started = true → it.node ≠ none)
    (hf : ((keys t).filter (fun x => posLt (pos it) x)).length < fuel) :
    drain t fuel it = (keys t).filter (fun x => posLt (pos it) x) := by
  induction fuel generalizing it with
  | zero => omega
  | succ fuel ih =>
    have h := next_spec t it hb hw hd hn
    unfold drain
    generalize it.next t = r at h
    obtain ⟨it', ok⟩ := r
    rcases h with ⟨k', ⟨(rfl : ok = true), a2, a3⟩, ad, l⟩ | ⟨⟨(rfl : ok = false), _⟩, _, g5⟩
    · replace a2 : it'.node = some (k', false) := a2
      have e : (keys t).filter (fun x => posLt (pos it) x) =
          k' :: (keys t).filter (fun x => posLt (pos it') x) := by
        rw [show pos it' = some k' by simp [pos, a2]]
        show _ = k' :: (keys t).filter (fun x => decide (k' < x))
        rw [← filter_ge_sorted (keys t) k' (keys_toList t ▸ (bst_iff_sorted t).1 hb) l.1]
        exact List.filter_congr fun x hx => Bool.eq_iff_iff.2 <| (posLt_iff _ _).trans <|
          (l.iff_le (fun x y h hxy c' hc' => Nat.lt_of_lt_of_le (h c' hc') hxy) x hx).trans
            decide_eq_true_iff.symm
      simp only [a2]
      rw [e] at hf ⊢
      exact congrArg (k' :: ·) (ih it' (landed_wf (r := (it', true)) ⟨rfl, a2, a3⟩ l.1) ad
        (fun _ => by rw [a2]; simp) (Nat.lt_of_succ_lt_succ hf))
    · exact (List.filter_eq_nil_iff.2 fun x hx hp => g5 x hx ((posLt_iff _ _).1 hp)).symm

theorem drain_fresh (t : Tree α) (hb : Bst t) :
    drain t ((keys t).length + 1) {} = keys t := by
  have hf : (keys t).filter (fun x => posLt (pos ({} : Iter)) x) = keys t := by
    simp [pos, posLt]
  have := drain_spec t hb ((keys t).length + 1) {} ⟨fun _ => ⟨rfl, rfl⟩, fun c hc => by cases hc⟩ rfl
    (fun h => by cases h) (by rw [hf]; omega)
  rw [hf] at this; exact this

example : drain (node (node nil 1 () 0 nil) 2 () 1 (node (node nil 3 () 0 nil) 4 () (-1) nil)) 5 {} = [1, 2, 3, 4] := by
  decide

/-- A list, its open iterators, and next to each iterator the caller-side tracker of
`B6.Spec.IterClauses` — what the C07 driver keeps per case. -/
structure Sim (α : Type) where
  list : TreeList α
  its : List (Iter × Cur)

/-- One call of the history: the model performs it, the tracker judges what the iterator call
returned (`clause`) and is updated.  The list/iterator part is `World.step` (`sim_world`); the iterator `begin`
opens, `⟨false, none, false⟩`, is the `{}` of `World.step` and `drain_fresh`. -/
def Sim.step (s : Sim α) : Op α → Option (Sim α × Option String)
  | .ins k p =>
    match s.list.insert k p with
    | some l => some (⟨l, s.its⟩, none)
    | none => none
  | .del k =>
    match s.list.delete k with
    | some (l, found) =>
      some (⟨l, s.its.map fun (it, c) => (if found then it.onDelete k else it, c.onDelete k)⟩, none)
    | none => none
  | .begin => some (⟨s.list, s.its ++ [((⟨false, none, false⟩ : Iter), Cur.begin (keys s.list.root))]⟩, none)
  | .next i =>
    match s.its[i]? with
    | some (it, c) =>
      let r := it.next s.list.root
      let ret := if r.2 then r.1.node.map (·.1) else none
      some (⟨s.list, s.its.set i (r.1, c.update ret)⟩, clause (keys s.list.root) c none ret)
    | none => none
  | .adv i k =>
    match s.its[i]? with
    | some (it, c) =>
      let r := it.advance s.list.root k
      let ret := if r.2 then r.1.node.map (·.1) else none
      some (⟨s.list, s.its.set i (r.1, c.update ret)⟩, clause (keys s.list.root) c (some k) ret)
    | none => none

def Sim.run (s : Sim α) : List (Op α) → Option (Sim α × List (Option String))
  | [] => some (s, [])
  | op :: ops =>
    match s.step op with
    | none => none
    | some (s', cl) =>
      match Sim.run s' ops with
      | none => none
      | some (s'', cls) => some (s'', cl :: cls)

def Sim.toWorld (s : Sim α) : World α := ⟨s.list, s.its.map (·.1)⟩

/-- the tracker is in step with the model iterator: every key it is owed is still in the tree, and, as long as no
call has returned false, the iterator is not done, holds a node once started, and stands where the tracker thinks -/
def Rel (t : Tree α) (it : Iter) (c : Cur) : Prop :=
  (∀ x ∈ c.owed, x ∈ keys t) ∧
  (c.dead = false → it.done = false ∧ (it.started = true → it.node ≠ none) ∧ c.pos = pos it)

def SimInv (s : Sim α) : Prop :=
  WF s.list ∧ ∀ p ∈ s.its, IterWF s.list.root p.1 ∧ Rel s.list.root p.1 p.2

theorem siminv_empty : SimInv (⟨TreeList.empty, []⟩ : Sim α) := ⟨wf_empty, by simp⟩

theorem clause_dead {ks : List Nat} {c : Cur} {tg ret : Option Nat} (h : c.dead = true) :
    clause ks c tg ret = none := by simp [clause, h]

theorem clause_next_landed {ks : List Nat} {c : Cur} {k' : Nat}
    (h1 : GtPos c.pos k') (h2 : k' ∈ ks) (h3 : ∀ x ∈ c.owed, x ∈ ks)
    (h4 : ∀ x ∈ ks, GtPos c.pos x → k' ≤ x) : clause ks c none (some k') = none := by
  have e1 : posLt c.pos k' = true := (posLt_iff _ _).2 h1
  have e2 : ks.contains k' = true := List.contains_iff_mem.2 h2
  have e3 : c.owed.any (fun x => posLt c.pos x && decide (x < k')) = false := by
    rw [List.any_eq_false]
    intro x hx
    simp only [Bool.and_eq_true, decide_eq_true_eq, not_and]
    intro hp
    have := h4 x (h3 x hx) ((posLt_iff _ _).1 hp)
    omega
  simp only [clause, e1, e2, e3]
  cases c.dead <;> rfl

theorem clause_next_failed {ks : List Nat} {c : Cur}
    (h3 : ∀ x ∈ c.owed, x ∈ ks) (h4 : ∀ x ∈ ks, ¬ GtPos c.pos x) : clause ks c none none = none := by
  have e3 : c.owed.any (fun x => posLt c.pos x) = false :=
    List.any_eq_false.2 fun x hx hp => h4 x (h3 x hx) ((posLt_iff _ _).1 hp)
  simp only [clause, e3]
  cases c.dead <;> rfl

theorem clause_adv_landed {ks : List Nat} {c : Cur} {key k' : Nat}
    (h1 : GePos c.pos k' ∧ key ≤ k') (h2 : k' ∈ ks) (h3 : ∀ x ∈ c.owed, x ∈ ks)
    (h4 : ∀ x ∈ ks, GePos c.pos x ∧ key ≤ x → k' ≤ x) : clause ks c (some key) (some k') = none := by
  have e1 : posLe c.pos k' = true := (posLe_iff _ _).2 h1.1
  have e1' : decide (key ≤ k') = true := decide_eq_true h1.2
  have e2 : ks.contains k' = true := List.contains_iff_mem.2 h2
  have e3 : c.owed.any (fun x => posLt c.pos x && decide (key ≤ x) && decide (x < k')) = false := by
    rw [List.any_eq_false]
    intro x hx
    simp only [Bool.and_eq_true, decide_eq_true_eq, not_and]
    intro ⟨hp, hk⟩
    have := h4 x (h3 x hx) ⟨gt_ge ((posLt_iff _ _).1 hp), hk⟩
    omega
  simp only [clause, e1, e1', e2, e3]
  cases c.dead <;> rfl

theorem clause_adv_failed {ks : List Nat} {c : Cur} {key : Nat}
    (h3 : ∀ x ∈ c.owed, x ∈ ks) (h4 : ∀ x ∈ ks, ¬ (GePos c.pos x ∧ key ≤ x)) :
    clause ks c (some key) none = none := by
  have e3 : c.owed.any (fun x => posLt c.pos x && decide (key ≤ x)) = false := by
    rw [List.any_eq_false]
    intro x hx
    simp only [Bool.and_eq_true, decide_eq_true_eq, not_and]
    intro hp hk
    exact h4 x (h3 x hx) ⟨gt_ge ((posLt_iff _ _).1 hp), hk⟩
  simp only [clause, e3]
  cases c.dead <;> rfl

theorem onDelete_spec (it : Iter) (k : Nat) :
    (it.onDelete k).started = it.started ∧ (it.onDelete k).done = it.done ∧
    pos (it.onDelete k) = pos it ∧ ((it.onDelete k).node = none ↔ it.node = none) ∧
    ∀ c, (it.onDelete k).node = some (c, false) → it.node = some (c, false) ∧ c ≠ k := by
  obtain ⟨st, nd, dn⟩ := it
  rcases nd with _ | ⟨c, _ | _⟩
  · simp [Iter.onDelete, pos]
  · by_cases h : c = k <;> simp [Iter.onDelete, pos, h]
  · simp [Iter.onDelete, pos]

theorem step_ins (s : Sim α) (k : Nat) (p : α) (h : SimInv s) :
    ∃ l, s.list.insert k p = some l ∧ SimInv ⟨l, s.its⟩ := by
  obtain ⟨hwf, hits⟩ := h
  obtain ⟨l, e, hwf', hl⟩ := treelist_insert s.list k p hwf
  refine ⟨l, e, hwf', ?_⟩
  have sub : ∀ x ∈ keys s.list.root, x ∈ keys l.root := by
    intro x hx
    rw [keys_root_eq] at hx ⊢
    rw [hl]; exact SM.mem_keys_insert.2 (.inr hx)
  intro q hq
  obtain ⟨⟨w1, w2⟩, r1, r2⟩ := hits q hq
  exact ⟨⟨w1, fun c hc => sub c (w2 c hc)⟩, fun x hx => sub x (r1 x hx), r2⟩

theorem step_del (s : Sim α) (k : Nat) (h : SimInv s) :
    ∃ l f, s.list.delete k = some (l, f) ∧
      SimInv ⟨l, s.its.map fun (it, c) => (if f then it.onDelete k else it, c.onDelete k)⟩ := by
  obtain ⟨hwf, hits⟩ := h
  obtain ⟨l, f, e, hwf', hl, hf⟩ := treelist_delete s.list k hwf
  refine ⟨l, f, e, hwf', ?_⟩
  have sub : ∀ x ∈ keys s.list.root, x ≠ k → x ∈ keys l.root := by
    intro x hx hne
    rw [keys_root_eq] at hx ⊢
    rw [hl]; exact SM.mem_keys_erase hx hne
  intro q hq
  simp only [List.mem_map] at hq
  obtain ⟨⟨it, c⟩, hmem, rfl⟩ := hq
  obtain ⟨⟨w1, w2⟩, r1, r2⟩ := hits (it, c) hmem
  simp only at w1 w2 r1 r2 ⊢
  have hrel_owed : ∀ x ∈ (c.onDelete k).owed, x ∈ keys l.root := by
    intro x hx
    simp only [Cur.onDelete, List.mem_filter, bne_iff_ne, ne_eq] at hx
    exact sub x (r1 x hx.1) hx.2
  cases f with
  | true =>
    simp only [if_true]
    obtain ⟨f1, f2, f3, f4, f5⟩ := onDelete_spec it k
    refine ⟨⟨fun hs => ?_, fun c' hc' => ?_⟩, hrel_owed, fun hd => ?_⟩
    · obtain ⟨n1, n2⟩ := w1 (f1 ▸ hs)
      exact ⟨f4.2 n1, f2.trans n2⟩
    · obtain ⟨g1, g2⟩ := f5 c' hc'
      exact sub c' (w2 c' g1) g2
    · obtain ⟨d1, d2, d3⟩ := r2 hd
      exact ⟨f2.trans d1, fun hs hn => d2 (f1 ▸ hs) (f4.1 hn), d3.trans f3.symm⟩
  | false =>
    simp only [Bool.false_eq_true, if_false]
    have hk : k ∉ keys s.list.root := fun hm => by have := hf.2 hm; cases this
    refine ⟨⟨w1, ?_⟩, hrel_owed, r2⟩
    intro c' hc'
    have hm := w2 c' hc'
    exact sub c' hm (fun e => hk (e ▸ hm))

theorem step_begin (s : Sim α) (h : SimInv s) :
    SimInv ⟨s.list, s.its ++ [((⟨false, none, false⟩ : Iter), Cur.begin (keys s.list.root))]⟩ := by
  obtain ⟨hwf, hits⟩ := h
  refine ⟨hwf, ?_⟩
  intro q hq
  simp only [List.mem_append, List.mem_singleton] at hq
  rcases hq with hq | rfl
  · exact hits q hq
  · refine ⟨⟨fun _ => ⟨rfl, rfl⟩, fun c hc => by cases hc⟩, fun x hx => hx, ?_⟩
    intro _
    exact ⟨rfl, fun h => (by cases h), rfl⟩

/-- the key a call reports to its caller, as `Sim.step` computes it -/
theorem ret_landed {r : Iter × Bool} {k' : Nat} (h : Landed r k') :
    (if r.2 then r.1.node.map (·.1) else none) = some k' := by rw [h.1, h.2.1]; rfl

theorem ret_failed {r : Iter × Bool} (h : Failed r) :
    (if r.2 then r.1.node.map (·.1) else none) = none := by rw [h.1]; rfl

theorem rel_dead {t : Tree α} {it : Iter} {c : Cur} (ret : Option Nat) (ho : ∀ x ∈ c.owed, x ∈ keys t)
    (hd : c.dead = true) : Rel t it (c.update ret) := by
  cases ret with
  | none => exact ⟨ho, fun h => by cases h⟩
  | some k' => exact ⟨ho, fun h => by rw [show c.dead = false from h] at hd; cases hd⟩

theorem rel_landed {t : Tree α} {r : Iter × Bool} {c : Cur} {k' : Nat} (h : Landed r k')
    (hd : r.1.done = false) (ho : ∀ x ∈ c.owed, x ∈ keys t) : Rel t r.1 (c.update (some k')) :=
  ⟨ho, fun _ => ⟨hd, fun _ => (by rw [h.2.1]; simp), (by simp [Cur.update, pos, h.2.1])⟩⟩

theorem rel_failed {t : Tree α} {it : Iter} {c : Cur} (ho : ∀ x ∈ c.owed, x ∈ keys t) :
    Rel t it (c.update none) := ⟨ho, fun h => by cases h⟩

theorem judge_next (t : Tree α) (it : Iter) (c : Cur) (hb : Bst t) (hw : IterWF t it) (hr : Rel t it c) :
    let r := it.next t
    let ret := if r.2 then r.1.node.map (·.1) else none
    clause (keys t) c none ret = none ∧ IterWF t r.1 ∧ Rel t r.1 (c.update ret) := by
  intro r ret
  have hwf' : IterWF t r.1 := next_wf t it hb hw
  cases hdead : c.dead with
  | true => exact ⟨clause_dead hdead, hwf', rel_dead ret hr.1 hdead⟩
  | false =>
    obtain ⟨hd, hn, hp⟩ := hr.2 hdead
    rcases next_spec t it hb hw hd hn with ⟨k', hl, ad, l1, l2, l3⟩ | ⟨hf, _, g5⟩
    · rw [show ret = some k' from ret_landed hl]
      exact ⟨clause_next_landed (hp ▸ l2) l1 hr.1 (fun x hx h => l3 x hx (hp ▸ h)), hwf',
        rel_landed hl ad hr.1⟩
    · rw [show ret = none from ret_failed hf]
      exact ⟨clause_next_failed hr.1 (fun x hx h => g5 x hx (hp ▸ h)), hwf', rel_failed hr.1⟩

theorem judge_adv (t : Tree α) (it : Iter) (c : Cur) (key : Nat) (hb : Bst t) (hw : IterWF t it)
    (hr : Rel t it c) :
    let r := it.advance t key
    let ret := if r.2 then r.1.node.map (·.1) else none
    clause (keys t) c (some key) ret = none ∧ IterWF t r.1 ∧ Rel t r.1 (c.update ret) := by
  intro r ret
  have hwf' : IterWF t r.1 := advance_wf t it key hb hw
  cases hdead : c.dead with
  | true => exact ⟨clause_dead hdead, hwf', rel_dead ret hr.1 hdead⟩
  | false =>
    obtain ⟨hd, hn, hp⟩ := hr.2 hdead
    rcases advance_spec t it key hb hw hn with ⟨k', hl, ad, l1, l2, l3⟩ | ⟨hf, _, g5⟩
    · rw [show ret = some k' from ret_landed hl]
      exact ⟨clause_adv_landed (hp ▸ l2) l1 hr.1 (fun x hx h => l3 x hx (hp ▸ h)), hwf',
        rel_landed hl (ad.trans hd) hr.1⟩
    · rw [show ret = none from ret_failed hf]
      exact ⟨clause_adv_failed hr.1 (fun x hx h => g5 x hx (hp ▸ h)), hwf', rel_failed hr.1⟩

theorem siminv_set (s : Sim α) (i : Nat) (q : Iter × Cur) (h : SimInv s)
    (hq : IterWF s.list.root q.1 ∧ Rel s.list.root q.1 q.2) : SimInv ⟨s.list, s.its.set i q⟩ := by
  refine ⟨h.1, ?_⟩
  intro p hp
  rcases List.mem_or_eq_of_mem_set hp with hp | rfl
  · exact h.2 p hp
  · exact hq

/-- a call that succeeded: both halves of `trace_step` (the second is then vacuous) -/
theorem of_step_some {s1 : Sim α} {cl1 : Option String} {P : Prop} (hi : SimInv s1) (hc : cl1 = none) :
    (∀ s' cl, some (s1, cl1) = some (s', cl) → SimInv s' ∧ cl = none) ∧
    ((some (s1, cl1) : Option (Sim α × Option String)) = none → P) :=
  ⟨fun s' cl he => by cases he; exact ⟨hi, hc⟩, fun he => by cases he⟩

/-- **one step of any history**: from a state that satisfies the invariant, a call does not panic (the
only `none` is an iterator index that was never opened), the invariant holds afterwards, and the
iterator clauses of the property accept what the call returned. -/
theorem trace_step (s : Sim α) (op : Op α) (h : SimInv s) :
    (∀ s' cl, s.step op = some (s', cl) → SimInv s' ∧ cl = none) ∧
    (s.step op = none → ∃ i, (op = .next i ∨ ∃ k, op = .adv i k) ∧ s.its.length ≤ i) := by
  have hb : Bst s.list.root := h.1.bst
  cases op with
  | ins k p =>
    obtain ⟨l, e, hi⟩ := step_ins s k p h
    simp only [Sim.step, e]
    exact of_step_some hi rfl
  | del k =>
    obtain ⟨l, f, e, hi⟩ := step_del s k h
    simp only [Sim.step, e]
    exact of_step_some hi rfl
  | begin => exact of_step_some (step_begin s h) rfl
  | next i =>
    simp only [Sim.step]
    cases hi : s.its[i]? with
    | none =>
      exact ⟨fun s' cl he => (by cases he), fun _ => ⟨i, .inl rfl, List.getElem?_eq_none_iff.1 hi⟩⟩
    | some q =>
      obtain ⟨hw, hr⟩ := h.2 q (List.mem_of_getElem? hi)
      obtain ⟨j1, j2, j3⟩ := judge_next s.list.root q.1 q.2 hb hw hr
      exact of_step_some (siminv_set s i _ h ⟨j2, j3⟩) j1
  | adv i k =>
    simp only [Sim.step]
    cases hi : s.its[i]? with
    | none =>
      exact ⟨fun s' cl he => (by cases he), fun _ => ⟨i, .inr ⟨k, rfl⟩, List.getElem?_eq_none_iff.1 hi⟩⟩
    | some q =>
      obtain ⟨hw, hr⟩ := h.2 q (List.mem_of_getElem? hi)
      obtain ⟨j1, j2, j3⟩ := judge_adv s.list.root q.1 q.2 k hb hw hr
      exact of_step_some (siminv_set s i _ h ⟨j2, j3⟩) j1

/-- **any history**: for ALL interleavings of insert, delete, re-insert, `begin`, `Next` and `Advance`,
starting from the empty list (or any state satisfying the invariant), every iterator call is accepted
by the property's iterator clauses — returned keys increase (strictly for `Next`), each returned key
is in the list when it is returned, no key that has been in the list ever since the iterator was opened
is skipped, and a false return leaves none of them behind — and the list stays a valid AVL tree. -/
theorem trace_ok (s : Sim α) (ops : List (Op α)) (h : SimInv s) (s' : Sim α) (cls : List (Option String))
    (hr : s.run ops = some (s', cls)) : SimInv s' ∧ ∀ cl ∈ cls, cl = none := by
  fun_induction Sim.run s ops generalizing s' cls with
  | case1 s => cases hr; exact ⟨h, nofun⟩
  | case2 s op ops he => cases hr
  | case3 s op ops s1 cl he he2 ih => cases hr
  | case4 s op ops s1 cl he s2 cls2 he2 ih =>
    cases hr
    obtain ⟨h1, hc⟩ := (trace_step s op h).1 s1 cl he
    obtain ⟨h2, hcs⟩ := ih h1 _ _ he2
    exact ⟨h2, fun c hcm => (List.mem_cons.1 hcm).elim (fun e => e ▸ hc) (hcs c)⟩

example : (Sim.run (⟨TreeList.empty, []⟩ : Sim Nat)
    [.ins 5 0, .ins 3 1, .ins 8 2, .begin, .next 0, .next 0, .del 5, .ins 5 3, .del 8, .next 0, .ins 9 4,
     .adv 0 4, .next 0, .next 0]).map (·.2) =
    some [none, none, none, none, none, none, none, none, none, none, none, none, none, none] := by decide

/-- the list-and-iterators part of `Sim.step` is the model's `World.step` (the C07 driver runs it for `ins` / `del` and
calls `Iter.next` / `Iter.advance`, its other two cases, directly) -/
theorem sim_world (s : Sim α) (op : Op α) :
    (s.step op).map (fun r => r.1.toWorld) = (s.toWorld.step op).map (·.1) := by
  cases op with
  | ins k p =>
    simp only [Sim.step, World.step, Sim.toWorld]
    cases s.list.insert k p <;> rfl
  | del k =>
    simp only [Sim.step, World.step, Sim.toWorld]
    cases s.list.delete k with
    | none => rfl
    | some r =>
      obtain ⟨l, f⟩ := r
      cases f <;> simp [List.map_map, Function.comp_def]
  | begin => simp [Sim.step, World.step, Sim.toWorld]
  | next i =>
    simp only [Sim.step, World.step, Sim.toWorld, List.getElem?_map]
    cases s.its[i]? with
    | none => rfl
    | some q => obtain ⟨it, c⟩ := q; simp [List.map_set]
  | adv i k =>
    simp only [Sim.step, World.step, Sim.toWorld, List.getElem?_map]
    cases s.its[i]? with
    | none => rfl
    | some q => obtain ⟨it, c⟩ := q; simp [List.map_set]

def IndexWF (ix : Index) : Prop := WF ix.lists ∧ ∀ e ∈ toList ix.lists.root, WF e.2

theorem indexwf_empty : IndexWF Index.empty := ⟨wf_empty, by simp [Index.empty, TreeList.empty, toList]⟩

theorem IndexWF.lookup {ix : Index} (h : IndexWF ix) {tok : Nat} {l : TreeList Nat}
    (hlk : ix.lists.root.lookup tok = some l) : WF l := h.2 (tok, l) (lookup_mem h.1.bst hlk)

example : (((Index.empty.add 5 1 [2, 0, 1]).bind (·.add 3 2 [0])).bind (·.remove 5 [0, 7])).map
    (fun ix => ix.lists.root.toList.map fun (t, l) => (t, l.toList)) =
    some [(0, [(3, 2)]), (1, [(5, 1)]), (2, [(5, 1)])] := by decide

def denote (ix : Index) (tok : Nat) : SortedMap.SMap Nat :=
  match ix.lists.root.lookup tok with
  | some l => l.toList
  | none => []

abbrev RefIx := Nat → SortedMap.SMap Nat

def refAdd (r : RefIx) (k g : Nat) : List Nat → RefIx
  | [] => r
  | tok :: rest => refAdd (fun t => if t = tok then SortedMap.insert (r tok) k g else r t) k g rest

def refRemove (r : RefIx) (k : Nat) : List Nat → RefIx
  | [] => r
  | tok :: rest => refRemove (fun t => if t = tok then SortedMap.erase (r tok) k else r t) k rest

theorem denote_some {ix : Index} {tok : Nat} {lst : TreeList Nat}
    (hlk : ix.lists.root.lookup tok = some lst) : denote ix tok = lst.toList := by
  unfold denote; rw [hlk]

/-- The step both `Add` and `Remove` take: the contents of the token tree become `insert … tok lst'` (by
`Insert` of a new token, or by mutating the list of a known one). -/
theorem index_set {ix : Index} (h : IndexWF ix) {ls : TreeList (TreeList Nat)} {tok : Nat} {lst' : TreeList Nat}
    (hw : WF ls) (hl : WF lst') (e : ls.toList = SortedMap.insert ix.lists.toList tok lst') :
    IndexWF ⟨ls⟩ ∧ denote ⟨ls⟩ = (fun t => if t = tok then lst'.toList else denote ix t) ∧
      ∀ t, t ∈ keys ls.root ↔ t = tok ∨ t ∈ keys ix.lists.root := by
  replace e : toList ls.root = SortedMap.insert (toList ix.lists.root) tok lst' := e
  refine ⟨⟨hw, fun en hen => ?_⟩, funext fun t => ?_, fun t => ?_⟩
  · rcases SM.mem_insert (e ▸ hen) with rfl | hm
    · exact hl
    · exact h.2 en hm
  · unfold denote
    rw [lookup_eq _ _ hw.bst, e, SM.lookup_insert, ← lookup_eq _ _ h.1.bst]
    by_cases c : t = tok
    · rw [if_pos c, if_pos c]
    · rw [if_neg c, if_neg c]
  · rw [← keys_toList, e, SM.mem_keys_insert, keys_toList]

theorem add_cons (ix : Index) (k g tok : Nat) (rest : List Nat) (h : IndexWF ix) :
    ∃ ix1, ix.add k g (tok :: rest) = ix1.add k g rest ∧ IndexWF ix1 ∧
      denote ix1 = (fun t => if t = tok then SortedMap.insert (denote ix tok) k g else denote ix t) ∧
      ∀ t, t ∈ keys ix1.lists.root ↔ t = tok ∨ t ∈ keys ix.lists.root := by
  rw [Index.add]
  cases hlk : ix.lists.root.lookup tok with
  | some lst =>
    obtain ⟨lst', e, hw', hl'⟩ := treelist_insert lst k g (h.lookup hlk)
    obtain ⟨hw2, e2⟩ := treelist_update ix.lists tok (fun _ => lst') h.1 hlk
    obtain ⟨hwf1, hd1, hk1⟩ := index_set h hw2 hw' e2
    exact ⟨_, by simp only [e], hwf1, by rw [hd1, hl', denote_some hlk], hk1⟩
  | none =>
    obtain ⟨lst', e, hw', hl'⟩ := treelist_insert (TreeList.empty : TreeList Nat) k g wf_empty
    obtain ⟨ls, e2, hw2, hl2⟩ := treelist_insert ix.lists tok lst' h.1
    obtain ⟨hwf1, hd1, hk1⟩ := index_set h hw2 hw' hl2
    exact ⟨⟨ls⟩, by simp only [e, e2], hwf1, by rw [hd1, hl', denote, hlk]; rfl, hk1⟩

/-- `Add(v, tokens)`: no panic, everything stays valid, and the denotation changes exactly as in the
reference (`v` inserted — or its payload replaced — under every listed token, nothing else touched);
the set of known tokens grows by the listed ones. -/
theorem index_add_spec (ix : Index) (k g : Nat) (toks : List Nat) (h : IndexWF ix) :
    ∃ ix', ix.add k g toks = some ix' ∧ IndexWF ix' ∧
      (∀ t, denote ix' t = refAdd (denote ix) k g toks t) ∧
      (∀ t, t ∈ keys ix'.lists.root ↔ t ∈ keys ix.lists.root ∨ t ∈ toks) := by
  induction toks generalizing ix with
  | nil => exact ⟨ix, rfl, h, fun _ => rfl, by simp⟩
  | cons tok rest ih =>
    obtain ⟨ix1, ea, hwf1, hd1, hk1⟩ := add_cons ix k g tok rest h
    obtain ⟨ix', e', hwf', hd, hk⟩ := ih ix1 hwf1
    refine ⟨ix', ea.trans e', hwf', fun t => by rw [hd t, hd1]; rfl, fun t => ?_⟩
    rw [hk t, hk1 t, List.mem_cons, or_assoc]
    exact or_left_comm

/-- an unknown token denotes `[]` before and after -/
theorem remove_cons (ix : Index) (k tok : Nat) (rest : List Nat) (h : IndexWF ix) :
    ∃ ix1, ix.remove k (tok :: rest) = ix1.remove k rest ∧ IndexWF ix1 ∧
      denote ix1 = (fun t => if t = tok then SortedMap.erase (denote ix tok) k else denote ix t) ∧
      keys ix1.lists.root = keys ix.lists.root ∧ ix1.lists.length = ix.lists.length := by
  rw [Index.remove]
  cases hlk : ix.lists.root.lookup tok with
  | some lst =>
    obtain ⟨lst', f, e, hw', hl', _⟩ := treelist_delete lst k (h.lookup hlk)
    obtain ⟨hw2, e2⟩ := treelist_update ix.lists tok (fun _ => lst') h.1 hlk
    obtain ⟨hwf1, hd1, -⟩ := index_set h hw2 hw' e2
    exact ⟨_, by simp only [e], hwf1, by rw [hd1, hl', denote_some hlk], update_keys _ _ _, rfl⟩
  | none =>
    refine ⟨ix, rfl, h, funext fun t => ?_, rfl, rfl⟩
    by_cases c : t = tok
    · rw [if_pos c, c, denote, hlk]; rfl
    · rw [if_neg c]

/-- `Remove(v, tokens)`: `v` erased under every listed token; token entries are never removed. -/
theorem index_remove_spec (ix : Index) (k : Nat) (toks : List Nat) (h : IndexWF ix) :
    ∃ ix', ix.remove k toks = some ix' ∧ IndexWF ix' ∧
      (∀ t, denote ix' t = refRemove (denote ix) k toks t) ∧
      keys ix'.lists.root = keys ix.lists.root ∧ ix'.lists.length = ix.lists.length := by
  induction toks generalizing ix with
  | nil => exact ⟨ix, rfl, h, fun _ => rfl, rfl, rfl⟩
  | cons tok rest ih =>
    obtain ⟨ix1, ea, hwf1, hd1, hk1, hn1⟩ := remove_cons ix k tok rest h
    obtain ⟨ix', e', hwf', hd, hk, hn⟩ := ih ix1 hwf1
    exact ⟨ix', ea.trans e', hwf', fun t => by rw [hd t, hd1]; rfl, hk.trans hk1, hn.trans hn1⟩

/-- **`TreeIndex.Add(v, tokens)`** for any token list: no panic, and the token tree and all value lists
are still valid AVL trees with correct lengths. -/
theorem index_add_inv (ix : Index) (k g : Nat) (toks : List Nat) (h : IndexWF ix) :
    ∃ ix', ix.add k g toks = some ix' ∧ IndexWF ix' := by
  obtain ⟨ix', e, h', _⟩ := index_add_spec ix k g toks h
  exact ⟨ix', e, h'⟩

/-- **`TreeIndex.Remove(v, tokens)`** likewise (tokens that are unknown are skipped, token entries are
never removed). -/
theorem index_remove_inv (ix : Index) (k : Nat) (toks : List Nat) (h : IndexWF ix) :
    ∃ ix', ix.remove k toks = some ix' ∧ IndexWF ix' := by
  obtain ⟨ix', e, h', _⟩ := index_remove_spec ix k toks h
  exact ⟨ix', e, h'⟩

inductive IxOp where
  | add (k g : Nat) (toks : List Nat)
  | remove (k : Nat) (toks : List Nat)

def applyIx (ix : Index) : List IxOp → Option Index
  | [] => some ix
  | .add k g toks :: ops =>
    match ix.add k g toks with
    | some ix' => applyIx ix' ops
    | none => none
  | .remove k toks :: ops =>
    match ix.remove k toks with
    | some ix' => applyIx ix' ops
    | none => none

def specIx (r : RefIx) : List IxOp → RefIx
  | [] => r
  | .add k g toks :: ops => specIx (refAdd r k g toks) ops
  | .remove k toks :: ops => specIx (refRemove r k toks) ops

def tokensEver : List IxOp → List Nat
  | [] => []
  | .add _ _ toks :: ops => toks ++ tokensEver ops
  | .remove _ _ :: ops => tokensEver ops

theorem index_contents_from (ix : Index) (h : IndexWF ix) (ops : List IxOp) :
    ∃ ix', applyIx ix ops = some ix' ∧ IndexWF ix' ∧
      (∀ t, denote ix' t = specIx (denote ix) ops t) ∧
      (∀ t, t ∈ keys ix'.lists.root ↔ t ∈ keys ix.lists.root ∨ t ∈ tokensEver ops) := by
  induction ops generalizing ix with
  | nil => exact ⟨ix, rfl, h, fun _ => rfl, by simp [tokensEver]⟩
  | cons op ops ih =>
    cases op with
    | add k g toks =>
      obtain ⟨ix1, e1, h1, d1, k1⟩ := index_add_spec ix k g toks h
      obtain ⟨ix2, e2, h2, d2, k2⟩ := ih ix1 h1
      refine ⟨ix2, by simp [applyIx, e1, e2], h2, fun t => ?_, fun t => ?_⟩
      · rw [d2 t, show denote ix1 = refAdd (denote ix) k g toks from funext d1]
        rfl
      · rw [k2 t, k1 t]
        simp only [tokensEver, List.mem_append, or_assoc]
    | remove k toks =>
      obtain ⟨ix1, e1, h1, d1, k1, _⟩ := index_remove_spec ix k toks h
      obtain ⟨ix2, e2, h2, d2, k2⟩ := ih ix1 h1
      refine ⟨ix2, by simp [applyIx, e1, e2], h2, fun t => ?_, fun t => by rw [k2 t, k1]; rfl⟩
      rw [d2 t, show denote ix1 = refRemove (denote ix) k toks from funext d1]
      rfl

/-- **TreeIndex contents.** After ANY history of `Add(value, tokens)` / `Remove(value, tokens)` on an
empty index: no call panicked; the token tree and every per-token list are valid AVL trees; under every
token the index holds exactly the reference's values (`denote` = the history replayed on a plain function
token ↦ sorted association list; an unknown token and a token whose set has become empty both denote `[]`)
in strictly increasing order, and the list's `Len()` is their number; the known tokens are exactly the
tokens some `Add` mentioned, in increasing order, and `NumTokens()` is their number. -/
theorem index_contents (ops : List IxOp) :
    ∃ ix, applyIx Index.empty ops = some ix ∧ IndexWF ix ∧
      (∀ t, denote ix t = specIx (fun _ => []) ops t) ∧
      (∀ t, SortedMap.Sorted (denote ix t)) ∧
      (∀ t l, ix.lists.root.lookup t = some l → l.length = ((denote ix t).length : Int)) ∧
      (∀ t, t ∈ keys ix.lists.root ↔ t ∈ tokensEver ops) ∧
      (keys ix.lists.root).Pairwise (· < ·) ∧
      ix.lists.length = ((keys ix.lists.root).length : Int) := by
  obtain ⟨ix, e, h, d, k⟩ := index_contents_from Index.empty indexwf_empty ops
  refine ⟨ix, e, h, ?_, ?_, ?_, ?_, ?_, ?_⟩
  · intro t; rw [d t]; rfl
  · intro t
    unfold denote
    cases hlk : ix.lists.root.lookup t with
    | none => simp [SortedMap.Sorted, SortedMap.keys]
    | some l => exact (bst_iff_sorted _).1 (h.lookup hlk).bst
  · intro t l hlk
    have := (h.lookup hlk).2
    simp only [denote, hlk]
    exact this
  · intro t
    rw [k t]
    simp [Index.empty, TreeList.empty, keys]
  · have := (bst_iff_sorted _).1 h.1.bst
    rw [← keys_toList]; exact this
  · have := h.1.2
    rw [keys_eq]; simpa using this

/-- "tokens with an empty set are absent, `NumTokens` = number of non-empty tokens" does NOT hold of the
code: `Remove` never drops a token entry, so an emptied token is still listed by `Tokens()` and counted by
`NumTokens()` (its `Begin` yields nothing, like an unknown token's).  Witness: add 5 under token 0, remove it. -/
theorem numtokens_counts_emptied_tokens_counterexample :
    (applyIx Index.empty [.add 5 1 [0], .remove 5 [0]]).map
      (fun ix => (ix.lists.length, keys ix.lists.root, denote ix 0)) = some (1, [0], []) := by decide

example : (applyIx Index.empty [.add 5 1 [2, 0], .add 3 2 [0], .remove 5 [0, 7], .add 3 9 [0]]).map
    (fun ix => (denote ix 0, denote ix 2, denote ix 7, ix.lists.length)) =
    some ([(3, 9)], [(5, 1)], [], 2) := by decide

/-- **`Begin(token)` iterates exactly the token's set**: for a well-formed index, the iterator `Begin`
hands out for a known token — a fresh iterator over that token's list — returns, run to the end, the keys of
`denote ix token` in increasing order; an unknown token denotes `[]` (and `Begin` gives the empty iterator). -/
theorem index_begin_drain (ix : Index) (h : IndexWF ix) (tok : Nat) :
    match ix.lists.root.lookup tok with
    | some l => drain l.root ((keys l.root).length + 1) {} = (denote ix tok).map (·.1)
    | none => denote ix tok = [] := by
  cases hlk : ix.lists.root.lookup tok with
  | none => simp [denote, hlk]
  | some l =>
    simp only [denote, hlk]
    rw [drain_fresh l.root (h.lookup hlk).bst, keys_eq]; rfl

end B6.Props.C07
