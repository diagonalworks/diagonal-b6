import B6.Lemmas.TileEncoder
/-!
# C33 — Vector tile geometry decodes to the projected feature

Theorems about `B6.Model.TileEncoder` (the model of `renderer.Encoder` / `EncodeTile`, encoder.go) against a
decoder written from the Mapbox Vector Tile spec 2.1 command grammar.

Geometry: what the encoder writes for a well-formed geometry (`Geom.wellFormed`: a line of 2 … 2^29 points, loops of
0, 1 or 3 … 2^29 points, any number of loops) whose cursor deltas fit an int32 decodes, by the grammar of the
feature's own type, to the projected coordinates relative to the tile origin, holes backwards from their first vertex;
the deltas fit for everything within 2^30 units of the origin.  Winding: a decoded hole has minus the signed area of
its loop, a decoded outer ring the same area.  Tags: every feature's tag words decode through the layer's final key /
value tables.  `zigzagDecode` (the repaired Go function) and `paramValue` (what a reader following the specification
computes) are one definition in the model; `zigzag_roundtrip` is about both.
-/
namespace B6.Props.C33
open B6.Model.TileEncoder B6.Lemmas.TileEncoder

theorem zigzag_roundtrip (d : Int) (h : inInt32 d) : zigzagDecode (zigzagEncode d) = d :=
  paramValue_zigzagEncode d h

example : inInt32 (-2147483648) ∧ zigzagEncode (-2147483648) = 4294967295 := by decide +kernel

/-- zigzag is a bijection on 32-bit words (both directions, all 2^32 values) -/
theorem zigzag32_bijective (v : BitVec 32) : unzigzag32 (zigzag32 v) = v ∧ zigzag32 (unzigzag32 v) = v :=
  ⟨unzigzag32_zigzag32 v, zigzag32_unzigzag32 v⟩

/-- the unrepaired `zigzagDecode` (arithmetic shift) returned -2^30 for the encoding of 2^30 -/
theorem zigzagDecodeArith_counterexample :
    (zigzagDecodeArith (zigzag32 (BitVec.ofInt 32 1073741824))).toInt ≠ 1073741824 := by decide +kernel

/-- **C33, geometry.** For every encoder state `e` (any earlier features of the layer) and every well-formed
geometry whose cursor deltas fit an int32, encoding succeeds and the command stream of the new feature decodes —
by the MVT 2.1 grammar for the feature's own type — to the projected coordinates relative to the tile origin. -/
theorem tile_geometry_roundtrip (e : Enc) (g : Geom) (hwf : g.wellFormed)
    (hr : DeltasOk (e.ox, e.oy) g.visited) :
    ∃ e' f, encodeGeom e g = some e' ∧ e'.cur = some f ∧ f.ftype = g.ftype ∧
      decodeGeometry f.ftype f.geometry = some (g.expected (e.ox, e.oy)) := by
  have hne : g ≠ .line [] := by rintro rfl; simp [Geom.wellFormed] at hwf
  refine ⟨_, _, encodeGeom_wrote e g hne, wrote_cur .., rfl, ?_⟩
  show (decodeOps (scriptWords (e.ox, e.oy) (script g))).bind (readOps g.ftype) = _
  rw [decodeOps_scriptWords _ _ (script_ok g hwf) (visited_script g ▸ hr)]
  exact grammar_script (e.ox, e.oy) g hwf

/-- a polygon with a hole, tile origin (4096, 8192): hypotheses hold and the statement is not vacuous -/
def exPolygon : Geom := .polygon [(false, [(4100, 8200), (4200, 8200), (4200, 8300), (4100, 8300)]),
  (true, [(4120, 8220), (4180, 8220), (4180, 8280)]), (false, [(1, 1)])]

example : exPolygon.wellFormed ∧ DeltasOk (4096, 8192) exPolygon.visited := by
  refine ⟨?_, by decide +kernel⟩
  intro l hl
  simp only [List.mem_cons, List.not_mem_nil, or_false] at hl
  rcases hl with h | h | h <;> subst h <;> decide

example : (encodeGeom (newEncoder 4096 8192) exPolygon).bind (fun e => e.cur.map (·.geometry)) =
    some [9, 8, 16, 26, 200, 0, 0, 200, 199, 0, 15, 9, 40, 159, 18, 120, 120, 0, 119, 15] := by decide +kernel

example : decodeGeometry 3 [9, 8, 16, 26, 200, 0, 0, 200, 199, 0, 15, 9, 40, 159, 18, 120, 120, 0, 119, 15] =
    some (.rings [[(4, 8), (104, 8), (104, 108), (4, 108)], [(24, 28), (84, 88), (84, 28)]]) := by decide +kernel

/-- every coordinate within 2^30 of the tile origin (in particular everything inside the tile) -/
def Geom.near (o : Pt) (g : Geom) : Prop :=
  ∀ p ∈ g.visited, -1073741824 ≤ p.1 - o.1 ∧ p.1 - o.1 < 1073741824 ∧ -1073741824 ≤ p.2 - o.2 ∧ p.2 - o.2 < 1073741824

theorem inInt32_sub_of_near (o x c : Int) (hx : -1073741824 ≤ x - o ∧ x - o < 1073741824)
    (hc : -1073741824 ≤ c - o ∧ c - o < 1073741824) : inInt32 (x - c) := by
  unfold inInt32; omega

theorem deltasOk_of_near (o : Pt) : ∀ (pts : List Pt) (c : Pt),
    (-1073741824 ≤ c.1 - o.1 ∧ c.1 - o.1 < 1073741824 ∧ -1073741824 ≤ c.2 - o.2 ∧ c.2 - o.2 < 1073741824) →
    (∀ p ∈ pts, -1073741824 ≤ p.1 - o.1 ∧ p.1 - o.1 < 1073741824 ∧ -1073741824 ≤ p.2 - o.2 ∧ p.2 - o.2 < 1073741824) →
    DeltasOk c pts
  | [], _, _, _ => trivial
  | p :: ps, c, hc, h =>
    have hp := h p List.mem_cons_self
    ⟨inInt32_sub_of_near o.1 p.1 c.1 ⟨hp.1, hp.2.1⟩ ⟨hc.1, hc.2.1⟩,
     inInt32_sub_of_near o.2 p.2 c.2 hp.2.2 hc.2.2,
     deltasOk_of_near o ps p hp (fun q hq => h q (List.mem_cons_of_mem _ hq))⟩

/-- **C33, geometry inside a tile**: no range hypothesis is left when the feature lies within 2^30 units of the
tile origin (a tile is 4096 units wide). -/
theorem tile_geometry_roundtrip_in_tile (e : Enc) (g : Geom) (hwf : g.wellFormed) (hn : Geom.near (e.ox, e.oy) g) :
    ∃ e' f, encodeGeom e g = some e' ∧ e'.cur = some f ∧ f.ftype = g.ftype ∧
      decodeGeometry f.ftype f.geometry = some (g.expected (e.ox, e.oy)) :=
  tile_geometry_roundtrip e g hwf (deltasOk_of_near (e.ox, e.oy) g.visited (e.ox, e.oy) (by simp) hn)

example : Geom.near (4096, 8192) exPolygon := by
  intro p hp
  simp only [exPolygon, Geom.visited, List.filter, ringOrder] at hp
  revert p
  decide +kernel

/-- **C33, winding.** The ring a loop decodes to has the loop's signed area (surveyor's formula, tile
coordinates) when it is an outer loop and minus that area when it is a hole. -/
theorem tile_winding_opposite (o : Pt) (hole : Bool) (pts : List Pt) :
    area2 ((ringOrder hole pts).map (rel o)) = if hole then - area2 pts else area2 pts := by
  rw [area2_rel]
  cases hole with
  | true => simp [area2_ringOrder_hole]
  | false => cases pts <;> simp [ringOrder]

/-- loops that all turn the same way (as the loops of an `s2.Polygon` do) decode to outer rings of that
orientation and holes of the opposite one -/
theorem tile_winding_signs (o : Pt) (loops : List (Bool × List Pt)) (hpos : ∀ l ∈ loops, 0 < area2 l.2) :
    ∀ l ∈ loops, (l.1 = false → 0 < area2 ((ringOrder l.1 l.2).map (rel o))) ∧
                 (l.1 = true → area2 ((ringOrder l.1 l.2).map (rel o)) < 0) := by
  intro l hl
  have h := hpos l hl
  rw [tile_winding_opposite]
  constructor <;> intro hh <;> simp [hh] <;> omega

example : area2 [(0, 0), (10, 0), (10, 10), (0, 10)] = 200 ∧
    area2 ((ringOrder true [(0, 0), (10, 0), (10, 10), (0, 10)]).map (rel (5, 7))) = -200 := by decide +kernel

def tagCount (fs : List FeatureIn) : Nat := (fs.map fun f => f.tags.length).sum

def expectedTags (fs : List FeatureIn) : List (List (String × Val)) :=
  fs.map fun f => f.tags.map fun (k, v) => (k, Val.str v)

theorem encodeFeatures_inv : ∀ (fs : List FeatureIn) (e e' : Enc) (exp : List (List (String × Val))), LayerTagsOk e exp →
    e.keys.length + tagCount fs ≤ 2 ^ 32 → e.values.length + tagCount fs ≤ 2 ^ 32 →
    encodeFeatures e fs = some e' → LayerTagsOk e' (exp ++ expectedTags fs)
  | [], e, e', exp, hinv, _, _, h => by
    simp only [encodeFeatures, Option.some.injEq] at h
    subst h; simpa [expectedTags] using hinv
  | f :: fs, e, e', exp, hinv, hk, hvl, h => by
    simp only [tagCount, List.map_cons, List.sum_cons] at hk hvl
    obtain ⟨e1, h1, h⟩ := Option.bind_eq_some_iff.1 h
    obtain ⟨hinv1, hk1, hv1⟩ := encodeFeature_inv e e1 f exp hinv (by omega) (by omega) h1
    have := encodeFeatures_inv fs e1 e' _ hinv1 (by unfold tagCount; omega) (by unfold tagCount; omega) h
    simpa [expectedTags, List.append_assoc] using this

/-- **C33, tags.** When a layer of a tile has been encoded (at most 2^32 tags in all), the tag words of its
i-th feature decode, through the layer's final key and value tables, to the i-th feature's tags — keys and values,
in the order they were written. -/
theorem tile_tags_roundtrip (x y : Nat) (fs : List FeatureIn) (e' : Enc) (hsize : tagCount fs ≤ 2 ^ 32)
    (h : encodeLayer x y fs = some e') :
    TagsOk e'.keys e'.values (e'.features.map (·.tags)) (expectedTags fs) := by
  have := encodeFeatures_inv fs (newEncoder (tileOrigin x y).1 (tileOrigin x y).2) e' [] trivial
    (by simpa [newEncoder] using hsize) (by simpa [newEncoder] using hsize) h
  simpa [LayerTagsOk, tagWords] using this

/-- two features sharing a key and a value: tables are interned once, both features decode -/
def exFeatures : List FeatureIn :=
  [{ geom := .point (5, 6), id := 7, tags := [("class", "fountain"), ("name", "x")] },
   { geom := .point (8, 9), id := 0, tags := [("name", "fountain")] }]

example : (encodeLayer 0 0 exFeatures).map (fun e => (e.keys, e.values, e.features.map (·.tags))) =
    some (["class", "name"], [.str "fountain", .str "x"], [[0, 0, 1, 1], [1, 0]]) := by decide +kernel

example : decodeTags ["class", "name"] [.str "fountain", .str "x"] [1, 0] = some [("name", .str "fountain")] := by
  decide +kernel

end B6.Props.C33
