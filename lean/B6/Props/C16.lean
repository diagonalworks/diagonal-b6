import B6.Lemmas.OverlayBfs
/-!
# C16 — Overlay worlds shadow the base consistently

Model: `B6.Model.OverlayWorld` (ingest/overlay.go `overlayFeatures`, `OverlayWorld`; the same iterator
serves `MutableOverlayWorld.FindFeatures`), mirroring the code after the repairs in
/verif/fixes/C16-*.patch.

The search iterator yields the sorted merge of the overlay's sequence with the base's sequence minus the filtered
IDs (`overlay_merge`; without sortedness `overlay_refines_merge`). Enumeration, lookups and reference queries
(`FindReferences`, `FindRelationsByFeature`, …) answer as in ONE feature set, `OW.merged`: the overlay's features, then the
base's whose ID the overlay does not hold. For the reference queries that needs the closure over both layers
(`union_refs`: all pairs of layers with distinct IDs within a layer whose own reference queries answer; chains may
alternate, cycles); the by-ID union of the layers' answers it replaced is exact only for `OW.independent` layers
(`union_refs_partial`). The counterexamples evaluate the model of the code before each repair.
-/
namespace B6.Props.C16
open B6.Model.OverlayWorld B6.Lemmas.OverlayMerge B6.Lemmas.OverlayWorld B6.Lemmas.OverlayBfs B6.Spec.Referrers

/-- For ALL base / overlay sequences and filters such that every overlay
ID is in the filter (the filter is the overlay world itself, or `m.features`), `newOverlayFeatures`
terminates without reading an exhausted iterator and yields exactly `merge`. -/
theorem overlay_refines_merge {α : Type} (filter : Id → Bool) (base ov : List (Id × α))
    (hf : ∀ x ∈ ov, filter x.1 = true) :
    mergeIter filter base ov = some (merge ov (base.filter fun z => !filter z.1)) :=
  drain_init filter base ov hf (Nat.lt_succ_self _)

/-- With sorted duplicate-free inputs: the output is strictly increasing in ID
(so each ID occurs once), consists of the overlay's elements (flagged as read from the overlay, with
the overlay's feature) and of the base's elements whose ID is not in the filter — nothing else. -/
theorem overlay_merge {α : Type} (filter : Id → Bool) (base ov : List (Id × α))
    (hb : SortedIds base) (ho : SortedIds ov) (hf : ∀ x ∈ ov, filter x.1 = true) :
    ∃ out, mergeIter filter base ov = some out ∧ SortedIds out ∧ (out.map (·.1)).Nodup ∧
      ∀ e, e ∈ out ↔ ((∃ x ∈ ov, e = (x.1, x.2, true)) ∨
                      (∃ y ∈ base, filter y.1 = false ∧ e = (y.1, y.2, false))) := by
  have hs : SortedIds (merge ov (base.filter fun z => !filter z.1)) := by
    refine merge_sorted _ _ ho (sorted_filter _ _ hb) fun x hx y hy e => ?_
    have h2 := (List.mem_filter.mp hy).2
    rw [← e, hf x hx] at h2
    cases h2
  refine ⟨_, overlay_refines_merge filter base ov hf, hs, sorted_nodup _ hs, fun e => ?_⟩
  rw [mem_merge]
  simp only [List.mem_filter, Bool.not_eq_true', and_assoc]

/-- non-vacuity: base p1 p2 w1, overlay p2 r1 (both sorted), filter = the overlay's IDs -/
example : mergeIter (fun i => i = (0, 2) || i = (3, 1)) [((0, 1), "b"), ((0, 2), "b"), ((1, 1), "b")]
    [((0, 2), "o"), ((3, 1), "o")] =
    some [((0, 1), "b", false), ((0, 2), "o", true), ((1, 1), "b", false), ((3, 1), "o", true)] := by
  decide

/-- `FindFeatureByID` answers with the feature of the shadowed feature set. -/
theorem lookup_shadow (w : OW) (id : Id) : w.get id = w.merged.find id := by
  have happ : w.merged.find id =
      (w.overlay.find id).or (Layer.find (w.base.filter fun f => !w.overlay.has f.id) id) :=
    List.find?_append
  rw [happ, OW.get]
  cases ho : w.overlay.find id with
  | some f => rfl
  | none =>
    -- the filter keeps every base feature with this ID, since the overlay does not hold it
    exact (find_filter _ _ _ fun f _ e => by rw [e, Layer.has, ho]; rfl).symm

theorem has_shadow (w : OW) (id : Id) : w.has id = w.merged.has id := by
  unfold OW.has Layer.has
  rw [← lookup_shadow, OW.get]
  cases w.overlay.find id <;> rfl

/-- `FindLocationByID` (after the repair) answers for the shadowed feature set:
an overlay feature without a location hides the base's location. -/
theorem location_shadow (w : OW) (id : Id) : w.loc id = w.merged.loc id := by
  unfold OW.loc Layer.loc Layer.has
  rw [← lookup_shadow, OW.get]
  cases w.overlay.find id <;> rfl

/-- `EachFeature` yields every ID of the layered world exactly once; a feature of the
overlay is yielded as such, a base feature only when the overlay does not hold its ID. -/
theorem each_once (w : OW) (ho : (w.overlay.map (·.id)).Nodup) (hb : (w.base.map (·.id)).Nodup) :
    (w.each.map (·.id)).Nodup ∧
    ∀ f, f ∈ w.each ↔ (f ∈ w.overlay ∨ (f ∈ w.base ∧ w.overlay.has f.id = false)) :=
  ⟨each_nodup w ho hb, mem_each w⟩

/-- `OverlayWorld.FindReferences` (and `FindRelationsByFeature`, `FindCollectionsByFeature`,
`FindAreasByPoint`, which call it with their type) after fixes/C16-union-refs-closure.patch — for ALL
pairs of layers with distinct IDs, whatever way reference chains alternate between them, cycles
included: the query terminates and returns exactly the features that reference `id` directly or
through a chain WITHIN THE SHADOWED FEATURE SET, of the requested types, each once, as their current
versions. (`hlayers`: each layer's own `FindReferences` answers. The model takes a layer's answer from
`B6.Spec.Referrers.referrers`, which gives up when its round bound is exceeded; that the bound suffices is not
proved, so it stays a hypothesis. For the code the corresponding fact is C15 `find_refs_terminates`, about the
index query.) -/
theorem union_refs (w : OW) (ho : (w.overlay.map (·.id)).Nodup) (hb : (w.base.map (·.id)).Nodup)
    (hlayers : ∀ x, (w.stepCands x).isSome = true) (id : Id) (typed : List Nat) :
    ∃ R, w.findRefs id typed = some R ∧ (R.map (·.id)).Nodup ∧ (∀ f ∈ R, f ∈ w.merged) ∧
      ∀ s, (∃ f ∈ R, f.id = s) ↔ (ReachPlus (rl w.merged) id s ∧ typeOk typed s = true) := by
  have hlen : w.merged.length ≤ w.overlay.length + w.base.length := by
    simp only [OW.merged, OW.each, List.length_append]
    have := List.length_filter_le (fun f => !w.overlay.has f.id) w.base
    omega
  obtain ⟨R0, hR0, hfin⟩ := bfs_spec w ho hb id hlayers (w.base.length + w.overlay.length + 2) [id] [] (.init w id)
    (by simp only [List.length_cons, List.length_nil]; omega)
  refine ⟨R0.filter (fun f => typeOk typed f.id), by simp [OW.findRefs, hR0], ?_, ?_, ?_⟩
  · exact List.Nodup.sublist (List.Sublist.map _ List.filter_sublist) hfin.nodup
  · intro f hf; exact (hfin.sound f (List.mem_filter.mp hf).1).1
  · intro s
    constructor
    · rintro ⟨f, hf, rfl⟩
      obtain ⟨h1, h2⟩ := List.mem_filter.mp hf
      exact ⟨(hfin.sound f h1).2, h2⟩
    · rintro ⟨hr, ht⟩
      obtain ⟨f, hf, hid⟩ := List.mem_map.mp (closed_complete hfin s hr)
      exact ⟨f, List.mem_filter.mpr ⟨hf, by rw [hid]; exact ht⟩, hid⟩

/-- the by-ID union that the closure replaced was exact only for non-interleaving layers -/
theorem union_refs_partial (w : OW) (hind : w.independent = true) (id : Id) (typed : List Nat) (R : List Feat)
    (h : w.findRefsUnion id typed = some R) :
    (∀ s, (∃ f ∈ R, f.id = s) ↔ (ReachPlus (rl w.merged) id s ∧ typeOk typed s = true)) ∧
    (∀ f ∈ R, f ∈ w.merged) :=
  B6.Lemmas.OverlayWorld.union_refs w hind id typed R h

def p1 : Id := (0, 1)
def p2 : Id := (0, 2)
def r5 : Id := (3, 5)
def r6 : Id := (3, 6)

/-- base: points 1, 2 and relation 5 = [point 1]; overlay: relation 5 = [point 2] -/
def staleW : OW :=
  { base := [⟨p1, "b", [], some 1⟩, ⟨p2, "b", [], some 2⟩, ⟨r5, "b", [p1], none⟩],
    overlay := [⟨r5, "o", [p2], none⟩] }

/-- Before `fixes/C16-overlay-union-skip-shadowed.patch` the base
version of relation 5 is returned for point 1 although the current relation 5 does not contain it;
after it nothing is. -/
theorem stale_relation_counterexample :
    staleW.findRefsOld p1 [3] = some [⟨r5, "b", [p1], none⟩] ∧ staleW.specRefs p1 [3] = some [] ∧
    staleW.findRefsUnion p1 [3] = some [] ∧ staleW.findRefs p1 [3] = some [] := by decide

example : staleW.independent = true := by decide

/-- base: point 1, relation 5 = [point 1]; overlay: relation 6 = [relation 5] -/
def crossW : OW :=
  { base := [⟨p1, "b", [], some 1⟩, ⟨r5, "b", [p1], none⟩], overlay := [⟨r6, "o", [r5], none⟩] }

/-- Relation 6 references point 1 through relation 5 of the other layer; the union of the layers' own answers
missed it, the closure finds it. -/
theorem cross_layer_counterexample :
    crossW.independent = false ∧
    crossW.findRefsUnion p1 [3] = some [⟨r5, "b", [p1], none⟩] ∧
    crossW.specRefs p1 [3] = some [⟨r5, "b", [p1], none⟩, ⟨r6, "o", [r5], none⟩] ∧
    crossW.findRefs p1 [3] = some [⟨r5, "b", [p1], none⟩, ⟨r6, "o", [r5], none⟩] := by decide

/-- non-vacuity of `union_refs`: its two duplicate-freeness hypotheses hold for the crossing layers (`hlayers`
quantifies over all IDs; `cross_layer_counterexample` evaluates the query on these layers) -/
example : (crossW.overlay.map (·.id)).Nodup ∧ (crossW.base.map (·.id)).Nodup := ⟨by decide, by decide⟩

/-- base point 1 at slot 1; the overlay's point 1 has no location -/
def locW : OW := { base := [⟨p1, "b", [], some 1⟩], overlay := [⟨p1, "o", [], none⟩] }

/-- Before `fixes/C16-location-shadow.patch` the base's
location is returned for a point whose overlay version has none. -/
theorem location_fallthrough_counterexample :
    locW.locOld p1 = some 1 ∧ locW.merged.loc p1 = none ∧ locW.loc p1 = none := by decide

end B6.Props.C16
