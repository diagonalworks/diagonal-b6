import B6.Model.Locksets
import B6.Lemmas.Locksets
import B6.Gen.Locksets
/-!
# C35 — Concurrent readers and parallel builders are race-free   (level: proof, partial)

**Proved**, for all interleavings and any number of goroutines: a common mutex held at every access to a cell excludes a
race on it (`lockset_sound`); the lazily cached fields of the compact world (`FeaturesByID.cache`,
`wrappedMarshalledPhysicalFeature.polyline`, `marshalledArea.geometry/polygons`) are accessed so, by the table that
`/verif/tools/locksets` regenerates from the source on every run (`B6.Gen.Locksets`; `compact_cells_race_free`); the fill-once
cell and `FindFeatureByID` with its LRU answer what the uncached code answers (`cache_transparent`, `lru_transparent`); in the
two validation stages of `BasicWorldBuilder.Finish`, as written and as extracted, no worker writes a feature another worker of
the stage reads or writes (`finish_stage_race_free`, `finish_extracted_stages_race_free`), and with one stage for everything,
the code before `fixes/C37-finish-validate-paths-before-areas.patch`, one does (`finish_single_stage_conflict`).
What is **checked against the source** (by evaluating the regenerated file): the ways the cells are accessed (kind and lock state, whichever method), that every
access of an entry method is under the struct's own lock, that the two lock-free helpers are only called with
the lock held and only from their own type, that nothing else in the package touches the cells, that every write
to another field of a mutex-bearing struct is under its lock or in an exempt method, and the shape of `Finish`.
What is **exploration** only: everything the race detector run covers beyond these cells (see notes/C35.md).
-/
namespace B6.Props.C35
open B6.Model.Proto B6.Model.Locksets B6.Lemmas.Locksets

/-! ## generic: locksets -/

/-- **Lockset soundness.** If every access to cell `x`, in every thread's program, is made while holding
mutex `L` — or no program writes `x` at all — then in no reachable state are two different threads both about
to access `x` with one of the accesses a write. -/
theorem lockset_sound (progs : List (List Action)) (x L : Nat)
    (hd : Disciplined progs x L ∨ ∀ p ∈ progs, Action.write x ∉ p)
    (s : LState) (hr : Reachable lstep (linit progs) s) : ¬ RacyOn s x := by
  have hinv := reachable_linv hr
  rintro ⟨i, j, ti, tj, ai, aj, hij, hi, hj, hni, hnj, hci, hcj, hw⟩
  have hpi : ti.prog ∈ progs := by
    rw [← hinv.shape]; exact List.mem_map.mpr ⟨ti, List.mem_of_getElem? hi, rfl⟩
  have hpj : tj.prog ∈ progs := by
    rw [← hinv.shape]; exact List.mem_map.mpr ⟨tj, List.mem_of_getElem? hj, rfl⟩
  rcases hd with hd | hro
  · have o1 := (hinv.own L i).mpr (held_of hi ▸ hd ti.prog hpi ti.pc ai hni hci)
    have o2 := (hinv.own L j).mpr (held_of hj ▸ hd tj.prog hpj tj.pc aj hnj hcj)
    rw [o1] at o2
    exact hij (by simpa using o2)
  · rcases hw with hw | hw
    · exact hro ti.prog hpi (isWrite_cell hw hci ▸ List.mem_of_getElem? hni)
    · exact hro tj.prog hpj (isWrite_cell hw hcj ▸ List.mem_of_getElem? hnj)

/-! ## the cache cells -/

/-- **The fill-once cell is transparent** (`polyline`, `geometry`, `polygons[i]`): for any number of concurrent
callers, in every reachable state, every caller that has read its result got the uncached value; the cell is
written at most once, and never again once it is set; at most one caller is between `Lock` and `Unlock` (`inCS`, of `Lemmas/Locksets.lean`). -/
theorem cache_transparent (compute n : Nat) (s : CellState) (h : Reachable (cellStep compute) (cellInit n) s) :
    (∀ (j : Nat) (c : Caller), s.callers[j]? = some c → (c.pc = .unlock ∨ c.pc = .done) → c.result = some compute) ∧
    s.writes ≤ 1 ∧ (s.cell = none ∨ s.cell = some compute) ∧
    (∀ (i j : Nat) (ci cj : Caller), s.callers[i]? = some ci → s.callers[j]? = some cj →
        inCS ci.pc = true → inCS cj.pc = true → i = j) := by
  have hi := reachable_cellInv h
  refine ⟨fun j c hj => (hi.callers j c hj).res, ?_, hi.val, ?_⟩
  · cases hc : s.cell with
    | none => rw [hi.once.1 hc]; omega
    | some v => rw [hi.once.2 (by rw [hc]; simp)]; omega
  · intro i j ci cj h1 h2 c1 c2
    have a := (hi.callers i ci h1).hold.mp c1
    have b := (hi.callers j cj h2).hold.mp c2
    rw [a] at b; simpa using b

/-- **`FindFeatureByID` with its LRU is transparent**: for any capacity, any uncached function, any number of
concurrent callers with any lookup sequences, every answer equals the uncached answer; every cached entry is a
correct one; the cache never exceeds its capacity. -/
theorem lru_transparent (cap : Nat) (find : Nat → Option Nat) (todos : List (List Nat)) (s : LruState)
    (h : Reachable (lruStep cap find) (lruInit todos) s) :
    (∀ (j : Nat) (q : Querier), s.queriers[j]? = some q → ∀ r ∈ q.results, r.2 = find r.1) ∧
    (∀ p ∈ s.cache, find p.1 = some p.2) ∧ s.cache.length ≤ cap := by
  have hi := reachable_lruInv h
  exact ⟨hi.results, hi.entries, hi.size⟩

/-! ## the stages of `Finish` -/

/-- two non-areas read nothing of each other and write different features; two areas write nothing -/
theorem conflict_same_kind (f g : BFeature) (h : f.isArea = g.isArea) : conflict f g = false := by
  unfold conflict vWrites vReads
  unfold BFeature.isArea at h
  cases hfk : f.kind <;> cases hgk : g.kind <;> simp_all

theorem stageConflict_filter (p : BFeature → Bool) (fs : List BFeature)
    (h : ∀ f g, p f = true → p g = true → conflict f g = false) : stageConflict (fs.filter p) = false := by
  unfold stageConflict
  simp only [List.any_eq_false, List.mem_filter, Bool.not_eq_true]
  exact fun f hf g hg => h f g hf.2 hg.2

/-- **Two stages are race-free**: for every feature set, neither the stage of the non-areas nor the stage of
the areas contains two workers of which one writes what the other reads or writes. -/
theorem finish_stage_race_free (fs : List BFeature) :
    stageConflict (stageOf "!=FeatureTypeArea" fs) = false ∧ stageConflict (stageOf "==FeatureTypeArea" fs) = false :=
  ⟨stageConflict_filter _ fs fun f g hf hg => conflict_same_kind f g (by simp_all),
   stageConflict_filter _ fs fun f g hf hg => conflict_same_kind f g (by simp_all)⟩

/-- **One stage for everything races**: a path and an area over it validated concurrently — the reversal in
place (`invertPoints`) against `ValidatePathForArea`'s reads.  This is the code before the C37 fix. -/
theorem finish_single_stage_conflict :
    stageConflict (stageOf "all" [⟨1, .path⟩, ⟨2, .area [1]⟩]) = true := by decide

/-! ## T3: the regenerated facts -/

open B6.Gen.Locksets

/-- The expected ways the four cache cells are accessed, whatever the method: (struct, field, kind, under the
struct's lock).  The unlocked rows are those of the two lock-free helpers `featureWithLock` / `fillGeometry`
taken as roots (they are only ever called with the lock held: `internal_calls_locked`).  A new METHOD that reaches
a cell in one of these ways does not change this list; a new KIND of access, or any access in a different lock
state, does. -/
def expectedShapes : List (String × String × String × Bool) := [
  ("FeaturesByID", "cache", "call:Add", true),
  ("FeaturesByID", "cache", "call:Get", true),
  ("marshalledArea", "geometry", "call:Len", true),
  ("marshalledArea", "geometry", "call:PathIDs", true),
  ("marshalledArea", "geometry", "call:Polygon", true),
  ("marshalledArea", "geometry", "read", true),
  ("marshalledArea", "geometry", "write", true),
  ("marshalledArea", "polygons", "read", true),
  ("marshalledArea", "polygons", "write", true),
  ("marshalledArea", "geometry", "call:Len", false),
  ("marshalledArea", "geometry", "call:PathIDs", false),
  ("marshalledArea", "geometry", "read", false),
  ("marshalledArea", "geometry", "write", false),
  ("marshalledArea", "polygons", "write", false),
  ("wrappedMarshalledPhysicalFeature", "polyline", "addr", true),
  ("wrappedMarshalledPhysicalFeature", "polyline", "read", true),
  ("wrappedMarshalledPhysicalFeature", "polyline", "write", true)]

def shapeOf (a : Access) : String × String × String × Bool := (a.typ, a.field, a.kind, a.locked)

def expectedUnlisted : List Access := [
  ⟨"FeatureIDs", "Append", "namespaces", "write", true⟩,
  ⟨"FeatureIDs", "Append", "values", "write", true⟩,
  ⟨"FeatureIDs", "Swap", "namespaces", "write", false⟩,
  ⟨"FeatureIDs", "Swap", "values", "write", false⟩,
  ⟨"NamespacedCounts", "Namespace", "ByNamespace", "write", true⟩,
  ⟨"Validator", "ValidateArea", "paths", "write", true⟩,
  ⟨"Validator", "ValidateArea", "queue", "write", true⟩,
  ⟨"Validator", "ValidatePath", "paths", "write", true⟩,
  ⟨"Validator", "ValidatePath", "queue", "write", true⟩,
  ⟨"Validator", "validateArea", "paths", "write", false⟩,
  ⟨"Validator", "validateQueue", "paths", "write", false⟩,
  ⟨"Validator", "validateQueue", "queue", "write", false⟩]

def expectedClosure : List Access := [
  ⟨"Finish", "index", "w.index", "call:Add", true⟩,
  ⟨"Finish", "index", "wg", "call:Done", false⟩,
  ⟨"Finish", "validate", "broken", "write", true⟩,
  ⟨"Finish", "validate", "wg", "call:Done", false⟩]

def expectedSelfCalls : List Access := [
  ⟨"marshalledArea", "Feature", "featureWithLock", "selfcall", true⟩,
  ⟨"marshalledArea", "Feature", "fillGeometry", "selfcall", true⟩,
  ⟨"marshalledArea", "MultiPolygon", "featureWithLock", "selfcall", true⟩,
  ⟨"marshalledArea", "MultiPolygon", "fillGeometry", "selfcall", true⟩,
  ⟨"marshalledArea", "Polygon", "featureWithLock", "selfcall", true⟩,
  ⟨"marshalledArea", "Polygon", "fillGeometry", "selfcall", true⟩,
  ⟨"marshalledArea", "featureWithLock", "fillGeometry", "selfcall", false⟩]

/-- methods (of build-time structs of ingest/compact) that write a field without the struct's lock, by contract:
the sort interface of `FeatureIDs` (used after the parallel `Append` phase) and the two `Validator` helpers that
`ValidatePath` / `ValidateArea` call with the lock held (`wide_helpers_called_locked`) -/
def unlistedExempt : List String :=
  ["FeatureIDs.Swap", "Validator.validateArea", "Validator.validateQueue"]

/-- rows of the methods that are entry points (everything but the lock-free helpers) -/
def entryRows (t : List Access) (internal : List String) : List Access :=
  t.filter (fun a => !internal.contains (a.typ ++ "." ++ a.method))

/-- `||` and `&&` skip their right side: each sweep is evaluated with the `locked` flag first, which spares the string
comparison on most rows, and brought back to the stated order afterwards. -/
theorem all_filter_of {α : Type} {l : List α} {p q : α → Bool} (h : l.all (fun a => q a || !p a) = true) :
    (l.filter p).all q = true := by
  rw [List.all_filter, List.all_congr rfl fun a => Bool.or_comm _ _]; exact h

theorem all_filter_not {α : Type} (l : List α) (p q : α → Bool) :
    (l.filter (fun a => !p a)).all q = l.all (fun a => p a || q a) := by
  rw [List.all_filter]
  exact List.all_congr rfl fun a => by rw [Bool.not_not]

theorem all_and {α : Type} {l : List α} {p q : α → Bool} (h : l.all (fun a => p a && q a) = true) :
    l.all p = true ∧ l.all q = true := by
  simp only [List.all_eq_true, Bool.and_eq_true] at h ⊢
  exact ⟨fun a ha => (h a ha).1, fun a ha => (h a ha).2⟩

/-- the cells are accessed in exactly the expected ways (both inclusions; independent of which methods do it) -/
theorem table_matches :
    B6.Gen.Locksets.table.all (fun a => expectedShapes.contains (shapeOf a)) = true ∧
    expectedShapes.all (fun sh => B6.Gen.Locksets.table.any (fun a => shapeOf a == sh)) = true := by decide +kernel

theorem internal_methods_expected :
    internalMethods = ["marshalledArea.featureWithLock", "marshalledArea.fillGeometry"] := rfl

/-- every access of an entry method to a cache cell is made under the struct's own mutex -/
theorem entry_accesses_locked : (entryRows B6.Gen.Locksets.table internalMethods).all (·.locked) = true :=
  all_filter_of (by decide +kernel)

/-- the lock-free helpers are called only by their own type, and by its entry methods only with the lock held -/
theorem internal_calls_locked :
    (entryRows selfCalls internalMethods).all (·.locked) = true ∧ foreignCalls = [] ∧
    internalMethods.all (fun m => selfCalls.any (fun a => a.typ ++ "." ++ a.field == m && a.locked)) = true :=
  ⟨all_filter_of (by decide +kernel), rfl, by decide +kernel⟩

/-- nothing else in the package touches the cells (the one entry is the constructor's composite literal);
nothing the walker could not follow; every write to another field of a mutex-bearing struct (outside the Merge
writers) is under the struct's lock or in one of the three exempt methods -/
theorem no_foreign_access :
    foreign = ["world.go:NewFeaturesByID:literal FeaturesByID{cache: …}"] ∧ irregular = [] ∧
    unlistedWrites.all (fun a => a.locked || unlistedExempt.contains (a.typ ++ "." ++ a.method)) = true :=
  ⟨rfl, rfl, by decide +kernel⟩

/-- `Finish`: the worker closures write `broken` and call `w.index.Add` under the local mutex; the function body
touches neither between starting workers and `wg.Wait()`; two stages, non-areas first; `invertPoints` writes the
elements of the path's own reference list and is reached from `ValidatePath` only -/
theorem finish_facts :
    closureAccesses = expectedClosure ∧ finishStageFilters = ["!=FeatureTypeArea", "==FeatureTypeArea"] ∧
    unjoinedMainAccesses = [] ∧ invertPointsInPlace = ["(refs)", "f.Get()", "f.ModifyOrAddTag()"] ∧
    invertPointsCallers = ["ValidatePath"] := ⟨rfl, rfl, rfl, rfl, rfl⟩

/-- the stages as extracted are race-free for every feature set -/
theorem finish_extracted_stages_race_free (fs : List BFeature) :
    ∀ f ∈ finishStageFilters, stageConflict (stageOf f fs) = false := by
  intro f hf
  have := finish_facts.2.1
  rw [this] at hf
  simp at hf
  rcases hf with rfl | rfl
  · exact (finish_stage_race_free fs).1
  · exact (finish_stage_race_free fs).2

/-! ## T3, wide: every mutex-carrying struct of `ingest`, `ingest/compact`, `search`

`wideTable` lists, for every method of every struct that has a `sync.Mutex`/`sync.RWMutex` field, every access
to the struct's other fields with the lock state at that point.  The obligation: an access is under the
struct's lock, or the field is immutable after construction (listed here with the reason), or the method is a
writer / build-time accessor exempt by contract (listed with the reason), or the method is one of the lock-free
helpers — which are called only from their own struct and, from its other methods, only with the lock held.  A
NEW unlocked access to any field of any such struct, a new mutex-carrying struct, a write to an "immutable" field
or a helper called without the lock breaks one of these obligations. -/

/-- (struct, field, why it is never written once the object is shared) -/
def immutableFields : List (String × String × String) := [
  ("compact.FeaturesByID", "features", "feature blocks are appended by Merge only (writer by contract); readers never write"),
  ("compact.FeaturesByID", "base", "set by NewFeaturesByID"),
  ("compact.World", "byID", "set by NewWorld / NewWorldWithBase"),
  ("compact.World", "indices", "appended by Merge only (writer by contract)"),
  ("compact.World", "status", "extended by Merge only (writer by contract)"),
  ("compact.marshalledArea", "id", "set by newAreaFromBuffer"),
  ("compact.marshalledArea", "area", "set by newAreaFromBuffer"),
  ("compact.marshalledArea", "fb", "set by newAreaFromBuffer"),
  ("compact.marshalledArea", "byID", "set by newAreaFromBuffer"),
  ("compact.wrappedMarshalledPhysicalFeature", "byID", "set by newWrappedPhysicalFeatureFromBuffer"),
  ("compact.Validator", "locations", "set by NewValidator")]

/-- (struct, method, why its unlocked accesses are outside the property) -/
def exemptMethods : List (String × String × String) := [
  ("compact.FeaturesByID", "Merge", "writer by contract: the property is about readers with no writer"),
  ("compact.World", "Merge", "writer by contract; takes World.lock against other Merges"),
  ("compact.FeatureIDs", "At", "read after the parallel Append phase of the compact build"),
  ("compact.FeatureIDs", "Len", "sort.Interface, used after the parallel Append phase"),
  ("compact.FeatureIDs", "Less", "sort.Interface, used after the parallel Append phase"),
  ("compact.FeatureIDs", "Swap", "sort.Interface, used after the parallel Append phase")]

def isImmutable (a : Access) : Bool := immutableFields.any (fun p => p.1 == a.typ && p.2.1 == a.field)
def isExempt (a : Access) : Bool := exemptMethods.any (fun p => p.1 == a.typ && p.2.1 == a.method)
def isWriteKind (a : Access) : Bool := a.kind == "write" || a.kind == "addr"

/-- the lock-free helpers: methods that touch a mutable field without taking the lock themselves -/
def wideHelpers : List String := [
  "compact.Validator.validateArea", "compact.Validator.validateQueue",
  "compact.marshalledArea.featureWithLock", "compact.marshalledArea.fillGeometry"]

def isHelperRoot (a : Access) : Bool := wideHelpers.contains (a.typ ++ "." ++ a.method)

theorem wide_structs_expected : wideStructs =
    ["ingest.MutableWorlds", "ingest.watcher", "compact.FeatureIDs", "compact.FeaturesByID", "compact.NamespacedCounts",
     "compact.Validator", "compact.World", "compact.marshalledArea", "compact.wrappedMarshalledPhysicalFeature"] := rfl

theorem wide_rows : wideTable.all (fun a => (a.locked || isImmutable a || isExempt a || isHelperRoot a) &&
    (!(isImmutable a && isWriteKind a) || isExempt a)) = true := by decide +kernel

/-- **Every access to a field of a mutex-carrying struct is under that struct's lock**, or the field is
immutable after construction, or the method is exempt by contract, or it is a lock-free helper. -/
theorem wide_lock_discipline :
    wideTable.all (fun a => a.locked || isImmutable a || isExempt a || isHelperRoot a) = true := (all_and wide_rows).1

/-- the "immutable" fields are indeed never written or address-taken outside the exempt writers -/
theorem wide_immutable_not_written :
    wideTable.all (fun a => !(isImmutable a && isWriteKind a) || isExempt a) = true := (all_and wide_rows).2

/-- the lock-free helpers are reached only from their own struct, and from its other methods only with the lock
held; the helper list is exactly the set of methods with an unlocked access to a mutable field -/
theorem wide_helpers_called_locked :
    wideSelfCalls.all (fun a => !wideHelpers.contains (a.typ ++ "." ++ a.field) || isHelperRoot a || a.locked) = true ∧
    wideForeignCalls = [] ∧
    (wideTable.filter (fun a => !(a.locked || isImmutable a || isExempt a))).all isHelperRoot = true ∧
    wideHelpers.all (fun h => wideTable.any (fun a => (a.typ ++ "." ++ a.method) == h && !(a.locked || isImmutable a))) = true := by
  refine ⟨?_, rfl, ?_, ?_⟩
  · exact (List.all_congr rfl fun a : Access => Bool.or_comm _ a.locked).trans (by decide +kernel)
  · exact (all_filter_not ..).trans wide_lock_discipline
  · exact (List.all_congr rfl fun h => List.any_congr rfl fun a => Bool.and_comm (_ == h) _).trans (by decide +kernel)

/-! ## from the table to programs (`cellId` … `rowsOf`: what `compact_cells_race_free` is stated with) -/

def cellId (field : String) : Nat :=
  if field == "cache" then 0 else if field == "polyline" then 1 else if field == "geometry" then 2 else 3

-- every kind other than `read` (`write`, `addr`, `call:…`) counts as a write: method calls on a cell are covered as writes
def toAction (a : Access) : Action :=
  if a.kind == "read" then .read (cellId a.field) else .write (cellId a.field)

/-- one call of a method, abstracted to its accesses to the cells: under the receiver's mutex (lock 0) when the
table says every access is locked, bare otherwise -/
def methodProgram (rows : List Access) : List Action :=
  if rows.all (·.locked) then [Action.acq 0] ++ rows.map toAction ++ [Action.rel 0] else rows.map toAction

def rowsOf (t : List Access) (typ method : String) : List Access :=
  t.filter (fun a => a.typ == typ && a.method == method)

theorem mem_rowsOf {t : List Access} {typ method : String} {r : Access} :
    r ∈ rowsOf t typ method ↔ r ∈ t ∧ r.typ = typ ∧ r.method = method := by
  simp [rowsOf, List.mem_filter]

theorem mem_entryRows {t : List Access} {internal : List String} {r : Access} :
    r ∈ entryRows t internal ↔ r ∈ t ∧ ¬ internal.contains (r.typ ++ "." ++ r.method) = true := by
  simp [entryRows, List.mem_filter]

theorem toAction_cell (a : Access) : (toAction a).cell? = some (cellId a.field) := by
  unfold toAction
  split <;> rfl

theorem heldAfter_accesses (rows : List Access) (k : Nat) :
    heldAfter (Action.acq 0 :: (rows.map toAction).take k) = [0] := by
  rw [heldAfter_eq, List.foldl_cons]
  refine foldl_upd_accesses _ _ fun a ha => ?_
  obtain ⟨r, _, rfl⟩ := List.mem_map.mp (List.mem_of_mem_take ha)
  exact ⟨_, toAction_cell r⟩

theorem methodProgram_disciplined (rows : List Access) (hl : rows.all (·.locked) = true) (x : Nat) :
    ∀ (pc : Nat) (a : Action), (methodProgram rows)[pc]? = some a → a.cell? = some x →
      0 ∈ heldAfter ((methodProgram rows).take pc) := by
  intro pc a hpc hcell
  unfold methodProgram at hpc ⊢
  simp only [hl, ↓reduceIte, List.cons_append, List.nil_append] at hpc ⊢
  cases pc with
  | zero => cases Option.some.inj hpc; cases hcell
  | succ k =>
    -- up to the final `rel` the prefix is `acq 0` and accesses; beyond it there is no action
    have hk : k ≤ (rows.map toAction).length := by
      have := (List.getElem?_eq_some_iff.mp hpc).1
      simp only [List.length_cons, List.length_append, List.length_nil] at this
      omega
    rw [List.take_succ_cons, List.take_append_of_le_length hk, heldAfter_accesses]
    exact List.mem_singleton.mpr rfl

/-- **The cache cells of the compact world are race-free** (as far as the extracted table goes): any number of
goroutines, each calling one entry method of one of the three structs on the same object — no reachable state
has two of them about to touch the same cell with one of them writing. -/
theorem compact_cells_race_free (typ : String) (calls : List String)
    (hentry : ∀ m ∈ calls, ¬ internalMethods.contains (typ ++ "." ++ m) = true)
    (s : LState)
    (hr : Reachable lstep (linit (calls.map fun m => methodProgram (rowsOf B6.Gen.Locksets.table typ m))) s)
    (x : Nat) : ¬ RacyOn s x := by
  apply lockset_sound _ x 0 (Or.inl _) s hr
  refine List.forall_mem_map.2 fun m hm pc a hpc hcell => ?_
  have hl : (rowsOf B6.Gen.Locksets.table typ m).all (·.locked) = true := List.all_eq_true.mpr fun r hr0 => by
    obtain ⟨hr1, rfl, rfl⟩ := mem_rowsOf.mp hr0
    exact List.all_eq_true.mp entry_accesses_locked r (mem_entryRows.mpr ⟨hr1, hentry _ hm⟩)
  exact methodProgram_disciplined _ hl x pc a hpc hcell

/-! ## the hypotheses are satisfiable / the statements are not vacuous -/

-- an undisciplined pair of programs does reach a racy state (so `RacyOn` is not trivially false)
example : ∃ s, Reachable lstep (linit [[.write 7], [.read 7]]) s ∧ RacyOn s 7 :=
  ⟨_, Reachable.refl, 0, 1, ⟨[.write 7], 0⟩, ⟨[.read 7], 0⟩, .write 7, .read 7, by decide, rfl, rfl, rfl, rfl, rfl, rfl,
    Or.inl rfl⟩
example : Disciplined [[.acq 0, .write 7, .rel 0], [.acq 0, .read 7, .rel 0]] 7 0 := by
  intro p hp pc a h hc
  simp at hp
  rcases hp with rfl | rfl <;>
    (match pc, h with
     | 0, h => simp at h; subst h; simp [Action.cell?] at hc
     | 1, _ => simp [heldAfter]
     | 2, h => simp at h; subst h; simp [Action.cell?] at hc
     | n + 3, h => simp at h)
example : (methodProgram (rowsOf B6.Gen.Locksets.table "wrappedMarshalledPhysicalFeature" "Polyline")).length = 5 := by decide
example : ((runSched (cellStep 42) (cellInit 2) [0, 0, 0, 0, 0, 0, 0, 0, 0]).map fun s =>
    (s.cell, s.writes, s.callers.map (·.result))) = some (some 42, 1, [some 42, some 42]) := by decide
example : ((runSched (lruStep 1 (fun id => if id < 5 then some (id * 10) else none)) (lruInit [[1, 2, 1, 9]])
    [0, 0, 0, 0, 0, 0, 0, 0, 0, 0, 0]).map fun s => (s.cache, s.queriers.map (·.results))) =
    some ([(1, 10)], [[(1, some 10), (2, some 20), (1, some 10), (9, none)]]) := by decide

end B6.Props.C35
