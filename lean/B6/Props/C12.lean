import B6.Lemmas.MutableRoot
import B6.Lemmas.MutableRefs
/-!
# C12 — Mutable overlay world behaves like a map of features under any edits

Model: `B6.Model.Mutable` (mutable.go after the `fix:` patches of C12–C15 and C03's).  Spec: `B6.Spec.World`
(feature id ⇀ tag key ⇀ value).  `tagOf v id k` is what `v.FindFeatureByID(id).Get(k)` shows
(`none` = no such feature), so agreement on `tagOf` is agreement on lookup, existence and tags.
Both namespaces are open: `tagOf`, `find`, `step`, `addTag` … of a `View` or `Layer` are the model's, of a `World` the map's.

Standing assumptions (all satisfied by worlds built by the code itself, see the `example`s):
`b.IdsOK` — the base hands out, under an id, a feature carrying that id; `l.FeatsId` — same for the
overlay table (it holds initially and is preserved, `featsId_step`).
-/
namespace B6.Props.C12
open B6.Model.Mutable B6.Spec.World

/-- **One step.** Whatever the operation and whatever the world answers (except the "partially
applied" answer of a merged change, which C13 rules out), the tag reads of the world afterwards are
those of the per-feature map after the same operation — applied when accepted, untouched when
rejected. -/
theorem overlay_refines_map {b : View} {o : Oracle} {l l' : Layer} {op : Op} {r : Option Err} {w : World}
    (hb : b.IdsOK) (hl : l.FeatsId) (hw : LRefines b l w) (h : l.step b o op = (l', r))
    (hp : r ≠ some .partiallyApplied) :
    LRefines b l' (step w op r) := by
  rcases step_cases b o l op with ⟨l1, h1, h2⟩ | ⟨l1, e, h1, _, hs⟩ | ⟨l1, e, h1, _⟩ <;> rw [h1] at h <;> cases h
  · rw [step, ← foldl_applyPrim_op]; exact refines_prims hb _ l _ w hl hw h2
  · exact hw.same hs
  · exact absurd rfl hp

/-- the overlay table stays consistent under every operation and every answer -/
theorem featsId_step {b : View} {o : Oracle} {l l' : Layer} {op : Op} {r : Option Err}
    (hb : b.IdsOK) (hl : l.FeatsId) (h : l.step b o op = (l', r)) : l'.FeatsId := by
  have := step_inv (b := b) (o := o) (op := op) (Q := fun _ => True) (fun _ _ => featsId_same)
    (fun l p h _ => featsId_prim l p h) hl (fun _ _ => trivial)
  rwa [h] at this

/-- **Any history.** After any sequence of operations, every tag read equals the read of the map
that went through the same operations with the same answers. -/
theorem overlay_refines_map_ops {b : View} {o : Oracle} (hb : b.IdsOK) (ops : List Op) :
    ∀ (l : Layer) (w : World), l.FeatsId → LRefines b l w →
      (∀ r ∈ (runOps b o l ops).2, r ≠ some Err.partiallyApplied) →
      LRefines b (runOps b o l ops).1 (run w ops (runOps b o l ops).2) := by
  intro l w hl hw hp
  fun_induction runOps b o l ops generalizing w with
  | case1 l => exact hw
  | case2 l op rest ih =>
    have hstep : l.step b o op = ((l.step b o op).1, (l.step b o op).2) := rfl
    exact ih _ (featsId_step hb hl hstep) (overlay_refines_map hb hl hw hstep (hp _ List.mem_cons_self))
      fun r hr => hp r (List.mem_cons_of_mem _ hr)

theorem runOps_untouched {b : View} {o : Oracle} (hb : b.IdsOK) (ops : List Op) (l : Layer) (hl : l.FeatsId)
    (id : Id) (hid : id ∉ ops.flatMap opIds) (k : Key) :
    tagOf ((runOps b o l ops).1.view b ((runOps b o l ops).1.loc b)) id k = tagOf (l.view b (l.loc b)) id k := by
  have hq : ∀ op ∈ ops, ∀ p ∈ op.prims, id ≠ p.target := fun op hop p hp he =>
    hid (List.mem_flatMap.2 ⟨op, hop, by rw [opIds_eq, he]; exact List.mem_map_of_mem hp⟩)
  rw [tagOf_obs, tagOf_obs, obs_view, obs_view, (runOps_inv (b := b) (o := o)
    (P := fun l' => l'.FeatsId ∧ l'.obs b id = l.obs b id)
    (fun _ _ hs h => ⟨featsId_same hs h.1, (obs_same hs id).trans h.2⟩)
    (fun l' p h hp => ⟨featsId_prim l' p h.1, (obs_prim_other hb h.1 hp).trans h.2⟩)
    ops l ⟨hl, rfl⟩ hq).2]

/-- **Untouched base.** A feature that no operation of the history names reads, after the history, as
in the base (existence and every tag) — including histories with rejected calls and the referrers
that `AddFeature` copies into the overlay on the side. -/
theorem untouched_base {b : View} {o : Oracle} (hb : b.IdsOK) (ops : List Op) (id : Id)
    (hid : id ∉ ops.flatMap opIds) (k : Key) :
    tagOf ((runOps b o Layer.empty ops).1.view b ((runOps b o Layer.empty ops).1.loc b)) id k = tagOf b id k := by
  rw [runOps_untouched hb ops Layer.empty (fun i f h => by simp [Layer.empty] at h) id hid k, tagOf_empty_layer]

/-! ## The search index -/

/-- **Index invariant, one step.** `l.WF b` bundles: the overlay table is keyed consistently, every
token's posting list is strictly increasing and holds exactly the overlay features whose current tags
produce the token (`IndexInv`), tag lists have one tag per key and `=`-free keys, recorded
modifications only concern plain keys.  Every operation, whatever it answers, preserves the bundle (`wf_step`);
stated here is its index part (so C03's search results over the index are right after every op). -/
theorem index_inv_step {b : View} {o : Oracle} {l l' : Layer} {op : Op} {r : Option Err}
    (hb : b.IdsOK) (hbt : b.TagsOK) (hw : l.WF b) (hop : opOK op) (h : l.step b o op = (l', r)) :
    IndexInv l' := by
  have := wf_step (o := o) hb hbt hw hop; rw [h] at this; exact this.index

/-- **Index invariant, any history** from a fresh overlay. -/
theorem index_inv_ops {b : View} {o : Oracle} (hb : b.IdsOK) (hbt : b.TagsOK) (ops : List Op)
    (hop : ∀ op ∈ ops, opOK op) : IndexInv (runOps b o Layer.empty ops).1 :=
  (wf_runOps hb hbt ops Layer.empty (wf_empty b) hop).index

/-- **Reference table, one step.** `m.references` is exactly the inverse of the references (path points,
area paths, relation members, collection keys) of the features the overlay currently holds — after every
operation and whatever it answers (rejected `AddFeature`s included): `AddFeature`'s remove / merge / re-add
sequence over the existing feature, the referrers already in the overlay and the copied ones, and
`AddTag` / `RemoveTag`'s copies keep it so. -/
theorem refs_inv_step {b : View} {o : Oracle} {l l' : Layer} {op : Op} {r : Option Err}
    (hb : b.IdsOK) (hl : l.FeatsId) (hi : RefsInv l) (h : l.step b o op = (l', r)) : RefsInv l' := by
  have := step_inv (b := b) (o := o) (op := op) (Q := fun _ => True) (fun _ _ => featsId_refsInv_same)
    (fun l p h _ => refsInv_prim hb l p h) ⟨hl, hi⟩ (fun _ _ => trivial)
  rw [h] at this; exact this.2

/-- **Reference table, any history** from a fresh overlay. -/
theorem refs_inv_ops {b : View} {o : Oracle} (hb : b.IdsOK) (ops : List Op) :
    RefsInv (runOps b o Layer.empty ops).1 :=
  (runOps_inv (Q := fun _ => True) (fun _ _ => featsId_refsInv_same) (fun l p h _ => refsInv_prim hb l p h) ops Layer.empty
    ⟨fun i f h => by simp [Layer.empty] at h, refsInv_empty⟩ (fun _ _ _ _ => trivial)).2

/-- **`sortAndDiffTokens` is a set difference** — in the model by construction, and, since
`fixes/C12-diff-tokens-as-sets.patch`, in the code (which skips repeated tokens; before it counted them,
and a token going from two occurrences to one was "removed": S2 ancestor-cell tokens do repeat, tag tokens
of a well-formed feature do not — `tokens_nodup`).  The model carries tag tokens only; the cell-token side
is tied by the `spatial` line of the dumps (search index vs brute force, `propfail spatial-search-complete`). -/
theorem diff_tokens_set (before after : List Token) (t : Token) :
    (t ∈ (diffTokens before after).1 ↔ t ∈ after ∧ t ∉ before) ∧
    (t ∈ (diffTokens before after).2 ↔ t ∈ before ∧ t ∉ after) := by
  simp [diffTokens, List.mem_filter]

/-- re-indexing with the set difference puts the feature under exactly its current tokens, however the
token lists repeat -/
theorem reindex_exact {ix : List (Token × List Id)} {id : Id} {before after : List Token}
    (H : ∀ t, id ∈ postings ix t ↔ t ∈ before) (t : Token) :
    id ∈ postings (reindex ix id before after) t ↔ t ∈ after := reindex_self H t

/-- **Tag search refines the map.** If the base's own tag search is exact, then after any state reached
(`l.WF b`) every single-token search of the world returns exactly — and in id order — the features
whose tags in the per-feature map produce the token. -/
theorem search_refines_map {b : View} {l : Layer} {w : World}
    (hbs : b.SearchOK) (hbt : b.TagsOK) (hw : l.WF b) (hr : LRefines b l w) (hn : KeysNodup w) (t : Token) :
    (l.view b (l.loc b)).search t = matching w t := by
  apply List.Pairwise.ext_of_asymm (fun _ _ => Nat.lt_asymm) ((search_ok hbs hw (l.loc b)) t).1
    (sorted_matching w t)
  intro id
  rw [((search_ok hbs hw (l.loc b)) t).2 id, mem_matching]
  constructor
  · rintro ⟨fv, hfv, ht⟩
    have hfv' : l.find b id = some fv := hfv
    cases hm : find w id with
    | none => have := hr.find_iff id; rw [hfv', hm] at this; cases this
    | some m =>
      refine ⟨(AMap.mem_keys_iff w id).2 (by rw [show AMap.get w id = some m from hm]; rfl), ?_⟩
      obtain ⟨tg, htg, htok⟩ := (mem_tokensFor fv.f t).1 ht
      have hg : AMap.get fv.f.tags tg.1 = some tg.2 :=
        AMap.isLookup.of_mem (find_tagsOK hbt hw.tags hw.mods id fv hfv).1 htg
      rw [hr.tags hfv' hm] at hg
      simp only [produces, hm, List.any_eq_true, beq_iff_eq]
      exact ⟨tg, AMap.get_some_mem hg, htok⟩
  · rintro ⟨hid, hp⟩
    cases hm : find w id with
    | none => simp [produces, hm] at hp
    | some m =>
      simp only [produces, hm, List.any_eq_true, beq_iff_eq] at hp
      obtain ⟨e, he, htok⟩ := hp
      cases hfv : l.find b id with
      | none => have := hr.find_iff id; rw [hfv, hm] at this; cases this
      | some fv =>
        refine ⟨fv, hfv, (mem_tokensFor fv.f t).2 ⟨e, AMap.get_some_mem ?_, htok⟩⟩
        rw [hr.tags hfv hm]; exact AMap.isLookup.of_mem (hn id m hm) he

/-- **Enumeration refines the map.** `EachFeature` visits exactly the features of the map (as a set of ids). -/
theorem each_refines_map {b : View} {l : Layer} {w : World}
    (hbi : b.IdsExact) (hr : LRefines b l w) (id : Id) :
    id ∈ (l.view b (l.loc b)).ids ↔ id ∈ ids w := by
  rw [ids_exact hbi (l.loc b) id, ids, AMap.mem_keys_iff]
  exact Bool.eq_iff_iff.1 (hr.find_iff id)

/-! ## Non-vacuity: the drivers' root world satisfies every standing assumption -/

/-- two points, a path through them, searchable and plain tags, a string and an int value -/
def exampleRoot : List Feature :=
  [⟨1, [("name", ⟨"s", "a"⟩), ("#amenity", ⟨"s", "cafe"⟩)], .point (515370213, -1250817)⟩,
   ⟨2, [], .point (515360127, -1251339)⟩,
   ⟨1005, [("@lit", ⟨"i", "5"⟩)], .path [1, 2]⟩]

theorem exampleRoot_tagsOK : ∀ f ∈ exampleRoot, TagsOK f.tags := by decide

/-- the assumptions on the base and on a fresh overlay (`IdsOK`, `TagsOK`, `SearchOK`, `IdsExact`, `WF`) of
`overlay_refines_map_ops` … `each_refines_map` hold over `exampleRoot`, and the history
`AddTag name (plain) ; AddTag #amenity (searchable)` on base point 2 — the witness of the repaired
defect — keeps `name` and is found by the search. -/
example : (rootView exampleRoot).IdsOK ∧ (rootView exampleRoot).TagsOK ∧ (rootView exampleRoot).SearchOK ∧
    (rootView exampleRoot).IdsExact ∧ (Layer.empty.WF (rootView exampleRoot)) :=
  ⟨rootView_idsOK _, rootView_tagsOK _ exampleRoot_tagsOK, rootView_searchOK _, rootView_idsExact _, wf_empty _⟩

def exampleOps : List Op :=
  [.addTag 2 ("name", ⟨"s", "plain"⟩), .addTag 2 ("#amenity", ⟨"s", "cafe"⟩)]

example : opOK (exampleOps[0]) ∧ opOK (exampleOps[1]) :=
  ⟨(by decide : keyOK "name"), (by decide : keyOK "#amenity")⟩

example :
    let l := (runOps (rootView exampleRoot) ⟨fun _ => true, fun _ => false⟩ Layer.empty exampleOps).1
    let v := l.view (rootView exampleRoot) (l.loc (rootView exampleRoot))
    tagOf v 2 "name" = some (some ⟨"s", "plain"⟩) ∧ v.search "amenity=cafe" = [1, 2] := by
  decide

/-- relations: a relation that contains itself and a base point, then a relation of that relation — the
world's `FindReferences` follows the chain and ends on the cycle -/
example :
    let l := (runOps (rootView exampleRoot) ⟨fun _ => true, fun _ => false⟩ Layer.empty
      [.addFeature ⟨3012, [], .relation [3012, 1]⟩, .addFeature ⟨3013, [], .relation [3012]⟩]).1
    let v := l.view (rootView exampleRoot) (l.loc (rootView exampleRoot))
    sameRefs (v.refs 1) [1005, 3012, 3013] = true ∧ sameRefs (v.refs 3012) [3012, 3013] = true := by
  decide

end B6.Props.C12
