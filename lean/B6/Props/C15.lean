import B6.Lemmas.RefOverlay
import B6.Lemmas.RefWorld
/-!
# C15 — Reference queries return the current referrers and always terminate

Model: `B6.Model.RefIndex` (ingest/features.go `FeatureReferencesByID`, ingest/mutable.go
`BasicMutableWorld` / `MutableOverlayWorld` reference maintenance and queries), mirroring the code
*after* the three repairs in /verif/fixes/C15-*.patch.  Spec: `B6.Spec.Referrers.ReachPlus`.

Two facts carry the property. The index is the inverse of `References()` of the current features (`Inv`), and every
disciplined edit keeps it so, the in-loop slice deletion of `RemoveFeature` never panicking. The visited test makes
`FindReferences` answer on every index, cyclic or not; on an index that is the inverse, the answer is the set of transitive
referrers (`ReachPlus`). For `MutableOverlayWorld` over a base the answer is that set if moreover the copy discipline of `AddFeature`
holds (`UpClosed`): `AddFeature` and `Snapshot` keep it, the copy-ups of `AddTag` / `RemoveTag` do not (they keep `Inv`). The code
before the first and before the second repair is refuted by `cycle_diverges` and `stale_base_referrer_counterexample`.
-/
namespace B6.Props.C15
open B6.Model.RefIndex B6.Spec.Referrers B6.Lemmas.RefIndex B6.Lemmas.RefDfs B6.Lemmas.RefOverlay B6.Lemmas.RefWorld

/-! ## histories of the bare index -/

inductive Op where
  | add (f : Feature)
  | rm (f : Feature)

def run : Index × List Feature → List Op → Option (Index × List Feature)
  | st, [] => some st
  | (ix, fs), .add f :: ops => run (addFeature ix f, f :: fs) ops
  | (ix, fs), .rm f :: ops =>
    match removeFeature ix f with
    | some ix' => run (ix', fs.filter fun g => decide (g.id ≠ f.id)) ops
    | none => none

/-- the discipline of `ModifiedFeatures.Update`: a feature is added when its ID is not indexed, and the
version removed is the version that was added. -/
def Disciplined : List Feature → List Op → Prop
  | _, [] => True
  | fs, .add f :: ops => hasFeature fs f.id = false ∧ Disciplined (f :: fs) ops
  | fs, .rm f :: ops => f ∈ fs ∧ Disciplined (fs.filter fun g => decide (g.id ≠ f.id)) ops

theorem run_inv : ∀ (ops : List Op) (ix : Index) (fs : List Feature), Inv ix fs → Uniq fs →
    Disciplined fs ops → ∃ ix' fs', run (ix, fs) ops = some (ix', fs') ∧ Inv ix' fs' ∧ Uniq fs' := by
  intro ops
  induction ops with
  | nil => intro ix fs hi hu _; exact ⟨ix, fs, rfl, hi, hu⟩
  | cons op ops ih =>
    intro ix fs hi hu hd
    cases op with
    | add f =>
      obtain ⟨hfresh, hd⟩ := hd
      refine ih _ _ (Inv_add hi f) (List.nodup_cons.mpr ⟨fun hm => ?_, hu⟩) hd
      obtain ⟨x, hx, ex⟩ := List.mem_map.mp hm
      exact (hasFeature_false_iff fs f.id).mp hfresh x hx ex
    | rm f =>
      obtain ⟨hmem, hd⟩ := hd
      obtain ⟨ix', h1, h2⟩ := Inv_remove hi f (fun g hg e => uniq_eq hu hg hmem e)
      simp only [run, h1]
      exact ih _ _ h2 (List.Nodup.sublist (List.filter_sublist.map _) hu) hd

/-- After any disciplined history of `AddFeature`/`RemoveFeature` on an empty
index, `RemoveFeature` never panicked, and the index holds, for every target, exactly the IDs of the
current features whose `References()` contain the target — one entry each. -/
theorem refs_index_inv (ops : List Op) (hd : Disciplined [] ops) :
    ∃ ix fs, run ([], []) ops = some (ix, fs) ∧
      (∀ t s, s ∈ (entries ix t).map (·.src) ↔ Refers fs t s) ∧
      (∀ t, ((entries ix t).map (·.src)).Nodup) := by
  obtain ⟨ix, fs, h, hi, _⟩ := run_inv ops [] [] Inv_empty List.nodup_nil hd
  exact ⟨ix, fs, h, hi.1, hi.2⟩

/-- non-vacuity: add a closed path, an area over it, replace the path by another version -/
example : Disciplined [] [.add ⟨(1, 10), [(0, 1), (0, 2), (0, 3), (0, 1)]⟩, .add ⟨(2, 20), [(1, 10)]⟩,
    .rm ⟨(1, 10), [(0, 1), (0, 2), (0, 3), (0, 1)]⟩, .add ⟨(1, 10), [(0, 2), (0, 3), (0, 4), (0, 2)]⟩] :=
  ⟨by decide, by decide, by decide, by decide, trivial⟩

/-! ## queries -/

/-- `FeatureReferencesByID.FindReferences` (with the visited test) answers
on every index whatsoever — cyclic or not, whatever its history. -/
theorem find_refs_terminates (ix : Index) (id : Id) (typed : List Nat) :
    ∃ L, findReferences ix id typed = some L := by
  obtain ⟨L, h, _⟩ := findReferences_spec ix id typed
  exact ⟨L, h⟩

/-- If the index is the inverse of the current features (which `refs_index_inv`
maintains), the world-level `FindReferences(id, typed…)` returns each feature that references `id`
directly or through a chain of current features, of a requested type, exactly once — on every
reference graph, including self references and cycles. -/
theorem find_refs_spec (ix : Index) (fs : List Feature) (hi : Inv ix fs) (id : Id) (typed : List Nat) :
    ∃ L, basicFind fs ix id typed = some L ∧ L.Nodup ∧
      ∀ s, s ∈ L ↔ (ReachPlus fs id s ∧ typeOk typed s = true) :=
  basicFind_spec hi id typed

/-- the two composed: any disciplined history, then any query -/
theorem history_then_query (ops : List Op) (hd : Disciplined [] ops) (id : Id) (typed : List Nat) :
    ∃ ix fs L, run ([], []) ops = some (ix, fs) ∧ basicFind fs ix id typed = some L ∧ L.Nodup ∧
      ∀ s, s ∈ L ↔ (ReachPlus fs id s ∧ typeOk typed s = true) := by
  obtain ⟨ix, fs, h, hi, _⟩ := run_inv ops [] [] Inv_empty List.nodup_nil hd
  obtain ⟨L, h1, h2, h3⟩ := basicFind_spec hi id typed
  exact ⟨ix, fs, L, h, h1, h2, h3⟩

/-- `MutableOverlayWorld.FindReferences` over a basic base world, when the
overlay's index is the inverse of the overlay's features and every base feature that references an
overlay ID has been copied into the overlay (what `AddFeature` does): the answer is exactly the
referrers among the CURRENT features of the layered world, each once. -/
theorem overlay_find_refs_spec (o : Overlay) (hi : Inv o.ix o.feats) (hup : UpClosed o) (id : Id) (typed : List Nat) :
    ∃ L, o.find id typed = some L ∧ L.Nodup ∧
      ∀ s, s ∈ L ↔ (ReachPlus o.merged id s ∧ typeOk typed s = true) :=
  overlay_find_spec o hi hup id typed

def r1 : Id := (3, 1)
def r2 : Id := (3, 2)
def p1 : Id := (0, 1)
def p2 : Id := (0, 2)
def p3 : Id := (0, 3)
def w10 : Id := (1, 10)

/-- relations 1 ∋ 2 and 2 ∋ 1 -/
def cyc : Index := addFeature (addFeature [] ⟨r1, [r2]⟩) ⟨r2, [r1]⟩

/-- the repaired code answers on the cycle … -/
example : findReferences cyc r1 [] = some [r1, r2] := by decide

/-- … and the hypotheses of `find_refs_spec` hold for it (non-vacuity). -/
example : Inv cyc [⟨r2, [r1]⟩, ⟨r1, [r2]⟩] := Inv_add (Inv_add Inv_empty _) _

theorem dfsOld_cyc_none : ∀ (fuel : Nat) (stack : List (Id × Ref)) (vis : List Key), stack ≠ [] →
    (∀ p ∈ stack, p.2.src = r1 ∨ p.2.src = r2) → dfsOld cyc fuel stack vis = none := by
  intro fuel stack vis hne hall
  fun_induction dfsOld cyc fuel stack vis with
  | case1 fuel vis => exact absurd rfl hne
  | case2 p rest vis => rfl
  | case3 fuel t r rest vis ih =>
    have hr := hall (t, r) List.mem_cons_self
    have hw1 : work cyc r1 = [(r1, ⟨r2, none⟩)] := by decide
    have hw2 : work cyc r2 = [(r2, ⟨r1, none⟩)] := by decide
    apply ih
    · rcases hr with hr | hr <;> simp only at hr <;> rw [hr] <;> simp [hw1, hw2]
    · refine List.forall_mem_append.2 ⟨?_, fun q hq => hall q (List.mem_cons_of_mem _ hq)⟩
      rcases hr with hr | hr <;> simp only at hr <;> rw [hr]
      · rw [hw1]; exact List.forall_mem_singleton.2 (Or.inr rfl)
      · rw [hw2]; exact List.forall_mem_singleton.2 (Or.inl rfl)

/-- The code before `fixes/C15-find-references-visited.patch` (no visited test):
on relations 1 ∋ 2, 2 ∋ 1 no amount of fuel makes `findReferences` return — the real code died with
a fatal stack overflow. -/
theorem cycle_diverges : ∀ fuel, findReferencesOld fuel cyc r1 [] = none := by
  intro fuel
  have hw1 : work cyc r1 = [(r1, ⟨r2, none⟩)] := by decide
  simp only [findReferencesOld, hw1]
  rw [dfsOld_cyc_none fuel _ [] (by simp) (by intro p hp; simp only [List.mem_singleton] at hp; subst hp; exact Or.inr rfl)]

/-- base: points 1,2,3 and path 10 = [1,2]; the overlay replaced path 10 by [2,3]. -/
def staleWorld : Overlay :=
  { base := [⟨p1, []⟩, ⟨p2, []⟩, ⟨p3, []⟩, ⟨w10, [p1, p2]⟩],
    feats := [⟨w10, [p2, p3]⟩],
    ix := addFeature [] ⟨w10, [p2, p3]⟩ }

/-- The code before
`fixes/C15-overlay-skip-shadowed-base-referrers.patch` returns path 10 as a referrer of point 1 although
no current feature references point 1; the repaired code returns nothing. -/
theorem stale_base_referrer_counterexample :
    staleWorld.findStale p1 [] = some [w10] ∧ referrers staleWorld.merged p1 = some [] ∧
    staleWorld.find p1 [] = some [] := by decide

/-- the hypotheses of `overlay_find_refs_spec` hold for that world (non-vacuity) -/
example : Inv staleWorld.ix staleWorld.feats ∧ UpClosed staleWorld :=
  ⟨Inv_add Inv_empty _, by unfold UpClosed; decide⟩

/-! ## histories of `BasicMutableWorld` and `MutableOverlayWorld` -/

/-- Any sequence of `BasicMutableWorld.AddFeature` calls (additions and
replacements, any reference graph) never panics in the reference maintenance of
`ModifiedFeatures.Update`, and afterwards every `FindReferences` returns exactly the transitive
referrers among the current features, each once. -/
theorem world_history_query (adds : List Feature) (id : Id) (typed : List Nat) :
    ∃ w L, runWorldAdds World.empty adds = some w ∧ basicFind w.feats w.ix id typed = some L ∧ L.Nodup ∧
      ∀ s, s ∈ L ↔ (ReachPlus w.feats id s ∧ typeOk typed s = true) := by
  obtain ⟨w, hw, hinv⟩ := runWorldAdds_inv adds World.empty ⟨Inv_empty, by simp [Uniq, World.empty]⟩
  obtain ⟨L, h1, h2, h3⟩ := basicFind_spec hinv.inv id typed
  exact ⟨w, L, hw, h1, h2, h3⟩

/-- A `MutableOverlayWorld` over any base world with distinct IDs, after
any history of `AddFeature` (with its copies of referrers) and `Snapshot`: the overlay's index is the
inverse of the overlay's features, the copy discipline holds, and every `FindReferences` returns
exactly the referrers among the current features of the layered world, each once. `Snapshot` is the model's
`Overlay.snapshot`: the current features become the flat base of a fresh overlay, and a base answers as a basic world
over its features (`baseFind`); a chain of frozen overlay worlds is not modelled. -/
theorem overlay_history_query (base : List Feature) (hb : (base.map (·.id)).Nodup) (ops : List OOp)
    (id : Id) (typed : List Nat) :
    ∃ o L, runOOps ⟨base, [], []⟩ ops = some o ∧ o.find id typed = some L ∧ L.Nodup ∧
      ∀ s, s ∈ L ↔ (ReachPlus o.merged id s ∧ typeOk typed s = true) := by
  obtain ⟨o, ho, hinv⟩ := runOOps_inv ops ⟨base, [], []⟩ (oinv_init base hb)
  obtain ⟨L, h1, h2, h3⟩ := overlay_find_spec o hinv.inv hinv.upClosed id typed
  exact ⟨o, L, ho, h1, h2, h3⟩

/-- Histories that also contain the tag edits which copy a base-only
feature into the overlay (`AddTag` / `RemoveTag` of a searchable tag: copy, `m.references.AddFeature`):
after ANY history of `AddFeature`, `Snapshot` and such copy-ups the overlay's index is the inverse of
the overlay's features (one entry per target and source), and every `FindReferences` terminates
without repetitions. (The copy discipline `UpClosed` — hence `overlay_history_query` — does NOT
survive a copy-up: the copy's referrers stay in the base; see the example below. That the query is
nevertheless exact there — the copy has the base version's references — is tied by the
correspondence run, not proved.) -/
theorem overlay_index_inv_all_histories (base : List Feature) (hb : (base.map (·.id)).Nodup) (ops : List TOp) :
    ∃ o, runTOps ⟨base, [], []⟩ ops = some o ∧
      (∀ t s, s ∈ (entries o.ix t).map (·.src) ↔ Refers o.feats t s) ∧
      (∀ t, ((entries o.ix t).map (·.src)).Nodup) ∧
      ∀ id typed, ∃ L, o.find id typed = some L ∧ L.Nodup := by
  obtain ⟨o, ho, hi, _, _⟩ := runTOps_index ops ⟨base, [], []⟩ Inv_empty (by simp [Uniq]) hb
  exact ⟨o, ho, hi.1, hi.2, fun id typed => find_terminates o id typed⟩

/-- a copy-up breaks `UpClosed` (area 20 stays in the base while its path 10 is copied), yet the query is
still exact on this state -/
example : let o : Overlay := (⟨[⟨p1, []⟩, ⟨w10, [p1]⟩, ⟨(2, 20), [w10]⟩], [], []⟩ : Overlay).copyUp w10
    ¬ UpClosed o ∧ o.find p1 [] = some [(2, 20), w10] ∧ referrers o.merged p1 = some [w10, (2, 20)] := by
  refine ⟨by unfold UpClosed; decide, by decide, by decide⟩

/-- non-vacuity: a base path replaced in the overlay, then a snapshot, then an area over it -/
example : (runOOps ⟨[⟨p1, []⟩, ⟨p2, []⟩, ⟨p3, []⟩, ⟨w10, [p1, p2, p3, p1]⟩], [], []⟩
    [.add ⟨w10, [p2, p3, p1, p2]⟩, .snap, .add ⟨(2, 20), [w10]⟩]).isSome = true := by decide

end B6.Props.C15
