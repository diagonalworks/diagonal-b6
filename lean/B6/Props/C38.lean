import B6.Model.FeatureHeap
import B6.Lemmas.FeatureHeap
/-!
# C38 — Callers' feature values are isolated from the world

Theorems about `B6.Model.FeatureHeap`: feature structs whose slices point into a store of backing
arrays; a mutable world (`world`, what `ModifiedFeatures.Update` stores) and any number of caller-held
feature values (`vars`).  An operation sequence is any interleaving of: constructing a feature, `Clone`,
every mutator of the feature API (`Mut`; `MutV` for list-valued tags), `MergeFrom`, `world.AddFeature`,
`world.AddTag/RemoveTag`, `NewFeatureFromWorld`.

* `Sep` — every owner's arrays are allocated and no two different owners share an array — holds in the
  empty state and is preserved by every operation (`step_ok`, `run_ok`, `reachable_sep`);
* under `Sep` an operation changes what is observed of its *target* only (`Isolated`): every other caller
  value and every (other) world entry keeps its struct and its observable value;
* hence `add_isolates`, `clone_disjoint`, `clone_independent`, `from_world_*`; `merge_from_equal`;
* `step_isolates_values` — the same for the lists behind list-valued tags, which holders DO share.

The theorems are about the code after the patches `fixes/C38-*.patch`; the `*_counterexample` theorems
are about the bodies as they were (`Old.*`) and are the witnesses replayed by the harness corpus.
-/
namespace B6.Props.C38
open B6.Model.FeatureHeap B6.Lemmas.FeatureHeap

/-- all owners (world entries and caller values) are allocated and pairwise share no backing array -/
def Sep (s : State) : Prop := Sep2 s.st s.world s.vars

/-- the owner an operation writes through -/
inductive Target where
  | var (i : Nat)
  | world (w : Nat)
  /-- only allocates (a new caller value or a new world entry) -/
  | fresh
deriving DecidableEq, Repr

def worldTarget (kind : Kind) (id : String) (world : List Feat) : Target :=
  match findEntry kind id world with
  | some w => .world w
  | none => .fresh

def target (s : State) : Op → Target
  | .new _ _ _ => .fresh
  | .clone _ => .fresh
  | .upd i _ => .var i
  | .updV i _ => .var i
  | .merge i _ => .var i
  | .add i =>
    match s.vars[i]? with
    | none => .fresh
    | some f => worldTarget f.kind f.id s.world
  | .wtag kind id _ _ => worldTarget kind id s.world
  | .wrm kind id _ => worldTarget kind id s.world
  | .fromWorld _ _ => .fresh

/-- everything except the target keeps its position, its struct and what is observed of it -/
def Isolated (s : State) (t : Target) (s' : State) : Prop :=
  (∀ w x, t ≠ .world w → s.world[w]? = some x → s'.world[w]? = some x ∧ view s'.st x = view s.st x) ∧
  (∀ i x, t ≠ .var i → s.vars[i]? = some x → s'.vars[i]? = some x ∧ view s'.st x = view s.st x)

theorem sep_init : Sep {} :=
  ⟨by simp, by simp, by intro i j x y _ h; simp at h, by intro i j x y _ h; simp at h, by simp⟩

/-! ## `MergeFrom` gives the receiver the value of its argument -/

/-- the situation `MergeFrom` is used in: receiver `e` and argument `o` are different owners of the same
kind (`Sep`), the receiver's slices lie over different arrays, and no member of `o` is an empty non-nil
path list (`SetPathIDs(i, []FeatureID{})` — see `merge_empty_path_list_counterexample`) -/
structure MergeOK (st : Store) (e o : Feat) : Prop where
  valid_e : Valid st e
  valid_o : Valid st o
  disj : Disj e o
  own : (fp e).Nodup
  proper_e : Proper e
  proper_o : Proper o
  kind : e.kind = o.kind
  paths : ∀ s ∈ o.ids, s ≠ none → 0 < slen s
  /-- the argument is well-formed: all its slices lie within their arrays -/
  readable : (view st o).isSome = true

instance (st : Store) (e o : Feat) : Decidable (MergeOK st e o) :=
  if h : Valid st e ∧ Valid st o ∧ (∀ a ∈ fp e, a ∉ fp o) ∧ (fp e).Nodup ∧ Proper e ∧ Proper o ∧
      e.kind = o.kind ∧ (∀ s ∈ o.ids, s ≠ none → 0 < slen s) ∧ (view st o).isSome = true
  then isTrue ⟨h.1, h.2.1, h.2.2.1, h.2.2.2.1, h.2.2.2.2.1, h.2.2.2.2.2.1, h.2.2.2.2.2.2.1,
    h.2.2.2.2.2.2.2.1, h.2.2.2.2.2.2.2.2⟩
  else isFalse fun ok => h ⟨ok.valid_e, ok.valid_o, ok.disj, ok.own, ok.proper_e, ok.proper_o, ok.kind,
    ok.paths, ok.readable⟩

/-- After `e.MergeFrom(o)` — every feature kind; receiver shorter than, as long as,
or longer than the argument in tags / members / polygons / path ids / keys and values; nil (polygon)
members included — the receiver is observably equal to the argument, and the argument is unchanged. -/
theorem merge_from_equal {st st' : Store} {e o e' : Feat} (h : mergeFrom st e o = some (st', e'))
    (ok : MergeOK st e o) : view st' e' = view st o ∧ view st' o = view st o := by
  obtain ⟨hstep, hview⟩ := mergeFrom_spec h ok.valid_e
  exact ⟨hview ok.valid_o ok.disj ok.own ok.proper_e ok.proper_o ok.kind ok.paths,
    view_frame hstep ok.valid_o fun a ha he => ok.disj a he ha⟩

/-- non-vacuity: a one-polygon area receives an area with a two-path member, a polygon member and more tags -/
example :
    let st : Store := [[.pair "a" "1"], [.scalar "P1"],
                       [.pair "a" "2", .pair "b" "3"], [.scalar "p10", .scalar "p11"], [.scalar "", .scalar "P2"]]
    let e : Feat := { kind := .area, id := "a1", tags := some ⟨0, 1⟩, ids := [none], polygons := some ⟨1, 1⟩ }
    let o : Feat := { kind := .area, id := "a1", tags := some ⟨2, 2⟩, ids := [some ⟨3, 2⟩, none],
                      polygons := some ⟨4, 2⟩ }
    MergeOK st e o ∧ (mergeFrom st e o).isSome = true := by decide

/-- the one shape the hypothesis `MergeOK.paths` excludes: an EMPTY non-nil path list (`SetPathIDs(i,
[]FeatureID{})`) merged into a receiver whose member is nil stays nil (`nil[0:0]`), so `PathIDs(i)` reports
"no paths" for the receiver and "zero paths" for the argument.  A member with zero paths is not a valid
area member; recorded as a quirk of the code, not as a defect. -/
theorem merge_empty_path_list_counterexample :
    let st : Store := [[.scalar "P1"], [], [.scalar ""]]
    let e : Feat := { kind := .area, id := "a1", ids := [none], polygons := some ⟨0, 1⟩ }
    let o : Feat := { kind := .area, id := "a1", ids := [some ⟨1, 0⟩], polygons := some ⟨2, 1⟩ }
    ∃ st' e', mergeFrom st e o = some (st', e') ∧ view st' e' ≠ view st o := by
  refine ⟨_, _, rfl, by decide⟩

/-! ## every operation keeps the owners separated and changes its target only -/

/-- the four shapes of a successful operation; only `setVar` can extend the value store -/
inductive Shape (s : State) : Target → State → Prop
  | setVar {i : Nat} {r r' : Feat} {st' : Store} {vals' : Vals} : s.vars[i]? = some r →
      (Valid s.st r → Step (fp r) s.st st' (fp r')) → (∃ ext, vals' = s.vals ++ ext) →
      Shape s (.var i) { s with st := st', vals := vals', vars := s.vars.set i r' }
  | setWorld {w : Nat} {r r' : Feat} {st' : Store} : s.world[w]? = some r →
      (Valid s.st r → Step (fp r) s.st st' (fp r')) →
      Shape s (.world w) { s with st := st', world := s.world.set w r' }
  | pushVar {c : Feat} {st' : Store} : Step [] s.st st' (fp c) →
      Shape s .fresh { s with st := st', vars := s.vars ++ [c] }
  | pushWorld {c : Feat} {st' : Store} : Step [] s.st st' (fp c) →
      Shape s .fresh { s with st := st', world := s.world ++ [c] }

theorem step_shape {s s' : State} {op : Op} (h : step s op = some s') : Shape s (target s op) s' := by
  have same : ∃ ext, s.vals = s.vals ++ ext := ⟨[], (List.append_nil _).symm⟩
  revert h
  fun_cases step s op with
  | case1 kind id n => rintro ⟨⟩; exact .pushVar (newFeat_step s.st kind id n)
  | case3 i f hf =>   -- clone
    intro h; obtain ⟨r, hr, rfl⟩ := Option.map_eq_some_iff.mp h
    exact .pushVar (cloneFeat_step hr)
  | case5 i m f hf =>   -- upd
    intro h; obtain ⟨r, hr, rfl⟩ := Option.map_eq_some_iff.mp h
    exact .setVar hf (mutate_step hr) same
  | case7 i m f hf =>   -- updV
    intro h; obtain ⟨r, hr, rfl⟩ := Option.map_eq_some_iff.mp h
    exact .setVar hf (mutateV_step hr).1 (mutateV_step hr).2
  | case9 i j e o _ he _ =>   -- merge
    intro h; obtain ⟨r, hr, rfl⟩ := Option.map_eq_some_iff.mp h
    exact .setVar he (mergeFrom_step hr) same
  | case13 i f hf w hw e he =>   -- add, the feature is in the world
    intro h; obtain ⟨r, hr, rfl⟩ := Option.map_eq_some_iff.mp h
    simp only [target, hf, worldTarget, hw]
    exact .setWorld he (mergeFrom_step hr)
  | case14 i f hf hw =>   -- add, a new feature
    intro h; obtain ⟨r, hr, rfl⟩ := Option.map_eq_some_iff.mp h
    simp only [target, hf, worldTarget, hw]
    exact .pushWorld (cloneFeat_step hr)
  | case17 kind id k v w hw e he | case20 kind id k w hw e he =>   -- world.AddTag / world.RemoveTag
    intro h; obtain ⟨r, hr, rfl⟩ := Option.map_eq_some_iff.mp h
    simp only [target, worldTarget, hw]
    exact .setWorld he (mutate_step hr)
  | case23 kind id w hw e he =>   -- fromWorld
    intro h; obtain ⟨r, hr, rfl⟩ := Option.map_eq_some_iff.mp h
    exact .pushVar (fromWorld_step hr)
  | case2 | case4 | case6 | case8 | case10 | case11 | case12 | case15 | case16 | case18 | case19 | case21 | case22 => nofun

theorem Shape.ok {s s' : State} {t : Target} (hs : Sep s) (h : Shape s t s') : Sep s' ∧ Isolated s t s' := by
  cases h with
  | setVar hi hstep _ =>
    obtain ⟨h1, h2, h3⟩ := (Sep2.symm hs).set hi (hstep (hs.valid2 _ (List.mem_of_getElem? hi)))
    exact ⟨h1.symm, fun w x _ hx => ⟨hx, h3 x (List.mem_of_getElem? hx)⟩, fun j x hj hx =>
      have hne : j ≠ _ := fun e => hj (by rw [e])
      ⟨(List.getElem?_set_ne hne.symm).trans hx, h2 j x hne hx⟩⟩
  | setWorld hi hstep =>
    obtain ⟨h1, h2, h3⟩ := Sep2.set hs hi (hstep (hs.valid1 _ (List.mem_of_getElem? hi)))
    exact ⟨h1, fun j x hj hx =>
      have hne : j ≠ _ := fun e => hj (by rw [e])
      ⟨(List.getElem?_set_ne hne.symm).trans hx, h2 j x hne hx⟩,
      fun j x _ hx => ⟨hx, h3 x (List.mem_of_getElem? hx)⟩⟩
  | pushVar hstep =>
    obtain ⟨h1, h2, h3⟩ := (Sep2.symm hs).push hstep
    exact ⟨h1.symm, fun w x _ hx => ⟨hx, h3 x (List.mem_of_getElem? hx)⟩,
      fun j x _ hx => ⟨Lemmas.Basic.getElem?_append_of_some hx _, h2 x (List.mem_of_getElem? hx)⟩⟩
  | pushWorld hstep =>
    obtain ⟨h1, h2, h3⟩ := Sep2.push hs hstep
    exact ⟨h1, fun j x _ hx => ⟨Lemmas.Basic.getElem?_append_of_some hx _, h2 x (List.mem_of_getElem? hx)⟩,
      fun j x _ hx => ⟨hx, h3 x (List.mem_of_getElem? hx)⟩⟩

theorem step_ok {s s' : State} {op : Op} (hs : Sep s) (h : step s op = some s') :
    Sep s' ∧ Isolated s (target s op) s' :=
  (step_shape h).ok hs

/-- separation is an invariant of every history -/
theorem run_ok {ops : List Op} : ∀ {s s' : State}, Sep s → run s ops = some s' → Sep s' := by
  intro s s' hs h
  fun_induction run s ops with
  | case1 s => cases h; exact hs
  | case2 s op ops h1 => cases h
  | case3 s op ops s1 h1 ih => exact ih (step_ok hs h1).1 h

/-- every state a program can reach from the empty world is separated — so `step_ok` applies to every
step of every history (all feature kinds, all mutators, any interleaving) -/
theorem reachable_sep {ops : List Op} {s : State} (h : run {} ops = some s) : Sep s :=
  run_ok sep_init h

example : (run {} [.new .area "a1" 1, .upd 0 (.setPathIDs 0 ["p10"]), .add 0,
    .upd 0 (.setPathID 0 0 "p11"), .clone 0, .upd 1 (.setPolygon 0 "P1"), .add 1,
    .new .collection "c1" 0, .upd 2 (.appendKV "k" "v"), .add 2, .upd 2 (.setKey 0 "x"),
    .wtag .area "a1" "name" "w"]).isSome = true := by decide

/-! ## the property -/

/-- what the world returns: the observable value of every entry -/
def worldView (s : State) : List (Option View) := s.world.map (view s.st)

/-- Any sequence of mutators `Mut` through caller value `i` leaves the world, and every other caller value,
exactly as they were (the list-value mutators `MutV` are not in `Mut`: for them `step_ok` / `step_isolates_values`, one step). -/
theorem muts_isolated {ms : List Mut} {i : Nat} : ∀ {s s' : State}, Sep s →
    run s (ms.map (Op.upd i)) = some s' →
    Sep s' ∧ worldView s' = worldView s ∧
      ∀ j x, j ≠ i → s.vars[j]? = some x → s'.vars[j]? = some x ∧ view s'.st x = view s.st x := by
  induction ms with
  | nil =>
    intro s s' hs h
    cases h
    exact ⟨hs, rfl, fun j x _ hx => ⟨hx, rfl⟩⟩
  | cons m ms ih =>
    intro s s' hs h
    simp only [List.map_cons, run] at h
    split at h
    · cases h
    next s1 h1 =>
    have hshape : Shape s (.var i) s1 := step_shape h1
    obtain ⟨hs1, hw1, hv1⟩ := hshape.ok hs
    obtain ⟨hs2, hw2, hv2⟩ := ih hs1 h
    refine ⟨hs2, hw2.trans ?_, fun j x hj hx => ?_⟩
    · cases hshape
      exact List.map_congr_left fun x hx => by
        obtain ⟨w, hw⟩ := List.mem_iff_getElem?.mp hx
        exact (hw1 w x nofun hw).2
    · obtain ⟨a, b⟩ := hv1 j x (fun e => hj (Target.var.inj e).symm) hx
      obtain ⟨c, d⟩ := hv2 j x hj a
      exact ⟨c, d.trans b⟩

/-- Once a feature has been added to a mutable world (`ModifiedFeatures.Update`: a
`Clone()` is stored, or the existing entry `MergeFrom`s it), no later change the caller makes to the
value it passed in — any sequence of mutators `Mut` — changes what the world returns. -/
theorem add_isolates {s s1 s2 : State} {i : Nat} {ms : List Mut} (hs : Sep s)
    (hadd : step s (.add i) = some s1) (hmut : run s1 (ms.map (Op.upd i)) = some s2) :
    worldView s2 = worldView s1 :=
  (muts_isolated (step_ok hs hadd).1 hmut).2.1

/-- for histories: the same from any reachable state -/
theorem add_isolates_reachable {ops : List Op} {s s1 s2 : State} {i : Nat} {ms : List Mut}
    (hr : run {} ops = some s) (hadd : step s (.add i) = some s1)
    (hmut : run s1 (ms.map (Op.upd i)) = some s2) : worldView s2 = worldView s1 :=
  add_isolates (reachable_sep hr) hadd hmut

example : ∃ s s1 s2, run {} [.new .area "a1" 1, .upd 0 (.setPathIDs 0 ["p10", "p12"])] = some s ∧
    step s (.add 0) = some s1 ∧
    run s1 ([Mut.setPathID 0 0 "p11", .setTag "k" "v", .setPolygon 0 "P"].map (Op.upd 0)) = some s2 ∧
    (worldView s1).length = 1 := by
  refine ⟨_, _, _, rfl, rfl, rfl, by decide⟩

/-- `Clone()` (every feature kind) returns a feature made of newly allocated arrays
only — so it shares nothing with its original nor with anything else that exists —, leaves every existing
array untouched, and starts out observably equal to the original. -/
theorem clone_disjoint {st st' : Store} {f c : Feat} (h : cloneFeat st f = some (st', c))
    (hv : Valid st f) (hp : Proper f) :
    (∀ a ∈ fp c, st.length ≤ a ∧ a < st'.length) ∧ Disj c f ∧
    (∀ a, a < st.length → st'[a]? = st[a]?) ∧ view st' c = view st f ∧ view st' f = view st f :=
  have ⟨h1, h2, h3, h4⟩ := fresh_apart (cloneFeat_step h) hv
  ⟨h1, h2, h3, (cloneFeat_spec h).2 hv hp, h4⟩

example : ∃ st st' f c, cloneFeat st f = some (st', c) ∧ Valid st f ∧ Proper f ∧ fp f ≠ [] ∧ f.ids ≠ [] :=
  ⟨[[.pair "k" "v"], [.scalar "p10"], [.scalar ""]], _,
   { kind := .area, id := "a1", tags := some ⟨0, 1⟩, ids := [some ⟨1, 1⟩], polygons := some ⟨2, 1⟩ }, _,
   rfl, by decide, by decide, by decide, by decide⟩

/-- **clones are independent of their originals** (both directions; `k` is any caller value, the clone or the
original): after `vars.push(vars[i].Clone())` any sequence of mutators `Mut` of the clone leaves the original — and
the world — unchanged, and any such sequence on the original leaves the clone unchanged. -/
theorem clone_independent {s s1 s2 : State} {i k : Nat} {ms : List Mut} (hs : Sep s)
    (hc : step s (.clone i) = some s1) (hmut : run s1 (ms.map (Op.upd k)) = some s2) :
    worldView s2 = worldView s1 ∧
    ∀ j x, j ≠ k → s1.vars[j]? = some x → s2.vars[j]? = some x ∧ view s2.st x = view s1.st x :=
  (muts_isolated (step_ok hs hc).1 hmut).2

/-- The feature `NewFeatureFromWorld` constructs from a world's feature (every
kind) is made of newly allocated arrays only: it shares no backing array with the world's feature (nor with
anything else), and constructing it leaves every existing array untouched. -/
theorem from_world_disjoint {st st' : Store} {w c : Feat} (h : fromWorld st w = some (st', c))
    (hv : Valid st w) :
    (∀ a ∈ fp c, st.length ≤ a ∧ a < st'.length) ∧ Disj c w ∧
    (∀ a, a < st.length → st'[a]? = st[a]?) ∧ view st' w = view st w :=
  fresh_apart (fromWorld_step h) hv

/-- … and so, in any history, mutators `Mut` of the copy (of any caller value `k`) never change what the world
returns (the other direction is `step_ok` for `wtag`/`wrm`) -/
theorem from_world_independent {s s1 s2 : State} {kind : Kind} {id : String} {k : Nat} {ms : List Mut}
    (hs : Sep s) (hc : step s (.fromWorld kind id) = some s1)
    (hmut : run s1 (ms.map (Op.upd k)) = some s2) : worldView s2 = worldView s1 :=
  (muts_isolated (step_ok hs hc).1 hmut).2.1

example : ∃ s s1 s2, run {} [.new .area "a1" 2, .upd 0 (.setPathIDs 0 ["p10", "p12"]),
      .upd 0 (.setPolygon 1 "P1"), .upd 0 (.addTag "k" "v"), .add 0] = some s ∧
    step s (.fromWorld .area "a1") = some s1 ∧
    run s1 ([Mut.setPathID 0 1 "p11", .setTag "k" "w"].map (Op.upd 1)) = some s2 ∧
    (s1.vars[1]?.map (view s1.st)) = (s1.world[0]?.map (view s1.st)) := by
  refine ⟨_, _, _, rfl, rfl, rfl, by decide⟩

/-! ## the third level: tag values that are lists (`b6.Expressions`)

`Tags.Clone`, `copy` and `append` copy Tag structs, so two features can hold the SAME list (a path's points)
— deliberately outside `Sep`.  That is safe for one reason only: nothing writes into an existing list;
`b6.Set` (the only writer, used by `ModifyOrAddTagAt`) always allocates. -/

/-- `b6.Set(s, e, i)` returns a list over a NEWLY allocated array — also when
`i == len(s)` and the old array has spare capacity — holding the old elements with position `i` set, and
leaves every existing list untouched. -/
theorem set_allocates_fresh (vals : Vals) (es : List String) (i : Nat) (e : String) :
    (setList vals es i e).2.addr = vals.length ∧
    (∀ a, a < vals.length → (setList vals es i e).1[a]? = vals[a]?) ∧
    (∃ arr, (setList vals es i e).1 = vals ++ [arr]) ∧
    resolveV (setList vals es i e).1 (setList vals es i e).2
      = some ((es ++ List.replicate (i + 1 - es.length) "").set i e) := by
  refine ⟨rfl, fun a ha => by simp [setList, List.getElem?_append_left ha], ⟨_, rfl⟩, ?_⟩
  simp only [setList, resolveV, List.getElem?_concat_length, Nat.le_refl, ↓reduceIte, Option.some.injEq]
  exact List.take_of_length_le (Nat.le_refl _)

example : resolveV (setList [["n1", "n2", "", ""]] ["n1", "n2"] 2 "n3").1
    (setList [["n1", "n2", "", ""]] ["n1", "n2"] 2 "n3").2 = some ["n1", "n2", "n3"] := by decide

/-- **the value store is append-only**: no operation of any kind writes into an existing list -/
theorem vals_append_only {s s' : State} {op : Op} (h : step s op = some s') :
    ∃ ext, s'.vals = s.vals ++ ext := by
  generalize target s op = t, step_shape h = hshape
  cases hshape with
  | setVar _ _ hext => exact hext
  | _ => exact ⟨[], (List.append_nil _).symm⟩

theorem resolveV_append {vals ext : Vals} {h : Slice} {xs : List String}
    (hr : resolveV vals h = some xs) : resolveV (vals ++ ext) h = some xs := by
  unfold resolveV at hr ⊢
  split at hr
  · cases hr
  next arr ha => rwa [List.getElem?_append_left (Lemmas.Basic.lt_length_of_getElem? ha), ha]

/-- the lists behind the list-valued tags of a tag array, in order -/
def obsLists (vals : Vals) : List Cell → Option (List (List String))
  | [] => some []
  | .ltag _ h :: rest =>
    match resolveV vals h, obsLists vals rest with
    | some xs, some r => some (xs :: r)
    | _, _ => none
  | .pair _ _ :: rest => obsLists vals rest
  | .scalar _ :: rest => obsLists vals rest

/-- everything that can be observed of a feature: its slices AND the lists its tags' values point to -/
def obs (st : Store) (vals : Vals) (f : Feat) : Option (View × List (List String)) :=
  match view st f with
  | none => none
  | some v => (obsLists vals v.tags).map fun l => (v, l)

theorem obsLists_append {vals ext : Vals} {cs : List Cell} {l : List (List String)}
    (h : obsLists vals cs = some l) : obsLists (vals ++ ext) cs = some l := by
  fun_induction obsLists vals cs generalizing l with
  | case1 => exact h
  | case2 k hd rest xs r hl hr ih => rw [obsLists, resolveV_append hr, ih hl]; exact h
  | case3 k hd rest hn ih => cases h
  | case4 a b rest ih => exact ih h
  | case5 x rest ih => exact ih h

/-- **isolation down to the list values**: an operation changes what is observed — the lists behind the
tags included — of its target only; in particular extending or overwriting a path's points through one
holder (`ModifyOrAddTagAt`) never shows in a clone, a copy taken from the world, or the world. -/
theorem step_isolates_values {s s' : State} {op : Op} (hs : Sep s) (h : step s op = some s') :
    (∀ w x o, target s op ≠ .world w → s.world[w]? = some x → obs s.st s.vals x = some o →
      s'.world[w]? = some x ∧ obs s'.st s'.vals x = some o) ∧
    (∀ i x o, target s op ≠ .var i → s.vars[i]? = some x → obs s.st s.vals x = some o →
      s'.vars[i]? = some x ∧ obs s'.st s'.vals x = some o) := by
  obtain ⟨_, hw, hv⟩ := step_ok hs h
  obtain ⟨ext, hext⟩ := vals_append_only h
  have key : ∀ x o, view s'.st x = view s.st x → obs s.st s.vals x = some o → obs s'.st s'.vals x = some o := by
    intro x o hview ho
    unfold obs at ho ⊢
    rw [hview]
    cases hvw : view s.st x with
    | none => rw [hvw] at ho; cases ho
    | some v =>
      rw [hvw] at ho
      simp only [Option.map_eq_some_iff] at ho ⊢
      obtain ⟨l, hl, he⟩ := ho
      exact ⟨l, by rw [hext]; exact obsLists_append hl, he⟩
  exact ⟨fun w x o ht hx ho => ⟨(hw w x ht hx).1, key x o (hw w x ht hx).2 ho⟩,
    fun i x o ht hx ho => ⟨(hv i x ht hx).1, key x o (hv i x ht hx).2 ho⟩⟩

/-- non-vacuity: a path built point by point, stored, cloned; original and clone both extended at the same
index and overwritten: each keeps its own points, the world keeps the stored ones -/
example : ∃ s, run {} [.new .generic "20" 0, .updV 0 (.setTagAt "path" 0 "n101"),
      .updV 0 (.setTagAt "path" 1 "n102"), .add 0, .clone 0, .updV 0 (.setTagAt "path" 2 "n103"),
      .updV 1 (.setTagAt "path" 2 "n104"), .updV 1 (.setTagAt "path" 0 "n105")] = some s ∧
    (s.vars.map (obs s.st s.vals)).map (Option.map (·.2)) =
      [some [["n101", "n102", "n103"]], some [["n105", "n102", "n104"]]] ∧
    (s.world.map (obs s.st s.vals)).map (Option.map (·.2)) = [some [["n101", "n102"]]] := by
  refine ⟨_, rfl, by decide, by decide⟩

/-! ## the code as it was: the defects fixed by `fixes/C38-*.patch` -/

/-- `AreaMembers.Clone` copied the outer slice only: `SetPathID` on the clone changed the original
(confirmed on the real code; corpus witness). -/
theorem area_clone_shares_counterexample :
    let st : Store := [[.scalar "p10"], [.scalar ""]]
    let f : Feat := { kind := .area, id := "a1", ids := [some ⟨0, 1⟩], polygons := some ⟨1, 1⟩ }
    ∃ st1 c st2 c', Old.cloneFeat st f = some (st1, c) ∧
      mutate st1 c (.setPathID 0 0 "p11") = some (st2, c') ∧ view st2 f ≠ view st1 f := by
  refine ⟨_, _, _, _, rfl, rfl, by decide⟩

/-- `CollectionFeature.Clone` shared `Keys`/`Values`: `Keys[0] = …` on the clone changed the original. -/
theorem collection_clone_shares_counterexample :
    let st : Store := [[.scalar "k1"], [.scalar "v1"]]
    let f : Feat := { kind := .collection, id := "c1", keys := some ⟨0, 1⟩, values := some ⟨1, 1⟩ }
    ∃ st1 c st2 c', Old.cloneFeat st f = some (st1, c) ∧
      mutate st1 c (.setKey 0 "HACK") = some (st2, c') ∧ view st2 f ≠ view st1 f := by
  refine ⟨_, _, _, _, rfl, rfl, by decide⟩

/-- `CollectionFeature.MergeFrom` (what a world does when a collection is replaced) shared the caller's
`Tags`, `Keys` and `Values`: a later `ModifyOrAddTag` by the caller changed the world's entry. -/
theorem collection_merge_shares_counterexample :
    let st : Store := [[.pair "name" "old"], [.pair "name" "two"], [.scalar "a"], [.scalar "b"]]
    let e : Feat := { kind := .collection, id := "c1", tags := some ⟨0, 1⟩ }
    let o : Feat := { kind := .collection, id := "c1", tags := some ⟨1, 1⟩, keys := some ⟨2, 1⟩,
                      values := some ⟨3, 1⟩ }
    ∃ st2 o', mutate st o (.setTag "name" "CALLER") = some (st2, o') ∧
      view st2 (Old.mergeCollection e o) ≠ view st (Old.mergeCollection e o) := by
  refine ⟨_, _, rfl, by decide⟩

/-- `AreaMembers.MergeFrom` left a non-nil empty path list where the other area has a polygon member
(`nil`): replacing `[polygon]` by `[polygon, polygon]` in a world lost the second polygon. -/
theorem area_merge_polygon_member_counterexample :
    let st : Store := [[.scalar "P1"], [.scalar "P1", .scalar "P2"]]
    let e : Feat := { kind := .area, id := "a2", ids := [none], polygons := some ⟨0, 1⟩ }
    let o : Feat := { kind := .area, id := "a2", ids := [none, none], polygons := some ⟨1, 2⟩ }
    ∃ st' ids' p', Old.mergeAreaMembers st e o = some (st', ids', p') ∧
      viewIds st' ids' ≠ viewIds st o.ids ∧
      (∃ st'' ids'' p'', mergeAreaMembers st e o = some (st'', ids'', p'') ∧
        viewIds st'' ids'' = viewIds st o.ids) := by
  refine ⟨_, _, _, rfl, by decide, _, _, _, rfl, by decide⟩

end B6.Props.C38
