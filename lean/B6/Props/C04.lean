import B6.Model.Cells
import B6.Lemmas.Cells
/-!
# C04 — Spatial search never misses or invents a feature its query accepts (combinatorial half)

Model: `B6.Model.Cells` (cell ids as face + child positions; `tokensForCovering`, `rewriteSpatialQuery`,
`findFeatures` = candidates of the rewritten union filtered by `Matches`).  Everything holds for all cell unions, all
levels, all feature lists, all `Matches` tables.  The token pre-filter is exact on coverings (a shared token ⇔ the
coverings meet); that a true match has intersecting covering cells, the S2 covering contract, is an explicit hypothesis
of `find_exact`, NOT proved: RegionCoverer and all floating point are outside.  The code as found
(`Level()==0 → continue`, `tokensForCoveringWith true`) is sound only for feature cells of level ≠ 0 and hides a face
cell.
-/
namespace B6.Props.C04
open B6.Model.Cells B6.Lemmas.Cells

theorem prefilter_sound (skip0 : Bool) (F Q : List Cell) (f q : Cell) (hf : f ∈ F) (hq : q ∈ Q)
    (h : Cell.Intersects f q) (h0 : ¬ (skip0 = true ∧ f.level = 0)) :
    ∃ t, t ∈ tokensForCoveringWith skip0 F ∧ t ∈ rewriteSpatialQuery Q := by
  rcases (intersects_iff f q).mp h with h | h
  · -- the feature cell covers the query cell: its own `s2:` token is among the query's
    exact ⟨Token.s2 f, (s2_mem_tokens skip0 f F).mpr ⟨hf, h0⟩, (s2_mem_rewrite f Q).mpr ⟨q, hq, h⟩⟩
  · -- the query cell is a proper ancestor of the feature cell: its `a2:` token is among the feature's
    exact ⟨Token.a2 q, (a2_mem_tokens skip0 q F).mpr ⟨f, hf, h⟩, (a2_mem_rewrite q Q).mpr hq⟩

/-- The covering index is a sound pre-filter: if a feature cell and a query cell intersect (equal, or one
an ancestor of the other) the feature's tokens and the rewritten query share a token. Repaired code. -/
theorem spatial_prefilter_sound (F Q : List Cell) (f q : Cell) (hf : f ∈ F) (hq : q ∈ Q)
    (h : Cell.Intersects f q) :
    ∃ t, t ∈ tokensForCovering F ∧ t ∈ rewriteSpatialQuery Q :=
  prefilter_sound false F Q f q hf hq h (fun e => Bool.noConfusion e.1)

example : ∃ t, t ∈ tokensForCovering [⟨2, []⟩] ∧ t ∈ rewriteSpatialQuery [⟨2, [1, 3]⟩] :=
  spatial_prefilter_sound _ _ ⟨2, []⟩ ⟨2, [1, 3]⟩ (.head _) (.head _) (by decide)

/-- The code as found (level-0 covering cells get no `s2:` token): sound for feature cells of level ≠ 0. -/
theorem spatial_prefilter_sound_partial (F Q : List Cell) (f q : Cell) (hf : f ∈ F) (hq : q ∈ Q)
    (h : Cell.Intersects f q) (h0 : f.level ≠ 0) :
    ∃ t, t ∈ tokensForCoveringWith true F ∧ t ∈ rewriteSpatialQuery Q :=
  prefilter_sound true F Q f q hf hq h (fun e => h0 e.2)

example : ∃ t, t ∈ tokensForCoveringWith true [⟨2, [1]⟩] ∧ t ∈ rewriteSpatialQuery [⟨2, [1, 3]⟩] :=
  spatial_prefilter_sound_partial _ _ ⟨2, [1]⟩ ⟨2, [1, 3]⟩ (.head _) (.head _) (by decide) (Nat.succ_ne_zero 0)

/-- The full statement for a given variant of the token function. -/
def prefilter_sound_statement (skip0 : Bool) : Prop :=
  ∀ (F Q : List Cell) (f q : Cell), f ∈ F → q ∈ Q → Cell.Intersects f q →
    ∃ t, t ∈ tokensForCoveringWith skip0 F ∧ t ∈ rewriteSpatialQuery Q

theorem prefilter_sound_repaired : prefilter_sound_statement false :=
  fun F Q f q hf hq h => spatial_prefilter_sound F Q f q hf hq h

/-- The code as found violates it: a feature whose covering is the face cell 2 (a continent-sized area)
shares no token with a query cell inside that face — the feature is hidden from the query. -/
theorem level0_counterexample :
    let F : List Cell := [⟨2, []⟩]
    let Q : List Cell := [⟨2, [1, 3]⟩]
    Cell.Intersects ⟨2, []⟩ ⟨2, [1, 3]⟩ ∧
      shares (tokensForCoveringWith true F) (rewriteSpatialQuery Q) = false ∧
      findFeaturesWith true (fun _ => true) [((7 : Nat), F)] Q = [] := by
  decide

theorem prefilter_sound_as_found_fails : ¬ prefilter_sound_statement true := by
  intro h
  obtain ⟨hi, hs, _⟩ := level0_counterexample
  obtain ⟨t, h1, h2⟩ := h _ _ _ _ (.head _) (.head _) hi
  exact Bool.false_ne_true (hs.symm.trans ((shares_iff _ _).mpr ⟨t, h1, h2⟩))

/-- Conversely a shared token only comes from an intersecting pair: the candidate set is exactly
"the coverings meet" (holds for both variants of the token function). -/
theorem spatial_prefilter_tight (skip0 : Bool) (F Q : List Cell) (t : Token)
    (h1 : t ∈ tokensForCoveringWith skip0 F) (h2 : t ∈ rewriteSpatialQuery Q) :
    ∃ f ∈ F, ∃ q ∈ Q, Cell.Intersects f q := by
  cases t with
  | s2 p =>
    obtain ⟨hp, _⟩ := (s2_mem_tokens skip0 p F).mp h1
    obtain ⟨c, hc, h⟩ := (s2_mem_rewrite p Q).mp h2
    exact ⟨p, hp, c, hc, (intersects_iff p c).mpr (Or.inl h)⟩
  | a2 p =>
    obtain ⟨f, hf, h⟩ := (a2_mem_tokens skip0 p F).mp h1
    exact ⟨f, hf, p, (a2_mem_rewrite p Q).mp h2, (intersects_iff f p).mpr (Or.inr h)⟩

example : ∃ f ∈ [(⟨2, [1]⟩ : Cell)], ∃ q ∈ [(⟨2, [1, 3]⟩ : Cell)], Cell.Intersects f q :=
  spatial_prefilter_tight false _ _ (Token.s2 ⟨2, [1]⟩) (.head _) (List.mem_cons_of_mem _ (.tail _ (.head _)))

/-- shared token ⇔ coverings meet (repaired code) -/
theorem shares_iff_coveringsMeet (F Q : List Cell) :
    shares (tokensForCovering F) (rewriteSpatialQuery Q) = coveringsMeet F Q := by
  rw [Bool.eq_iff_iff, shares_iff, coveringsMeet_iff]
  constructor
  · rintro ⟨t, h1, h2⟩; exact spatial_prefilter_tight false F Q t h1 h2
  · rintro ⟨f, hf, q, hq, h⟩; exact spatial_prefilter_sound F Q f q hf hq h

/-- Search never invents: every result is an indexed feature whose own `Matches` is true —
for both variants, every feature list, every query covering. -/
theorem never_invents {ι} (skip0 : Bool) (m : ι → Bool) (feats : List (Indexed ι)) (Q : List Cell)
    (x : Indexed ι) (hx : x ∈ findFeaturesWith skip0 m feats Q) :
    x ∈ feats.filter (fun f => m f.1) := by
  simp only [findFeaturesWith, candidates, List.mem_filter] at hx ⊢
  exact ⟨hx.1.1, hx.2⟩

example : ((1 : Nat), [(⟨2, [1]⟩ : Cell)]) ∈
    [((1 : Nat), [(⟨2, [1]⟩ : Cell)]), (2, [⟨3, []⟩])].filter (fun f => (fun i => i == 1) f.1) :=
  never_invents false (fun i => i == 1) _ [⟨2, [1, 3]⟩] _ (.head _)

/-- A feature is returned iff it is indexed, its `Matches` is true and its covering meets the query's. -/
theorem mem_findFeatures_iff {ι} (m : ι → Bool) (feats : List (Indexed ι)) (Q : List Cell) (x : Indexed ι) :
    x ∈ findFeatures m feats Q ↔ x ∈ feats ∧ m x.1 = true ∧ coveringsMeet x.2 Q = true := by
  simp only [findFeatures, findFeaturesWith, candidates, List.mem_filter]
  rw [show tokensForCoveringWith false x.2 = tokensForCovering x.2 from rfl, shares_iff_coveringsMeet]
  exact ⟨fun ⟨⟨a, b⟩, c⟩ => ⟨a, c, b⟩, fun ⟨a, c, b⟩ => ⟨⟨a, b⟩, c⟩⟩

theorem find_exact_with {ι} (skip0 : Bool) (m : ι → Bool) (feats : List (Indexed ι)) (Q : List Cell)
    (contract : ∀ x ∈ feats, m x.1 = true →
      ∃ f ∈ x.2, ¬ (skip0 = true ∧ f.level = 0) ∧ ∃ q ∈ Q, Cell.Intersects f q) :
    findFeaturesWith skip0 m feats Q = feats.filter (fun f => m f.1) := by
  rw [findFeaturesWith, candidates, List.filter_filter]
  apply List.filter_congr
  intro x hx
  cases hm : m x.1 with
  | false => rfl
  | true =>
    obtain ⟨f, hf, h0, q, hq, h⟩ := contract x hx hm
    exact (shares_iff _ _).mpr (prefilter_sound skip0 x.2 Q f q hf hq h h0)

/-- Search is exact under the covering contract: if every indexed feature the query accepts has a covering
cell intersecting a query covering cell (S2: covering ⊇ region, for both coverings — assumed), the result
is exactly the indexed features whose `Matches` is true, in index order. -/
theorem find_exact {ι} (m : ι → Bool) (feats : List (Indexed ι)) (Q : List Cell)
    (contract : ∀ x ∈ feats, m x.1 = true → ∃ f ∈ x.2, ∃ q ∈ Q, Cell.Intersects f q) :
    findFeatures m feats Q = feats.filter (fun f => m f.1) :=
  find_exact_with false m feats Q fun x hx hm =>
    let ⟨f, hf, h⟩ := contract x hx hm
    ⟨f, hf, fun e => Bool.noConfusion e.1, h⟩

example : findFeatures (fun i => i == 1) [((1 : Nat), [(⟨2, []⟩ : Cell)]), (2, [⟨3, []⟩])] [⟨2, [1, 3]⟩]
    = [((1 : Nat), [(⟨2, []⟩ : Cell)])] := rfl

/-- The same for the code as found, with the extra hypothesis that carves out the failing class:
no indexed feature has a level-0 cell in its covering. -/
theorem find_exact_partial {ι} (m : ι → Bool) (feats : List (Indexed ι)) (Q : List Cell)
    (noFace : ∀ x ∈ feats, ∀ f ∈ x.2, f.level ≠ 0)
    (contract : ∀ x ∈ feats, m x.1 = true → ∃ f ∈ x.2, ∃ q ∈ Q, Cell.Intersects f q) :
    findFeaturesWith true m feats Q = feats.filter (fun f => m f.1) :=
  find_exact_with true m feats Q fun x hx hm =>
    let ⟨f, hf, h⟩ := contract x hx hm
    ⟨f, hf, fun e => noFace x hx f hf e.2, h⟩

/-! ### intersects-feature: named feature without geometry, and layered (overlay) worlds

`IntersectsFeature{ID}` compiles to the geometry query of the named feature as seen in the world it is resolved
in: `resolve : Option (List Cell)` is the covering of that geometry query, `none` = `Empty{}` (the feature is
missing in that world or has no geometry).  A layered world searches each layer and merges. -/

/-- compiled search with an optional geometry query: `Empty{}` finds nothing -/
def findResolved {ι} (m : ι → Bool) (feats : List (Indexed ι)) : Option (List Cell) → List (Indexed ι)
  | none => []
  | some Q => findFeatures m feats Q

/-- If `Matches` is false for every feature (as repaired `IntersectsFeature.Matches` is when the named feature has no
geometry), the empty result of `Empty{}` is exactly `filter Matches` (the class `self-without-geometry`). -/
theorem find_without_geometry {ι} (m : ι → Bool) (feats : List (Indexed ι))
    (hm : ∀ x ∈ feats, m x.1 = false) :
    findResolved m feats none = feats.filter (fun f => m f.1) := by
  simp only [findResolved]
  symm
  rw [List.filter_eq_nil_iff]
  intro x hx
  simp [hm x hx]

example : findResolved (fun _ => false) [((7 : Nat), ([] : List Cell))] none
    = [((7 : Nat), ([] : List Cell))].filter (fun f => (fun _ => false) f.1) :=
  find_without_geometry _ _ fun _ _ => rfl

/-- a layered world: each layer is searched with the query as resolved for that layer, results are merged -/
def findLayered {ι} (m : ι → Bool) (base overlay : List (Indexed ι)) (qBase qOverlay : Option (List Cell)) :
    List (Indexed ι) :=
  findResolved m base qBase ++ findResolved m overlay qOverlay

/-- Repaired layered worlds resolve the named feature once, in the whole world, and hand the same geometry
query to every layer: the merged result is the search over all features, hence (with `find_exact`) exact. -/
theorem find_layered_exact {ι} (m : ι → Bool) (base overlay : List (Indexed ι)) (Q : List Cell)
    (contract : ∀ x ∈ base ++ overlay, m x.1 = true → ∃ f ∈ x.2, ∃ q ∈ Q, Cell.Intersects f q) :
    findLayered m base overlay (some Q) (some Q) = (base ++ overlay).filter (fun f => m f.1) := by
  rw [← find_exact m (base ++ overlay) Q contract]
  simp only [findLayered, findResolved, findFeatures, findFeaturesWith, candidates, List.filter_append]

example : findLayered (fun _ => true) [((1 : Nat), [(⟨2, [1]⟩ : Cell)])] [((7 : Nat), [(⟨2, [1, 3]⟩ : Cell)])]
    (some [⟨2, [1, 3]⟩]) (some [⟨2, [1, 3]⟩]) = [(1, [⟨2, [1]⟩]), (7, [⟨2, [1, 3]⟩])] := rfl

/-- Code as found: the base layer resolved the named feature in the base only. Feature 7 lives in the overlay;
the base compiles the query to `Empty{}` and the matching base feature 1 is missing from the result. -/
theorem layered_resolution_counterexample :
    let base : List (Indexed Nat) := [(1, [⟨2, [1]⟩])]
    let overlay : List (Indexed Nat) := [(7, [⟨2, [1, 3]⟩])]
    let Q : List Cell := [⟨2, [1, 3]⟩]
    findLayered (fun _ => true) base overlay none (some Q) = [(7, [⟨2, [1, 3]⟩])] ∧
    (base ++ overlay).filter (fun f => (fun _ => true) f.1) = [(1, [⟨2, [1]⟩]), (7, [⟨2, [1, 3]⟩])] := by
  decide

end B6.Props.C04
