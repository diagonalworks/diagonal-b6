import B6.Lemmas.SearchCompile
import B6.Lemmas.SearchPosting
/-!
# C06 — Search iterators implement sorted-set algebra under any call sequence

The model is `B6.Model.Search` (array / tree leaves, `union`, `intersection`, `keyRange`, `tokenPrefix`,
`empty`, and `Query.Compile`), the spec `B6.Spec.Cursor` (strictly increasing list + position) and
`B6.Spec.SearchQuery` (`denote`).  `Refines ops s xs` = the implementation started in `s` answers **every**
finite sequence of `Next` / `Advance(k)` calls, with keys in the operations' domain `dom` (every key for the in-memory
indices), exactly like the spec cursor over `xs`
(same `Bool`, same value on `true`), up to the first `false` (`RefinesAt.run` turns it into transcripts).

All theorems are for all inputs: any lists, any number of children, any query depth, any call sequence.
Proofs are in `B6/Lemmas/Search*.lean`.
-/
namespace B6.Props.C06
open B6.Spec.Cursor B6.Spec.SearchQuery B6.Model.Search B6.Lemmas.Search

/-! ## The spec cursor is the sorted-set cursor the property talks about -/

/-- A plain `Next` loop over the spec cursor yields exactly the list, in order, then `false`. -/
theorem spec_drain (c : Cursor) :
    runSpec c (List.replicate (c.rest.length + 1) Call.next) =
      c.rest.map (fun x => (true, some x)) ++ [(false, none)] := by
  obtain ⟨b, r⟩ := c
  induction r generalizing b with
  | nil => simp [runSpec, Cursor.next]
  | cons x r ih =>
    have := ih (b ++ [x])
    simp only [List.length_cons, List.replicate_succ, runSpec, Cursor.next, ↓reduceIte, List.map_cons,
      List.cons_append, List.cons.injEq, Prod.mk.injEq, true_and] at this ⊢
    refine ⟨by simp [Cursor.cur], ?_⟩
    simpa [List.replicate_succ, runSpec] using this

/-- `advance k` never moves backwards, never skips: on `true` the new current element is the least
element of the list that is `≥ k` and not before the old current element (so it stays put when the current
element is already `≥ k`); on `false` no element `≥ k` exists. -/
theorem spec_advance_first_ge (c : Cursor) (hw : c.WF) (k : Nat) :
    ((c.advance k).1 = true →
      c.pos ≤ (c.advance k).2.pos ∧ (c.advance k).2.xs = c.xs ∧
      ∃ x, (c.advance k).2.cur = some x ∧ x ∈ c.xs ∧ k ≤ x ∧ (∀ v, c.cur = some v → v ≤ x) ∧
        ∀ y ∈ c.xs, k ≤ y → (∀ v, c.cur = some v → v ≤ y) → x ≤ y) ∧
    ((c.advance k).1 = false → ∀ y ∈ c.xs, y < k) := by
  obtain ⟨h1, h2⟩ := Cursor.advance_spec hw k
  exact ⟨fun ht => by obtain ⟨_, a, b, c⟩ := h1 ht; exact ⟨b, a, c⟩, h2⟩

/-- `next` moves to the least element above the current one (strictly increasing output). -/
theorem spec_next_least_above (c : Cursor) (hw : c.WF) :
    (c.next.1 = true →
      ∃ x, c.next.2.cur = some x ∧ x ∈ c.xs ∧ (∀ v, c.cur = some v → v < x) ∧
        ∀ y ∈ c.xs, (∀ v, c.cur = some v → v < y) → x ≤ y) ∧
    (c.next.1 = false → ∀ y ∈ c.xs, ∃ v, c.cur = some v ∧ y ≤ v) := by
  have hlo : ∀ y, c.lo ≤ y ↔ ∀ v, c.cur = some v → v < y := by
    intro y; unfold Cursor.lo; cases c.cur <;> simp [Nat.succ_le_iff]
  rcases Cursor.next_movesTo hw with ⟨hb, hall⟩ | ⟨hb, _, _, x, hx, hxm, hge, hleast⟩
  · refine ⟨fun ht => Bool.noConfusion (hb.symm.trans ht), fun _ y hy => ?_⟩
    have := hall y hy
    unfold Cursor.lo at this
    cases hc : c.cur with
    | none => rw [hc] at this; exact absurd this (Nat.not_lt_zero _)
    | some v => rw [hc] at this; exact ⟨v, rfl, Nat.le_of_lt_succ this⟩
  · exact ⟨fun _ => ⟨x, hx, hxm, (hlo x).1 hge, fun y hy hvy => hleast y hy ((hlo y).2 hvy)⟩,
      fun hf => Bool.noConfusion (hf.symm.trans hb)⟩

/-! ## Leaves and combinators: each one is a simulation when its children are -/

/-- `arrayIndexIterator` over a strictly increasing posting list (and the tree-index leaf). -/
theorem array_refines (kind : LeafKind) (xs : List Nat) (h : StrictSorted xs) :
    Refines Leaf.ops ⟨kind, xs, 0⟩ xs :=
  leaf_refines kind xs h

/-- `union` (any number of children, any heap tie-breaking by first minimum): refines the cursor of any
strictly increasing `ys` whose elements are exactly those of the children's lists. -/
theorem union_refines {σ : Type} (o : IterOps σ) (children : List (σ × List Nat)) (ys : List Nat)
    (hch : ∀ p ∈ children, Refines o p.1 p.2) (hys : StrictSorted ys)
    (hmem : ∀ x, x ∈ ys ↔ ∃ p ∈ children, x ∈ p.2) :
    Refines (Union.ops o) (.fresh (children.map (·.1))) ys :=
  B6.Lemmas.Search.union_refines o children ys hch hys hmem

/-- `intersection` (at least one child; any order the stable sort by `EstimateLength` produces). -/
theorem intersection_refines {σ : Type} (o : IterOps σ) (fuel : Nat) (children : List (σ × List Nat))
    (ys : List Nat) (hne : children ≠ [])
    (hch : ∀ p ∈ children, Refines o p.1 p.2 ∧ p.2.length < fuel) (hys : StrictSorted ys)
    (hmem : ∀ x, x ∈ ys ↔ ∀ p ∈ children, x ∈ p.2) (hdom : ∀ p ∈ children, ∀ x ∈ p.2, o.dom x) :
    Refines (Inter.ops o fuel) (Inter.new o (children.map (·.1))) ys :=
  inter_refines_fam o fuel o.estimate children (·.1) (·.2) ys hne
    (fun p hp => ⟨(hch p hp).1, (hch p hp).2, hdom p hp⟩) hys hmem

/-- The leapfrog loop terminates: in every state that satisfies `InterRel` (the invariant between calls, with a spec cursor
per child), `Next` and `Advance k` finish within the fuel (they never answer `Err.fuel`), for every `k`. -/
theorem intersection_terminates {σ : Type} (o : IterOps σ) (fuel : Nat) (its : List σ) (C : Cursor)
    (h : InterRel o fuel its C) :
    Inter.next o fuel its ≠ .error .fuel ∧ ∀ k, o.dom k → Inter.advance o fuel k its ≠ .error .fuel := by
  obtain ⟨hn, ha⟩ := inter_lands o fuel its C.xs C.cur h.at
  refine ⟨?_, fun k hk => ?_⟩
  · obtain ⟨s', ⟨h1, _⟩ | ⟨_, h1, _⟩⟩ := hn <;> rw [h1] <;> simp
  · obtain ⟨s', ⟨h1, _⟩ | ⟨_, h1, _⟩⟩ := ha k hk <;> rw [h1] <;> simp

/-- `keyRange`: lazy `Advance(begin)`, end clamp. -/
theorem keyRange_refines {σ : Type} (o : IterOps σ) (it : σ) (xs : List Nat) (b e : Nat)
    (h : Refines o it xs) (hb : o.dom b) : Refines (Range.ops o) ⟨it, b, e, false⟩ (rangeList b e xs) :=
  range_refines o b e h hb

/-! ## Compiled query trees -/

/-- **Main theorem.** For every valid index of any kind — `ArrayIndex`, `TreeIndex`, or a compact index whose posting
lists are the bytes `PostingList.Fill` writes (`CompactOK`: sorted namespace table, decodable non-zero
`TypeAndNamespace`s) — and every well-formed query tree of `empty / all / union / intersection / key-range /
token-prefix` (no bound on depth or width) whose key-range bounds are in the index's key domain, the compiled iterator
refines the spec cursor over the list the query denotes.  (`Index.dom` is everything for the in-memory kinds, and
"namespace in the file's table" for compact ones, where `Advance` panics otherwise.) -/
theorem compile_refines (F : Nat) (ix : Index) (hv : ix.Valid) (hc : CompactOK ix) (hF : ix.total < F) (q : SQuery)
    (hq : q.WF) (hk : q.KeysIn ix.dom) (d : Nat) (hd : depth q ≤ d) :
    Refines (ops ix.dom F d) (compile F ix q) (q.denote ix) :=
  B6.Lemmas.Search.compile_refines F ix hv hc hF q hq hk d hd

/-- `tokenPrefix`: the scan of the sorted token list finds exactly the tokens with the prefix, and the union
of their posting lists refines the cursor of the merged list. -/
theorem tokenPrefix_refines (F : Nat) (ix : Index) (hv : ix.Valid) (hc : CompactOK ix) (hF : ix.total < F)
    (p : Token) (d : Nat) (hd : 2 ≤ d) :
    Refines (ops ix.dom F d) (compile F ix (.tokenPrefix p))
      (sortDedup ((ix.lists.filter (fun e => p.isPrefixOf e.1)).map (·.2)).flatten) := by
  have := compile_refines F ix hv hc hF (.tokenPrefix p) (by simp [SQuery.WF]) (by simp [SQuery.KeysIn]) d
    (by simpa [depth] using hd)
  simpa [SQuery.denote] using this

/-- The transcript of **any** call sequence (keys in the domain) on a compiled query equals the spec cursor's. -/
theorem compile_transcript (F : Nat) (ix : Index) (hv : ix.Valid) (hc : CompactOK ix) (hF : ix.total < F)
    (q : SQuery) (hq : q.WF) (hk : q.KeysIn ix.dom) (calls : List Call)
    (hcalls : ∀ k, Call.advance k ∈ calls → ix.dom k) :
    runImpl (ops ix.dom F (depth q)) (compile F ix q) calls = some (runSpec (start (q.denote ix)) calls) :=
  (compile_refines F ix hv hc hF q hq hk (depth q) (Nat.le_refl _)).run calls
    (fun k h => ops_dom ix.dom F (depth q) k (hcalls k h))

/-- A plain `Next` loop on a compiled query yields exactly the denoted list, in increasing order. -/
theorem compile_drain (F : Nat) (ix : Index) (hv : ix.Valid) (hc : CompactOK ix) (hF : ix.total < F) (q : SQuery)
    (hq : q.WF) (hk : q.KeysIn ix.dom) :
    runImpl (ops ix.dom F (depth q)) (compile F ix q) (List.replicate ((q.denote ix).length + 1) Call.next) =
      some ((q.denote ix).map (fun x => (true, some x)) ++ [(false, none)]) ∧
    StrictSorted (q.denote ix) := by
  refine ⟨?_, (denote_spec ix hv q).1⟩
  rw [compile_transcript F ix hv hc hF q hq hk _ (by simp)]
  exact congrArg some (spec_drain (start (q.denote ix)))

/-- in-memory indices satisfy `CompactOK` vacuously (and every key is in their domain: `dom_of_not_compact`) -/
theorem compactOK_of_not_compact (ix : Index) (h : ix.kind ≠ .compact) : CompactOK ix :=
  fun hk => absurd hk h

/-! ## Compact indices: the posting-list iterator of C08 is a leaf of the same algebra

`postingOps tbl` is C08's byte-level model of `compact.Iterator`; its key domain `dom k` is "the namespace of `k` is in
the file's namespace table" (`Advance` panics in `nt.Encode` otherwise).  All combinator theorems above are stated
for an arbitrary `IterOps` with its `dom`; the three theorems below are their instances at `postingOps`, and `compile_refines`
reaches `posting_refines` at its compact leaves (`Iter.pleaf`) through `pleaf_embed`. -/

open B6.Model.Posting in
/-- The compact iterator over the posting list that `PostingList.Fill` builds from any valid, strictly increasing id list
refines the spec cursor over the ids' keys — for every sequence of `Next` / `Advance(k)` with the namespace of `k` in the
table. -/
theorem posting_refines (token : B6.Model.Varint.Bytes) (ids : List Id) (tbl : Table) (ht : TableOK tbl)
    (hok : PostingOK tbl ids) :
    Refines (postingOps tbl) (fill token ids, It.start) (ids.map keyNat) :=
  B6.Lemmas.Search.posting_refines token ids tbl ht hok

open B6.Model.Posting in
/-- `union` / `tokenPrefix` over compact posting lists of one file -/
theorem union_of_postings (tbl : Table) (ht : TableOK tbl) (ps : List (B6.Model.Varint.Bytes × List Id))
    (hok : ∀ p ∈ ps, PostingOK tbl p.2) (ys : List Nat) (hys : StrictSorted ys)
    (hmem : ∀ x, x ∈ ys ↔ ∃ p ∈ ps, x ∈ p.2.map keyNat) :
    Refines (Union.ops (postingOps tbl)) (.fresh (ps.map fun p => (fill p.1 p.2, It.start))) ys :=
  B6.Lemmas.Search.union_of_postings tbl ht ps hok ys hys hmem

open B6.Model.Posting in
/-- `intersection` over compact posting lists of one file: the leapfrog only ever passes the lists' own keys, which
are inside the key domain -/
theorem intersection_of_postings (tbl : Table) (ht : TableOK tbl) (fuel : Nat)
    (ps : List (B6.Model.Varint.Bytes × List Id)) (hne : ps ≠ [])
    (hok : ∀ p ∈ ps, PostingOK tbl p.2 ∧ p.2.length < fuel) (ys : List Nat) (hys : StrictSorted ys)
    (hmem : ∀ x, x ∈ ys ↔ ∀ p ∈ ps, x ∈ p.2.map keyNat) :
    Refines (Inter.ops (postingOps tbl) fuel)
      (Inter.new (postingOps tbl) (ps.map fun p => (fill p.1 p.2, It.start))) ys :=
  inter_refines_fam _ fuel _ ps _ (fun p => p.2.map keyNat) ys hne (fun p hp =>
    ⟨B6.Lemmas.Search.posting_refines p.1 p.2 tbl ht (hok p hp).1, by rw [List.length_map]; exact (hok p hp).2,
      posting_keys_in_dom p.2 tbl (hok p hp).1⟩) hys hmem

example : B6.Model.Posting.TableOK B6.Props.C08.wTbl ∧ PostingOK B6.Props.C08.wTbl B6.Props.C08.wIds := by
  unfold B6.Model.Posting.TableOK PostingOK B6.Model.Posting.ValidIds B6.Model.Posting.SortedIds
    B6.Model.Posting.TnOK B6.Props.C08.wTbl B6.Props.C08.wIds B6.Model.Posting.idLt
  decide +kernel

/-! ## Non-vacuity: the hypotheses hold of concrete, non-trivial values; and one worked transcript -/

def exIndex : Index :=
  { kind := .array, lists := [("a=1".toList, [1, 4, 7, 9]), ("a=2".toList, [2, 4, 9, 12]), ("b".toList, [4, 5, 9, 20])] }

/-- a compact index: keys `(type * 8192 + namespace) * 2^64 + value` over the table `["", "a", "b"]` -/
def exCompact : Index :=
  { kind := .compact, names := ["", "a", "b"],
    lists := [("t".toList, [1 * 2 ^ 64 + 1, 2 * 2 ^ 64 + 5, 2 * 2 ^ 64 + 9]),
              ("u".toList, [2 * 2 ^ 64 + 5, 2 * 2 ^ 64 + 7, 8193 * 2 ^ 64])] }

example : exCompact.Valid := by
  unfold Index.Valid exCompact StrictSorted
  decide +kernel

example : CompactOK exCompact := by
  intro _
  unfold exCompact B6.Model.Posting.TableOK B6.Model.Posting.TnOK
  decide +kernel

example : (SQuery.keyRange (2 * 2 ^ 64) (8193 * 2 ^ 64) (.inter [.all "t".toList, .all "u".toList])).KeysIn
    exCompact.dom := by
  simp [SQuery.KeysIn, SQuery.KeysInList, Index.dom, exCompact]

/-- the byte-level compact leaves run: intersection of two posting lists, `Advance` then `Next` -/
example :
    runImpl (ops exCompact.dom 7 1) (compile 7 exCompact (.inter [.all "t".toList, .all "u".toList]))
      [.advance (1 * 2 ^ 64 + 3), .next] = some [(true, some (2 * 2 ^ 64 + 5)), (false, none)] := by
  decide +kernel

def exQuery : SQuery :=
  .inter [.union [.all "a=1".toList, .all "a=2".toList], .keyRange 3 15 (.tokenPrefix "b".toList),
    .tokenPrefix "a=".toList]

example : exIndex.Valid := by
  unfold Index.Valid exIndex StrictSorted
  decide +kernel

example : exQuery.WF := by simp [exQuery, SQuery.WF, SQuery.WFList]

example : exIndex.total < 13 := by decide +kernel

example : exQuery.denote exIndex = [4, 9] := by decide +kernel

example : StrictSorted [1, 4, 7, 9] := by unfold StrictSorted; decide +kernel

example :
    runSpec (start [4, 9]) [.advance 2, .advance 4, .next, .advance 100] =
      [(true, some 4), (true, some 4), (true, some 9), (false, none)] := by decide +kernel

/-- children satisfying the hypotheses of `union_refines` / `intersection_refines` -/
example : Refines Leaf.ops ⟨.array, [1, 4, 7, 9], 0⟩ [1, 4, 7, 9] :=
  array_refines .array _ (by unfold StrictSorted; decide)

end B6.Props.C06
