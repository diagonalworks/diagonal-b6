import B6.Model.WireExpr
/-!
# C19 — Expressions survive the client/server wire format

Theorems about `B6.Model.WireExpr` (model of `Expression.ToProto` / `ExpressionFromProto`,
`Query.ToProto` / `NewQueryFromProto`; C23 has its own model of `ExpressionFromProto`,
`B6.Model.EvalGuards.decodeNode`, into the evaluator's expressions; no theorem relates the two).

`supported` is the executable predicate (the driver runs the same function) that says which expression
trees the round trip is claimed for: every constructor except the ones `ExpressionFromProto` /
`NewQueryFromProto` have no (working) case for — the nil literal (comes back as an `Expression` with a nil
`AnyExpression`, the constructor `absent`, on which `ToProto` panics), GeoJSON and feature literals (error),
the queries `Empty`, `IsValid`, `IntersectsCells`, `MightIntersect` (error) — tag / tagged values that are not
strings (only their `String()` travels), collection literals holding anything but literal values
(`Any.isElem`; for a query `FromLiteral` has no case), and positions outside `int32`.  None of the excluded
shapes can be produced by the Python client (it sends calls, lambdas, symbols, int / float / string /
feature-ID / path / area / query literals, and only queries the server could itself read); they are recorded
below as counterexamples to the unrestricted statement.

`wire` (executable too) is the domain of the second half, the client's side: a request without a nil literal and
without a query inside a collection literal, with `int32` positions; whatever `ExpressionFromProto` accepts of such a
request is `supported` (`nodeP_accepted`), so it round-trips (`wire_roundtrip_partial`).

`cv` is the model's parameter for the one floating-point computation on the way (the radius of an `IntersectsCap`
query as the server reports it back, see `B6.Model.WireExpr`); `capStable cv` says that every cap radius in a tree is
reproduced by it.
-/
namespace B6.Props.C19
open B6.Model.WireExpr B6.Model.FeatureID

theorem wid_roundtrip (f : WID) : f.toProto.fromProto = some f := by
  obtain ⟨t, ns, v⟩ := f
  cases t <;> rfl

theorem steps_roundtrip (l : List Step) :
    stepsFromProto (l.map fun s => ⟨s.destination.toProto, s.via.toProto, s.cost⟩) = some l := by
  induction l with
  | nil => rfl
  | cons s rest ih => simp [stepsFromProto, wid_roundtrip, ih]

theorem route_roundtrip (r : Route) : r.toProto.fromProto = some r := by
  obtain ⟨o, steps⟩ := r
  simp [Route.toProto, RouteP.fromProto, wid_roundtrip, steps_roundtrip]

theorem ftype_roundtrip (t : FType) : ftypeFromProto t.toProto = some t := by cases t <;> rfl

theorem toInt32_id (x : Int) (h : inInt32 x = true) : toInt32 x = x := by
  simp only [inInt32, Bool.and_eq_true, decide_eq_true_eq] at h
  unfold toInt32
  omega

theorem R.bind_eq_ok {α β : Type} {r : R α} {f : α → R β} {b : β} (h : r.bind f = .ok b) :
    ∃ a, r = .ok a ∧ f a = .ok b := by
  cases r with
  | ok a => exact ⟨a, rfl, h⟩
  | err => simp at h
  | panic => simp at h

theorem R.bind_ok_eq_ok {α β : Type} {r : R α} {g : α → β} {b : β}
    (h : (r.bind fun a => .ok (g a)) = .ok b) : ∃ a, r = .ok a ∧ b = g a := by
  obtain ⟨a, ha, h⟩ := R.bind_eq_ok h
  cases h
  exact ⟨a, ha, rfl⟩

variable (cv : Nat → Nat)

mutual
theorem query_roundtrip : ∀ (q : Query), Query.supported q = true → q.capStable cv = true →
    q.toProto.fromProto cv = .ok q
  | .all, _, _ => rfl
  | .keyed _, _, _ => rfl
  | .tagged k v, h, _ => by
    cases v with
    | str s => rfl
    | other r => cases h
  | .typed t q, h, hc => by
    simp only [Query.toProto, QueryP.fromProto, query_roundtrip q h hc, ftype_roundtrip]
  | .inter qs, h, hc => by
    simp only [Query.toProto, QueryP.fromProto, queryList_roundtrip qs h hc, R.ok_bind]
  | .union qs, h, hc => by
    simp only [Query.toProto, QueryP.fromProto, queryList_roundtrip qs h hc, R.ok_bind]
  | .cap c r, _, hc => by
    simp only [Query.capStable, beq_iff_eq] at hc
    simp only [Query.toProto, QueryP.fromProto, hc]
  | .feature id, _, _ => by simp only [Query.toProto, QueryP.fromProto, wid_roundtrip]
  | .point _, _, _ => rfl
  | .polyline _, _, _ => rfl
  | .multipolygon _, _, _ => rfl
  | .empty, h, _ => by cases h
  | .isValid, h, _ => by cases h
  | .cells _, h, _ => by cases h
  | .might _, h, _ => by cases h
theorem queryList_roundtrip : ∀ (qs : QueryList), QueryList.supported qs = true →
    qs.capStable cv = true → qs.toProto.fromProto cv = .ok qs
  | .nil, _, _ => rfl
  | .cons q qs, h, hc => by
    simp only [QueryList.supported, Bool.and_eq_true] at h
    simp only [QueryList.capStable, Bool.and_eq_true] at hc
    simp only [QueryList.toProto, QueryPList.fromProto, query_roundtrip q h.1 hc.1,
      queryList_roundtrip qs h.2 hc.2, R.ok_bind]
end

/-- a collection element's own `ToProto` result is a literal node other than the nil literal, and
`FromLiteral` accepts it -/
theorem elem_shape (a : Any) (h : Any.isElem a = true) (k : KindP) (hk : a.toProto = .ok k) :
    ∃ l, k = .literal l ∧ a.elemToProto (.ok k) = .ok l ∧ ∀ r, l.elemFromProto r = r := by
  cases a <;> simp only [Any.isElem, Bool.false_eq_true] at h
  case coll items =>
    simp only [Any.toProto] at hk
    cases hi : items.toProto with
    | ok ps =>
      simp only [hi, R.ok_bind, R.ok.injEq] at hk
      subst hk
      exact ⟨_, rfl, rfl, fun _ => rfl⟩
    | err => simp [hi] at hk
    | panic => simp [hi] at hk
  all_goals
    cases hk
    exact ⟨_, rfl, rfl, fun _ => rfl⟩

mutual
theorem any_roundtrip : ∀ (a : Any), a.supported = true → a.capStable cv = true →
    ∃ k, a.toProto = .ok k ∧ k.fromProto cv = .ok a
  | .symbol _, _, _ => ⟨_, rfl, rfl⟩
  | .int _, _, _ => ⟨_, rfl, rfl⟩
  | .float _, _, _ => ⟨_, rfl, rfl⟩
  | .bool _, _, _ => ⟨_, rfl, rfl⟩
  | .str _, _, _ => ⟨_, rfl, rfl⟩
  | .id f, _, _ => ⟨_, rfl, by simp only [KindP.fromProto, LitP.fromProto, wid_roundtrip]⟩
  | .tag k v, h, _ => by
    cases v with
    | str s => exact ⟨_, rfl, rfl⟩
    | other r => cases h
  | .point _, _, _ => ⟨_, rfl, rfl⟩
  | .path _, _, _ => ⟨_, rfl, rfl⟩
  | .area _, _, _ => ⟨_, rfl, rfl⟩
  | .query q, h, hc => by
    exact ⟨_, rfl, by simp only [KindP.fromProto, LitP.fromProto, query_roundtrip cv q h hc, R.ok_bind]⟩
  | .route r, _, _ => ⟨_, rfl, by simp only [KindP.fromProto, LitP.fromProto, route_roundtrip]⟩
  | .coll items, h, hc => by
    obtain ⟨ps, h1, h2⟩ := pairList_roundtrip items h hc
    refine ⟨.literal (.collV ps 0 0), by simp only [Any.toProto, h1, R.ok_bind], ?_⟩
    simp [KindP.fromProto, LitP.fromProto, h2]
  | .call f args p, h, hc => by
    simp only [Any.supported, Bool.and_eq_true] at h
    simp only [Any.capStable, Bool.and_eq_true] at hc
    obtain ⟨fp, f1, f2⟩ := expr_roundtrip f h.1 hc.1
    obtain ⟨ap, a1, a2⟩ := exprList_roundtrip args h.2 hc.2
    exact ⟨.call fp ap p, by simp only [Any.toProto, a1, f1, R.ok_bind],
      by simp only [KindP.fromProto, f2, a2, R.ok_bind]⟩
  | .lambda params body, h, hc => by
    obtain ⟨bp, b1, b2⟩ := expr_roundtrip body h hc
    exact ⟨.lambda params bp, by simp only [Any.toProto, b1, R.ok_bind],
      by simp only [KindP.fromProto, b2, R.ok_bind]⟩
  | .absent, h, _ => by cases h
  | .nilLit, h, _ => by cases h
  | .geojson _, h, _ => by cases h
  | .feature, h, _ => by cases h
theorem expr_roundtrip : ∀ (e : Expr), e.supported = true → e.capStable cv = true →
    ∃ p, e.toProto = .ok p ∧ p.fromProto cv = .ok e
  | .mk a name b e, h, hc => by
    simp only [Expr.supported, Bool.and_eq_true] at h
    obtain ⟨k, k1, k2⟩ := any_roundtrip a h.1.1 hc
    refine ⟨.mk k name b e, ?_, ?_⟩
    · simp only [Expr.toProto, k1, toInt32_id b h.1.2, toInt32_id e h.2]
    · simp only [NodeP.fromProto, k2, R.ok_bind]
theorem exprList_roundtrip : ∀ (es : ExprList), es.supported = true → es.capStable cv = true →
    ∃ ps, es.toProto = .ok ps ∧ ps.fromProto cv = .ok es
  | .nil, _, _ => ⟨.nil, rfl, rfl⟩
  | .cons e es, h, hc => by
    simp only [ExprList.supported, Bool.and_eq_true] at h
    simp only [ExprList.capStable, Bool.and_eq_true] at hc
    obtain ⟨p, p1, p2⟩ := expr_roundtrip e h.1 hc.1
    obtain ⟨ps, q1, q2⟩ := exprList_roundtrip es h.2 hc.2
    exact ⟨.cons p ps, by simp only [ExprList.toProto, p1, q1, R.ok_bind],
      by simp only [NodePList.fromProto, p2, q2, R.ok_bind]⟩
theorem pairList_roundtrip : ∀ (items : PairList), items.supported = true → items.capStable cv = true →
    ∃ ps, items.toProto = .ok ps ∧ ps.fromProto cv = .ok items
  | .nil, _, _ => ⟨.nil, rfl, rfl⟩
  | .cons k v rest, h, hc => by
    simp only [PairList.supported, Bool.and_eq_true] at h
    simp only [PairList.capStable, Bool.and_eq_true] at hc
    obtain ⟨⟨⟨⟨hk1, hk2⟩, hv1⟩, hv2⟩, hr⟩ := h
    obtain ⟨kk, k1, k2⟩ := any_roundtrip k hk2 hc.1.1
    obtain ⟨vk, v1, v2⟩ := any_roundtrip v hv2 hc.1.2
    obtain ⟨ps, r1, r2⟩ := pairList_roundtrip rest hr hc.2
    obtain ⟨kl, rfl, ke, kf⟩ := elem_shape k hk1 kk k1
    obtain ⟨vl, rfl, ve, vf⟩ := elem_shape v hv1 vk v1
    refine ⟨.cons kl vl ps, ?_, ?_⟩
    · simp only [PairList.toProto, k1, v1, ke, ve, r1, R.ok_bind]
    · simp only [KindP.fromProto] at k2 v2
      simp only [LitPairList.fromProto, kf, vf, k2, v2, r2, R.ok_bind]
end

/-- the statement without the condition on cap radii -/
def proto_roundtrip_statement : Prop :=
  ∀ (cv : Nat → Nat) (e : Expr), e.supported = true → ∃ p, e.toProto = .ok p ∧ p.fromProto cv = .ok e

/-- **Wire round trip.**  Every supported expression tree — any depth, any mix of calls, lambdas,
symbols, literals and query trees, with its names and positions — converts to its protobuf form, and that
form converts back to the same tree; provided every `IntersectsCap` radius in it is one that the
float conversion `cv` (meters → angle → chord angle → meters) reproduces. -/
theorem proto_roundtrip_partial (e : Expr) (h : e.supported = true) (hc : e.capStable cv = true) :
    ∃ p, e.toProto = .ok p ∧ p.fromProto cv = .ok e :=
  expr_roundtrip cv e h hc

mutual
theorem query_capStable_id : ∀ q : Query, q.capStable id = true
  | .cap _ r => beq_self_eq_true r
  | .typed _ q => query_capStable_id q
  | .inter qs => queryList_capStable_id qs
  | .union qs => queryList_capStable_id qs
  | .all | .keyed _ | .tagged _ _ | .feature _ | .point _ | .polyline _ | .multipolygon _ | .empty | .isValid
  | .cells _ | .might _ => rfl
theorem queryList_capStable_id : ∀ qs : QueryList, qs.capStable id = true
  | .nil => rfl
  | .cons q qs => Bool.and_eq_true_iff.2 ⟨query_capStable_id q, queryList_capStable_id qs⟩
end

mutual
theorem any_capStable_id : ∀ a : Any, a.capStable id = true
  | .query q => query_capStable_id q
  | .coll items => pairList_capStable_id items
  | .call f args _ => Bool.and_eq_true_iff.2 ⟨expr_capStable_id f, exprList_capStable_id args⟩
  | .lambda _ body => expr_capStable_id body
  | .symbol _ | .int _ | .float _ | .bool _ | .str _ | .id _ | .tag _ _ | .point _ | .path _ | .area _ | .route _
  | .absent | .nilLit | .geojson _ | .feature => rfl
theorem expr_capStable_id : ∀ e : Expr, e.capStable id = true
  | .mk a _ _ _ => any_capStable_id a
theorem exprList_capStable_id : ∀ es : ExprList, es.capStable id = true
  | .nil => rfl
  | .cons e es => Bool.and_eq_true_iff.2 ⟨expr_capStable_id e, exprList_capStable_id es⟩
theorem pairList_capStable_id : ∀ ps : PairList, ps.capStable id = true
  | .nil => rfl
  | .cons k v rest => Bool.and_eq_true_iff.2
    ⟨Bool.and_eq_true_iff.2 ⟨any_capStable_id k, any_capStable_id v⟩, pairList_capStable_id rest⟩
end

/-- with an exact conversion (`cv = id`) there is no condition left -/
theorem proto_roundtrip_exact (e : Expr) (h : e.supported = true) :
    ∃ p, e.toProto = .ok p ∧ p.fromProto id = .ok e :=
  expr_roundtrip id e h (expr_capStable_id e)

/-- Converting a second time changes nothing: the re-read expression (which is `e`, by the round trip) produces
the same protobuf form. -/
theorem proto_idempotent (e e' : Expr) (p : NodeP) (h : e.supported = true) (hc : e.capStable cv = true)
    (h1 : e.toProto = .ok p) (h2 : p.fromProto cv = .ok e') : e'.toProto = .ok p := by
  obtain ⟨p', q1, q2⟩ := expr_roundtrip cv e h hc
  rw [h1] at q1
  cases q1
  rw [q2] at h2
  cases h2
  exact h1

/-! ## the client's side: what the server accepts is in the round-trip domain -/

mutual
theorem queryP_accepted : ∀ (p : QueryP) (q : Query), p.fromProto cv = .ok q → q.supported = true
  | .all, q, h => by cases h; rfl
  | .keyed _, q, h => by cases h; rfl
  | .tagged _ _, q, h => by cases h; rfl
  | .cap _ _, q, h => by cases h; rfl
  | .point _, q, h => by cases h; rfl
  | .polyline _, q, h => by cases h; rfl
  | .multipolygon _, q, h => by cases h; rfl
  | .feature id, q, h => by
    simp only [QueryP.fromProto] at h
    split at h
    · cases h; rfl
    · simp at h
  | .typed e c, q, h => by
    simp only [QueryP.fromProto] at h
    split at h
    · rename_i child hc
      split at h
      · cases h
        exact queryP_accepted c child hc
      · simp at h
    · simp at h
    · simp at h
  | .inter qs, q, h => by
    simp only [QueryP.fromProto] at h
    obtain ⟨l, hl, rfl⟩ := R.bind_ok_eq_ok h
    exact queryPList_accepted qs l hl
  | .union qs, q, h => by
    simp only [QueryP.fromProto] at h
    obtain ⟨l, hl, rfl⟩ := R.bind_ok_eq_ok h
    exact queryPList_accepted qs l hl
  | .typedNoQuery _, _, h => by cases h
  | .empty, _, h => by cases h
  | .isValid, _, h => by cases h
  | .cells _, _, h => by cases h
  | .might _, _, h => by cases h
  | .unset, _, h => by cases h
theorem queryPList_accepted : ∀ (ps : QueryPList) (qs : QueryList), ps.fromProto cv = .ok qs →
    qs.supported = true
  | .nil, qs, h => by cases h; rfl
  | .cons p ps, qs, h => by
    simp only [QueryPList.fromProto] at h
    obtain ⟨q', hq, h⟩ := R.bind_eq_ok h
    obtain ⟨qs', hqs, rfl⟩ := R.bind_ok_eq_ok h
    simp only [QueryList.supported, Bool.and_eq_true]
    exact ⟨queryP_accepted p q' hq, queryPList_accepted ps qs' hqs⟩
end

theorem elemFromProto_of_wire (l : LitP) (hw : l.wire = true) (r : R Any) : l.elemFromProto r = r := by
  cases l with
  | nilV => cases hw
  | _ => rfl

mutual
theorem litP_accepted : ∀ (l : LitP) (a : Any), l.wire = true → l.fromProto cv = .ok a →
    a.supported = true ∧ (LitP.notQuery l = true → Any.isElem a = true)
  | .intV _, a, _, h => by cases h; exact ⟨rfl, fun _ => rfl⟩
  | .floatV _, a, _, h => by cases h; exact ⟨rfl, fun _ => rfl⟩
  | .boolV _, a, _, h => by cases h; exact ⟨rfl, fun _ => rfl⟩
  | .strV _, a, _, h => by cases h; exact ⟨rfl, fun _ => rfl⟩
  | .tagV _ _, a, _, h => by cases h; exact ⟨rfl, fun _ => rfl⟩
  | .pointV _, a, _, h => by cases h; exact ⟨rfl, fun _ => rfl⟩
  | .pathV _, a, _, h => by cases h; exact ⟨rfl, fun _ => rfl⟩
  | .areaV _, a, _, h => by cases h; exact ⟨rfl, fun _ => rfl⟩
  | .idV id, a, _, h => by
    simp only [LitP.fromProto] at h
    split at h
    · cases h; exact ⟨rfl, fun _ => rfl⟩
    · simp at h
  | .routeV r, a, _, h => by
    simp only [LitP.fromProto] at h
    split at h
    · cases h; exact ⟨rfl, fun _ => rfl⟩
    · simp at h
  | .queryV q, a, _, h => by
    simp only [LitP.fromProto] at h
    obtain ⟨q', hq, rfl⟩ := R.bind_ok_eq_ok h
    exact ⟨by simp only [Any.supported]; exact queryP_accepted cv q q' hq, fun hn => by simp [LitP.notQuery] at hn⟩
  | .collV pairs sk sv, a, hw, h => by
    simp only [LitP.fromProto] at h
    split at h
    · simp at h
    · obtain ⟨items, hi, rfl⟩ := R.bind_ok_eq_ok h
      exact ⟨by simp only [Any.supported]; exact litPairList_accepted pairs items hw hi, fun _ => rfl⟩
  | .nilV, _, hw, _ => by cases hw
  | .geojsonV _, _, _, h => by cases h
  | .pairV, _, _, h => by cases h
  | .featureV, _, _, h => by cases h
  | .appliedChangeV, _, _, h => by cases h
  | .unset, _, _, h => by cases h
theorem litPairList_accepted : ∀ (ps : LitPairList) (items : PairList), ps.wire = true →
    ps.fromProto cv = .ok items → items.supported = true
  | .nil, items, _, h => by cases h; rfl
  | .cons k v rest, items, hw, h => by
    simp only [LitPairList.wire, Bool.and_eq_true] at hw
    obtain ⟨⟨⟨⟨hkq, hkw⟩, hvq⟩, hvw⟩, hrw⟩ := hw
    simp only [LitPairList.fromProto] at h
    obtain ⟨k', hk, h⟩ := R.bind_eq_ok h
    obtain ⟨v', hv, h⟩ := R.bind_eq_ok h
    obtain ⟨r', hr, rfl⟩ := R.bind_ok_eq_ok h
    rw [elemFromProto_of_wire k hkw] at hk
    rw [elemFromProto_of_wire v hvw] at hv
    have ak := litP_accepted k k' hkw hk
    have av := litP_accepted v v' hvw hv
    simp only [PairList.supported, Bool.and_eq_true]
    exact ⟨⟨⟨⟨ak.2 hkq, ak.1⟩, av.2 hvq⟩, av.1⟩, litPairList_accepted rest r' hrw hr⟩
end

mutual
theorem kindP_accepted : ∀ (k : KindP) (a : Any), k.wire = true → k.fromProto cv = .ok a →
    a.supported = true
  | .symbol _, a, _, h => by cases h; rfl
  | .literal l, a, hw, h => by
    simp only [KindP.fromProto] at h
    exact (litP_accepted cv l a hw h).1
  | .call f args p, a, hw, h => by
    simp only [KindP.wire, Bool.and_eq_true] at hw
    simp only [KindP.fromProto] at h
    obtain ⟨f', hf, h⟩ := R.bind_eq_ok h
    obtain ⟨as, ha, rfl⟩ := R.bind_ok_eq_ok h
    simp only [Any.supported, Bool.and_eq_true]
    exact ⟨nodeP_accepted f f' hw.1 hf, nodePList_accepted args as hw.2 ha⟩
  | .lambda _ body, a, hw, h => by
    simp only [KindP.fromProto] at h
    obtain ⟨b, hb, rfl⟩ := R.bind_ok_eq_ok h
    exact nodeP_accepted body b hw hb
  | .unset, _, _, h => by cases h
theorem nodeP_accepted : ∀ (p : NodeP) (e : Expr), p.wire = true → p.fromProto cv = .ok e →
    e.supported = true
  | .mk k name b e, ex, hw, h => by
    simp only [NodeP.wire, Bool.and_eq_true] at hw
    simp only [NodeP.fromProto] at h
    obtain ⟨a, ha, rfl⟩ := R.bind_ok_eq_ok h
    simp only [Expr.supported, Bool.and_eq_true]
    exact ⟨⟨kindP_accepted k a hw.1.1 ha, hw.1.2⟩, hw.2⟩
theorem nodePList_accepted : ∀ (ps : NodePList) (es : ExprList), ps.wire = true →
    ps.fromProto cv = .ok es → es.supported = true
  | .nil, es, _, h => by cases h; rfl
  | .cons p ps, es, hw, h => by
    simp only [NodePList.wire, Bool.and_eq_true] at hw
    simp only [NodePList.fromProto] at h
    obtain ⟨e', he, h⟩ := R.bind_eq_ok h
    obtain ⟨es', hes, rfl⟩ := R.bind_ok_eq_ok h
    simp only [ExprList.supported, Bool.and_eq_true]
    exact ⟨nodeP_accepted p e' hw.1 he, nodePList_accepted ps es' hw.2 hes⟩
end

/-- **What the client sends and the server accepts, round-trips.**  For any request `p` without a nil
literal, without a query inside a collection literal and with `int32` positions: if `ExpressionFromProto(p)`
succeeds with `e` (and the cap radii that `e` now holds are reproduced by the float conversion), then
`e.ToProto()` succeeds with some `p'`, `ExpressionFromProto(p')` is `e` again, and (hence) converting once
more gives `p'` again. -/
theorem wire_roundtrip_partial (p : NodeP) (e : Expr) (hw : p.wire = true) (h : p.fromProto cv = .ok e)
    (hc : e.capStable cv = true) :
    ∃ p', e.toProto = .ok p' ∧ p'.fromProto cv = .ok e ∧
      ∀ e'', p'.fromProto cv = .ok e'' → e''.toProto = .ok p' := by
  have hs := nodeP_accepted cv p e hw h
  obtain ⟨p', h1, h2⟩ := expr_roundtrip cv e hs hc
  exact ⟨p', h1, h2, fun e'' h3 => proto_idempotent cv e e'' p' hs hc h1 h3⟩

/-! ## non-vacuity, and the shapes outside the domain -/

def sampleExpr : Expr :=
  .mk (.call (.mk (.symbol "66696e64") "" 0 4)
        (.cons (.mk (.query (.inter (.cons (.tagged "23616d656e697479" (.str "63616665"))
                  (.cons (.typed .area (.keyed "236275696c64696e67")) .nil)))) "71" 5 40)
        (.cons (.mk (.lambda ["78"] (.mk (.coll (.cons (.int (-7)) (.float 4607182418800017408) .nil)) "" 50 60)) "" 41 61)
        .nil)) true) "726f6f74" 0 61

example : sampleExpr.supported = true := by decide
example : ∃ p, sampleExpr.toProto = .ok p ∧ p.fromProto id = .ok sampleExpr :=
  proto_roundtrip_exact sampleExpr (by decide)

def sampleCap : Expr := .mk (.query (.cap ⟨515000000, -1000000⟩ 4647503709213818880)) "" 0 0
example : sampleCap.supported = true ∧ sampleCap.capStable id = true := by decide

/-- a conversion that moves a radius by one unit in the last place breaks the round trip of a cap query:
this is what the real float computation does for some radii (finding `cap-radius-drift`) -/
theorem cap_radius_counterexample : ¬ proto_roundtrip_statement := by
  intro h
  obtain ⟨p, h1, h2⟩ := h (· + 1) sampleCap (by decide)
  simp only [sampleCap, Expr.toProto, Any.toProto, Query.toProto, R.ok.injEq] at h1
  subst h1
  simp [NodeP.fromProto, KindP.fromProto, LitP.fromProto, QueryP.fromProto, sampleCap] at h2

/-- the statement for every expression, `supported` or not -/
def proto_roundtrip_all_statement : Prop :=
  ∀ e : Expr, ∃ p, e.toProto = .ok p ∧ p.fromProto id = .ok e

/-- the nil literal comes back as an expression without an `AnyExpression` (and that one panics in `ToProto`) -/
theorem nil_literal_counterexample :
    (Expr.mk .nilLit "" 0 0).toProto = .ok (.mk (.literal .nilV) "" 0 0) ∧
    (NodeP.mk (.literal .nilV) "" 0 0).fromProto id = .ok (.mk .absent "" 0 0) ∧
    (Expr.mk .absent "" 0 0).toProto = .panic := ⟨rfl, rfl, rfl⟩

/-- queries `NewQueryFromProto` has no case for: `Empty` is printed and its proto not read back; the protos of
`IsValid`, `IntersectsCells`, `MightIntersect` and of `Typed` without a query are not read either -/
theorem unsupported_query_counterexample :
    (Expr.mk (.query .empty) "" 0 0).toProto = .ok (.mk (.literal (.queryV .empty)) "" 0 0) ∧
    (NodeP.mk (.literal (.queryV .empty)) "" 0 0).fromProto id = .err ∧
    (NodeP.mk (.literal (.queryV .isValid)) "" 0 0).fromProto id = .err ∧
    (NodeP.mk (.literal (.queryV (.cells [1]))) "" 0 0).fromProto id = .err ∧
    (NodeP.mk (.literal (.queryV (.might [1]))) "" 0 0).fromProto id = .err ∧
    (NodeP.mk (.literal (.queryV (.typedNoQuery 1))) "" 0 0).fromProto id = .err := ⟨rfl, rfl, rfl, rfl, rfl, rfl⟩

/-- a tag value that is not a string comes back as a string -/
theorem tag_value_counterexample :
    ∃ p, (Expr.mk (.tag "6b" (.other "35")) "" 0 0).toProto = .ok p ∧
      p.fromProto id = .ok (.mk (.tag "6b" (.str "35")) "" 0 0) := ⟨_, rfl, rfl⟩

/-- a collection literal holding a query is accepted from the wire but cannot be sent back:
`FromLiteral` has no case for `Query`, the error leaves a nil proto, `Expression.ToProto` panics -/
theorem collection_query_counterexample :
    (NodeP.mk (.literal (.collV (.cons (.intV 0) (.queryV .all) .nil) 0 0)) "" 0 0).fromProto id
      = .ok (.mk (.coll (.cons (.int 0) (.query .all) .nil)) "" 0 0) ∧
    (Expr.mk (.coll (.cons (.int 0) (.query .all) .nil)) "" 0 0).toProto = .panic := ⟨rfl, rfl⟩

theorem proto_roundtrip_all_counterexample : ¬ proto_roundtrip_all_statement := by
  intro h
  obtain ⟨p, h1, _⟩ := h (.mk .absent "" 0 0)
  simp [Expr.toProto, Any.toProto] at h1

end B6.Props.C19
