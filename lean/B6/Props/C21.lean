import B6.Lemmas.VM
import B6.Lemmas.VMShape
import B6.Lemmas.VMLambda
import B6.Lemmas.VMLayoutAll
/-!
C21 — the VM evaluates programs as the language defines.

Model: `B6.Model.Interp` (reference interpreter, the specification), `B6.Model.VM` (compiler and
stack machine of api/vm.go with the `fixes/C21-*.patch` repairs).  Both are tied to the Go code by
`harness/cmd/c21` on every run (instruction lists and outcomes).

The property as asked (`vm_correct_statement`: all programs, outcomes compared as a caller observes them) is
**false** for the code as it is, because lambda parameters live in global registers instead of closures (finding
`closure-registers`); `closure_escape_panics` and `closure_stale_register` are machine-checked witnesses, replayed
against the Go code by the harness corpus.  It holds on two classes of programs, for all fuel.
Lambda-free programs, well-formed or not (`vm_first_order`): the VM's outcome **equals** the interpreter's, same
value, same error, never a panic.  These still use function values: global functions, partial applications at any
depth (trailing-argument binding), calls of calls, higher-order builtins calling back into the VM.
The syntactic fragment `Expr.regSafe` (`vm_lambda_partial`): no lambda uses a parameter of an enclosing lambda, and no
lambda reads an own parameter after a call that may run lambda code (lambda literal, computed function,
`call1/call2/apply/force/call`).  Lambdas may be nested, shadow, be passed to higher-order builtins and to other lambdas, be
returned and be partially applied.  The complement of `regSafe` is the driver's input class of the finding, and both
restrictions are forced: `closure_stale_register` (enclosing parameter) and `reentrant_stale_register` (a lambda that
receives itself: no enclosing parameter is used, yet the inner activation overwrites the outer one's register).
For all programs `stack_shape` gives the static stack discipline of the compiled code (no `index out of range` on
`VM.Stack` or `VM.Args`).  What is *not* proved for programs with lambdas: that the value found in a register is the
right one (it is not, see above) — `OpLoad of invalid value` remains reachable.
-/
namespace B6.Props.C21
open B6.Model B6.Model.VM B6.Lemmas.VM B6.Lemmas.VMShape B6.Lemmas.VMLambda

/-- the full property: for every program the VM's observable outcome is the interpreter's -/
def vm_correct_statement : Prop :=
  ∀ (fuel : Nat) (e : Expr), (VM.run fuel e).map Val.obs = (interp fuel e).map Val.obs

theorem numLambdas_of_lambdaFree : ∀ (e : Expr), e.lambdaFree = true → e.numLambdas = 0 ∧ e.numParams = 0
  | .sym _, _ => by simp [Expr.numLambdas, Expr.numParams]
  | .lit _, _ => by simp [Expr.numLambdas, Expr.numParams]
  | .lam _ _, h => by simp [Expr.lambdaFree] at h
  | .call f args _, h => by
    simp only [Expr.lambdaFree, Bool.and_eq_true] at h
    have h1 := numLambdas_of_lambdaFree f h.1
    have h2 := numLambdass_of_lambdaFrees args h.2
    simp [Expr.numLambdas, Expr.numParams, h1, h2]
where numLambdass_of_lambdaFrees : ∀ (as : List Expr), Expr.lambdaFrees as = true →
      Expr.numLambdass as = 0 ∧ Expr.numParamss as = 0
  | [], _ => by simp [Expr.numLambdass, Expr.numParamss]
  | a :: as, h => by
    simp only [Expr.lambdaFrees, Bool.and_eq_true] at h
    have h1 := numLambdas_of_lambdaFree a h.1
    have h2 := numLambdass_of_lambdaFrees as h.2
    simp [Expr.numLambdass, Expr.numParamss, h1, h2]

theorem wellFormed_of_lambdaFree {e : Expr} (h : e.lambdaFree = true) : wellFormed e = wfAt [] e := by
  simp [wellFormed, (numLambdas_of_lambdaFree e h).2]

/-- **vm_first_order.** For every program without lambda expressions and every fuel, evaluating with
the VM (compile, then run) gives exactly the reference interpreter's outcome. -/
theorem vm_first_order (fuel : Nat) (e : Expr) (h : e.lambdaFree = true) :
    VM.run fuel e = interp fuel e := by
  have hwf := wellFormed_of_lambdaFree h
  have key : ∀ code, ExprOK (callFromStack code fuel) (applyFn fuel) e {} :=
    fun code => expr_agrees (call_agrees code fuel) e h {}
  unfold VM.run VM.compile VM.compileSegments interp
  rw [hwf]
  cases hw : wfAt [] e with
  | false =>
    have := (key []).2 hw
    simp [this]
  | true =>
    obtain ⟨is, hc, hlf, _, _⟩ := (key []).1 hw
    simp only [hc, compileQueue, flatten, entryPoints, List.append_nil]
    have hall : ([Instr.pushVal (.int 0)] ++ is ++ [Instr.ret]).all isLamFree = true := by
      simp [hlf, isLamFree]
    rw [B6.Lemmas.VMLayout.resolveAll_eq_map _ _ fun i hi =>
        B6.Lemmas.VMLayout.lamRef_of_lamFree (List.all_eq_true.mp hall i hi),
      B6.Lemmas.VMLayout.map_resolveI_lamFree _ _ hall]
    simp only [runCode, List.cons_append, List.nil_append, execList]
    rw [(key _).run hc]
    cases evalWith (applyFn fuel) [] e <;> simp [execList]

/-- non-vacuity: a lambda-free program with partial applications at two levels and a higher-order
builtin; `((mix 1) 2) 3 = mix 3 2 1` (trailing arguments are bound first) -/
example : Expr.lambdaFree (.call (.call (.call (.sym "mix") [.lit (.int 1)] false) [.lit (.int 2)] false) [.lit (.int 3)] false) = true ∧
    interp 10 (.call (.call (.call (.sym "mix") [.lit (.int 1)] false) [.lit (.int 2)] false) [.lit (.int 3)] false)
      = .ok (.int 321) := ⟨rfl, rfl⟩

/-- `vm_lambda_partial` under the weaker hypothesis alone that no lambda uses a parameter of an enclosing
lambda.  It is **false** (`vm_lambda_partial_counterexample` below): a lambda that is passed to itself
re-enters its own registers.  The theorem proved is for `Expr.regSafe`, which adds the condition that
excludes this. -/
def vm_lambda_partial_statement : Prop :=
  ∀ (fuel : Nat) (e : Expr), e.hasOpenLambda = false →
    (VM.run fuel e).map Val.obs = (interp fuel e).map Val.obs

/-- The simulation, over a compiled array whose layout `VM.layoutOK` has validated (`layoutOK_all`
below shows that is every program). -/
theorem vm_lambda_validated (fuel : Nat) (e : Expr) (hs : e.regSafe = true) (hl : layoutOK e = true) :
    (VM.run fuel e).map Val.obs = (interp fuel e).map Val.obs := by
  unfold layoutOK at hl
  unfold VM.run interp
  cases hc : compile e with
  | error err =>
    rw [hc] at hl
    cases err <;> simp at hl
    simp [hl]
  | ok code =>
    rw [hc] at hl
    simp only [Bool.and_eq_true] at hl
    obtain ⟨hwf, hmm⟩ := hl
    simp only [hwf, if_true]
    obtain ⟨v0, is, tl', rfl, hme⟩ := matchMain_inv hmm
    unfold Expr.regSafe at hs
    cases hsc : Expr.regScan [] [] false e with
    | none => simp [hsc] at hs
    | some d' =>
      obtain ⟨s1, s2⟩ := expr_sim (call_sim _ fuel) e [] [] [] [] false d' is (.ret :: tl') [v0] [] hsc hme
        (by intro s _ _; exact ⟨rfl, rfl⟩) (by intro _ s h; simp at h)
      simp only [runCode, execList]
      cases hev : evalWith (applyFn fuel) [] e with
      | error err => rw [s1 err hev]
      | ok v =>
        obtain ⟨v', regs', hv, _, hex⟩ := s2 v hev
        rw [hex]
        simp [execList, Except.map, VR_obs hv]

/-- **layoutOK_all.** For every program: `compilation.Compile` succeeds exactly when the program is
statically well-formed (bound symbols, no literal in function position, at most `MaxArgs` lambda
parameters) — otherwise it returns an `error`, it never panics — and the array it produces has the
layout `VM.matchMain` checks: a `PushValue`, the main expression, `Return`, and every lambda reference
points at a target `Store r_{k-1} … Store r_0 ; body ; Discard ; Return` with distinct registers below
`MaxArgs` and the body compiled under the extended frame (the targets-queue argument:
`Lemmas/VMLayout`, `VMLayoutAll`). -/
theorem layoutOK_all (e : Expr) : layoutOK e = true := B6.Lemmas.VMLayout.layoutOK_all e

theorem layoutOK_of_wellFormed (e : Expr) (_ : wellFormed e = true) : layoutOK e = true := layoutOK_all e

/-- **vm_lambda_partial.** For every fuel and every program in the syntactic fragment `Expr.regSafe`
the VM's outcome is the reference interpreter's: the same error, or values with the same observation
(data structurally, functions by arity — the VM's `*lambdaCall` and the interpreter's closure are
different objects).  In particular no panic.  The only hypothesis is `regSafe`, whose complement is the
input class of the finding `closure-registers`. -/
theorem vm_lambda_partial (fuel : Nat) (e : Expr) (hs : e.regSafe = true) :
    (VM.run fuel e).map Val.obs = (interp fuel e).map Val.obs :=
  vm_lambda_validated fuel e hs (layoutOK_all e)

private def ii (n : Int) : Expr := .lit (.int n)
private def cc (f : Expr) (as : List Expr) : Expr := .call f as false

/-- `call1 ({a b -> sub a b} 1) ({f x -> call1 f (add x 1)} {y -> mix y y y} 2)`: a partially applied
lambda, a lambda passed to a lambda and called there through a higher-order builtin -/
def lambdaWitness : Expr :=
  cc (.sym "call1")
    [cc (.lam ["a", "b"] (cc (.sym "sub") [.sym "a", .sym "b"])) [ii 1],
     cc (.lam ["f", "x"] (cc (.sym "call1") [.sym "f", cc (.sym "add") [.sym "x", ii 1]]))
       [.lam ["y"] (cc (.sym "mix") [.sym "y", .sym "y", .sym "y"]), ii 2]]

/-- non-vacuity of `vm_lambda_partial`: its hypotheses hold for a program with three lambdas, and the
outcome is a proper value -/
example : lambdaWitness.regSafe = true ∧ layoutOK lambdaWitness = true ∧
    interp 50 lambdaWitness = .ok (.int 332) ∧ VM.run 50 lambdaWitness = .ok (.int 332) := ⟨rfl, rfl, rfl, rfl⟩

/-- a nested lambda that shadows instead of capturing is in the fragment: `{a -> {a -> add a 1}} 5 7` -/
example : Expr.regSafe (cc (cc (.lam ["a"] (.lam ["a"] (cc (.sym "add") [.sym "a", ii 1]))) [ii 5]) [ii 7]) = true ∧
    layoutOK (cc (cc (.lam ["a"] (.lam ["a"] (cc (.sym "add") [.sym "a", ii 1]))) [ii 5]) [ii 7]) = true := ⟨rfl, rfl⟩

/-- `{f -> call2 f f 1} {g y -> add (call2 g {a b -> b} (add y 1)) y}`: no lambda uses a parameter of an
enclosing lambda, but `g` is the second lambda itself -/
def reentrantWitness : Expr :=
  cc (.lam ["f"] (cc (.sym "call2") [.sym "f", .sym "f", ii 1]))
    [.lam ["g", "y"] (cc (.sym "add")
      [cc (.sym "call2") [.sym "g", .lam ["a", "b"] (.sym "b"), cc (.sym "add") [.sym "y", ii 1]], .sym "y"])]

/-- A lambda that is called while one of its own activations is still running overwrites that
activation's registers: the outer activation reads `y` after the inner call and finds 2 instead of 1.
The VM answers 7, the language says 6 (reproduced on the Go code: harness corpus). -/
theorem reentrant_stale_register :
    VM.run 50 reentrantWitness = .ok (.int 7) ∧ interp 50 reentrantWitness = .ok (.int 6) ∧
    reentrantWitness.hasOpenLambda = false ∧ reentrantWitness.regSafe = false := ⟨rfl, rfl, rfl, rfl⟩

theorem vm_lambda_partial_counterexample : ¬ vm_lambda_partial_statement := by
  intro h
  have := h 50 reentrantWitness rfl
  rw [reentrant_stale_register.1, reentrant_stale_register.2.1] at this
  simp [Except.map, Val.obs] at this

/-! ### the property fails for closures (finding `closure-registers`) -/

private def i (n : Int) : Expr := .lit (.int n)
private def c (f : Expr) (as : List Expr) : Expr := .call f as false

/-- `((({a b -> {c -> add a c}}) 1) 2) 3` -/
def escapeWitness : Expr :=
  c (c (c (.lam ["a", "b"] (.lam ["c"] (c (.sym "add") [.sym "a", .sym "c"]))) [i 1]) [i 2]) [i 3]

/-- `{mk -> call1 (first (pair (call1 mk 1) (call1 mk 2))) 10} {a -> {b -> sub a b}}` -/
def staleWitness : Expr :=
  c (.lam ["mk"] (c (.sym "call1")
      [c (.sym "first") [c (.sym "pair") [c (.sym "call1") [.sym "mk", i 1], c (.sym "call1") [.sym "mk", i 2]]], i 10]))
    [.lam ["a"] (.lam ["b"] (c (.sym "sub") [.sym "a", .sym "b"]))]

/-- A closure returned by a partially applied lambda is called after `partialCall.CallFromStack`
restored `vm.Args`: the VM panics (`OpLoad of invalid value`), the language says 5. -/
theorem closure_escape_panics :
    VM.run 50 escapeWitness = .error .panic ∧ interp 50 escapeWitness = .ok (.int 5) := ⟨rfl, rfl⟩

/-- Two closures made by the same lambda share its register: the first one sees the second call's
argument. The VM answers 2 - 10, the language says 1 - 10. -/
theorem closure_stale_register :
    VM.run 50 staleWitness = .ok (.int (-8)) ∧ interp 50 staleWitness = .ok (.int (-9)) := ⟨rfl, rfl⟩

theorem vm_correct_counterexample : ¬ vm_correct_statement := by
  intro h
  have := h 50 staleWitness
  rw [closure_stale_register.1, closure_stale_register.2] at this
  simp [Except.map, Val.obs] at this

/-- both witnesses are in the class the driver reports as the known finding -/
example : escapeWitness.regSafe = false ∧ staleWitness.regSafe = false ∧
    escapeWitness.hasOpenLambda = true ∧ staleWitness.hasOpenLambda = true := ⟨rfl, rfl, rfl, rfl⟩

/-- **stack_shape.** Whatever the program, if it compiles, then: the main target, entered on the
empty stack, never underflows and ends with two entries (the initial frame and the result); every
lambda target, entered with its arguments and the call frame, never underflows and ends with exactly
one entry; and every `Store`/`Load` names a register below `MaxArgs`. -/
theorem stack_shape (e : Expr) (segs : List Segment) (h : compileSegments e = .ok segs) :
    ∃ main rest, segs = main :: rest ∧
      depth main.2 0 = some 2 ∧ main.2.all (regOK maxArgs) = true ∧
      ∀ s ∈ rest, depth s.2 (s.1 + 1) = some 1 ∧ s.2.all (regOK maxArgs) = true := by
  obtain ⟨is, st, rest, hc, hq, rfl⟩ := compileSegments_ok h
  have sb := compileExpr_shape e [] {} is st hc (by intro p hp; cases hp) ⟨by simp [maxArgs], by intro t ht; cases ht⟩
  refine ⟨_, rest, rfl, ?_, ?_, fun s hs => compileQueue_shape _ st rest hq sb.inv s hs⟩
  · simp only [List.cons_append, List.nil_append, depth]
    rw [depth_append _ _ _ sb.noret, sb.depth]
    simp [depth]
  · simp only [List.all_append, List.all_cons, List.all_nil, Bool.and_true, regOK, Bool.true_and]
    exact regOK_mono sb.inv.1 _ sb.regs

/-- the compiled array is these targets laid end to end, lambda references resolved to entry points -/
theorem compile_eq_segments (e : Expr) (segs : List Segment) (h : compileSegments e = .ok segs) :
    compile e = resolveAll (entryPoints 0 segs) (flatten segs) := by
  simp [compile, h]

/-- non-vacuity of `stack_shape`: a program with nested lambdas and a partial application compiles to
the main target and three lambda targets (of one parameter each) -/
example : (compileSegments staleWitness).map (fun segs => segs.map (·.1)) = .ok [0, 1, 1, 1] := rfl

end B6.Props.C21
