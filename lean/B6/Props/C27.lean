import B6.Model.Pbf
import B6.Lemmas.Pbf
/-!
C27 — OSM PBF files read back what was written.

The theorems are about the model `B6/Model/Pbf.lean` of `osm/pbf.go` (writer state machine, block
structure, reader). `writeAll es` = the data blocks `NewWriter` + `WriteElement`* + `Flush` put into the
file, `readAll` = `ReadPBFWithOptions` with one reader goroutine, `readCores … assign g` = with `g`
goroutines when the scheduler hands block `i` to goroutine `assign[i]`.

Coordinates: a node enters the model with `int64(angle/.000000001)` nano-degrees and leaves it with the
integer that `decodeAngle` multiplies by `.000000001`; the two float conversions are the stated boundary
(`coord_within_step_of_contract` carries the contract `|int64(x/1e-9) − x/1e-9| < 1` as a hypothesis).
-/
namespace B6.Props.C27
open B6.Model.Pbf B6.Lemmas.Pbf

/-- Round trip, one reader goroutine: any sequence of nodes, ways and relations — any interleaving of the
three types, any length (the induction over the element list goes through every type switch and every
`elementsPerGroup` flush) — reads back without error as the same sequence, in the same order, each element
`quantise`d. -/
theorem pbf_roundtrip (es : List Element) : readAll {} (writeAll es) = ⟨es.map quantise, none⟩ := by
  rw [readAll_ok fun b hb => ((writeAll_blocks es).2 b hb).1, (writeAll_blocks es).1]

/-- `quantise` keeps IDs, tags, way nodes, members (type, ID, role) and their order; it only replaces the
two coordinates of a node by `quantCoord`. -/
theorem quantise_spec (e : Element) :
    match e with
    | .node id lat lon tags => quantise e = .node id (quantCoord lat) (quantCoord lon) tags
    | .way id nodes tags => quantise e = .way id nodes tags
    | .relation id members tags => quantise e = .relation id members tags := by
  cases e <;> rfl

/-- a coordinate read back is less than one granularity step (100 nano-degrees) from the `int64`
nano-degree value that was written, for every `int64` (no overflow anywhere: `100 * (n / 100)` never
leaves the range) -/
theorem coord_within_step (n : Int64) : ((quantCoord n).toInt - n.toInt).natAbs < 100 := by
  rw [quantCoord_toInt]
  have := (tdiv100 n.toInt).1
  omega

/-- …and less than one step from the real coordinate `X` (in nano-degrees, a rational) under the
conversion contract `|int64(X) − X| < 1` of the float → `int64` boundary. -/
theorem coord_within_step_of_contract (X : Rat) (n : Int64)
    (h1 : (n.toInt : Rat) - X < 1) (h2 : -1 < (n.toInt : Rat) - X) :
    ((quantCoord n).toInt : Rat) - X < 100 ∧ -100 < ((quantCoord n).toInt : Rat) - X := by
  have h := coord_within_step n
  have h3 : (quantCoord n).toInt - n.toInt ≤ 99 := by omega
  have h4 : -99 ≤ (quantCoord n).toInt - n.toInt := by omega
  have h3' : (((quantCoord n).toInt - n.toInt : Int) : Rat) ≤ ((99 : Int) : Rat) := by exact_mod_cast h3
  have h4' : (((-99 : Int)) : Rat) ≤ (((quantCoord n).toInt - n.toInt : Int) : Rat) := by exact_mod_cast h4
  constructor <;> grind

/-- Any number of reader goroutines, any schedule: the file consists of blocks that each read without
error, block by block they give back the written sequence (`quantise`d) in order, and goroutine `k`
emits the blocks `assign` hands it, whole and in file order: the third conjunct is `readCores` unfolded, and a
block beyond the length of `assign` is handed to nobody. (So: per goroutine the order is the
written order; across goroutines there is no order, `emit` is called concurrently.) -/
theorem pbf_roundtrip_cores (es : List Element) (assign : List Nat) (g : Nat) :
    let bs := writeAll es
    let chunks := bs.map fun b => (readBlock {} b).out
    chunks.flatten = es.map quantise ∧ (∀ b ∈ bs, (readBlock {} b).fail = none) ∧
    readCores {} bs assign g =
      (List.range g).map fun k => ((chunks.zip assign).filter (fun p => p.2 == k)).flatMap (·.1) := by
  refine ⟨(writeAll_blocks es).1, fun b hb => ((writeAll_blocks es).2 b hb).1, ?_⟩
  simp only [readCores, List.zip_map_left, List.filter_map, List.flatMap_map]
  rfl

/-- with one goroutine every block goes to goroutine 0: its stream is the written sequence -/
theorem pbf_roundtrip_one_core (es : List Element) :
    readCores {} (writeAll es) (List.replicate (writeAll es).length 0) 1 = [es.map quantise] := by
  have h := streamOf_all (writeAll es) (List.replicate (writeAll es).length 0) 0 List.length_replicate
    (fun a ha => List.eq_of_mem_replicate ha)
  apply List.ext_getElem?
  intro k
  rw [readCores_get]
  cases k with
  | zero => simp [h, (writeAll_blocks es).1]
  | succ k => simp

/-! ### The order across goroutines (finding `cores-gt1-cross-block-order`)

The property says "in the same order … for any number of reader cores". What the callback of
`ReadPBFWithOptions` sees is an interleaving (`Shuffle`) of the per-goroutine streams; nothing orders the
`emit` calls of different goroutines. -/

/-- the statement as written: whatever the schedule, the callback sees the written order -/
def total_order_statement : Prop :=
  ∀ (es : List Element) (g : Nat) (assign : List Nat) (glob : List Element),
    assign.length = (writeAll es).length → (∀ a ∈ assign, a < g) →
    Shuffle (readCores {} (writeAll es) assign g) glob → glob = es.map quantise

/-- It holds outside the class `crossBlockClass` (at most one goroutine, or at most one block): then every
order in which the callback can see the elements is the written order. -/
theorem total_order_partial (es : List Element) (g : Nat) (assign : List Nat) (glob : List Element)
    (hlen : assign.length = (writeAll es).length) (hlt : ∀ a ∈ assign, a < g)
    (hc : crossBlockClass g (writeAll es).length = false)
    (h : Shuffle (readCores {} (writeAll es) assign g) glob) : glob = es.map quantise :=
  (total_order_of_single _ g assign glob hlen hlt hc h).trans (writeAll_blocks es).1

def orderWitness : List Element := [.node 1 0 0 [], .node 2 0 0 [], .way 3 [] []]

/-- …and fails inside it: two nodes and a way are two blocks; with two goroutines (block 0 → goroutine 0, block
1 → goroutine 1) the callback may see node 1, the way, node 2. -/
theorem total_order_counterexample : ¬ total_order_statement := by
  intro h
  have hs : Shuffle (readCores {} (writeAll orderWitness) [0, 1] 2)
      [.node 1 0 0 [], .way 3 [] [], .node 2 0 0 []] :=
    Shuffle.cons (k := 0) (rest := [.node 2 0 0 []]) (by decide)
      (Shuffle.cons (k := 1) (rest := []) (by decide)
        (Shuffle.cons (k := 0) (rest := []) (by decide) (Shuffle.nil (by decide))))
  have := h orderWitness 2 [0, 1] _ (by decide) (by decide) hs
  exact absurd this (by decide)

example : crossBlockClass 2 (writeAll orderWitness).length = true := by decide

/-- `lookupString` never hands out index 0 (the reserved entry), whatever the string — the empty string
included — and the index it returns resolves to the string in the table. -/
theorem string_index (S : List Str) (s : Str) :
    (lookup S s).1 ≠ 0 ∧ ("" :: (lookup S s).2)[(lookup S s).1]? = some s :=
  ⟨(lookup_spec S s).2.2, (lookup_spec S s).2.1⟩

/-- In every dense group the writer produces, `KeysVals` is one segment per node (`segs.length` = number of
IDs), and the reader's cursor after the tag loop has run for `k` nodes stands exactly at the start of
segment `k` (what is left is the segments from `k` on) — for every `k` up to the node count. -/
theorem dense_tags_aligned (es : List Element) (b : Block) (hb : b ∈ writeAll es) (g : Group) (hg : g ∈ b.groups)
    (d : Dense) (hd : g.dense = some d) :
    ∃ segs : List (List Nat), segs.length = d.id.length ∧ d.keysVals = segs.flatten ∧
      ∀ k, k ≤ segs.length → restAfter b.strings k d.keysVals = .ok (segs.drop k).flatten := by
  obtain ⟨ns, rfl, hok⟩ := ((writeAll_blocks es).2 b hb).2 g hg d hd
  refine ⟨ns.map seg, by simp [encDense_id_length], encDense_keysVals 0 0 0 ns, ?_⟩
  intro k hk
  rw [encDense_keysVals, restAfter_segs b.strings ns hok k (by simpa using hk), List.map_drop]

/-! Non-vacuity: a concrete sequence with all three types, a type switch back to nodes, the empty string
as key / value / role, and negative IDs; its file has four blocks, the first one with a dense group. -/

def sample : List Element :=
  [ .node (-5) 515353621 (-1243072) [⟨"", ""⟩, ⟨"a", ""⟩],
    .node 7 (-99) 199 [],
    .way 3 [7, -5, 7] [⟨"a", "b"⟩],
    .relation (-1) [⟨.way, 3, ""⟩, ⟨.node, -5, "a"⟩] [⟨"type", "x"⟩],
    .node 9 0 0 [⟨"a", "a"⟩] ]

example : (writeAll sample).length = 4 := by decide
example : ((((writeAll sample).head?.bind (·.groups.head?)).bind (·.dense)).map (·.keysVals)) =
    some [1, 1, 2, 1, 0, 0] := by decide
example : readAll {} (writeAll sample) = ⟨sample.map quantise, none⟩ := pbf_roundtrip sample
example : quantCoord (-99) = 0 ∧ quantCoord 199 = 100 ∧ quantCoord 515353621 = 515353600 := by decide
example : ∃ X : Rat, ∃ n : Int64, (n.toInt : Rat) - X < 1 ∧ -1 < (n.toInt : Rat) - X := ⟨0, 0, by simp; grind, by simp; grind⟩

end B6.Props.C27
