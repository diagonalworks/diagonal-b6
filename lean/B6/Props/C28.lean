import B6.Lemmas.ProtoEachItem
import B6.Lemmas.ProtoFeed
import B6.Lemmas.ProtoPbf
/-!
# C28 — a callback error stops streaming and is reported

Per protocol `P` (models in `B6/Model/Proto/*.lean`, one interleaving transition system each, for ANY number of
goroutines, any item list and any set of failing callbacks; no bound on the schedule):

* `P_error_reported` — in every reachable terminal state, if some callback returned an error the function
  returns an error;
* `P_no_deadlock`    — every reachable non-terminal state has an enabled step;
* `P_worker_stops` / `P_prompt` — a goroutine whose callback failed runs no further callback; once the
  feeder has seen the cancellation at most `capacity` further items are started;
* `P_terminates` / `P_schedule_bounded` — a measure decreases on every step (from any state), so no schedule is
  longer than the measure of its first state;
* `P_stops` — a reachable state without successor has returned, with an error if a callback failed.

The three protocols that were defective in the unchanged tree (`EachItem`, `MemoryFeatureSource.Read`,
`ReadPBFWithOptions`) are modelled AFTER the fixes in `/verif/fixes/C28-*.patch`; the models of the code before
the fixes are `…Old`, with `…_counterexample` theorems (explicit schedules, checked by `decide`).
-/
namespace B6.Props.C28
open B6.Model.Proto

/-! ## `encoding.Uint64Map.EachItem` (repaired) -/
section EachItem
open B6.Model.Proto.EachItem

/-- If a callback returned an error, `EachItem` returns an error (for every goroutine count, bucket layout,
failing set and schedule). -/
theorem eachitem_error_reported (c : Cfg) (s : St) (h : Reachable (step c) (init c) s)
    (r : Bool) (hr : s.ret = some r) (hf : s.failed = true) : r = true :=
  (inv_reachable h).workers.reported nofun hr hf

/-- … and it only returns an error that a callback produced. -/
theorem eachitem_error_genuine (c : Cfg) (s : St) (h : Reachable (step c) (init c) s)
    (hr : s.ret = some true) : s.failed = true :=
  (genuine_reachable h).cause ((inv_reachable h).ret true hr).1.symm

/-- No reachable state is deadlocked: while `EachItem` has not returned, some goroutine can take a step. -/
theorem eachitem_no_deadlock (c : Cfg) (hg : 0 < c.g) (s : St) (h : Reachable (step c) (init c) s)
    (ht : terminal s = false) : step c s ≠ [] := by
  intro hd
  have I := inv_reachable h
  have hr : s.ret = none := Option.not_isSome_iff_eq_none.mp (Bool.eq_false_iff.mp ht)
  obtain ⟨hhand, htok, hclose, hret, hws⟩ := (step_eq_nil hr).mp hd
  cases hc : s.closed with
  | true =>
    -- nobody waits in front of a closed channel
    refine hret ⟨hc, fun w hw => ?_⟩
    obtain ⟨i, hi⟩ := List.mem_iff_getElem?.mp hw
    exact (hws i w hi).resolve_right fun e => nomatch hc ▸ e.2
  | false =>
    have hl : inLoop c s := Classical.not_not.mp fun hl => hclose ⟨hc, hl⟩
    -- nobody takes the bucket on offer, so worker 0 has left, and has left a token behind
    have h0 : 0 < s.ws.length := I.len ▸ hg
    have hi := List.getElem?_eq_getElem h0
    have e0 : s.ws[0] = W.exited := (hws 0 _ hi).resolve_right fun e => hhand 0 _ hi ⟨hl, e.1⟩
    exact htok ⟨hl, I.tok hc hl.2.1 ⟨0, e0 ▸ hi⟩⟩

/-- A goroutine whose callback failed (or that has left) never runs a callback again — in any state. -/
theorem eachitem_worker_stops (c : Cfg) (s s' : St) (h : s' ∈ step c s) (i : Nat)
    (hi : s.ws[i]? = some W.failing ∨ s.ws[i]? = some W.exited) :
    s'.ws[i]? = some W.failing ∨ s'.ws[i]? = some W.exited := by
  obtain ⟨-, h⟩ := mem_step.mp h
  rcases h with ⟨j, w, hw, -, rfl, rfl⟩ | ⟨-, -, rfl⟩ | ⟨-, -, rfl⟩ | ⟨-, -, rfl⟩ | ⟨j, w, hw, h⟩
  · exact getElem?_set_stays hw nofun nofun hi
  · exact hi
  · exact hi
  · exact hi
  · rcases mem_workerStep h with ⟨rfl, -, rfl⟩ | ⟨k, j', rfl, -, rfl⟩ | ⟨k, j', x, rfl, -, -, rfl⟩ | ⟨rfl, rfl⟩
    · exact getElem?_set_stays hw nofun nofun hi
    · exact getElem?_set_stays hw nofun nofun hi
    · exact getElem?_set_stays hw nofun nofun hi
    · exact getElem?_set_stays hw (fun _ => rfl) nofun hi

/-- Promptness: once the feeder has taken the cancel token (`break feed`), no bucket is handed out any more —
every bucket a worker is busy with afterwards it was already busy with (the channel is unbuffered). -/
theorem eachitem_prompt (c : Cfg) (s s' : St) (h : s' ∈ step c s) (hs : s.stopped = true) :
    s'.stopped = true ∧ s'.next = s.next ∧
    ∀ (i k j : Nat), s'.ws[i]? = some (W.busy k j) → ∃ j', s.ws[i]? = some (W.busy k j') := by
  obtain ⟨-, h⟩ := mem_step.mp h
  have keep : ∀ (j : Nat) (x : W), (∀ k j', x = W.busy k j' → ∃ j'', s.ws[j]? = some (W.busy k j'')) →
      ∀ (i k j' : Nat), (s.ws.set j x)[i]? = some (W.busy k j') → ∃ j'', s.ws[i]? = some (W.busy k j'') := by
    intro j x hx i k j' hi
    rcases getElem?_set_some hi with ⟨rfl, e⟩ | ⟨_, e⟩
    · exact hx k j' e.symm
    · exact ⟨j', e⟩
  rcases h with ⟨j, w, hw, hl, rfl, rfl⟩ | ⟨hl, -, rfl⟩ | ⟨-, -, rfl⟩ | ⟨-, -, rfl⟩ | ⟨j, w, hw, h⟩
  · -- a bucket is handed out only inside the loop
    exact (Bool.eq_false_iff.mp hl.2.1 hs).elim
  · -- break feed, likewise
    exact (Bool.eq_false_iff.mp hl.2.1 hs).elim
  · -- close
    exact ⟨hs, rfl, fun i k j h => ⟨j, h⟩⟩
  · -- return
    exact ⟨hs, rfl, fun i k j h => ⟨j, h⟩⟩
  · rcases mem_workerStep h with ⟨rfl, -, rfl⟩ | ⟨k, j', rfl, -, rfl⟩ | ⟨k, j', x, rfl, -, hx, rfl⟩ | ⟨rfl, rfl⟩
    · -- leaves
      exact ⟨hs, rfl, keep j _ nofun⟩
    · -- the callback fails
      exact ⟨hs, rfl, keep j _ nofun⟩
    · -- the callback succeeds: the next id is of the same bucket
      refine ⟨hs, rfl, keep j _ ?_⟩
      rcases hx with ⟨rfl, _⟩ | rfl
      · intro k2 j2 e; cases e; exact ⟨j', hw⟩
      · nofun
    · -- records the error and leaves
      exact ⟨hs, rfl, keep j _ nofun⟩

/-- Termination: every step strictly decreases `EachItem.measure` (from ANY state), so there is no livelock … -/
theorem eachitem_terminates (c : Cfg) (s s' : St) (h : s' ∈ step c s) : measure c s' < measure c s :=
  measure_step h

/-- … so no schedule is longer than the measure of its first state. -/
theorem eachitem_schedule_bounded (c : Cfg) (sched : List Nat) (s s' : St)
    (h : runSched (step c) s sched = some s') : sched.length + measure c s' ≤ measure c s :=
  runSched_bounded (step c) (measure c) (fun _ _ => measure_step) sched s s' h

/-- `P_stops`: a run of `EachItem` that can take no further step has returned; if a callback failed it returned an
error.  (That no bucket is handed out once the feeder has left its loop is `eachitem_prompt`, a statement about
single steps.) -/
theorem eachitem_stops (c : Cfg) (hg : 0 < c.g) (s : St) (h : Reachable (step c) (init c) s) (hd : step c s = []) :
    ∃ r, s.ret = some r ∧ (s.failed = true → r = true) := by
  cases hr : s.ret with
  | none => exact absurd hd (eachitem_no_deadlock c hg s h (by simp [terminal, hr]))
  | some r => exact ⟨r, rfl, fun hf => eachitem_error_reported c s h r hr hf⟩

/-- non-vacuity: 1 goroutine, 3 buckets of one id, the first callback fails — the schedule that deadlocked the
old code now ends with the error returned. -/
def exCfg : Cfg := { g := 1, n := 3, size := fun _ => 1, fails := fun k _ => k == 0 }
example : ∃ s, Reachable (step exCfg) (init exCfg) s ∧ s.ret = some true ∧ s.failed = true :=
  exists_reachable [0, 0, 0, 0, 0, 0] _ (by decide)
example : terminal (init exCfg) = false ∧ 0 < exCfg.g := by decide

end EachItem

/-! ## `MemoryFeatureSource.Read` (repaired; `watch = true`), `eachIngestFeature` and
`ModifiedTags.EachModifiedTag` (`watch = false`) — theorems for either value of `watch` -/
section Feed
open B6.Model.Proto.Feed

theorem feed_error_reported (c : Cfg) (s : St) (h : Reachable (step c) (init c) s)
    (r : Bool) (hr : s.ret = some r) (hf : s.failed = true) : r = true :=
  (inv_reachable h).workers.reported nofun hr hf

theorem feed_no_deadlock (c : Cfg) (hg : 0 < c.g) (s : St) (h : Reachable (step c) (init c) s)
    (ht : terminal s = false) : step c s ≠ [] := by
  intro hd
  have I := inv_reachable h
  have hr : s.ret = none := Option.not_isSome_iff_eq_none.mp (Bool.eq_false_iff.mp ht)
  obtain ⟨hsend, hdone, hclose, hret, -, hws⟩ := (step_eq_nil hr).mp hd
  cases hc : s.closed with
  | true =>
    -- nobody waits in front of a closed channel
    refine hret ⟨hc, fun w hw => ?_⟩
    obtain ⟨i, hi⟩ := List.mem_iff_getElem?.mp hw
    exact (hws i w hi).resolve_right fun e => nomatch hc ▸ e.2.2.2
  | false =>
    have hl : inLoop c s := Classical.not_not.mp fun hl => hclose ⟨hc, hl⟩
    have hcan : s.cancelled = false := Bool.eq_false_iff.mpr fun e => hdone ⟨hl, e⟩
    -- worker 0 has not left (nothing is closed or cancelled), so it waits in front of an empty channel: the
    -- producer can send
    have h0 : 0 < s.ws.length := I.len ▸ hg
    have hi := List.getElem?_eq_getElem h0
    rcases hws 0 _ hi with e | ⟨-, -, hq, -⟩
    · exact I.live hc hcan 0 (e ▸ hi)
    · exact hsend ⟨hl, by rw [hq]; exact hg⟩

/-- A goroutine whose callback failed never runs a callback again. -/
theorem feed_worker_stops (c : Cfg) (s s' : St) (h : s' ∈ step c s) (i : Nat)
    (hi : s.ws[i]? = some W.failing ∨ s.ws[i]? = some W.exited) :
    s'.ws[i]? = some W.failing ∨ s'.ws[i]? = some W.exited := by
  obtain ⟨-, h⟩ := mem_step.mp h
  rcases h with ⟨-, -, rfl⟩ | ⟨-, -, rfl⟩ | ⟨-, -, rfl⟩ | ⟨-, -, rfl⟩ | ⟨-, -, rfl⟩ | ⟨j, w, hw, h⟩
  · exact hi
  · exact hi
  · exact hi
  · exact hi
  · exact hi
  · rcases mem_workerStep h with ⟨rfl, -, -, rfl⟩ | ⟨rfl, k, q, -, rfl⟩ | ⟨rfl, -, -, rfl⟩ |
      ⟨k, rfl, -, rfl⟩ | ⟨k, rfl, -, rfl⟩ | ⟨rfl, rfl⟩
    · exact getElem?_set_stays hw nofun nofun hi
    · exact getElem?_set_stays hw nofun nofun hi
    · exact getElem?_set_stays hw nofun nofun hi
    · exact getElem?_set_stays hw nofun nofun hi
    · exact getElem?_set_stays hw nofun nofun hi
    · exact getElem?_set_stays hw (fun _ => rfl) nofun hi

/-- Promptness: after the producer has seen the cancellation, at most `g` (the capacity of the channel)
further items are received by the callback goroutines. -/
theorem feed_prompt (c : Cfg) (s : St) (h : Reachable (step c) (init c) s) : s.late ≤ c.g := by
  have := (inv_reachable h).cap; omega

theorem feed_terminates (c : Cfg) (s s' : St) (h : s' ∈ step c s) : measure c s' < measure c s :=
  measure_step h

theorem feed_schedule_bounded (c : Cfg) (sched : List Nat) (s s' : St)
    (h : runSched (step c) s sched = some s') : sched.length + measure c s' ≤ measure c s :=
  runSched_bounded (step c) (measure c) (fun _ _ => measure_step) sched s s' h

/-- `P_stops` for `Read` / `eachIngestFeature` / `EachModifiedTag` — also when the caller's context is cancelled by
the environment at an arbitrary step (`c.ext = true`): a run that can take no further step has returned; if a
callback failed it returned an error; and at most `g` items reached a callback goroutine after the producer had
seen the cancellation. -/
theorem feed_stops (c : Cfg) (hg : 0 < c.g) (s : St) (h : Reachable (step c) (init c) s) (hd : step c s = []) :
    ∃ r, s.ret = some r ∧ (s.failed = true → r = true) ∧ s.late ≤ c.g := by
  cases hr : s.ret with
  | none => exact absurd hd (feed_no_deadlock c hg s h (by simp [terminal, hr]))
  | some r => exact ⟨r, rfl, fun hf => feed_error_reported c s h r hr hf, feed_prompt c s h⟩

def exFeed (watch : Bool) : Cfg := { g := 1, n := 3, fails := fun k => k == 0, watch := watch }
example : ∃ s, Reachable (step (exFeed true)) (init (exFeed true)) s ∧ s.ret = some true ∧ s.failed = true :=
  exists_reachable [0, 0, 0, 0, 0, 0, 0, 0] _ (by decide)

/-- non-vacuity of `ext`: nothing fails, the caller cancels after the first callback: `Read` stops, having passed
only that one feature to the callback — and returns nil (it does not report the cancellation; see notes/C28.md). -/
def exFeedExt : Cfg := { g := 1, n := 3, fails := fun _ => false, watch := true, ext := true }
example : ∃ s, Reachable (step exFeedExt) (init exFeedExt) s ∧ s.ret = some false ∧ s.calls = 1 ∧ s.next < 3 :=
  exists_reachable [0, 0, 0, 0, 1, 0, 0, 0] _ (by decide)

end Feed

/-! ## `osm.ReadPBFWithOptions` (repaired) -/
section Pbf
open B6.Model.Proto.Pbf

theorem pbf_error_reported (c : Cfg) (s : St) (h : Reachable (step c) (init c) s)
    (r : Bool) (hr : s.ret = some r) (hf : s.failed = true) : r = true :=
  (inv_reachable h).workers.reported nofun hr hf

theorem pbf_no_deadlock (c : Cfg) (hg : 0 < c.g) (s : St) (h : Reachable (step c) (init c) s)
    (ht : terminal s = false) : step c s ≠ [] := by
  intro hd
  have I := inv_reachable h
  have hr : s.ret = none := Option.not_isSome_iff_eq_none.mp (Bool.eq_false_iff.mp ht)
  obtain ⟨hrd, hret, hws⟩ := (step_eq_nil hr).mp hd
  have hlen := I.len
  by_cases hall : allExited s
  · -- everybody has left, so the reader is not done: it is blocked, nothing is cancelled, and it has sent a
    -- done-blob for every worker already
    have hex : s.ws.countP isExited = s.ws.length :=
      List.countP_eq_length.mpr fun w hw => hall w hw ▸ rfl
    obtain ⟨-, hcan, hrd⟩ := hrd.resolve_left fun e => hret ⟨e, hall⟩
    have hcnt := I.cnt hcan
    rcases hrd with ⟨e, -⟩ | ⟨j, e, hj⟩ <;> (rw [e] at hcnt; simp only [doneSent] at hcnt; omega)
  · -- a worker waits in front of the empty channel and nothing is cancelled: its done-blob is still to come
    obtain ⟨w, hw⟩ := Classical.not_forall.mp hall
    obtain ⟨hm, hne⟩ := Classical.not_imp.mp hw
    obtain ⟨i, hi⟩ := List.mem_iff_getElem?.mp hm
    obtain ⟨-, hcan, hq⟩ := (hws i w hi).resolve_left hne
    have hcnt := I.cnt hcan
    rw [hq] at hcnt
    rcases hrd with e | ⟨hfull, -, -⟩
    · -- the reader is done: it has sent `g` done-blobs, none is in the channel, so all `g` workers have left
      rw [e] at hcnt
      have : s.ws.countP isExited = s.ws.length := by simpa [doneSent, hlen] using hcnt
      exact hne (isExited_iff.mp (List.countP_eq_length.mp this w (List.mem_of_getElem? hi)))
    · exact hfull (by rw [hq]; exact hg)

theorem pbf_worker_stops (c : Cfg) (s s' : St) (h : s' ∈ step c s) (i : Nat)
    (hi : s.ws[i]? = some W.failing ∨ s.ws[i]? = some W.exited) :
    s'.ws[i]? = some W.failing ∨ s'.ws[i]? = some W.exited := by
  obtain ⟨-, h⟩ := mem_step.mp h
  rcases h with h | ⟨-, -, rfl⟩ | ⟨j, w, hw, h⟩
  · rcases mem_readerStep h with ⟨-, -, -, rfl⟩ | ⟨-, -, -, rfl⟩ | ⟨-, -, rfl⟩ |
      ⟨-, -, -, -, rfl⟩ | ⟨-, -, -, -, rfl⟩ | ⟨-, -, -, rfl⟩ <;> exact hi
  · exact hi
  · rcases mem_workerStep h with ⟨rfl, -, rfl⟩ | ⟨rfl, k, q, -, rfl⟩ | ⟨rfl, q, -, rfl⟩ |
      ⟨k, j', rfl, -, rfl⟩ | ⟨k, j', x, rfl, -, -, rfl⟩ | ⟨rfl, rfl⟩
    · exact getElem?_set_stays hw nofun nofun hi
    · exact getElem?_set_stays hw nofun nofun hi
    · exact getElem?_set_stays hw nofun nofun hi
    · exact getElem?_set_stays hw nofun nofun hi
    · exact getElem?_set_stays hw nofun nofun hi
    · exact getElem?_set_stays hw (fun _ => rfl) nofun hi

/-- Promptness: after `readBlobs` has seen the cancellation, at most `g` (the capacity of the channel) further
data blobs are taken by the workers. -/
theorem pbf_prompt (c : Cfg) (s : St) (h : Reachable (step c) (init c) s) : s.late ≤ c.g := by
  have := (inv_reachable h).cap; omega

theorem pbf_terminates (c : Cfg) (s s' : St) (h : s' ∈ step c s) : measure c s' < measure c s :=
  measure_step h

theorem pbf_schedule_bounded (c : Cfg) (sched : List Nat) (s s' : St)
    (h : runSched (step c) s sched = some s') : sched.length + measure c s' ≤ measure c s :=
  runSched_bounded (step c) (measure c) (fun _ _ => measure_step) sched s s' h

/-- `P_stops` for `ReadPBFWithOptions`. -/
theorem pbf_stops (c : Cfg) (hg : 0 < c.g) (s : St) (h : Reachable (step c) (init c) s) (hd : step c s = []) :
    ∃ r, s.ret = some r ∧ (s.failed = true → r = true) ∧ s.late ≤ c.g := by
  cases hr : s.ret with
  | none => exact absurd hd (pbf_no_deadlock c hg s h (by simp [terminal, hr]))
  | some r => exact ⟨r, rfl, fun hf => pbf_error_reported c s h r hr hf, pbf_prompt c s h⟩

def exPbf : Cfg := { g := 1, n := 3, size := fun k => if k == 0 then 0 else 1, fails := fun k _ => k == 1 }
example : ∃ s, Reachable (step exPbf) (init exPbf) s ∧ s.ret = some true ∧ s.failed = true :=
  exists_reachable [0, 0, 0, 0, 0, 0, 0, 0, 0, 0, 0] _ (by decide)

end Pbf

/-! ## What "promptly" cannot mean

`select` picks among its ready arms at random, and the goroutine that failed may be descheduled before it
cancels; under the demonic scheduler of the model the feeder can therefore go on handing out items for as long
as it has any, so the strict bound "at most g + capacity callbacks start after the first failure" is NOT a
theorem: `eachitem_prompt_strict_counterexample` refutes it for `EachItem` (capacity 0).  What is proved instead: the failing goroutine itself stops
(`…_worker_stops`), and once the feeder has observed the cancellation at most `capacity` further items are
started (`…_prompt`).  The real code's `select` is fair, so it stops after an expected O(1) further sends;
the correspondence run records the measured numbers. -/
section Strict
open B6.Model.Proto.EachItem

def eachitem_prompt_strict_statement (c : Cfg) : Prop :=
  ∀ s, Reachable (step c) (init c) s → s.after ≤ c.g

def exStrict : Cfg := { g := 2, n := 12, size := fun _ => 1, fails := fun k _ => k == 0 }

theorem eachitem_prompt_strict_counterexample : ¬ eachitem_prompt_strict_statement exStrict := by
  intro h
  obtain ⟨s, hs, ha⟩ : ∃ s, Reachable (step exStrict) (init exStrict) s ∧ ¬ s.after ≤ exStrict.g :=
    exists_reachable [0, 0, 0, 0, 1, 0, 1, 0, 1, 0, 1, 0, 1, 0, 1, 0, 1, 0, 0, 0, 0] _ (by decide)
  exact ha (h s hs)

end Strict

/-! ## The code before the fixes (`…Old` models): the defects, as explicit schedules -/
section Old

/-- `EachItem`, 1 goroutine, 3 buckets, the callback fails on the first: the only worker leaves, the feeder eats
the single cancel token for bucket 1 (its `break` only leaves the select) and blocks forever offering bucket 2.
Observed on the real code as a hang (harness corpus). -/
theorem eachitem_deadlock_counterexample :
    ∃ s, Reachable (EachItemOld.step ⟨1, 3, fun _ => 1, fun k _ => k == 0, fun _ _ => true⟩)
        (EachItemOld.init ⟨1, 3, fun _ => 1, fun k _ => k == 0, fun _ _ => true⟩) s ∧
      deadlocked (EachItemOld.step ⟨1, 3, fun _ => 1, fun k _ => k == 0, fun _ _ => true⟩) EachItemOld.terminal s = true :=
  exists_reachable [0, 0, 0, 0] _ (by decide)

/-- `EachItem`, one bucket with two ids, the callback fails once on the first id: the trailing `f(...)` runs on
that id again, succeeds, overwrites `err`, and `EachItem` returns nil although a callback failed. -/
theorem eachitem_error_lost_counterexample :
    ∃ s, Reachable (EachItemOld.step ⟨1, 1, fun _ => 2, fun _ j => j == 0, fun _ _ => false⟩)
        (EachItemOld.init ⟨1, 1, fun _ => 2, fun _ j => j == 0, fun _ _ => false⟩) s ∧
      s.ret = some false ∧ s.failed = true :=
  exists_reachable [0, 0, 0, 0, 0, 0] _ (by decide)

/-- `MemoryFeatureSource.Read`, 1 goroutine, 3 features, the callback fails on the first: the feeder leaves on
`ctx.Done()`, the producer blocks on the full channel. Observed on the real code as a hang. -/
theorem memread_deadlock_counterexample :
    ∃ s, Reachable (FeedOld.step ⟨1, 3, fun k => k == 0⟩) (FeedOld.init ⟨1, 3, fun k => k == 0⟩) s ∧
      deadlocked (FeedOld.step ⟨1, 3, fun k => k == 0⟩) FeedOld.terminal s = true :=
  exists_reachable [0, 0, 0, 0, 0, 0] _ (by decide)

/-- … and the goroutine whose callback failed went on to call it for the next feature. -/
theorem memread_worker_continues_counterexample :
    ∃ s, Reachable (FeedOld.step ⟨1, 3, fun k => k == 0⟩) (FeedOld.init ⟨1, 3, fun k => k == 0⟩) s ∧
      s.cause = true ∧ s.ws = [FeedOld.W.busy 1] :=
  exists_reachable [0, 0, 0, 0, 0, 1] _ (by decide)

/-- `ReadPBFWithOptions`, 1 core, header + 2 data blobs, the callback fails in the first data blob: the worker
leaves on `ctx.Done()` with the second blob still in the channel, the reader blocks sending its done-blob.
Observed on the real code as a hang. -/
theorem pbf_deadlock_counterexample :
    ∃ s, Reachable (PbfOld.step ⟨1, 3, fun k => if k == 0 then 0 else 1, fun k _ => k == 1⟩)
        (PbfOld.init ⟨1, 3, fun k => if k == 0 then 0 else 1, fun k _ => k == 1⟩) s ∧
      deadlocked (PbfOld.step ⟨1, 3, fun k => if k == 0 then 0 else 1, fun k _ => k == 1⟩) PbfOld.terminal s = true :=
  exists_reachable [0, 0, 0, 0, 0, 0, 0, 0, 0] _ (by decide)

/-- … and the worker whose callback failed went on to read the next blob. -/
theorem pbf_worker_continues_counterexample :
    ∃ s, Reachable (PbfOld.step ⟨1, 3, fun k => if k == 0 then 0 else 1, fun k _ => k == 1⟩)
        (PbfOld.init ⟨1, 3, fun k => if k == 0 then 0 else 1, fun k _ => k == 1⟩) s ∧
      s.oerr = true ∧ s.ws = [PbfOld.W.busy 2 0] :=
  exists_reachable [0, 0, 0, 0, 0, 0, 0, 0, 1] _ (by decide)

end Old

end B6.Props.C28
