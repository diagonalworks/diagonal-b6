import B6.Model.Osm
import B6.Lemmas.Osm
import B6.Model.OsmRings
import B6.Lemmas.OsmRings
/-!
C29 — OSM data maps to features by fixed rules.

About the model `B6/Model/Osm.lean` of `ingest/osm.go` + `ingest/features.go` (`ingest es` = every feature
the OSM feature source emits for the elements `es`, in order). The model mirrors the code after
`fixes/C29-relation-member-area-id.patch` and `fixes/C29-reserved-geometry-keys.patch`.

`osm_rules` states the property element by element, `ingest_spec` puts the elements together.  Two clauses record
repaired defects: `member_id_rule` (`member_id_before_fix_counterexample`) and `geometry_tags`
(`reserved_key_before_fix_counterexample`: an OSM tag keyed `point` on an open way used to collide with b6's geometry
tag and the way was dropped from the world).  The last section is about the ring stitching of `osm/polygons.go`.
`hashKeys`, `atKeys`, `wayIds`, `isOuter`, `cut` in the statements are definitions of `Lemmas/Osm.lean`.
-/
namespace B6.Props.C29
open B6.Model.Pbf (Element Tag Member MType Fail)
open B6.Model.Osm B6.Lemmas.Osm

/-- Searchable tag keys: the 17 `hashKeys` get a `#` prefix, the 3 `atKeys` an `@` prefix, the two keys
reserved for geometry (`point`, `path`) an `osm:` prefix, every other key is kept as it is; no OSM key ends
up on a geometry key. -/
theorem key_mapping (k : String) :
    (keyForOSMKey k = if k ∈ hashKeys then "#" ++ k else if k ∈ atKeys then "@" ++ k
      else if k = "point" ∨ k = "path" then "osm:" ++ k else k) ∧
    keyForOSMKey k ≠ "point" ∧ keyForOSMKey k ≠ "path" :=
  ⟨keyForOSMKey_spec k, keyForOSMKey_not_reserved k⟩

/-- The rules, element by element, for every input and every pair of ID sets:
* a node gives exactly one feature, the point `pointID id`, whose `point` tag is the node's location and
  which carries every OSM tag (key mapped);
* an open way gives exactly one feature, the path `pathID id` whose `path` tag lists its nodes' points in
  order, carrying every OSM tag (key mapped);
* a closed way gives exactly that path with *no* other tag, and the area `wayAreaID id` with the way's tags
  (keys mapped) and the single polygon `[pathID id]`;
* a multipolygon relation gives nothing when one of its way members is not a closed way of the input, and
  otherwise exactly the area `relAreaID id` with the relation's tags whose polygons are non-empty and,
  concatenated, are the relation's way members in order;
* any other relation gives exactly the relation `relID id` with its tags and one member per OSM member,
  same order and role, with the ID `memberID` chooses. -/
theorem osm_rules (s : Sets) :
    (∀ id lat lon tags, ∃ f, featuresOf s (.node id lat lon tags) = [f] ∧ f.id = pointID id ∧
        f.tags.find? (fun t => t.key = "point") = some ⟨"point", .point lat lon⟩ ∧
        ∀ t ∈ tags, ⟨keyForOSMKey t.key, .str t.value⟩ ∈ f.tags) ∧
    (∀ id nodes tags, wayClosed? nodes = some false → ∃ f, featuresOf s (.way id nodes tags) = [f] ∧ f.id = pathID id ∧
        f.tags.find? (fun t => t.key = "path") = some ⟨"path", .ids (nodes.map pointID)⟩ ∧
        ∀ t ∈ tags, ⟨keyForOSMKey t.key, .str t.value⟩ ∈ f.tags) ∧
    (∀ id nodes tags, wayClosed? nodes = some true → featuresOf s (.way id nodes tags) =
        [.generic (pathID id) [⟨"path", .ids (nodes.map pointID)⟩], .area (wayAreaID id) (mapTags tags) [[pathID id]]]) ∧
    (∀ id members tags, isRelationArea tags = true →
        ((∃ m ∈ members, m.type = .way ∧ s.areaWays.contains (u m.id) = false) → featuresOf s (.relation id members tags) = []) ∧
        ((∀ m ∈ members, m.type = .way → s.areaWays.contains (u m.id) = true) →
          ∃ polys : List (List Int64), featuresOf s (.relation id members tags) =
              [.area (relAreaID id) (mapTags tags) (polys.map (·.map pathID))] ∧
            polys.flatten = wayIds members ∧ ∀ p ∈ polys, p ≠ [])) ∧
    (∀ id members tags, isRelationArea tags = false → featuresOf s (.relation id members tags) =
        [.relation (relID id) (mapTags tags) (members.map fun m => (memberID s m, m.role))]) := by
  refine ⟨?_, ?_, ?_, ?_, ?_⟩
  · intro id lat lon tags
    refine ⟨_, rfl, rfl, modifyOrAdd_find _ _ _, ?_⟩
    intro t ht
    exact modifyOrAdd_keeps _ _ _ _ (List.mem_map.mpr ⟨t, ht, rfl⟩) (keyForOSMKey_not_reserved t.key).1
  · intro id nodes tags hc
    refine ⟨.generic (pathID id) (modifyOrAdd "path" (.ids (nodes.map pointID)) (mapTags tags)), ?_, rfl,
      modifyOrAdd_find _ _ _, ?_⟩
    · exact featuresOf_way_open s id tags (by rw [hc]; nofun)
    · intro t ht
      exact modifyOrAdd_keeps _ _ _ _ (List.mem_map.mpr ⟨t, ht, rfl⟩) (keyForOSMKey_not_reserved t.key).2
  · exact fun id nodes tags hc => featuresOf_way_closed s id tags hc
  · intro id members tags ha
    rw [featuresOf_multipolygon s id members ha]
    constructor
    · rintro ⟨m, hm, hw, hc⟩
      exact if_neg fun h => by rw [h m hm hw] at hc; cases hc
    · intro hall
      obtain ⟨h1, h2, -⟩ := cut_spec (members.filter (fun m => m.type = .way))
      refine ⟨_, if_pos hall, ?_, ?_⟩
      · simp only [ids, ← List.map_flatten, h1, wayIds]
      · simp only [ids, List.forall_mem_map]
        exact fun p hp => by simpa using (h2 p hp).1
  · intro id members tags ha
    simp [featuresOf, ha]

/-- **Polygons follow the outer/inner members.** When every way member of a multipolygon relation is a closed
way of the input, its area's polygons are exactly the way members (in order) cut before every member whose role
is `outer` or empty: the cut loses and reorders nothing, no polygon is empty, inside a polygon only the first
member can be an outer one, and every polygon after the first starts with an outer one. -/
theorem multipolygon_cut_rule (s : Sets) (id : Int64) (members : List Member) (tags : List Tag)
    (ha : isRelationArea tags = true) (hall : ∀ m ∈ members, m.type = .way → s.areaWays.contains (u m.id) = true) :
    let W := members.filter (fun m => m.type = .way)
    featuresOf s (.relation id members tags) =
        [.area (relAreaID id) (mapTags tags) ((cut W).map (·.map (pathID ·.id)))] ∧
    (cut W).flatten = W ∧ (∀ p ∈ cut W, p ≠ [] ∧ ∀ m ∈ p.tail, isOuter m = false) ∧
    (∀ p ∈ (cut W).tail, ∃ m t, p = m :: t ∧ isOuter m = true) := by
  intro W
  refine ⟨?_, cut_spec W⟩
  rw [featuresOf_multipolygon s id members ha, if_pos hall, ids, List.map_map]
  congr 2
  apply List.map_congr_left
  intro p _
  simp [Function.comp_def]

/-- The feature source is defined (does not panic) exactly when no way is without nodes, and then its
output is the concatenation, in input order, of what the rules give for each element with the ID sets of
the whole input. -/
theorem ingest_spec (es : List Element) :
    ((∃ fs, ingest es = .ok fs) ↔ ∀ id nodes tags, Element.way id nodes tags ∈ es → nodes ≠ []) ∧
    ∀ s, collect es = .ok s → ingest es = .ok (es.flatMap (featuresOf s)) := by
  constructor
  · rw [← collect_ok_iff]
    unfold ingest
    cases collect es with
    | error e => simp [Except.map]
    | ok s => simp [Except.map]
  · intro s hs
    simp [ingest, hs, Except.map]

/-- **Member IDs are chosen by the member.** With the ID sets of the input: a node member points at the
node's point; a way member at the *area* of that way exactly when the input has a closed way with the
member's ID, otherwise at its path; a relation member at the *area* exactly when the input has a
multipolygon relation with the member's ID, otherwise at the relation. -/
theorem member_id_rule (es : List Element) (s : Sets) (hs : collect es = .ok s) (m : Member) :
    (m.type = .node → memberID s m = pointID m.id) ∧
    (m.type = .way →
      ((∃ nodes tags, Element.way m.id nodes tags ∈ es ∧ wayClosed? nodes = some true) → memberID s m = wayAreaID m.id) ∧
      ((¬ ∃ nodes tags, Element.way m.id nodes tags ∈ es ∧ wayClosed? nodes = some true) → memberID s m = pathID m.id)) ∧
    (m.type = .relation →
      ((∃ members tags, Element.relation m.id members tags ∈ es ∧ isRelationArea tags = true) → memberID s m = relAreaID m.id) ∧
      ((¬ ∃ members tags, Element.relation m.id members tags ∈ es ∧ isRelationArea tags = true) → memberID s m = relID m.id)) := by
  unfold memberID
  refine ⟨fun hm => by rw [hm], fun hm => ?_, fun hm => ?_⟩
  · rw [hm]; exact ite_rule (areaWays_iff hs m.id) _ _
  · rw [hm]; exact ite_rule (areaRels_iff hs m.id) _ _

/-- …and the feature a way member points at is really emitted: if the input has a way with the member's
ID, the output has a feature with the member ID — the area when that way is closed. -/
theorem way_member_target_emitted (es : List Element) (fs : List Feature) (h : ingest es = .ok fs)
    (s : Sets) (hs : collect es = .ok s) (m : Member) (hm : m.type = .way)
    (nodes : List Int64) (tags : List Tag) (hw : Element.way m.id nodes tags ∈ es) :
    ∃ f ∈ fs, f.id = memberID s m ∧ (wayClosed? nodes = some true → f.id = wayAreaID m.id) := by
  have hfs := (ingest_spec es).2 s hs
  rw [h] at hfs
  cases hfs
  have hin := areaWays_iff hs m.id
  simp only [memberID, hm]
  by_cases hc : s.areaWays.contains (u m.id) = true
  · -- some way with this ID is closed (maybe another one): its area is emitted
    obtain ⟨n2, t2, hw2, hc2⟩ := hin.mp hc
    exact ⟨.area (wayAreaID m.id) (mapTags t2) [[pathID m.id]],
      List.mem_flatMap.mpr ⟨_, hw2, by simp [featuresOf_way_closed s _ t2 hc2]⟩, by rw [if_pos hc]; rfl, fun _ => rfl⟩
  · have hopen : wayClosed? nodes ≠ some true := fun hcl => hc (hin.mpr ⟨_, _, hw, hcl⟩)
    exact ⟨.generic (pathID m.id) (modifyOrAdd "path" (.ids (nodes.map pointID)) (mapTags tags)),
      List.mem_flatMap.mpr ⟨_, hw, by simp [featuresOf_way_open s _ tags hopen]⟩, by rw [if_neg hc]; rfl, fun h => absurd h hopen⟩

/-- What the code did before the fix — it asked the ID sets about the *relation's* ID: nodes 1,2,3, the
closed way 10 = [1,2,3,1], the plain relation 20 with member way 10. The member should be the area of way
10 (`member_id_rule`); the unrepaired choice is its path. -/
theorem member_id_before_fix_counterexample :
    ∃ (es : List Element) (s : Sets) (rid : Int64) (m : Member),
      collect es = .ok s ∧ (∃ ms tags, Element.relation rid ms tags ∈ es ∧ m ∈ ms ∧ isRelationArea tags = false) ∧
      (∃ nodes tags, Element.way m.id nodes tags ∈ es ∧ wayClosed? nodes = some true) ∧
      memberID s m = wayAreaID m.id ∧ memberIDBeforeFix s rid m = pathID m.id ∧ pathID m.id ≠ wayAreaID m.id :=
  ⟨[.node 1 0 0 [], .node 2 0 10 [], .node 3 10 10 [], .way 10 [1, 2, 3, 1] [⟨"building", "yes"⟩],
     .relation 20 [⟨.way, 10, "stop"⟩] [⟨"type", "route"⟩]],
   { areaWays := [u 10], areaRels := [] }, 20, ⟨.way, 10, "stop"⟩,
   by rfl, ⟨[⟨.way, 10, "stop"⟩], [⟨"type", "route"⟩], by decide, by decide, by decide⟩,
   ⟨[1, 2, 3, 1], [⟨"building", "yes"⟩], by decide, by decide⟩, by decide, by decide, by decide⟩

/-! ### the geometry tags (second fix) -/

/-- `Tags.GeometryLen` sees what the element is, whatever its OSM tags: 1 for a node's point, the number of
nodes for a way's path (open or closed) — so `ValidatePath` looks at all the points of every way. -/
theorem geometry_tags (s : Sets) :
    (∀ id lat lon tags, ∀ f ∈ featuresOf s (.node id lat lon tags), geometryLen f.tags = 1) ∧
    (∀ id nodes tags c, wayClosed? nodes = some c →
      ∃ f rest, featuresOf s (.way id nodes tags) = f :: rest ∧ f.id = pathID id ∧ geometryLen f.tags = nodes.length) := by
  have hnone : ∀ tags : List Tag, (mapTags tags).any (fun t => t.key = "point") = false := by
    intro tags
    simp only [mapTags, List.any_map, List.any_eq_false, Function.comp_apply, decide_eq_true_eq]
    intro t _
    exact (keyForOSMKey_not_reserved t.key).1
  constructor
  · intro id lat lon tags f hf
    simp only [featuresOf, List.mem_singleton] at hf
    subst hf
    have : (modifyOrAdd "point" (.point lat lon) (mapTags tags)).any (fun t => t.key = "point") = true := by
      have := modifyOrAdd_find "point" (.point lat lon) (mapTags tags)
      rw [List.any_eq_true]
      exact ⟨_, List.mem_of_find?_eq_some this, by simp⟩
    simp [Feature.tags, geometryLen, this]
  · intro id nodes tags c hc
    cases c with
    | false =>
      refine ⟨.generic (pathID id) (modifyOrAdd "path" (.ids (nodes.map pointID)) (mapTags tags)), [],
        featuresOf_way_open s id tags (by rw [hc]; nofun), rfl, ?_⟩
      simp only [Feature.tags, geometryLen, modifyOrAdd_any_ne "path" "point" _ _ (by decide), hnone, modifyOrAdd_find]
      simp
    | true =>
      refine ⟨.generic (pathID id) [⟨"path", .ids (nodes.map pointID)⟩], _, featuresOf_way_closed s id tags hc, rfl, ?_⟩
      simp [Feature.tags, geometryLen]

/-- Before the fix the key `point` was kept: the open way 18 = [2, 22, 20] tagged `point=` got a path feature
with a `point` and a `path` tag, geometry length 1 instead of 3 (and the world builder dropped it). -/
theorem reserved_key_before_fix_counterexample :
    keyForOSMKeyBeforeFix "point" = "point" ∧ keyForOSMKey "point" = "osm:point" ∧
    geometryLen (modifyOrAdd "path" (.ids ([2, 22, 20].map pointID)) [⟨keyForOSMKeyBeforeFix "point", .str ""⟩]) = 1 ∧
    geometryLen (modifyOrAdd "path" (.ids ([2, 22, 20].map pointID)) [⟨keyForOSMKey "point", .str ""⟩]) = 3 := by
  decide +kernel

/-! ### Ring stitching (`osm/polygons.go`, model `B6/Model/OsmRings.lean`) -/

section Rings
open B6.Model.OsmRings B6.Lemmas.OsmRings

/-- For every way table and member list on which the stitching succeeds: the loops use every member way
exactly once and nothing else, no loop is empty, and in every loop the ways are joined end to end — each way
is entered (forwards or backwards) at the node the previous one was left through. -/
theorem rings_use_each_way_once (ws : List Way) (ms : List Int64) (loops : List (List Int64))
    (h : rings ws ms = .ok loops) :
    loops.flatten.Nodup ∧ (∀ x, x ∈ loops.flatten ↔ x ∈ ms) ∧ (∀ l ∈ loops, l ≠ []) ∧
    (∀ l ∈ loops, isChain ws l = true) := by
  have hg := (group_of_rings h).2
  exact ⟨(group_spec hg).1, (group_spec hg).2.1, (group_spec hg).2.2, group_chain hg⟩

/-- **Disjoint cycles ⇒ closed rings.** For an input whose ways form disjoint cycles (`disjointCycles`: distinct
members, every one found with nodes, every end node carrying exactly two member way-ends) every loop the
stitching produces is *closed*: its chain ends at the node it started at.  (That it produces loops on such input
is a hypothesis here, not a theorem.) -/
def rings_closed_statement : Prop :=
  ∀ (ws : List Way) (ms : List Int64) (loops : List (List Int64)),
    disjointCycles ws ms = true → rings ws ms = .ok loops → ∀ l ∈ loops, isClosedRing ws l = true

/-- By a parity invariant (`B6.Lemmas.OsmRings.Walk`): at every node the number of way-ends of ways seen so far is 0 or 2,
except 1 at the first node of the loop being built and at the current joint; when the joint reaches the first node, the
only other way there is the start way. -/
theorem rings_closed_of_disjoint_cycles : rings_closed_statement :=
  fun _ _ _ hc h => group_closed (cyc_of_disjointCycles hc) (group_of_rings h).2

/-- a closed ring is a chain that comes back to its first node -/
theorem closed_iff_chain_returns (ws : List Way) (id : Int64) (rest : List Int64) (a b : Int64)
    (he : (findWay ws id).bind ends = some (a, b)) :
    isClosedRing ws (id :: rest) = (thread ws a (id :: rest) == some a) := by
  simp [isClosedRing, he, closedFrom_eq_thread]

/-- Outside the class the loops need not be closed: ways 1 = [1,2], 2 = [2,3], 3 = [3,2] (a lasso) give the one
loop [1, 2, 3], which uses every way once and is a chain, but ends at node 2, not at node 1. -/
theorem rings_lasso_not_closed :
    rings [⟨1, [1, 2]⟩, ⟨2, [2, 3]⟩, ⟨3, [3, 2]⟩] [1, 2, 3] = .ok [[1, 2, 3]] ∧
    isClosedRing [⟨1, [1, 2]⟩, ⟨2, [2, 3]⟩, ⟨3, [3, 2]⟩] [1, 2, 3] = false ∧
    disjointCycles [⟨1, [1, 2]⟩, ⟨2, [2, 3]⟩, ⟨3, [3, 2]⟩] [1, 2, 3] = false := by
  refine ⟨by rfl, by decide, by decide⟩

/-- non-vacuity: two cycles (a triangle of three ways in mixed directions and a single closed way), members
shuffled — in the class, two loops, both closed -/
example :
    let ws : List Way := [⟨1, [1, 5, 2]⟩, ⟨2, [3, 2]⟩, ⟨3, [3, 1]⟩, ⟨4, [7, 8, 9, 7]⟩]
    disjointCycles ws [2, 4, 1, 3] = true ∧ rings ws [2, 4, 1, 3] = .ok [[2, 1, 3], [4]] ∧
    isClosedRing ws [2, 1, 3] = true ∧ isClosedRing ws [4] = true ∧
    loopNodes ws [2, 1, 3] = some [3, 2, 2, 5, 1, 1, 3] := by
  refine ⟨by decide, by rfl, by decide, by decide, by decide⟩

end Rings

/-! Non-vacuity: an input with every kind of element; it is defined, and the relation's members are the
point, the area of the closed way, the path of the open way and the area of the multipolygon. -/

def sample : List Element :=
  [ .node 1 0 0 [⟨"amenity", "cafe"⟩], .node 2 0 10 [], .node 3 10 10 [],
    .way 10 [1, 2, 3, 1] [⟨"building", "yes"⟩], .way 11 [1, 3] [⟨"highway", "path"⟩],
    .relation 30 [⟨.way, 10, "outer"⟩] [⟨"type", "multipolygon"⟩],
    .relation 20 [⟨.node, 1, ""⟩, ⟨.way, 10, "stop"⟩, ⟨.way, 11, ""⟩, ⟨.relation, 30, ""⟩] [⟨"type", "route"⟩] ]

example : (ingest sample).toOption.map (·.length) = some 8 := by decide
example : ∃ s, collect sample = .ok s ∧
    (sample.flatMap (featuresOf s)).getLast? = some (.relation (relID 20) [⟨"type", .str "route"⟩]
      [(pointID 1, ""), (wayAreaID 10, "stop"), (pathID 11, ""), (relAreaID 30, "")]) :=
  ⟨{ areaWays := [u 10], areaRels := [u 30] }, by rfl, by decide⟩
example : assemble [u 1, u 2, u 3] [] [] [⟨.way, 1, "outer"⟩, ⟨.way, 2, "inner"⟩, ⟨.node, 9, ""⟩, ⟨.way, 3, ""⟩] =
    some [[1, 2], [3]] := by decide
example : cut [⟨.way, 1, "outer"⟩, ⟨.way, 2, "inner"⟩, ⟨.way, 3, ""⟩, ⟨.way, 4, "x"⟩] =
    [[⟨.way, 1, "outer"⟩, ⟨.way, 2, "inner"⟩], [⟨.way, 3, ""⟩, ⟨.way, 4, "x"⟩]] := by decide
example : keyForOSMKey "amenity" = "#amenity" ∧ keyForOSMKey "wikidata" = "@wikidata" ∧ keyForOSMKey "name" = "name" := by
  decide

end B6.Props.C29
