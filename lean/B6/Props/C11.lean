import B6.Lemmas.RecordsFeatures
import B6.Lemmas.RecordsTokenMap
import B6.Lemmas.RecordsRaw
/-!
# C11 — every compact record kind round-trips through its codec

Model: `B6/Model/Records.lean` (+ `RecordsTokenMap.lean`).  For every record kind `R`

    R.marshal … r = some bs  →  R.dec … (bs ++ rest) = some (r', bs.length)        for every `rest`

with `r' = r`, or `r' = r.sorted` for the three records whose `Marshal` sorts reference lists in place
(`PointReferences`, `FullPoint`, `Path`).  `marshal = some bs` says the Go `Marshal` does not panic
(`EncodeValueType`, "Can't encode role"); `lenOk_iff`, `…_marshal_total`, `int_value_ok_iff`, `member_fits_iff` say
exactly when that is.  The *same* primary namespace / `Namespaces` value is used on both sides; `bs.length` is what
`Unmarshal` must return (byte-exact consumption, whatever follows the record).  Field values are unrestricted: every `uint64`
reference value (bit 63 included), every delta (the zigzag of a 64-bit difference, explicit form when it has
bit 63), every `int32` coordinate, every `uint16` namespace, empty lists.

Domain restrictions that are part of the statement (and literally the driver's `inDomain` predicate):
* mixed lists / mixed area polygons are sums: an element is a reference *or* a lat/lng (`canonical`) — the
  encoding writes only the half the flag bit selects (`mixed_needs_canonical_counterexample`);
* `Members` / `Relation`: a member type that does not fit the `FeatureTypeBits = 2` bits of the role word is a
  `Marshal` panic (fixes/C11-member-type-guard.patch; before it the type was OR-ed in silently:
  `member_wide_type_counterexample`), so `marshal = some bs` already excludes it.

Further down (model: `B6/Model/RecordsRaw.lean`): reused receivers of the two sum-like records
(`…_reused_receiver*`) and the behaviour of the leaf decoders on truncated input (`…_truncated`, outside the
property's statement).
-/
namespace B6.Props.C11
open B6.Model.Records B6.Model.Varint

theorem roundtrip_of_marshal {α : Type} {ok : Bool} {enc bs : Bytes} {d : Dec α} {a : α}
    (h : (if ok = true then some enc else none) = some bs) (hrt : ok = true → RT enc d a) (rest : Bytes) :
    d (bs ++ rest) = some (a, bs.length) := by
  cases ok with
  | false => exact nomatch h
  | true => cases h; exact hrt rfl rest

/-! ## when `Marshal` succeeds -/

/-- a slice length is accepted by `EncodeValueType(…, EncodeGeometry(e, l))` iff it is below 2^61 (references) or
2^60 (lat/lngs, mixed) -/
theorem lenOk_iff (e l : Nat) (he : e ≤ 2) : lenOk e l = true ↔ (if e = 0 then l < 2 ^ 61 else l < 2 ^ 60) :=
  lenOk_iff_lt e l

/-- a reference list marshals iff it has fewer than 2^61 elements (no real slice has more) -/
theorem references_marshal_total (p : BitVec 16) (rs : List Reference) :
    (References.marshal p rs).isSome = true ↔ rs.length < 2 ^ 61 := by
  have := lenOk_iff 0 rs.length (by omega)
  simp only [if_true] at this
  simp only [References.marshal, References.ok, ← this]
  by_cases h : lenOk 0 rs.length = true <;> simp [h]

/-- the zigzag of an `int32` latitude always fits the value-type word -/
theorem latlng_marshal_total (ll : LatLng) : ll.marshal = some ll.enc := by
  simp [LatLng.marshal, latlng_ok]

/-- an `Int` tag value marshals iff it is in `[0, 2^62)` (as a `uint64`) -/
theorem int_value_ok_iff (v : BitVec 64) : (Value.int v).ok = true ↔ v.toNat < 2 ^ 62 := by
  simp [Value.ok, valueTypeOk_iff]

/-- a member marshals iff its role is in `[0, 2^62)` ("Can't encode role") and its type is point, path, area or
relation ("Can't encode member type") -/
theorem member_fits_iff (m : Member) : m.fits = true ↔ m.role.toNat < 2 ^ 62 ∧ m.type.toNat < 4 :=
  Member.fits_iff m

/-! ## the round trips: each is the record's `rt_…` lemma, through `roundtrip_of_marshal` where `Marshal` can fail -/

theorem reference_roundtrip (p : BitVec 16) (r : Reference) (rest : Bytes) :
    Reference.dec p (Reference.enc p r ++ rest) = some (r, (Reference.enc p r).length) :=
  rt_reference p r rest

example : Reference.enc 8193#16 ⟨8193#16, 42#64⟩ = [84] ∧ Reference.enc 8193#16 ⟨8193#16, (2 ^ 63 + 1 : Nat)⟩ ≠ [] ∧
    Reference.enc 8193#16 ⟨24579#16, 42#64⟩ = [135, 128, 3, 42] := by decide +kernel

theorem references_roundtrip (p : BitVec 16) (rs : List Reference) (bs : Bytes)
    (h : References.marshal p rs = some bs) (rest : Bytes) :
    References.dec p (bs ++ rest) = some (rs, bs.length) :=
  roundtrip_of_marshal h (fun hok => rt_references p rs hok) rest

/-- a list with a bit-63 value, a 2^64-1 → 0 wrap-around delta, a delta of 2^62 and a foreign namespace -/
example : (References.marshal 8193#16 [⟨8193#16, (2 ^ 63 : Nat)⟩, ⟨8193#16, 0#64⟩, ⟨8193#16, (2 ^ 64 - 1 : Nat)⟩,
    ⟨8193#16, (2 ^ 62 : Nat)⟩, ⟨24579#16, (2 ^ 63 : Nat)⟩, ⟨0#16, 0#64⟩]).isSome = true := by decide +kernel

theorem latlng_roundtrip (ll : LatLng) (bs : Bytes) (h : ll.marshal = some bs) (rest : Bytes) :
    LatLng.dec (bs ++ rest) = some (ll, bs.length) :=
  roundtrip_of_marshal h (fun _ => rt_latlng ll) rest

example : (LatLng.marshal ⟨BitVec.ofInt 32 (-2147483648), BitVec.ofInt 32 2147483647⟩).isSome = true := by decide +kernel

theorem latlngs_roundtrip (lls : List LatLng) (bs : Bytes) (h : LatLngs.marshal lls = some bs) (rest : Bytes) :
    LatLngs.dec (bs ++ rest) = some (lls, bs.length) :=
  roundtrip_of_marshal h (fun hok => rt_latlngs lls hok) rest

/-- deltas that overflow `int32` (min → max → min) -/
example : (LatLngs.marshal [⟨BitVec.ofInt 32 (-2147483648), 0#32⟩, ⟨BitVec.ofInt 32 2147483647, 1#32⟩,
    ⟨BitVec.ofInt 32 (-2147483648), BitVec.ofInt 32 (-1)⟩]).isSome = true := by decide +kernel

theorem bits_roundtrip (b : List Bool) (bs : Bytes) (h : Bits.marshal b = some bs) (rest : Bytes) :
    Bits.dec (bs ++ rest) = some (b, bs.length) :=
  roundtrip_of_marshal h (fun hok => rt_bits b hok) rest

example : Bits.marshal [true, false, true, true, false, false, false, true, true, true] = some [10, 141, 3] := by decide +kernel

theorem references_and_latlngs_roundtrip (p : BitVec 16) (g : List RefLL) (hc : ∀ x ∈ g, x.canonical = true)
    (bs : Bytes) (h : RefLLs.marshal p g = some bs) (rest : Bytes) :
    RefLLs.dec p (bs ++ rest) = some (g, bs.length) :=
  roundtrip_of_marshal h (fun hok => rt_refLLs p g hok hc) rest

def mixedExample : List RefLL :=
  [⟨⟨8193#16, 7#64⟩, LatLng.zero⟩, ⟨Reference.invalid, ⟨5#32, BitVec.ofInt 32 (-6)⟩⟩, ⟨⟨8193#16, (2 ^ 63 : Nat)⟩, LatLng.zero⟩,
   ⟨Reference.invalid, LatLng.zero⟩, ⟨⟨3#16, 9#64⟩, LatLng.zero⟩]
example : (∀ x ∈ mixedExample, x.canonical = true) ∧ (RefLLs.marshal 8193#16 mixedExample).isSome = true := by decide +kernel

theorem tags_roundtrip (tns : BitVec 16) (ts : List Tag) (hc : Tags.canonical ts = true)
    (bs : Bytes) (h : Tags.marshal tns ts = some bs) (rest : Bytes) :
    Tags.dec tns (bs ++ rest) = some (ts, bs.length) :=
  roundtrip_of_marshal h (fun hok => rt_tags tns ts hok hc) rest

/-- one tag of every value kind, a negative key -/
def tagsExample : List Tag :=
  [⟨1#64, .int 5#64⟩, ⟨BitVec.ofInt 64 (-1), .point ⟨1#32, 2#32⟩⟩, ⟨3#64, .latlngs [⟨1#32, 2#32⟩, ⟨0#32, 0#32⟩]⟩,
   ⟨4#64, .refs [⟨8193#16, 9#64⟩, ⟨3#16, 1#64⟩]⟩, ⟨5#64, .mixed mixedExample⟩, ⟨6#64, .refs []⟩]
example : Tags.canonical tagsExample = true ∧ (Tags.marshal 8193#16 tagsExample).isSome = true := by decide +kernel

theorem members_roundtrip (p : BitVec 16) (ms : List Member)
    (bs : Bytes) (h : Members.marshal p ms = some bs) (rest : Bytes) :
    Members.dec p (bs ++ rest) = some (ms, bs.length) :=
  roundtrip_of_marshal h (fun hok => rt_members p ms hok) rest

def membersExample : List Member :=
  [⟨0#64, 17#64, ⟨8193#16, 5#64⟩⟩, ⟨3#64, (2 ^ 62 - 1 : Nat), ⟨24579#16, (2 ^ 64 - 1 : Nat)⟩⟩, ⟨2#64, 0#64, ⟨0#16, 0#64⟩⟩]
example : (Members.marshal 8193#16 membersExample).isSome = true ∧
    Members.marshal 8193#16 [⟨5#64, 4#64, ⟨0#16, 0#64⟩⟩] = none := by decide +kernel

theorem delta_ints_roundtrip (vs : List (BitVec 64)) (rest : Bytes) :
    DeltaInts.dec vs.length (DeltaInts.enc vs ++ rest) = some (vs, (DeltaInts.enc vs).length) :=
  rt_deltaInts vs rest

theorem area_geometry_references_roundtrip (p : BitVec 16) (a : AreaGeomRefs) (bs : Bytes)
    (h : AreaGeomRefs.marshal p a = some bs) (rest : Bytes) :
    AreaGeomRefs.dec p (bs ++ rest) = some (a, bs.length) :=
  roundtrip_of_marshal h (fun hok => rt_areaGeomRefs p a hok) rest

def agrExample : AreaGeomRefs := ⟨[1#64, 2#64, 3#64], [⟨8193#16, 10#64⟩, ⟨8193#16, 11#64⟩, ⟨8193#16, 12#64⟩, ⟨8193#16, 13#64⟩]⟩
example : AreaGeomRefs.marshal 8193#16 agrExample = some [6, 2, 2, 2, 34, 40, 4, 4, 4] := by decide +kernel

theorem polygon_geometry_latlngs_roundtrip (q : PolygonLL) (bs : Bytes) (h : q.marshal = some bs) (rest : Bytes) :
    PolygonLL.dec (bs ++ rest) = some (q, bs.length) :=
  roundtrip_of_marshal h (fun hok => rt_polygonLL q hok) rest

theorem area_geometry_latlngs_roundtrip (ps : List PolygonLL) (bs : Bytes)
    (h : AreaGeomLL.marshal ps = some bs) (rest : Bytes) :
    AreaGeomLL.dec (bs ++ rest) = some (ps, bs.length) :=
  roundtrip_of_marshal h (fun hok => rt_areaGeomLL ps hok) rest

def pllExample : PolygonLL := ⟨[3#64], [⟨1#32, 1#32⟩, ⟨2#32, 1#32⟩, ⟨2#32, 2#32⟩, ⟨5#32, 5#32⟩, ⟨6#32, 5#32⟩, ⟨6#32, 6#32⟩]⟩
example : (AreaGeomLL.marshal [pllExample, PolygonLL.zero, pllExample]).isSome = true := by decide +kernel

theorem area_geometry_mixed_roundtrip (p : BitVec 16) (ps : List PolygonMixed) (hc : ∀ q ∈ ps, q.canonical = true)
    (bs : Bytes) (h : AreaGeomMixed.marshal p ps = some bs) (rest : Bytes) :
    AreaGeomMixed.dec p (bs ++ rest) = some (ps, bs.length) :=
  roundtrip_of_marshal h (fun hok => rt_areaGeomMixed p ps hok hc) rest

def agmExample : List PolygonMixed := [⟨[⟨8193#16, 10#64⟩, ⟨3#16, 11#64⟩], PolygonLL.zero⟩, ⟨[], pllExample⟩, ⟨[], PolygonLL.zero⟩]
example : (∀ q ∈ agmExample, q.canonical = true) ∧ (AreaGeomMixed.marshal 8193#16 agmExample).isSome = true := by decide +kernel

/-- `UnmarshalAreaGeometry` (the decoder `Area.Unmarshal` uses) on the output of any of the three `Marshal`s -/
theorem unmarshal_area_geometry_roundtrip (p : BitVec 16) (g : AreaGeometry) (hok : g.ok = true)
    (hc : g.canonical = true) (rest : Bytes) :
    AreaGeometry.dec p (g.enc p ++ rest) = some (g, (g.enc p).length) :=
  rt_areaGeometry p g hok hc rest

example : (AreaGeometry.mixed agmExample).ok = true ∧ (AreaGeometry.mixed agmExample).canonical = true ∧
    (AreaGeometry.refs agrExample).ok = true ∧ (AreaGeometry.latlngs [pllExample]).ok = true := by decide +kernel

theorem common_point_roundtrip (n : Namespaces) (c : CommonPoint) (hc : Tags.canonical c.tags = true)
    (bs : Bytes) (h : c.marshal n = some bs) (rest : Bytes) :
    CommonPoint.dec n (bs ++ rest) = some (c, bs.length) :=
  roundtrip_of_marshal h (fun hok => rt_commonPoint n c hok hc) rest

def nssExample : Namespaces := ⟨1#16, 2#16, 2#16, 3#16⟩
example : (CommonPoint.marshal nssExample ⟨tagsExample, ⟨tnPath nssExample, 77#64⟩⟩).isSome = true := by decide +kernel

theorem point_references_roundtrip (n : Namespaces) (p : PointReferences) (bs : Bytes)
    (h : p.marshal n = some bs) (rest : Bytes) :
    PointReferences.dec n (bs ++ rest) = some (p.sorted, bs.length) :=
  roundtrip_of_marshal h (fun hok => rt_pointReferences n p hok) rest

/-- what "sorted" means: `sortRefs l` is the permutation of `l` ordered by `References.Less` -/
theorem sort_refs_spec (l : List Reference) :
    (sortRefs l).Perm l ∧ (sortRefs l).Pairwise (fun a b => Reference.le a b = true) :=
  ⟨sortRefs_perm l, sortRefs_sorted l⟩

example : sortRefs [⟨3#16, 5#64⟩, ⟨2#16, 9#64⟩, ⟨3#16, 1#64⟩, ⟨2#16, 9#64⟩] = [⟨2#16, 9#64⟩, ⟨2#16, 9#64⟩, ⟨3#16, 1#64⟩, ⟨3#16, 5#64⟩] := by
  decide +kernel

theorem full_point_roundtrip (n : Namespaces) (p : FullPoint) (hc : Tags.canonical p.tags = true)
    (bs : Bytes) (h : p.marshal n = some bs) (rest : Bytes) :
    FullPoint.dec n (bs ++ rest) = some (p.sorted, bs.length) :=
  roundtrip_of_marshal h (fun hok => rt_fullPoint n p hok hc) rest

theorem path_roundtrip (n : Namespaces) (p : Path) (hc : Tags.canonical p.tags = true)
    (bs : Bytes) (h : p.marshal n = some bs) (rest : Bytes) :
    Path.dec n (bs ++ rest) = some (p.sorted, bs.length) :=
  roundtrip_of_marshal h (fun hok => rt_path n p hok hc) rest

def pathExample : Path := ⟨tagsExample, [⟨tnArea nssExample, 9#64⟩, ⟨tnArea nssExample, 4#64⟩, ⟨5#16, 1#64⟩], [⟨tnRelation nssExample, 9#64⟩, ⟨tnRelation nssExample, 4#64⟩]⟩
example : (pathExample.marshal nssExample).isSome = true ∧ pathExample.sorted ≠ pathExample := by decide +kernel

theorem area_roundtrip (n : Namespaces) (a : Area) (hc : Tags.canonical a.tags = true)
    (hg : a.polygons.canonical = true) (bs : Bytes) (h : a.marshal n = some bs) (rest : Bytes) :
    Area.dec n (bs ++ rest) = some (a, bs.length) :=
  roundtrip_of_marshal h (fun hok => rt_area n a hok hc hg) rest

def areaExample : Area := ⟨tagsExample, .mixed agmExample, [⟨tnRelation nssExample, 51#64⟩, ⟨tnRelation nssExample, 60#64⟩, ⟨tnPath nssExample, 3#64⟩]⟩
example : (areaExample.marshal nssExample).isSome = true := by decide +kernel

/-- relations with the member list in every primary namespace `t` (point, path, area, relation) -/
theorem relation_roundtrip (t : BitVec 64) (n : Namespaces) (r : Relation) (hc : Tags.canonical r.tags = true)
    (bs : Bytes) (h : r.marshal t n = some bs) (rest : Bytes) :
    Relation.dec t n (bs ++ rest) = some (r, bs.length) := by
  unfold Relation.marshal at h
  unfold Relation.dec
  cases hm : memberPrimary n t with
  | none => simp [hm] at h
  | some mp =>
    simp only [hm] at h ⊢
    exact roundtrip_of_marshal h (fun hok => rt_relationWith mp n r hok hc) rest

def relationExample : Relation := ⟨[⟨1#64, .int 5#64⟩], membersExample, [⟨tnRelation nssExample, 5#64⟩]⟩
example : (Relation.marshal 0#64 nssExample relationExample).isSome = true ∧ (Relation.marshal 1#64 nssExample relationExample).isSome = true ∧
    (Relation.marshal 2#64 nssExample relationExample).isSome = true ∧ (Relation.marshal 3#64 nssExample relationExample).isSome = true ∧
    Relation.marshal 4#64 nssExample relationExample = none := by
  decide +kernel

theorem namespaces_roundtrip (n : Namespaces) (rest : Bytes) :
    Namespaces.dec (n.enc ++ rest) = some (n, 8) := by
  have hl : n.enc.length = 8 := by
    simp only [Namespaces.enc, List.length_append, putU16, marshalUint64_length]
  exact hl ▸ rt_namespaces n rest

theorem string_roundtrip (s : Bytes) (bs : Bytes) (h : Str.marshal s = some bs) (rest : Bytes) :
    Str.dec (bs ++ rest) = some (s, bs.length) :=
  roundtrip_of_marshal h (fun hok => rt_str s hok) rest

theorem namespace_index_roundtrip (x : NamespaceIndex) (rest : Bytes) :
    NamespaceIndex.dec (x.enc ++ rest) = some (x, x.enc.length) :=
  rt_namespaceIndex x rest

theorem namespace_indices_roundtrip (xs : List NamespaceIndex) (bs : Bytes)
    (h : NamespaceIndices.marshal xs = some bs) (rest : Bytes) :
    NamespaceIndices.dec (bs ++ rest) = some (xs, bs.length) :=
  roundtrip_of_marshal h (fun hok => rt_namespaceIndices xs hok) rest

theorem posting_list_header_roundtrip (hd : PostingListHeader) (bs : Bytes)
    (h : hd.marshal = some bs) (rest : Bytes) :
    PostingListHeader.dec (bs ++ rest) = some (hd, bs.length) :=
  roundtrip_of_marshal h (fun hok => rt_postingListHeader hd hok) rest

example : (PostingListHeader.marshal ⟨[104, 105], 3#64, [⟨8193#16, 0#64⟩, ⟨24579#16, 64#64⟩]⟩).isSome = true := by decide +kernel

/-! ## TokenMap: `Add` keeps every entry in its hash bucket; the written table is a `ByteArrays` of the buckets -/

open B6.Model.RecordsTokenMap in
/-- `tokenmap_find`, encoder level: after any sequence of `TokenMapEncoder.Add` calls (every resize included)
each added `(token, index)` is in the bucket `HashString(token) % len(buckets)`, i.e. the bucket
`FindPossibleIndices(token)` selects -/
theorem tokenmap_added_in_hash_bucket (adds : List Entry) (y : Entry) (hy : y ∈ adds) :
    ∃ hb : hashString y.1 % (addAll adds).buckets.length < (addAll adds).buckets.length,
      y ∈ (addAll adds).buckets[hashString y.1 % (addAll adds).buckets.length] :=
  added_in_hash_bucket adds y hy

open B6.Model.RecordsTokenMap in
/-- the iterator (`TokenMapIterator.Next` until exhausted) over a bucket's bytes returns exactly the bucket's indices -/
theorem tokenmap_bucket_drain (l : List Entry) : drain (itemBytes l).length (itemBytes l) = some (l.map (·.2)) :=
  drain_itemBytes l _ (Nat.le_refl _)

open B6.Model.RecordsTokenMap in
/-- `TokenMap.Unmarshal` on the written table (followed by anything) reports exactly the bytes written
(`Fits`: fewer than 2^32 buckets, fewer than 2^64 data bytes — what the `ByteArrays` header can express) -/
theorem tokenmap_unmarshal_length (e : Encoder) (hf : Fits e) (rest : Bytes) :
    decodeLength (encode e ++ rest) = some (encode e).length := by
  rw [decodeLength_eq_baLength, encode_eq_baEncode]
  exact B6.Lemmas.Containers.bytearrays_encode_length (items e) rest (by simpa [items] using hf.1) hf.2

open B6.Model.RecordsTokenMap in
/-- `FindPossibleIndices(token)` read from the written bytes is the bucket `HashString(token) % len(buckets)` -/
theorem tokenmap_find_possible_indices (e : Encoder) (hinv : Inv e) (hf : Fits e) (rest tok : Bytes) :
    findPossibleIndices (encode e ++ rest) tok =
      some ((e.buckets[hashString tok % e.buckets.length]'(Nat.mod_lt _ hinv.1)).map (·.2)) :=
  findPossibleIndices_encode e hinv hf rest tok

open B6.Model.RecordsTokenMap in
/-- **`tokenmap_find`**: add any tokens, write the table, read it back: every added token's index is among the
possible indices reported for the token. -/
theorem tokenmap_find (adds : List Entry) (hf : Fits (addAll adds)) (rest : Bytes) (y : Entry) (hy : y ∈ adds) :
    ∃ l, findPossibleIndices (encode (addAll adds) ++ rest) y.1 = some l ∧ y.2 ∈ l :=
  B6.Model.RecordsTokenMap.tokenmap_find adds hf rest y hy

open B6.Model.RecordsTokenMap in
example : (Fits (addAll [([97], 0#64), ([98], 1#64), ([99], 2#64), ([97], 3#64)])) ∧
    (addAll [([97], 0#64), ([98], 1#64), ([99], 2#64), ([97], 3#64)]).buckets.length = 8 ∧
    findPossibleIndices (encode (addAll [([97], 0#64), ([98], 1#64), ([99], 2#64), ([97], 3#64)]) ++ [255]) [97] = some [0#64, 3#64] := by
  refine ⟨⟨by decide +kernel, by decide +kernel⟩, by decide +kernel, by decide +kernel⟩

/-! ## the code before the repairs -/

/-- `AreaGeometryReferences.Unmarshal` before fixes/C11-area-geometry-consumed.patch: the value comes back, but
the reported length is the polygon count + body (3), not the 4 bytes `Marshal` wrote. -/
theorem area_geometry_refs_consumed_counterexample :
    AreaGeomRefs.marshal 8193#16 ⟨[], [⟨8193#16, 42#64⟩]⟩ = some [0, 10, 168, 1] ∧
    AreaGeomRefs.decOld 8193#16 [0, 10, 168, 1] = some (⟨[], [⟨8193#16, 42#64⟩]⟩, 3) ∧
    AreaGeomRefs.dec 8193#16 [0, 10, 168, 1] = some (⟨[], [⟨8193#16, 42#64⟩]⟩, 4) := by decide +kernel

/-- the same slip in `AreaGeometryLatLngs.Unmarshal`: three empty polygons are 7 bytes, 9 were reported. -/
theorem area_geometry_latlngs_consumed_counterexample :
    AreaGeomLL.marshal [PolygonLL.zero, PolygonLL.zero, PolygonLL.zero] = some [13, 0, 6, 0, 6, 0, 6] ∧
    AreaGeomLL.decOld [13, 0, 6, 0, 6, 0, 6] = some ([PolygonLL.zero, PolygonLL.zero, PolygonLL.zero], 9) ∧
    AreaGeomLL.dec [13, 0, 6, 0, 6, 0, 6] = some ([PolygonLL.zero, PolygonLL.zero, PolygonLL.zero], 7) := by decide +kernel

/-- `Area.Marshal` before fixes/C02-area-relations-primary.patch wrote the relations against the path namespace
while `Area.Unmarshal` reads them against the relation namespace: relation 51 comes back as relation
`zigzagDecode 51 = -26`. -/
theorem area_relations_primary_counterexample :
    (Area.dec ⟨1#16, 2#16, 2#16, 3#16⟩ (Area.encOld ⟨1#16, 2#16, 2#16, 3#16⟩ ⟨[], .refs ⟨[], []⟩, [⟨24579#16, 51#64⟩]⟩)).map (·.1.relations)
      = some [⟨24579#16, BitVec.ofInt 64 (-26)⟩] := by decide +kernel

/-! ## why the domain restrictions are needed (these are not defects: the values are not records the builder makes) -/

/-- a mixed element carrying both a reference and a lat/lng loses the lat/lng -/
theorem mixed_needs_canonical_counterexample :
    RefLLs.dec 8193#16 (RefLLs.enc 8193#16 [⟨⟨8193#16, 5#64⟩, ⟨1#32, 2#32⟩⟩]) = some ([⟨⟨8193#16, 5#64⟩, LatLng.zero⟩], 4) := by decide +kernel

/-- the code before fixes/C11-member-type-guard.patch (`Members.enc` without the `ok` test): a member of type 5
(collection) went out without a panic and came back as type 1 (path) with role 5 instead of 4 — the type was
OR-ed into a 2-bit field of the role word. -/
theorem member_wide_type_counterexample :
    (Members.dec 0#16 (Members.enc 0#16 [⟨5#64, 4#64, ⟨0#16, 0#64⟩⟩])).map (·.1) = some [⟨1#64, 5#64, ⟨0#16, 0#64⟩⟩] := by decide +kernel

/-! ## reused receivers of the two sum-like records

Every other `Unmarshal` overwrites all fields of the slots it reuses (the harness decodes into used receivers
for those).  These two fill in only the half the flag bit selects. -/

/-- marshal `g`, unmarshal into a receiver that holds `old`: `overlay old g` comes back (every `g`, every
`old`), consumption exact -/
theorem references_and_latlngs_reused_receiver (old : List RefLL) (p : BitVec 16) (g : List RefLL) (bs : Bytes)
    (h : RefLLs.marshal p g = some bs) (rest : Bytes) :
    RefLLs.decInto old p (bs ++ rest) = some (RefLLs.overlay old g, bs.length) :=
  roundtrip_of_marshal h (fun hok => rt_refLLsInto old p g hok) rest

/-- the exact condition for the reuse to be invisible: under every element of `g` the stale half equals the
half `g` has there (`compatible`, executable; the driver's predicate for `mixed!` ops) -/
theorem references_and_latlngs_reused_receiver_iff (old g : List RefLL) :
    RefLLs.overlay old g = g ↔ RefLLs.compatible old g = true := by
  induction g generalizing old with
  | nil => simp [RefLLs.overlay, RefLLs.compatible]
  | cons x xs ih =>
    simp only [RefLLs.overlay, RefLLs.compatible, List.cons.injEq, Bool.and_eq_true, ih]
    refine and_congr ?_ Iff.rfl
    obtain ⟨r, l⟩ := x
    by_cases hr : RefLL.isRef ⟨r, l⟩ = true
    · simp only [hr, if_true, beq_iff_eq, RefLL.mk.injEq, true_and]
    · simp only [hr, Bool.false_eq_true, if_false, beq_iff_eq, RefLL.mk.injEq, and_true]

/-- a fresh receiver (the only use in the code base: `inferValueType` allocates) is the plain decoder, and a
canonical `g` is compatible with it -/
theorem references_and_latlngs_fresh_receiver (p : BitVec 16) (g : List RefLL) (hc : ∀ x ∈ g, x.canonical = true) :
    RefLLs.decInto [] p = RefLLs.dec p ∧ RefLLs.compatible [] g = true :=
  ⟨refLLs_decInto_nil p, (references_and_latlngs_reused_receiver_iff [] g).1 (refLLs_overlay_eq g [] hc fun _ h => nomatch h)⟩

/-- a canonical `g` is also compatible with a receiver that last held a canonical value with the same
reference / lat-lng pattern -/
theorem references_and_latlngs_same_shape (old g : List RefLL) (hg : ∀ x ∈ g, x.canonical = true)
    (ho : ∀ x ∈ old, x.canonical = true) (hz : ∀ pr ∈ old.zip g, pr.1.isRef = pr.2.isRef) :
    RefLLs.compatible old g = true := by
  refine (references_and_latlngs_reused_receiver_iff old g).1 (refLLs_overlay_eq g old hg fun pr hpr => ?_)
  rw [← hz pr hpr]
  exact (RefLL.canonical_iff pr.1).1 (ho pr.1 (List.of_mem_zip hpr).1)

/-- a receiver of another pattern shows: a lat/lng decoded into a slot that held a reference keeps the reference
(and would be marshalled as that reference next time) -/
theorem references_and_latlngs_stale_receiver_counterexample :
    RefLLs.decInto [⟨⟨8193#16, 7#64⟩, LatLng.zero⟩] 8193#16 (RefLLs.enc 8193#16 [⟨Reference.invalid, ⟨1#32, 2#32⟩⟩]) =
      some ([⟨⟨8193#16, 7#64⟩, ⟨1#32, 2#32⟩⟩], 5) := by decide +kernel

theorem area_geometry_mixed_reused_receiver (old : List PolygonMixed) (p : BitVec 16) (ps : List PolygonMixed)
    (bs : Bytes) (h : AreaGeomMixed.marshal p ps = some bs) (rest : Bytes) :
    AreaGeomMixed.decInto old p (bs ++ rest) = some (AreaGeomMixed.overlay old ps, bs.length) :=
  roundtrip_of_marshal h (fun hok => rt_areaGeomMixedInto old p ps hok) rest

theorem area_geometry_mixed_reused_receiver_iff (old ps : List PolygonMixed) :
    AreaGeomMixed.overlay old ps = ps ↔ AreaGeomMixed.compatible old ps = true := by
  induction ps generalizing old with
  | nil => simp [AreaGeomMixed.overlay, AreaGeomMixed.compatible]
  | cons x xs ih =>
    simp only [AreaGeomMixed.overlay, AreaGeomMixed.compatible, List.cons.injEq, Bool.and_eq_true, ih]
    refine and_congr ?_ Iff.rfl
    obtain ⟨r, l⟩ := x
    by_cases hr : PolygonMixed.isRef ⟨r, l⟩ = true
    · simp only [hr, if_true, beq_iff_eq, PolygonMixed.mk.injEq, true_and]
    · simp only [hr, Bool.false_eq_true, if_false, beq_iff_eq, PolygonMixed.mk.injEq, and_true]

/-- a lat/lng polygon decoded into a slot that held path references keeps the paths: `PathIDs(i)` then answers
with the stale paths -/
theorem area_geometry_mixed_stale_receiver_counterexample :
    (AreaGeomMixed.decInto [⟨[⟨8193#16, 7#64⟩], PolygonLL.zero⟩] 8193#16 (AreaGeomMixed.enc 8193#16 [⟨[], pllExample⟩])).map (·.1) =
      some [⟨[⟨8193#16, 7#64⟩], pllExample⟩] := by
  -- what comes back is `overlay old ps`: here the stale paths over the new loops
  have h := rt_areaGeomMixedInto [⟨[⟨8193#16, 7#64⟩], PolygonLL.zero⟩] 8193#16 [⟨[], pllExample⟩] (by decide) []
  rw [List.append_nil] at h
  rw [h]
  rfl

/-! ## leaf decoders on truncated input (outside the property: what `Unmarshal` does with a proper prefix)

`binary.Uvarint` answers `(0, 0)` on a short buffer and the code does not look at the count: missing varints read
as 0 and consume nothing — no panic, no error; fixed-width fields and string bodies panic (slice bounds). -/

/-- no panic; the reference read is the primary one with value 0 and 0 bytes, or — when the explicit namespace word
survived — that namespace with value 0 and only that word's bytes -/
theorem reference_truncated (p : BitVec 16) (r : Reference) (k : Nat) (hk : k < (Reference.enc p r).length) :
    Reference.decRaw p ((Reference.enc p r).take k) =
      if (r.tn ≠ p ∨ 2 ^ 63 ≤ r.value.toNat) ∧ (putUvarint (r.tn.toNat * 2 + 1)).length ≤ k
      then .ok ⟨r.tn, 0#64⟩ (putUvarint (r.tn.toNat * 2 + 1)).length else .ok ⟨p, 0#64⟩ 0 := by
  have htn := r.tn.isLt
  unfold Reference.enc at hk ⊢
  by_cases hex : r.tn ≠ p ∨ 2 ^ 63 ≤ r.value.toNat
  · rw [if_pos hex, List.length_append] at hk
    rw [if_pos hex]
    rcases uvarintRaw_cut (r.tn.toNat * 2 + 1) (by omega) (putUvarint r.value.toNat) k with ⟨hlt, h0⟩ | ⟨hge, h1, hs⟩
    · rw [if_neg (fun h => Nat.not_le_of_lt hlt h.2)]
      simp [Reference.decRaw, h0]
    · rw [if_pos ⟨hex, hge⟩]
      have h2 := uvarintRaw_prefix r.value.toNat (k - (putUvarint (r.tn.toNat * 2 + 1)).length) (by omega)
      have : (r.tn.toNat * 2 + 1) / 2 = r.tn.toNat := by omega
      simp [Reference.decRaw, h1, hs, h2, this]
  · rw [if_neg hex] at hk ⊢
    rw [if_neg (fun h => hex h.1)]
    simp [Reference.decRaw, uvarintRaw_prefix _ k hk]

example : prefixResults (Reference.decRaw 8193#16) (Reference.enc 8193#16 ⟨24579#16, 300#64⟩) =
    [.ok ⟨8193#16, 0#64⟩ 0, .ok ⟨8193#16, 0#64⟩ 0, .ok ⟨8193#16, 0#64⟩ 0, .ok ⟨24579#16, 0#64⟩ 3, .ok ⟨24579#16, 0#64⟩ 3] := by decide +kernel

theorem int_truncated (v : BitVec 64) (k : Nat) (hk : k < ((Value.int v).enc 0#16).length) :
    Int.decRaw (((Value.int v).enc 0#16).take k) = .ok 0#64 0 := by
  simp [Int.decRaw, Value.enc, uvarintRaw_prefix _ k hk]

/-- the empty string and 0 bytes while the length varint is incomplete, a slice-bounds panic afterwards -/
theorem string_truncated (s : Bytes) (hs : Str.ok s = true) (k : Nat) (hk : k < (Str.enc s).length) :
    Str.decRaw ((Str.enc s).take k) = if k < (putUvarint s.length).length then .ok [] 0 else .panic := by
  have hs : s.length < 2 ^ 63 := of_decide_eq_true hs
  rw [Str.enc, List.length_append] at hk
  rcases uvarintRaw_cut s.length (by omega) s k with ⟨hlt, h0⟩ | ⟨hge, h1, _⟩
  · rw [if_pos hlt]
    simp [Str.decRaw, Str.enc, h0]
  · rw [if_neg (Nat.not_lt_of_le hge)]
    simp only [Str.decRaw, Str.enc, h1, hs, if_true]
    -- the third way to panic: the slice ends past the cut buffer
    rw [if_pos (Or.inr (Or.inr ?_))]
    rw [List.take_append, List.take_of_length_le hge, List.length_append, List.length_take]
    omega

/-- no panic; missing words read as 0 -/
theorem namespace_index_truncated (x : NamespaceIndex) (k : Nat) (hk : k < x.enc.length) :
    NamespaceIndex.decRaw (x.enc.take k) =
      if (putUvarint x.tn.toNat).length ≤ k then .ok ⟨x.tn, 0#64⟩ (putUvarint x.tn.toNat).length else .ok ⟨0#16, 0#64⟩ 0 := by
  have htn := x.tn.isLt
  rw [NamespaceIndex.enc, List.length_append] at hk
  rcases uvarintRaw_cut x.tn.toNat (by omega) (putUvarint x.index.toNat) k with ⟨hlt, h0⟩ | ⟨hge, h1, hs⟩
  · rw [if_neg (Nat.not_le_of_lt hlt)]
    simp [NamespaceIndex.decRaw, NamespaceIndex.enc, h0, sliceFrom_zero]
  · rw [if_pos hge]
    have h2 := uvarintRaw_prefix x.index.toNat (k - (putUvarint x.tn.toNat).length) (by omega)
    simp [NamespaceIndex.decRaw, NamespaceIndex.enc, h1, hs, h2]

theorem namespaces_truncated (n : Namespaces) (k : Nat) (hk : k < 8) : Namespaces.decRaw (n.enc.take k) = .panic := by
  rw [Namespaces.decRaw, List.length_take, if_pos (by omega)]

/-- a panic (`LittleEndian.Uint32` on fewer than four bytes) — except when at least four bytes of a still incomplete
latitude varint are there: then latitude 0, those four bytes as the longitude, and 4 bytes reported -/
theorem latlng_truncated (ll : LatLng) (k : Nat) (hk : k < ll.enc.length) :
    LatLng.decRaw (ll.enc.take k) = .panic ∨
      (4 ≤ k ∧ k < (putUvarint (encodeValueType 1 ll.latWord)).length ∧
        LatLng.decRaw (ll.enc.take k) = .ok ⟨0#32, BitVec.ofNat 32 (leValue (ll.enc.take 4))⟩ 4) := by
  obtain ⟨a, _, _⟩ := encodeValueType_spec 1 ll.latWord (by omega) (by have := latWord_lt ll; omega)
  have h4 : (putU32 ll.lng).length = 4 := marshalUint64_length _ _
  rw [LatLng.enc, List.length_append, h4] at hk
  rcases uvarintRaw_cut (encodeValueType 1 ll.latWord) a (putU32 ll.lng) k with ⟨hlt, h0⟩ | ⟨hge, h1, hs⟩
  · have hlen : ((putUvarint (encodeValueType 1 ll.latWord) ++ putU32 ll.lng).take k).length = k := by
      rw [List.length_take, List.length_append]; omega
    by_cases hk4 : k < 4
    · left
      simp only [LatLng.decRaw, LatLng.enc, h0, sliceFrom_zero, hlen, if_pos hk4]
    · right
      refine ⟨by omega, hlt, ?_⟩
      simp only [LatLng.decRaw, LatLng.enc, h0, sliceFrom_zero, hlen, if_neg hk4]
      rw [List.take_take, Nat.min_eq_left (by omega)]
      simp [zigzagDecode]
  · left
    simp only [LatLng.decRaw, LatLng.enc, h1, hs, List.length_take]
    rw [if_pos (by omega)]

/-- the second case happens: a latitude whose varint takes 5 bytes, cut after 4 -/
example : LatLng.decRaw ((LatLng.enc ⟨BitVec.ofInt 32 (-2147483648), 5#32⟩).take 4) = .ok ⟨0#32, 4294967293#32⟩ 4 := by decide +kernel

end B6.Props.C11
