import B6.Lemmas.CompactIndexEach
import B6.Lemmas.CompactIndexBuildOk
import B6.Lemmas.CompactIndexNodup
/-!
# C01 — the compact index round-trips every feature it accepts

Model: `B6/Model/CompactIndex.lean` (`build`, `find`, `each`, `decodeFeature`, `canon`, `Accepts`), on top of the
record codecs of `B6/Model/Records.lean` (C11); a `Uint64Map` is taken as its list of entries (the entry view that C09
proves of the bytes under `MapOK`; that a built block satisfies `MapOK` is not shown here).  Lemmas:
`B6/Lemmas/CompactIndex*.lean`.

The property is `compact_roundtrip : compact_roundtrip_statement`: for every source and string table in `Accepts` (which
asks, among other things, that the table holds every string of the source) the build does not panic, every feature is
found by its id in canonical form, and `each` is a duplicate free permutation of the ids.  `Accepts` excludes the three
recorded finding classes (`accepts_excludes_findings`); on a witness of each the model build fails
(`finding_classes_fail`), as the real build does.

The proof goes through `placed_routed`, `placed_point`, `lookup_of_routed`, `find_point`, `mem_each` of the lemma files and
through `path_roundtrip`, `area_roundtrip`, `relation_roundtrip` here.  The theorems before those (`table_lookup` …
`point_roundtrip`), `find_routed` and `record_placement` state the parts under the names the check's entry lists, each
under its own hypotheses on the tables (`NtOK`, `CtxOK`, a length bound) instead of `Accepts`; the composition does not
call them.

`primary_agree`: writer and reader use the same primary namespace for every record field.  Which `Namespaces` value the
callers pass is transcribed by hand from build.go / world.go; the type half of every row is checked against encoding.go
in `Props/Facts/C01.lean`.  The tie to the Go code is the correspondence run (every block byte for byte, every `find` /
`each` answer) plus the oracle assumptions (S2).
-/
namespace B6.Props.C01
open B6.Model.CompactIndex B6.Model.Records B6.Model.Varint
open B6.Lemmas.Basic.Except (bind_ok_iff pure_ok_iff)
open B6.Lemmas.Basic (mapM_ok_iff mapM_some_iff mapEq_exists mapEq_flip)
open B6.Model.Bits (combineTypeNs splitTypeNs)

/-- the index the writer gets for a string / namespace is an index at which the reader finds it — for every
table (any order, duplicates or not: the string table is an arbitrary parameter). -/
theorem table_lookup (tbl : List Str) (s : Str) (i : Nat) (h : tbl.findIdx? (· == s) = some i) :
    tbl[i]? = some s ∧ i < tbl.length :=
  ⟨findIdx?_getElem? s tbl i h, findIdx?_lt _ tbl i h⟩

example : strId [[97], [98], [97]] [98] = some 1 ∧ nsEncode (nsTable []) nsOsmWay = some 3 := by decide

/-- `Split(Combine(t, ns)) = (t, ns)` for naturals `t < 8`, `ns < 2^13` (C10 `type_ns` at `BitVec.ofNat`). -/
theorem type_ns_kernel (t n : Nat) (ht : t < 8) (hn : n < 8192) :
    splitTypeNs (combineTypeNs (BitVec.ofNat 64 t) (BitVec.ofNat 16 n)) = (BitVec.ofNat 64 t, BitVec.ofNat 16 n) :=
  split_combine t n ht hn

example : splitTypeNs (combineTypeNs 3#64 8191#16) = (3#64, 8191#16) := by decide

/-- a feature id written as a `Reference` reads back (table of at most 2^13 namespaces, type below 8). -/
theorem reference_roundtrip (nt : List Str) (hnt : nt.length ≤ 8192) (id : FID) (ht : id.typ < 8) (r : Reference)
    (h : mkRef nt id = some r) : unRef nt r = some id :=
  unRef_mkRef nt hnt id ht r h

/-- … and is never mistaken for the "no reference" marker of a mixed path. -/
theorem reference_never_invalid (nt : List Str) (hnt : NtOK nt) (id : FID) (hok : id.ok = true) (r : Reference)
    (h : mkRef nt id = some r) : r ≠ Reference.invalid :=
  mkRef_ne_invalid nt hnt id hok r h

example : (mkRef (nsTable []) ⟨0, nsOsmNode, (2 ^ 63 + 5 : Nat)⟩).bind (unRef (nsTable [])) = some ⟨0, nsOsmNode, (2 ^ 63 + 5 : Nat)⟩ := by
  decide +kernel

/-- every representable tag value — string, point, list of references / lat-lngs / both — comes back with its
kind, whatever geometry encoding `e` the writer chose, provided the writer did not panic. -/
theorem value_roundtrip (c : Ctx) (hc : CtxOK c) (e : Option Nat) (v : Val) (hv : v.ok = true) (cv : Value)
    (h : toCompactValue c e v = some cv) : fromCompactValue c.strs (some c.nt) cv = some v :=
  fromCompact_toCompact c hc e v hv cv h

/-- the readers that pass a nil namespace table (points, areas, relations) get strings and points back. -/
theorem value_roundtrip_plain (c : Ctx) (hs : c.strs.length ≤ 2 ^ 64) (e : Option Nat) (v : Val)
    (hv : v.plain = true) (cv : Value) (h : toCompactValue c e v = some cv) :
    fromCompactValue c.strs none cv = some v :=
  fromCompact_toCompact_plain c hs e none v hv cv h

/-- `MarshalledTags.AllTags` on what `Tags.FromFeature` + `Tags.Marshal` wrote, followed by any bytes:
the same keys, values and value kinds in the same order. -/
theorem tags_roundtrip (c : Ctx) (hc : CtxOK c) (f : Feature) (hvals : ∀ t ∈ f.tags, t.val.ok = true)
    (ts : List Tag) (h : toCompactTags c f = some ts) (hok : Tags.ok ts = true) (tns : BitVec 16) (rest : Bytes) :
    allTags c.strs (some c.nt) tns (Tags.enc tns ts ++ rest) = some f.tags :=
  allTags_roundtrip c hc f hvals ts h hok tns rest

theorem tags_roundtrip_plain (c : Ctx) (hs : c.strs.length ≤ 2 ^ 64) (f : Feature)
    (hvals : ∀ t ∈ f.tags, t.val.plain = true) (ts : List Tag) (h : toCompactTags c f = some ts)
    (hok : Tags.ok ts = true) (tns : BitVec 16) (rest : Bytes) :
    allTags c.strs none tns (Tags.enc tns ts ++ rest) = some f.tags :=
  allTags_roundtrip_plain c hs f hvals ts h hok tns rest

/-- **points**: whatever `combinePoints` appends (a path reference, sorted reference lists), the record
starts with the point's `PointTag` entry and the reader returns the point's tags. -/
theorem point_roundtrip (c : Ctx) (hs : c.strs.length ≤ 2 ^ 64) (f : Feature)
    (hvals : ∀ t ∈ f.tags, t.val.plain = true) (ts : List Tag) (h : toCompactTags c f = some ts)
    (hok : Tags.ok ts = true) (rest : Bytes) (hdr : Namespaces) (id : FID) (hid : id.typ = 0) :
    decodeFeature c.strs c.nt hdr id (Tags.enc 0#16 ts ++ rest) = some { id := id, tags := f.tags } :=
  point_record_roundtrip c hs f hvals ts h hok rest hdr id hid

/-- **paths**: the record `pathRecord` builds (tags incl. the geometry by reference / lat-lng / mixed, areas,
relations) read through any block header gives back the tag list — point sequence, references and kinds. -/
theorem path_roundtrip (c : Ctx) (hc : CtxOK c) (fs : List Feature) (g : Feature)
    (hvals : ∀ t ∈ g.tags, t.val.ok = true) (data : Bytes) (h : pathRecord c fs g = .ok data)
    (hdr : Namespaces) (id : FID) (hid : id.typ = 1) :
    decodeFeature c.strs c.nt hdr id data = some { id := id, tags := g.tags } := by
  obtain ⟨ts, hts, areas, _, rels, _, hok, rfl⟩ := (pathRecord_ok_iff c fs g data).mp h
  have hok := (Path.ok_iff _).1 hok
  obtain ⟨n, hn, htn⟩ := tnPoint_osm c hc
  unfold decodeFeature
  simp only [hid, hn, htn, Path.enc, List.append_assoc, Option.bind_eq_bind, Option.bind_some,
    allTags_roundtrip c hc g hvals ts hts hok.1 (tnPoint c.osm)]
  rfl

/-- **relations**: tags and members (role and id of every member type) through the header of the relation's
own block. -/
theorem relation_roundtrip (c : Ctx) (hc : CtxOK c) (fs : List Feature) (g : Feature)
    (hvals : ∀ t ∈ g.tags, t.val.plain = true) (hms : ∀ m ∈ g.members, m.id.typ < 4) (data : Bytes)
    (h : relationRecord c fs g = .ok data) (n : Nat) (hn : nsEncode c.nt g.id.ns = some n) (id : FID) (hid : id.typ = 3) :
    decodeFeature c.strs c.nt (blockHeader c 3 n) id data = some { id := id, tags := g.tags, members := g.members } := by
  obtain ⟨ts, hts, ms, hmem, rels, _, n', hn', hok, rfl⟩ := (relationRecord_ok_iff c fs g data).mp h
  obtain rfl : n' = n := Option.some.inj (hn'.symm.trans hn)
  have hok' := (Relation.ok_iff _).1 hok
  -- every member read back is the member written
  have hback : ms.mapM (fun y => (do
        let role ← c.strs[y.role.toNat]?
        let mid ← unRef c.nt y.id
        pure (⟨role, mid⟩ : FMember))) = some g.members := by
    refine (mapM_some_iff _ _ _).mpr (mapEq_flip g.members ms hmem ?_)
    intro m hm y hy
    obtain ⟨ref, hr, role, hs, rfl⟩ := (compactMember_ok_iff c m y).mp hy
    simp only [strs_lookup c.strs hc.strs m.role role hs,
      unRef_mkRef c.nt hc.nt.small m.id (by have := hms m hm; omega) ref hr, Option.bind_eq_bind, Option.bind_some]
    rfl
  have hrt := rt_relationWith (tnPath (blockHeader c 3 n')) (blockHeader c 3 n') ⟨ts, ms, rels⟩ hok
    (toCompactTags_canonical c g ts hts) []
  have htags := allTags_roundtrip_plain c hc.strs g hvals ts hts hok'.1 0#16
    (Members.enc (tnPath (blockHeader c 3 n')) ms ++ References.enc (tnRelation (blockHeader c 3 n')) rels)
  simp only [List.append_nil] at hrt
  simp only [Relation.enc, List.append_assoc] at htags hrt ⊢
  simp only [Option.bind_eq_bind] at hback
  unfold decodeFeature
  simp only [hid, Relation.dec, memberPrimary_path, hrt, htags, hback, Option.bind_eq_bind, Option.bind_some]
  rfl

/-- the geometry alone, with the fact C11's `area_roundtrip` needs of it (`canonical`) -/
theorem area_geometry_roundtrip (c : Ctx) (hc : CtxOK c) (a : Feature) (hok : ∀ p ∈ a.polys, polyOK p)
    (hsize : (a.polys.filterMap pathsOf).flatten.length < 2 ^ 64) (g : AreaGeometry) (h : areaGeometry c a = .ok g) :
    polysOfGeometry c.nt g = some (canonPolys a.polys) ∧ g.canonical = true := by
  unfold areaGeometry at h
  simp only at h
  split at h
  · -- mixed
    simp only [bind_ok_iff, mapM_ok_iff, pure_ok_iff] at h
    obtain ⟨qs, hqs, rfl⟩ := h
    have ⟨h1, h2⟩ := polysOfGeometry_mixed c hc.nt.small a.polys qs hok hqs
    exact ⟨h1, by simpa only [AreaGeometry.canonical, List.all_eq_true] using h2⟩
  · split at h
    · -- references only
      rename_i hrl hr
      have hall : ∀ p ∈ a.polys, (loopsOf p).isSome = false := by
        simpa [hr] using hrl
      have ⟨hmap, hcanon⟩ := paths_only a.polys hall
      simp only [bind_ok_iff, pure_ok_iff] at h
      obtain ⟨rs, hrs, rfl⟩ := h
      refine ⟨?_, rfl⟩
      cases hil : a.polys.filterMap pathsOf with
      | nil =>
        -- there is at least one polygon
        obtain ⟨p0, hp0, hp0s⟩ := List.any_eq_true.mp hr
        cases p0 with
        | loops ls => simp [pathsOf] at hp0s
        | paths ids => simpa [hil] using (mem_filterMap_pathsOf _ _).mpr hp0
      | cons l rest =>
        rw [hil] at hrs hsize hmap
        rw [polysOfGeometry_refs c hc.nt.small l rest
          (fun ids hids => hok _ ((mem_filterMap_pathsOf _ _).mp (hil ▸ hids))) hsize rs hrs, hmap, hcanon]
    · -- explicit loops only
      rename_i hrl hr
      obtain rfl := (pure_ok_iff _ _).mp h
      have hall : ∀ p ∈ a.polys, (pathsOf p).isSome = false := by simpa using hr
      exact ⟨by simp only [polysOfGeometry, polysOfGeometry_latlngs a.polys hall hok], rfl⟩

/-- **areas**: tags and polygons — by path ids, by explicit loops, or both in any order — through the header of
the area's own block; explicit polygons with fewer than three points are dropped (`canonPolys`), as
`PolygonGeometryLatLngs.IsValid` demands.  `polyOK`: a path polygon names at least one path (an empty one is
indistinguishable from "no boundary recorded"), sizes are those of Go slices. -/
theorem area_roundtrip (c : Ctx) (hc : CtxOK c) (fs : List Feature) (g : Feature)
    (hvals : ∀ t ∈ g.tags, t.val.plain = true) (hok : ∀ p ∈ g.polys, polyOK p)
    (hsize : (g.polys.filterMap pathsOf).flatten.length < 2 ^ 64) (data : Bytes)
    (h : areaRecord c fs g = .ok data) (n : Nat) (id : FID) (hid : id.typ = 2) :
    decodeFeature c.strs c.nt (blockHeader c 2 n) id data =
      some { id := id, tags := g.tags, polys := canonPolys g.polys } := by
  obtain ⟨ts, hts, geo, hg, rels, _, hAok, rfl⟩ := (areaRecord_ok_iff c fs g data).mp h
  have hAok' := (Area.ok_iff _).1 hAok
  have ⟨hpolys, hgcanon⟩ := area_geometry_roundtrip c hc g hok hsize geo hg
  have hrt := rt_area c.osm ⟨ts, geo, rels⟩ hAok (toCompactTags_canonical c g ts hts) hgcanon []
  have htags := allTags_roundtrip_plain c hc.strs g hvals ts hts hAok'.1 0#16
    (geo.enc (tnPath c.osm) ++ References.enc (tnRelation c.osm) rels)
  simp only [List.append_nil] at hrt
  simp only [Area.enc, List.append_assoc] at htags hrt ⊢
  unfold decodeFeature
  simp only [hid, area_dec_header, hrt, htags, hpolys, Option.bind_eq_bind, Option.bind_some]
  rfl

/-! ## index level: lookup given the routing, and where `build` puts a record -/

/-- `FindFeatureByID`: if exactly one block of the id's type carries the id's encoded namespace in its header
and that block holds the id once (`Holds`: the entry is there, no other entry has the id, it is not a
references-only point record / it is the `NoTag` entry / a non-empty area record), the answer is the reader's
view of that entry — whatever else is in the index.  (`record_placement` gives the block and that every routed
block equals it, not that it is listed once in `ix.blocks`: `lookup_of_routed` is the form that asks for no more.) -/
theorem find_routed (ix : Index) (id : FID) (n : Nat) (hn : nsEncode ix.nt id.ns = some n) (b : Block)
    (e : B6.Model.Containers.Entry)
    (hroute : (ix.blocks.filter fun b' => b'.typ == id.typ && nssGet b'.hdr id.typ == ns16 n) = [b])
    (h : Holds b id e) : find ix id = some (decodeFeature ix.strs ix.nt b.hdr id e.data) := by
  simp only [find, lookup, blocksFor, hn, hroute, List.findSome?_cons, lookupIn_holds b id e h, Option.map_some]

/-- where the builder puts the record of a kept path / area / relation: one block of its type carries its
encoded namespace, every block that does is that block, and the block holds the id once, under `NoTag` -/
theorem record_placement (strs : List Str) (fs : List Feature) (ix : Index) (c : Ctx) (hb : Built strs fs ix c)
    (hsmall : (nsTable fs).length ≤ 8192) (hdist : idsDistinct fs = true)
    (f : Feature) (hf : f ∈ fs) (ht : f.id.typ = 1 ∨ f.id.typ = 2 ∨ f.id.typ = 3) (hk : kept fs f = true) :
    ∃ n b e, nsEncode ix.nt f.id.ns = some n ∧ b ∈ ix.blocks ∧ b.typ = f.id.typ ∧ b.hdr = blockHeader c f.id.typ n ∧
      (∀ b' ∈ ix.blocks, b'.typ = f.id.typ → nssGet b'.hdr f.id.typ = ns16 n → b' = b) ∧
      e ∈ b.entries ∧ e.id = f.id.val ∧ e.tag = 0#64 ∧ recordOf c fs f.id.typ (validated fs f) = .ok e.data ∧
      (∀ e' ∈ b.entries, e'.id = f.id.val → e' = e) :=
  placed strs fs ix c hb hsmall hdist f hf ht hk

/-! ## the round trip through a built index -/

/-- paths, areas and relations only (no use of the point passes) -/
theorem compact_find_roundtrip_non_points (strs : List Str) (fs : List Feature) (ix : Index)
    (hbuild : build strs fs = .ok ix) (hacc : Accepts strs fs = true) (f : Feature) (hf : f ∈ fs)
    (ht : f.id.typ = 1 ∨ f.id.typ = 2 ∨ f.id.typ = 3) : find ix f.id = some (some (canon fs f)) := by
  have hA := accepts_facts strs fs hacc
  obtain ⟨c, _, hb, _⟩ := build_points strs fs ix hbuild
  have hc := hb.ctxOK hA.strs hA.small
  have hF := hA.facts hf
  obtain ⟨n, b, e, hr, hbh, hholds, herec⟩ := placed_routed strs fs ix c hb hA.small hA.distinct f hf ht hF.kept
  unfold find
  rw [lookup_of_routed hr hholds]
  simp only [Option.map_some, Option.some.injEq]
  rw [hb.ix_nt, hb.ix_strs, hbh]
  unfold canon
  rcases ht with h | h | h
  · -- path
    simp only [h] at herec ⊢
    have := path_roundtrip c hc fs (validated fs f) (validated_tags_ok fs f (hF.pathVals h)) e.data herec
      (blockHeader c 1 n) f.id h
    rw [this, validated_id]
  · -- area
    simp only [h] at herec ⊢
    rw [validated_of_not_path fs f (by omega)] at herec ⊢
    exact area_roundtrip c hc fs f (hF.plain (by omega)) (hF.polyOK h) (Nat.lt_trans hF.flatLen (by decide)) e.data herec
      n f.id h
  · -- relation
    simp only [h] at herec ⊢
    rw [validated_of_not_path fs f (by omega)] at herec ⊢
    exact relation_roundtrip c hc fs f (hF.plain (by omega)) (fun m hm => (hF.members h m hm).1) e.data herec n
      (hb.ix_nt ▸ hr.enc) f.id h

/-- **`compact_roundtrip`, lookup half** — for every source `fs` and string table `strs` in the decidable domain
`Accepts`, IF the build succeeds then EVERY feature of the source (point, path, area, relation; any namespace,
any 64-bit id) is found by its id, and what the reader returns is the canonical form of the source feature: same
keys, values and value kinds, same point sequence / references (clockwise closed paths as the builder inverts
them), same polygons, same members.  Composition of: where `build` puts the records (`placed`, the scratch pass
and `combinePoints` for points), routing of `FindFeatureByID` to the one block that carries the id's namespace,
lookup among distinct ids, and the record theorems above. -/
theorem compact_find_roundtrip (strs : List Str) (fs : List Feature) (ix : Index) (hbuild : build strs fs = .ok ix)
    (hacc : Accepts strs fs = true) : ∀ f ∈ fs, find ix f.id = some (some (canon fs f)) := by
  intro f hf
  have ht := ((accepts_facts strs fs hacc).facts hf).typ
  by_cases h0 : f.id.typ = 0
  · exact find_point strs fs ix hbuild hacc f hf h0
  · exact compact_find_roundtrip_non_points strs fs ix hbuild hacc f hf (by omega)

/-- **`EachFeature` is complete**: under the same hypotheses every feature's id — true type, namespace and
value — is enumerated.  (That nothing is enumerated twice is `each_no_id_twice` below.) -/
theorem each_enumerates_every_feature (strs : List Str) (fs : List Feature) (ix : Index)
    (hbuild : build strs fs = .ok ix) (hacc : Accepts strs fs = true) : ∀ f ∈ fs, f.id ∈ each ix := by
  intro f hf
  have hA := accepts_facts strs fs hacc
  obtain ⟨c, scr, hb, hp⟩ := build_points strs fs ix hbuild
  have htyp := (hA.facts hf).typ
  obtain ⟨n, b, e, hr, hh⟩ : ∃ n b e, Routed ix f.id n b ∧ Holds b f.id e := by
    by_cases h0 : f.id.typ = 0
    · obtain ⟨n, b, e, _, _, hr, hh, _⟩ := placed_point strs fs ix c scr hb hp hA.small hA.distinct f hf h0
      exact ⟨n, b, e, hr, hh⟩
    · obtain ⟨n, b, e, hr, _, hh, _⟩ :=
        placed_routed strs fs ix c hb hA.small hA.distinct f hf (by omega) (hA.facts hf).kept
      exact ⟨n, b, e, hr, hh⟩
  have hnlt := nsEncode_lt _ _ _ hr.enc
  rw [hb.hnt] at hnlt
  refine (mem_each ix f.id).mpr ⟨htyp, b, hr.mem, hr.typ, ?_, e, hh.mem, hh.id_eq, fun h0 => ?_⟩
  · rw [hr.hdr, ns16_toNat n (by have := hA.small; omega)]
    exact nsEncode_decode _ _ _ hr.enc
  · have htag := hh.tag
    rwa [if_pos h0] at htag

/-- **`EachFeature` is sound**: whatever a successfully built index enumerates is the id of a feature of the
source (distinct ids not even needed) — with `each_enumerates_every_feature`: the *set* of enumerated ids is
exactly the set of source ids. -/
theorem each_enumerates_only_features (strs : List Str) (fs : List Feature) (ix : Index)
    (hbuild : build strs fs = .ok ix) (hsmall : (nsTable fs).length ≤ 8192) : ∀ x ∈ each ix, ∃ f ∈ fs, f.id = x := by
  obtain ⟨c, scr, hb, hp⟩ := build_points strs fs ix hbuild
  intro x hx
  obtain ⟨_, b, hbm, hbt, hns, e, he, hv, htag⟩ := (mem_each ix x).mp hx
  obtain ⟨t', n, ns', hB⟩ := hp.blockOf hb hbm
  obtain rfl : t' = x.typ := hB.shape.1.symm.trans hbt
  obtain rfl : ns' = x.ns := Option.some.inj ((hB.decode hsmall).symm.trans (hb.hnt ▸ hns))
  obtain ⟨f, hf, hid⟩ := hB.entry_source hp.hscr e he htag
  exact ⟨f, hf, hid.trans (by rw [hv])⟩

/-! ## a concrete index (non-vacuity of everything above, and a test of the statements below) -/

def nsCustom : Str := [97, 47, 98]   -- "a/b"
def sName : Str := [110]
def sVal : Str := [118]
def p1 : LatLng := ⟨515000000#32, BitVec.ofInt 32 (-1200000)⟩
def p2 : LatLng := ⟨515000000#32, BitVec.ofInt 32 (-1100000)⟩
def p3 : LatLng := ⟨515100000#32, BitVec.ofInt 32 (-1100000)⟩
def exPoint (v : Nat) (p : LatLng) : Feature := { id := ⟨0, nsOsmNode, v⟩, tags := [⟨kPoint, .pt p⟩] }
/-- three points (one with the top bit set), a mixed closed path, an area over it + an explicit triangle, a
relation in a custom namespace with a member of every type -/
def exFeatures : List Feature :=
  [exPoint 1 p1, exPoint 2 p2, exPoint (2 ^ 63 + 5) p3,
   { id := ⟨1, nsCustom, 7⟩, oracle := 1,
     tags := [⟨sName, .str sVal⟩, ⟨kPath, .list [.ref ⟨0, nsOsmNode, 1⟩, .ll p2, .ref ⟨0, nsOsmNode, (2 ^ 63 + 5 : Nat)⟩, .ref ⟨0, nsOsmNode, 1⟩]⟩] },
   { id := ⟨2, nsCustom, 7⟩, polys := [.paths [⟨1, nsCustom, 7⟩], .loops [[p1, p2, p3]]] },
   { id := ⟨3, nsCustom, (2 ^ 64 - 1 : Nat)⟩, tags := [⟨sName, .str sName⟩],
     members := [⟨sVal, ⟨0, nsOsmNode, 2⟩⟩, ⟨[], ⟨1, nsCustom, 7⟩⟩, ⟨sName, ⟨2, nsCustom, 7⟩⟩, ⟨[], ⟨3, nsCustom, (2 ^ 64 - 1 : Nat)⟩⟩] }]
def exStrs : List Str := [sName, kPoint, kPath, sVal, []]

example : Accepts exStrs exFeatures = true := by decide +kernel

/-- the whole pipeline on this one index: the build succeeds, every feature
is found as its canonical form, `each` lists every id exactly once -/
def exRoundTrips : Bool :=
  match build exStrs exFeatures with
  | .ok ix => exFeatures.all (fun (f : Feature) => decide (find ix f.id = some (some (canon exFeatures f)))) &&
      decide ((each ix).eraseDups.length = exFeatures.length) && decide ((each ix).length = exFeatures.length) &&
      exFeatures.all (fun (f : Feature) => (each ix).contains f.id)
  | .error _ => false
example : exRoundTrips = true := by decide +kernel

/-- **the property**: on every accepted feature set the build succeeds, every feature is found by its id as
its canonical form, and `each` enumerates every id exactly once. -/
def compact_roundtrip_statement : Prop :=
  ∀ (strs : List Str) (fs : List Feature), Accepts strs fs = true →
    ∃ ix, build strs fs = .ok ix ∧
      (∀ f ∈ fs, find ix f.id = some (some (canon fs f))) ∧
      (each ix).Perm (fs.map (·.id)) ∧ (each ix).Nodup

/-- **"Building never crashes on valid input"** (for the model: no `Lookup` / `Encode` / `EncodeValueType` /
"Can't encode role" / type-assertion / "No builder" panic): every source in `Accepts` builds. -/
theorem build_never_panics (strs : List Str) (fs : List Feature) (hacc : Accepts strs fs = true) :
    ∃ ix, build strs fs = .ok ix := by
  have hA := accepts_facts strs fs hacc
  have hosm : ∃ osm, osmNamespaces (nsTable fs) = some osm := by
    have hin : ∀ s, s = nsOsmNode ∨ s = nsOsmWay ∨ s = nsOsmRel → s ∈ nsTable fs := by
      intro s hs
      unfold nsTable
      refine insertNs_isSort.mem.mpr ?_
      rcases hs with rfl | rfl | rfl <;> simp
    obtain ⟨a, ha⟩ := nsEncode_of_mem _ _ (hin nsOsmNode (Or.inl rfl))
    obtain ⟨b, hb⟩ := nsEncode_of_mem _ _ (hin nsOsmWay (Or.inr (Or.inl rfl)))
    obtain ⟨d, hd⟩ := nsEncode_of_mem _ _ (hin nsOsmRel (Or.inr (Or.inr rfl)))
    exact ⟨_, by simp [osmNamespaces, ha, hb, hd]; rfl⟩
  obtain ⟨osm, hosm⟩ := hosm
  obtain ⟨scr, hscr⟩ := mapEq_exists (c := Except.ok) fs fun f hf =>
    scratchOf_total ⟨nsTable fs, strs, osm⟩ fs rfl hA.strs f hf (hA.facts hf)
      fun s hs => hA.strings s (List.mem_flatMap.mpr ⟨f, hf, hs⟩)
  obtain ⟨rest, hrest⟩ := mapEq_exists (c := Except.ok) (blockKeys (nsTable fs)) fun k hk =>
    featureBlock_total strs fs ⟨nsTable fs, strs, osm⟩ rfl rfl hA k.1 ((mem_blockKeys _ k).mp hk).1 k.2.1 k.2.2
  exact ⟨_, (build_ok_iff strs fs _).mpr ⟨hA.nofid, osm, hosm, scr, hscr, rest, hrest, rfl⟩⟩

/-- `Accepts` and the three recorded finding classes are disjoint: together with `build_never_panics` the inputs
split into accepted (builds, round-trips), known findings (the real build dies), and out of domain. -/
theorem accepts_excludes_findings (strs : List Str) (fs : List Feature) (hacc : Accepts strs fs = true) :
    hasFidTag fs = false ∧ hasPointMemberWithoutBlock fs = false ∧ hasListTagOnNonPath fs = false := by
  simp only [Accepts, Bool.and_eq_true, Bool.not_eq_true'] at hacc
  exact ⟨hacc.1.1.1.1.1.1.2, hacc.1.2, hacc.2⟩

theorem each_no_id_twice (strs : List Str) (fs : List Feature) (ix : Index) (hbuild : build strs fs = .ok ix)
    (hd : idsDistinct fs = true) (hsmall : (nsTable fs).length ≤ 8192) : (each ix).Nodup := by
  obtain ⟨c, scr, hb, hp⟩ := build_points strs fs ix hbuild
  exact each_nodup_of ix (build_sep strs fs ix hbuild hsmall) (blocks_distinct strs fs ix c scr hb hp hd)
    (hb.hnt ▸ nsTable_nodup fs)

theorem each_is_permutation (strs : List Str) (fs : List Feature) (ix : Index) (hbuild : build strs fs = .ok ix)
    (hacc : Accepts strs fs = true) : (each ix).Perm (fs.map (·.id)) ∧ (each ix).Nodup := by
  have hA := accepts_facts strs fs hacc
  have hnd := each_no_id_twice strs fs ix hbuild hA.distinct hA.small
  refine ⟨?_, hnd⟩
  have hnd2 : (fs.map (·.id)).Nodup := by
    unfold List.Nodup
    rw [List.pairwise_map]
    exact idsDistinct_pairwise fs hA.distinct
  rw [List.perm_ext_iff_of_nodup hnd hnd2]
  intro x
  constructor
  · intro hx
    obtain ⟨f, hf, rfl⟩ := each_enumerates_only_features strs fs ix hbuild hA.small x hx
    exact List.mem_map.mpr ⟨f, hf, rfl⟩
  · intro hx
    obtain ⟨f, hf, rfl⟩ := List.mem_map.mp hx
    exact each_enumerates_every_feature strs fs ix hbuild hacc f hf

theorem compact_roundtrip : compact_roundtrip_statement := by
  intro strs fs hacc
  obtain ⟨ix, hix⟩ := build_never_panics strs fs hacc
  have ⟨hp, hn⟩ := each_is_permutation strs fs ix hix hacc
  exact ⟨ix, hix, compact_find_roundtrip strs fs ix hix hacc, hp, hn⟩

/-- non-vacuity of the exclusions: a witness of each finding class, and what the model build does with it -/
def exFid : List Feature := [exPoint 1 p1, { id := ⟨0, nsOsmNode, 9⟩, tags := [⟨sName, .fid ⟨0, nsOsmNode, 1⟩⟩, ⟨kPoint, .pt p2⟩] }]
def exMember : List Feature := [exPoint 1 p1, { id := ⟨3, nsOsmRel, 5⟩, members := [⟨[], ⟨0, nsCustom, 9⟩⟩] }]
def exListTag : List Feature := [exPoint 1 p1, { id := ⟨0, nsOsmNode, 8⟩, tags := [⟨sName, .list [.ll p3]⟩, ⟨kPoint, .pt p2⟩] }]
def buildError (strs : List Str) (fs : List Feature) : Option BuildError :=
  match build strs fs with
  | .error e => some e
  | .ok _ => none
theorem finding_classes_fail :
    hasFidTag exFid = true ∧ buildError exStrs exFid = some .fidTag ∧
    hasPointMemberWithoutBlock exMember = true ∧ buildError exStrs exMember = some (.panic "No builder for type point") ∧
    hasListTagOnNonPath exListTag = true ∧ buildError exStrs exListTag = some (.panic "point tags") := by
  decide +kernel

/-- where a primary namespace comes from: `OSMNamespaces(nt)[t]` (what build.go passes), the `Namespaces[t]` of
the header of the block the record is in (what world.go passes), or `TypeAndNamespaceInvalid` -/
inductive NsSrc where
  | osm (t : Nat)
  | hdr (t : Nat)
  | invalid
deriving DecidableEq, Repr

structure PrimaryUse where
  record : String
  field : String
  blockType : Nat      -- feature type of the block the record is written to
  writer : NsSrc
  reader : NsSrc
deriving Repr

/-- the header of a block of type `b` is the OSM namespaces with entry `b` replaced (`addFeatureBlockBuilder`) -/
def resolve (b : Nat) : NsSrc → Option (Nat × Bool)   -- (feature type whose OSM namespace is meant, or the block's own)
  | .osm t => some (t, false)
  | .hdr t => some (t, t == b)
  | .invalid => none

/-- transcribed from `emitPoints` / `combinePoints` / `emitPathsAreasAndRelations` (writers) and
`findPathsByPoint` / `newWrappedPhysicalFeatureFromBuffer` / `fillGeometry` / `fillMembers` /
`fillRelationsFrom*` / `FindAreasByPoint` (readers); the type half of every primary is the same literal on both
sides (`CommonPoint.Marshal/Unmarshal` … in encoding.go; extracted and compared in `Props/Facts/C01.lean`) -/
def primaryTable : List PrimaryUse :=
  [⟨"Point", "Tags", 0, .invalid, .invalid⟩,
   ⟨"CommonPoint", "Path", 0, .osm 1, .hdr 1⟩,
   ⟨"PointReferences", "Paths", 0, .osm 1, .hdr 1⟩,
   ⟨"PointReferences", "Relations", 0, .osm 3, .hdr 3⟩,
   ⟨"Path", "Tags", 1, .osm 0, .osm 0⟩,
   ⟨"Path", "Areas", 1, .osm 2, .hdr 2⟩,
   ⟨"Path", "Relations", 1, .osm 3, .hdr 3⟩,
   ⟨"Area", "Tags", 2, .invalid, .invalid⟩,
   ⟨"Area", "Polygons", 2, .osm 1, .hdr 1⟩,
   ⟨"Area", "Relations", 2, .osm 3, .hdr 3⟩,
   ⟨"Relation", "Tags", 3, .invalid, .invalid⟩,
   ⟨"Relation", "Members", 3, .hdr 1, .hdr 1⟩,
   ⟨"Relation", "Relations", 3, .hdr 3, .hdr 3⟩]

/-- for every record field the writer's and the reader's primary namespace coincide -/
theorem primary_agree : ∀ u ∈ primaryTable, resolve u.blockType u.writer = resolve u.blockType u.reader := by decide

/-- before fixes/C01-relation-relations-primary.patch the relation record was marshalled with
`&osmNamespaces`: the `Relations` row read `.osm 3` against `.hdr 3` in a block of type 3 -/
theorem primary_agree_old_counterexample :
    resolve 3 (NsSrc.osm 3) ≠ resolve 3 (NsSrc.hdr 3) := by decide

/-! ## the code before the repairs, and the recorded finding -/

/-- `fromCompactValue` before fixes/C01-mixed-path-nil.patch: after every lat/lng it also appended the (nil)
reference; `none` stands for the nil expression -/
def fromCompactMixedOld (nt : List Str) (l : List RefLL) : List (Option Elem) :=
  l.flatMap fun x =>
    if x.ref != Reference.invalid then [(unRef nt x.ref).map Elem.ref]
    else [some (Elem.ll x.ll), none]

/-- path [ref, lat/lng, ref] came back with four elements, one of them nil (`GeometryLen` = 4, `PointAt(2)`
panics "Expected a latlng" — the fatal crash seen while the search index was built) -/
theorem mixed_path_nil_counterexample :
    fromCompactMixedOld (nsTable []) [⟨⟨1#16, 1#64⟩, LatLng.zero⟩, ⟨Reference.invalid, p2⟩, ⟨⟨1#16, 3#64⟩, LatLng.zero⟩]
      = [some (.ref ⟨0, nsOsmNode, 1#64⟩), some (.ll p2), none, some (.ref ⟨0, nsOsmNode, 3#64⟩)] := by decide +kernel

/-- relation 9 of namespace 5 recorded in a relation of namespace 5: written against the OSM relation
namespace (2) it is explicit; read against the block's namespace (5) it is taken for a zigzag delta and comes
back as relation −5 … and a reference to OSM relation 9 comes back in namespace 5 -/
theorem relation_relations_primary_counterexample :
    (References.dec (combineTypeNs 3#64 5#16) (References.enc (combineTypeNs 3#64 2#16) [⟨combineTypeNs 3#64 5#16, 9#64⟩])).map (·.1)
      = some [⟨combineTypeNs 3#64 5#16, BitVec.ofInt 64 (-5)⟩] ∧
    (References.dec (combineTypeNs 3#64 5#16) (References.enc (combineTypeNs 3#64 2#16) [⟨combineTypeNs 3#64 2#16, 9#64⟩])).map (·.1)
      = some [⟨combineTypeNs 3#64 5#16, 9#64⟩] := by decide +kernel

/-- **finding `fid-tag-value`** (not repaired: needs a new value type in the index format): a tag whose value
is one feature id is written as a bare `Reference`; the reader infers the value type from the low two bits of
the first varint.  `point/<namespace 1>/7` reads as type 3 — `inferValueType` panics ("not implemented", fatal
while the search index is built) — and `point/<namespace 2>/7` reads back as a *point* value. -/
theorem fid_tag_value_counterexample :
    Tag.dec 0#16 (putUvarint 4 ++ Reference.enc 0#16 ⟨1#16, 7#64⟩) = none ∧
    (Tag.dec 0#16 (putUvarint 4 ++ Reference.enc 0#16 ⟨2#16, 7#64⟩ ++ [0, 0, 0])).map (·.1.value)
      = some (Value.point ⟨BitVec.ofInt 32 (-1), 7#32⟩) := by decide +kernel

end B6.Props.C01
