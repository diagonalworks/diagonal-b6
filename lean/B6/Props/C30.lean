import B6.Lemmas.Dijkstra
import B6.Lemmas.DijkstraHeap
/-!
# C30 — shortest-path search finds true shortest distances and routes

Model: `B6/Model/Dijkstra.lean` (`ShortestPathSearch`: `AddOrUpdate`, `ExpandSearch`, `ExpandSearchTo`,
`BuildRoute`, `container/heap`).  Specification: `B6/Spec/ShortestPath.lean` (walks of usable segments with
left-folded cost; `RouteTo`).  Invariant and lemmas: `B6/Lemmas/Dijkstra.lean`, `B6/Lemmas/DijkstraHeap.lean`.

All theorems are for every graph (`Traverse` result) `g`, every weight structure with the `LawfulCost` laws,
every limit `max`, every list of origins, and **every** run of the search in which each pop returns *some*
queued minimum (`Reach`) — no bound on size or number of steps.  Hypotheses: `NonNeg g` (usable segments have
non-negative weight) and, for routes, `FirstOk g` (`Traverse(p)` yields segments that start at `p`).

Three layers.  (1) For every run of the abstract search (`Reach`, defined in Lemmas/Dijkstra.lean): recorded
distances are walk costs, settled entries are final in every state, at the end all entries are true shortest distances
and every point with a walk cheaper than `max` is recorded; `BuildRoute` returns such a walk and ends;
`ExpandSearchTo`'s early stop is right.  (2) The queue is a binary heap of the unvisited entries (`HInv`, defined in
Lemmas/DijkstraHeap.lean), so `Pop` returns a queued minimum and the executable loops — `runH`, with a run-time check,
the one the driver runs, and `runHU`, the code as it is — only make such runs: the `searchU_*` / `searchToU_*` theorems
assume nothing about pops or heap, and on a finite closed vertex set they end with fuel |V|.  (3) `ComputeAccessibility`
keeps the distances the search found.
-/
namespace B6.Props.C30
open B6.Model.Dijkstra B6.Spec.ShortestPath B6.Lemmas.Dijkstra B6.Lemmas.DijkstraHeap

variable {P S α : Type} [DecidableEq P] [Cost α] [LawfulCost α]
variable {g : Graph P S α} {origins : List P} {max : α}

/-- Route soundness, part 1: every recorded distance is the cost of an actual walk from an origin. -/
theorem settled_is_walk_cost (hN : NonNeg g) {tr : List (P × α)} {t : Table P S α}
    (h : Reach g max (initTable origins) tr t) {p : P} {e : Entry P S α} (hp : tget t p = some e) :
    ∃ es, Walk g origins p e.dist es :=
  ((h.inv_init hN).core.walk p e hp).resolve_right (not_sentinel_false (p := p))

/-- Route soundness, part 2: what `BuildRoute(p)` returns for a recorded point is a chain of usable segments
from an origin to `p`, each step ending at its `Destination` with the accumulated `Cost`; the cost of the whole
route is the recorded distance. (`buildRoute … = some …`: the Go loop ended.) -/
theorem route_sound (hN : NonNeg g) (hF : FirstOk g) {tr : List (P × α)} {t : Table P S α}
    (h : Reach g max (initTable origins) tr t) {p : P} {e : Entry P S α} (hp : tget t p = some e)
    {n : Nat} {o : P} {steps : List (Step P S α)} (hb : buildRoute t n p [] = some (o, steps)) :
    RouteTo g origins o steps p e.dist :=
  buildRoute_route hN hF (h.inv_init hN).core hp not_sentinel_false hb

/-- `BuildRoute` terminates for every point, within (number of settled points + 1) iterations: a back-pointer
always starts at a point that was settled strictly earlier, so the chain cannot cycle. -/
theorem build_route_terminates (hF : FirstOk g) {tr : List (P × α)} {t : Table P S α}
    (h : Reach g max (initTable origins) tr t) (p : P) :
    ∃ r, buildRoute t (tr.length + 1) p [] = some r := by
  obtain ⟨hR, hall⟩ := h.ranked hF fun q x hx => by rw [(initTable_get_some hx).2]
  simp only [buildRoute]
  cases hp : tget t p with
  | none => exact ⟨_, rfl⟩
  | some e =>
    cases hb : e.back with
    | none => simp [hb]
    | some b =>
      simp only [hb]
      exact hR.terminates tr b.first (hall p e b hp hb) _

/-- Points are popped (settled) in non-decreasing order of distance; `tr` is most-recent-first. -/
theorem settled_nondecreasing (hN : NonNeg g) {tr : List (P × α)} {t : Table P S α}
    (h : Reach g max (initTable origins) tr t) :
    tr.Pairwise (fun later earlier => earlier.2 ≤ later.2) :=
  h.nondecreasing hN (Inv.init g origins max)

/-- In **every** state of the search a settled entry already holds the true shortest distance:
it is the cost of a walk and no walk is cheaper. -/
theorem settled_final (hN : NonNeg g) {tr : List (P × α)} {t : Table P S α}
    (h : Reach g max (initTable origins) tr t) {p : P} {e : Entry P S α}
    (hp : tget t p = some e) (hv : e.visited = true) :
    (∃ es, Walk g origins p e.dist es) ∧ ∀ c es, Walk g origins p c es → e.dist ≤ c :=
  have hI := h.inv_init hN
  front_final hN hI hp (fun y ey => hI.core.le p y e ey hp hv) not_sentinel_false

/-- **Optimality.** When every entry has been popped:
(1) every recorded distance is the true shortest distance of its point — it is the cost of a walk from an
origin and at most the cost of every walk to that point;
(2) every point that has a walk of cost `< max` is recorded. -/
theorem dijkstra_optimal_of_settled (hN : NonNeg g) {tr : List (P × α)} {t : Table P S α}
    (h : Reach g max (initTable origins) tr t) (hfin : ∀ p e, tget t p = some e → e.visited = true) :
    (∀ p e, tget t p = some e →
      (∃ es, Walk g origins p e.dist es) ∧ ∀ c es, Walk g origins p c es → e.dist ≤ c) ∧
    (∀ p c es, Walk g origins p c es → c < max → ∃ e, tget t p = some e ∧ e.dist ≤ c) := by
  have hI := h.inv_init hN
  refine ⟨fun p e hp => settled_final hN h hp (hfin p e hp), ?_⟩
  intro p c es hw hc
  rcases walk_exit hN hI hw hc with hl | ⟨y, ey, hy, hyv, _⟩
  · exact hl
  · have := hfin y ey hy
    rw [hyv] at this; cases this

/-- … with the hypothesis as the executable test `allVisited`. -/
theorem dijkstra_optimal (hN : NonNeg g) {tr : List (P × α)} {t : Table P S α}
    (h : Reach g max (initTable origins) tr t) (hfin : allVisited t = true) :
    (∀ p e, tget t p = some e →
      (∃ es, Walk g origins p e.dist es) ∧ ∀ c es, Walk g origins p c es → e.dist ≤ c) ∧
    (∀ p c es, Walk g origins p c es → c < max → ∃ e, tget t p = some e ∧ e.dist ≤ c) :=
  dijkstra_optimal_of_settled hN h (fun _ _ hp => allVisited_sound hfin hp)

/-! ### `ExpandSearchTo` -/

/-- `ExpandSearchTo(dest)` stops when it pops `dest`. At that moment (`IsMin t dest`, any earlier pops):
if the recorded distance is below the limit it is the true shortest distance; otherwise (`+Inf` sentinel
untouched) no walk to `dest` is cheaper than the limit. -/
theorem search_to_correct (hN : NonNeg g) {inf : α} {dest : P} (hd : dest ∉ origins) (hinf : ¬ inf < max)
    {tr : List (P × α)} {t : Table P S α}
    (h : Reach g max (tput (initTable origins) dest { visited := false, dist := inf, back := none }) tr t)
    {e : Entry P S α} (hp : tget t dest = some e) (hmin : IsMin t dest) :
    (e.dist < max → (∃ es, Walk g origins dest e.dist es) ∧ ∀ c es, Walk g origins dest c es → e.dist ≤ c) ∧
    (¬ e.dist < max → ∀ c es, Walk g origins dest c es → ¬ c < max) := by
  have hI := h.inv_initTo hN hd hinf
  have hfront := isMin_front hmin hp
  exact ⟨fun hlt => front_final hN hI hp hfront (not_sentinel_of_lt hlt),
    fun hnlt c es hw hc => hnlt (lt_of_le_of_lt (front_le_walk_of_lt hN hI hp hfront hw hc) hc)⟩

/-- … and the route `BuildPath(dest)` / `BuildRoute(dest)` then returns is a chain of usable segments from the
origin with accumulated costs (table after `dest` was marked visited). -/
theorem search_to_route (hN : NonNeg g) (hF : FirstOk g) {inf : α} {dest : P} (hd : dest ∉ origins)
    (hinf : ¬ inf < max) {tr : List (P × α)} {t t1 : Table P S α}
    (h : Reach g max (tput (initTable origins) dest { visited := false, dist := inf, back := none }) tr t)
    {e : Entry P S α} (hmin : IsMin t dest) (hmark : markVisited t dest = some (t1, e)) (hlt : e.dist < max)
    {n : Nat} {o : P} {steps : List (Step P S α)} (hb : buildRoute t1 n dest [] = some (o, steps)) :
    RouteTo g origins o steps dest e.dist := by
  have hI := h.inv_initTo hN hd hinf
  obtain ⟨hp, rfl⟩ := markVisited_some hmark
  exact buildRoute_route (e := { e with visited := true }) hN hF (Mid.ofInv hI hp (hmin.at hp).1 (hmin.at hp).2).core
    (get_put_self _ _ _) (not_sentinel_of_lt hlt) hb

/-- `ExpandSearchTo(dest)` for a destination the search already knows (after fix
C30-expandsearchto-known-destination: its entry is kept — before, it was replaced by the `+Inf` placeholder and
the origin ended up recorded at `+Inf`): when `dest` is popped its recorded distance is the true one. In
particular for `dest` = the origin the recorded distance stays the walk cost 0. -/
theorem search_to_known_destination_correct (hN : NonNeg g) {tr : List (P × α)} {t : Table P S α}
    (h : Reach g max (initTable origins) tr t) {dest : P} {e : Entry P S α}
    (hp : tget t dest = some e) (hmin : IsMin t dest) :
    (∃ es, Walk g origins dest e.dist es) ∧ ∀ c es, Walk g origins dest c es → e.dist ≤ c :=
  front_final hN (h.inv_init hN) hp (isMin_front hmin hp) not_sentinel_false

set_option linter.unusedSectionVars false in
/-- The second stop condition of `ExpandSearchTo` (`destination.distance < r.distance`) can never fire
while `dest` is still queued, for a pop that is a queued minimum (that `Pop` returns one is `heap_pop_min`). -/
theorem early_stop_second_condition_dead {t : Table P S α} {p dest : P} {r de : Entry P S α}
    (hmin : IsMin t p) (hp : tget t p = some r) (hd : tget t dest = some de) (hdv : de.visited = false) :
    ¬ de.dist < r.dist :=
  (hmin.at hp).2 dest de hd hdv

/-! ### the executable heap-driven model only produces runs of the abstract search -/

set_option linter.unusedSectionVars false in
/-- If `runH` ends (`.done`) it went through states of the abstract search; it either ran until the queue was
empty, or (`ExpandSearchTo` only) stopped right after marking a popped minimum visited. -/
theorem runH_reach (g : Graph P S α) (max : α) (to : Option P) :
    ∀ (fuel : Nat) (s s' : HState P S α), runH g max to fuel s = .done s' →
      ∃ tr t, Reach g max s.t tr t ∧
        ((s'.t = t ∧ s'.heap.size = 0) ∨
         (∃ p r, to.isSome = true ∧ IsMin t p ∧ markVisited t p = some (s'.t, r))) := by
  intro fuel s s' h
  fun_induction runH g max to fuel s with
  -- the queue is empty
  | case1 _ hz | case3 _ _ hz => cases h; exact ⟨[], _, Reach.refl, Or.inl ⟨rfl, hz⟩⟩
  -- the branches that do not end in `.done`
  | case2 | case4 | case5 | case6 | case8 => cases h
  -- the loop stops right after marking `p`
  | case7 _ s _ p h1 _ hminb t1 r hmark hstop =>
    cases h
    refine ⟨[], s.t, Reach.refl, Or.inr ⟨p, r, ?_, isMinB_sound (by simpa using hminb), hmark⟩⟩
    cases to with
    | none => simp [stopNow] at hstop
    | some _ => rfl
  -- one full iteration, then the rest of the run from `s''`
  | case9 _ s _ p h1 _ hminb t1 r hmark _ s'' hfold ih =>
    obtain ⟨tr, t, hr, halt⟩ := ih h
    obtain ⟨hp, rfl⟩ := markVisited_some hmark
    have hexp : expand g max s.t p = some s''.t := by
      rw [expand_eq hp, foldl_relaxH_table max r.dist (g.adj p) _ _ hfold]
    exact ⟨tr ++ [(p, r.dist)], t, Reach.first_step (isMinB_sound (by simpa using hminb)) hp hexp hr, halt⟩

/-- `search` (= `NewShortestPathSearchFromPoint` + `ExpandSearch` with the real heap): a finished run is a run of
the abstract search with an empty queue, so `dijkstra_optimal` applies to its table whenever `allVisited`. -/
theorem search_reach (g : Graph P S α) (max : α) (origins : List P) (fuel : Nat) (s' : HState P S α)
    (h : search g max origins fuel = .done s') : ∃ tr, Reach g max (initTable origins) tr s'.t := by
  obtain ⟨tr, t, hr, halt⟩ := runH_reach g max none fuel _ s' h
  rcases halt with ⟨ht, _⟩ | ⟨_, _, hsome, _⟩
  · exact ⟨tr, ht ▸ hr⟩
  · simp at hsome

/-- the table `ExpandSearchTo(dest)` starts from: the `+Inf` placeholder is entered only for an unknown `dest` -/
def searchToTable (origins : List P) (dest : P) (inf : α) : Table P S α :=
  match tget (initTable origins : Table P S α) dest with
  | some _ => initTable origins
  | none => tput (initTable origins) dest { visited := false, dist := inf, back := none }

theorem searchToStart_table {origins : List P} {dest : P} {inf : α} {s : HState P S α}
    (hs : searchToStart origins dest inf = some s) : s.t = searchToTable origins dest inf := by
  obtain ⟨s0, hs0, _, _, hst⟩ := searchToStart_spec (S := S) origins dest inf
  rw [hs0] at hs; cases hs
  unfold searchToTable
  rcases hst with ⟨hd, e⟩ | ⟨hd, e⟩
  · rw [e, initTable_get_mem hd]
  · rw [e, initTable_get, if_neg hd]; rfl

/-- `searchTo`: a finished run either exhausted the queue or stopped right after popping a minimum. -/
theorem searchTo_reach (g : Graph P S α) (max inf : α) (origins : List P) (dest : P) (fuel : Nat)
    (s' : HState P S α) (h : searchTo g max inf origins dest fuel = .done s') :
    ∃ tr t, Reach g max (searchToTable origins dest inf) tr t ∧
      ((s'.t = t ∧ s'.heap.size = 0) ∨ (∃ p r, IsMin t p ∧ markVisited t p = some (s'.t, r))) := by
  revert h
  fun_cases searchTo g max inf origins dest fuel with
  | case1 => nofun
  | case2 s hs =>
    intro h
    have hst := searchToStart_table hs
    obtain ⟨tr, t, hr, hl | ⟨p, r, _, h1, h2⟩⟩ := runH_reach g max (some dest) fuel s s' h
    · exact ⟨tr, t, hst ▸ hr, Or.inl hl⟩
    · exact ⟨tr, t, hst ▸ hr, Or.inr ⟨p, r, h1, h2⟩⟩

/-! ### the queue is a binary heap: the run-time check is redundant -/

/-- `heap.Pop` on a well-formed queue (`HInv`: heap order under `Less`, exactly the unvisited entries, each once)
returns a minimum of the queued entries and leaves a well-formed rest. -/
theorem heap_pop_min {s : HState P S α} (hI : HInv s) (hne : s.heap.size ≠ 0) :
    ∃ p h1, Heap.pop s.t s.heap = some (p, h1) ∧ IsMin s.t p ∧ Inj h1 ∧ Ord s.t h1 h1.size ∧
      (∀ q, Mem h1 q ↔ (q ≠ p ∧ Mem s.heap q)) :=
  pop_spec hI hne

/-- `heap.Push` of a newly recorded point preserves the heap invariant. -/
theorem heap_push_preserves {t0 : Table P S α} {h : Array P} {v : P} {ne : Entry P S α}
    (hI : HInv { t := t0, heap := h }) (hv : tget t0 v = none) (hnv : ne.visited = false) :
    ∃ h', Heap.push (tput t0 v ne) h v = some h' ∧ HInv { t := tput t0 v ne, heap := h' } :=
  push_spec hI hv hnv

/-- `heap.Fix` after `AddOrUpdate`'s strict decrease preserves the heap invariant (the position is found through
the queue itself — the model's counterpart of `reachable.index`). -/
theorem heap_fix_preserves {t0 : Table P S α} {h : Array P} {v : P} {n ne : Entry P S α}
    (hI : HInv { t := t0, heap := h }) (hv : tget t0 v = some n) (hvu : n.visited = false)
    (hnv : ne.visited = false) (hd : ne.dist < n.dist) :
    ∃ h', Heap.fix (tput t0 v ne) h v = some h' ∧ HInv { t := tput t0 v ne, heap := h' } :=
  fix_spec hI hv hvu hnv hd

/-- The loop exactly as the code has it (`runHU`, no check of what the heap returns) equals the checked loop
whenever it starts from a well-formed queue: `isMinB` never fails. -/
theorem runHU_eq_runH_of_heap (g : Graph P S α) (max : α) (to : Option P) (fuel : Nat) (s : HState P S α)
    (hI : HInv s) : runHU g max to fuel s = runH g max to fuel s := by
  induction fuel generalizing s with
  | zero => rfl
  | succ fuel ih =>
    by_cases hz : s.heap.size = 0
    · rw [(run_empty g max to _ hz).1, (run_empty g max to _ hz).2]
    · obtain ⟨p, ep, h1, _, _, ⟨_, h, hu⟩ | ⟨_, s2, hI2, _, h, hu⟩⟩ := run_step g max to fuel hI hz
      · rw [h, hu]
      · rw [h, hu]; exact ih s2 hI2

theorem searchU_eq_search (g : Graph P S α) (max : α) (origins : List P) (fuel : Nat) :
    searchU g max origins fuel = search g max origins fuel :=
  runHU_eq_runH_of_heap g max none fuel _ (HInv.initList origins)

/-- **Unconditional run theorem**: `NewShortestPathSearch…` (any list of origins, duplicates allowed) +
`ExpandSearch(max)` with the real binary heap and *no* run-time check (`searchU`): a finished run is a run of the
abstract search. -/
theorem searchU_reach (g : Graph P S α) (max : α) (origins : List P) (fuel : Nat) (s' : HState P S α)
    (h : searchU g max origins fuel = .done s') : ∃ tr, Reach g max (initTable origins) tr s'.t := by
  rw [searchU_eq_search] at h
  exact search_reach g max origins fuel s' h

/-- **Unconditional optimality**: whatever `searchU` returns when it finishes is the true answer — every
recorded distance is a walk cost and at most every walk cost, and every point with a walk cheaper than `max` is
recorded. No hypothesis about the heap, the pops or `allVisited`. -/
theorem searchU_optimal (hN : NonNeg g) (fuel : Nat) (s' : HState P S α)
    (h : searchU g max origins fuel = .done s') :
    (∀ p e, tget s'.t p = some e →
      (∃ es, Walk g origins p e.dist es) ∧ ∀ c es, Walk g origins p c es → e.dist ≤ c) ∧
    (∀ p c es, Walk g origins p c es → c < max → ∃ e, tget s'.t p = some e ∧ e.dist ≤ c) := by
  obtain ⟨tr, hr⟩ := searchU_reach g max origins fuel s' h
  rw [searchU_eq_search] at h
  exact dijkstra_optimal_of_settled hN hr (runH_done_allVisited g max fuel _ s' (HInv.initList origins) h)

/-- **Termination**: for a finite vertex set `V` that contains the origins and is closed under `Traverse`, the
search finishes with fuel `|V|` — it never runs out of fuel, never gets stuck in the heap, never pops a non-minimum —
and its result is the true answer. -/
theorem searchU_total_correct (hN : NonNeg g) (V : List P) (hV : ∀ o, o ∈ origins → o ∈ V)
    (hclosed : ∀ p, p ∈ V → ∀ e, e ∈ g.adj p → e.last ∈ V) :
    ∃ s', searchU g max origins V.length = .done s' ∧
      (∀ p e, tget s'.t p = some e →
        (∃ es, Walk g origins p e.dist es) ∧ ∀ c es, Walk g origins p c es → e.dist ≤ c) ∧
      (∀ p c es, Walk g origins p c es → c < max → ∃ e, tget s'.t p = some e ∧ e.dist ≤ c) := by
  obtain ⟨s', hs'⟩ := runH_finishes g max none V hclosed V.length
    { t := initTable origins, heap := initHeap origins } (HInv.initList origins)
    (fun p x hp => hV p (initTable_get_some hp).1) (List.length_filter_le _ _)
  have hU : searchU g max origins V.length = .done s' := by rw [searchU_eq_search]; exact hs'
  exact ⟨s', hU, searchU_optimal hN V.length s' hU⟩

/-- the unchecked `ExpandSearchTo` loop equals the checked one -/
theorem searchToU_eq_searchTo (g : Graph P S α) (max inf : α) (origins : List P) (dest : P) (fuel : Nat) :
    searchToU g max inf origins dest fuel = searchTo g max inf origins dest fuel := by
  obtain ⟨s, hs, hI, _, _⟩ := searchToStart_spec (S := S) origins dest inf
  unfold searchToU searchTo
  rw [hs]
  exact runHU_eq_runH_of_heap g max (some dest) fuel s hI

/-- **Unconditional `ExpandSearchTo`** (real heap, no check, any origin list, `dest` known or not): when the loop
finishes, `dest` is settled; if its recorded distance is below the limit it is the true shortest distance, otherwise
no walk to `dest` is cheaper than the limit. -/
theorem searchToU_correct (hN : NonNeg g) {inf : α} (hinf : ¬ inf < max) (dest : P) (fuel : Nat)
    (s' : HState P S α) (h : searchToU g max inf origins dest fuel = .done s') :
    ∃ e, tget s'.t dest = some e ∧ e.visited = true ∧
      (e.dist < max → (∃ es, Walk g origins dest e.dist es) ∧ ∀ c es, Walk g origins dest c es → e.dist ≤ c) ∧
      (¬ e.dist < max → ∀ c es, Walk g origins dest c es → ¬ c < max) := by
  rw [searchToU_eq_searchTo] at h
  obtain ⟨s, hs, hI, hq, hst⟩ := searchToStart_spec (S := S) origins dest inf
  unfold searchTo at h
  rw [hs] at h
  obtain ⟨tr, t, r, hr, hmin, hmark⟩ := runH_to_spec g max dest fuel s s' hI hq h
  obtain ⟨hrd, hs't⟩ := markVisited_some hmark
  refine ⟨{ r with visited := true }, by rw [hs't]; exact get_put_self _ _ _, rfl, ?_⟩
  rcases hst with ⟨_, hst⟩ | ⟨hdo, hst⟩ <;> rw [hst] at hr
  · have hopt := search_to_known_destination_correct (e := r) hN hr hrd hmin
    exact ⟨fun _ => hopt, fun hnlt c es hw hc => hnlt (lt_of_le_of_lt (hopt.2 c es hw) hc)⟩
  · exact search_to_correct (e := r) hN hdo hinf hr hrd hmin

/-- `ExpandSearchTo` also terminates with fuel `|V|` on a finite closed vertex set containing origins and `dest`. -/
theorem searchToU_terminates (V : List P) (hV : ∀ o, o ∈ origins → o ∈ V) {dest : P} (hdV : dest ∈ V)
    (hclosed : ∀ p, p ∈ V → ∀ e, e ∈ g.adj p → e.last ∈ V) (inf : α) :
    ∃ s', searchToU g max inf origins dest V.length = .done s' := by
  rw [searchToU_eq_searchTo]
  obtain ⟨s, hs, hI, _, hst⟩ := searchToStart_spec (S := S) origins dest inf
  unfold searchTo
  rw [hs]
  have hinit : ∀ p x, tget (initTable origins : Table P S α) p = some x → p ∈ V :=
    fun p x hp => hV p (initTable_get_some hp).1
  have hkeys : ∀ p x, tget s.t p = some x → p ∈ V := by
    intro p x hp
    rcases hst with ⟨_, hst⟩ | ⟨_, hst⟩ <;> rw [hst] at hp
    · exact hinit p x hp
    · rcases get_put_some hp with ⟨hpd, _⟩ | ⟨_, hp'⟩
      · rw [hpd]; exact hdV
      · exact hinit p x hp'
  exact runH_finishes g max (some dest) V hclosed V.length s hI hkeys (List.length_filter_le _ _)

/-! ### `ComputeAccessibility` -/

set_option linter.unusedSectionVars false in
/-- **Reached points keep the distance the search found** in `ComputeAccessibility`'s result (so everything proved
about `PointDistances` — `searchU_optimal` — holds for it), whatever the geometry of the paths. -/
theorem accessibility_keeps_node_distances (t : Table P S α) (segPoints : S → List P) {p : P}
    {e : Entry P S α} (hp : tget t p = some e) : accGet (accessibility t segPoints) p = some (some e.dist) := by
  unfold accessibility
  generalize (interpolatedPoints t segPoints).map (fun q => ((q, none) : P × Option α)) = rest
  fun_induction tget t p with
  | case1 => cases hp
  | case2 => cases hp; simp [accGet]
  | case3 k x tl p hk ih => simp [accGet, hk]; exact ih hp

set_option linter.unusedSectionVars false in
/-- only points the search did not reach are interpolated -/
theorem accessibility_interpolates_only_unreached (t : Table P S α) (segPoints : S → List P) {q : P}
    (hq : q ∈ interpolatedPoints t segPoints) : tget t q = none := by
  unfold interpolatedPoints at hq
  rw [(dedup_spec _).2] at hq
  have := (List.mem_filter.mp hq).2
  cases h : tget t q with
  | none => rfl
  | some e => simp [h] at this

end B6.Props.C30

/-! ### non-vacuity: the hypotheses are satisfiable and the model really runs -/
namespace B6.Props.C30.Example
open B6.Model.Dijkstra B6.Spec.ShortestPath B6.Lemmas.Dijkstra

/-- 0 →3 1 →4 2, 0 →10 2 (improved by decrease-key to 7), 2 → 0 unusable, 1 →0 1 (zero-weight self loop) -/
def exEdges : List (Edge Nat Nat Nat) := [
  { seg := 1, first := 0, last := 1, usable := true, weight := 3 },
  { seg := 2, first := 0, last := 2, usable := true, weight := 10 },
  { seg := 3, first := 1, last := 2, usable := true, weight := 4 },
  { seg := 5, first := 1, last := 1, usable := true, weight := 0 },
  { seg := 4, first := 2, last := 0, usable := false, weight := 1 }]

def exGraph : Graph Nat Nat Nat := ⟨fun p => exEdges.filter (fun e => e.first == p)⟩

example : NonNeg exGraph := fun _ _ _ _ => Nat.zero_le _

example : FirstOk exGraph := by
  intro p e he
  simp [exGraph] at he
  exact he.2

/-- replay a given pop order on the abstract model, checking that every pop is a queued minimum -/
def runAbs (g : Graph Nat Nat Nat) (max : Nat) : List Nat → Table Nat Nat Nat → Option (Table Nat Nat Nat)
  | [], t => some t
  | p :: ps, t => if isMinB t p then (expand g max t p).bind (runAbs g max ps) else none

theorem runAbs_reach (g : Graph Nat Nat Nat) (max : Nat) :
    ∀ (ps : List Nat) (t0 t : Table Nat Nat Nat), runAbs g max ps t0 = some t →
      ∃ tr, Reach g max t0 tr t ∧ tr.length = ps.length := by
  intro ps
  induction ps with
  | nil => intro t0 t h; simp [runAbs] at h; subst h; exact ⟨[], Reach.refl, rfl⟩
  | cons p ps ih =>
    intro t0 t h
    simp only [runAbs] at h
    split at h
    · rename_i hmin
      cases hexp : expand g max t0 p with
      | none => simp [hexp] at h
      | some t1 =>
        simp [hexp] at h
        obtain ⟨tr, hr, hl⟩ := ih t1 t h
        obtain ⟨ep, hp, _⟩ := isMinB_sound hmin
        exact ⟨tr ++ [(p, ep.dist)], Reach.first_step (isMinB_sound hmin) hp hexp hr, by simp [hl]⟩
    · cases h

/-- A non-trivial run with an empty queue exists (pop order 0, 1, 2; point 2 is first recorded at 10 and then
decreased to 7 through point 1): the hypotheses of `dijkstra_optimal`, `settled_is_walk_cost`,
`settled_nondecreasing` and `route_sound` are jointly satisfiable, and the outcome is the expected one. -/
example : ∃ tr t, Reach exGraph 20 (initTable [0]) tr t ∧ allVisited t = true ∧ tr.length = 3 ∧
    (tget t 2).map (fun e => (e.dist, e.back.map (·.seg))) = some (7, some 3) ∧
    ((buildRoute t 5 2 []).map fun (o, steps) => (o, steps.map fun st => (st.dest, st.via.seg, st.cost)))
      = some (0, [(1, 1, 3), (2, 3, 7)]) := by
  have h : ∃ t, runAbs exGraph 20 [0, 1, 2] (initTable [0]) = some t ∧ allVisited t = true ∧
      (tget t 2).map (fun e => (e.dist, e.back.map (·.seg))) = some (7, some 3) ∧
      ((buildRoute t 5 2 []).map fun (o, steps) => (o, steps.map fun st => (st.dest, st.via.seg, st.cost)))
        = some (0, [(1, 1, 3), (2, 3, 7)]) := by
    refine ⟨_, rfl, ?_, ?_, ?_⟩ <;> decide
  obtain ⟨t, hrun, h1, h2, h3⟩ := h
  obtain ⟨tr, hr, hl⟩ := runAbs_reach exGraph 20 _ _ t hrun
  exact ⟨tr, t, hr, h1, by simpa using hl, h2, h3⟩

/-- with limit 7 point 2 (true distance 7) is *not* recorded: the limit is strict -/
example : (runAbs exGraph 7 [0, 1] (initTable [0])).map (fun t => (allVisited t, (tget t 2).isSome))
    = some (true, false) := by decide

/-- `ExpandSearchTo`'s hypotheses: destination 2 is not the origin, the sentinel is not below the limit -/
example : (2 : Nat) ∉ [0] ∧ ¬ (21 : Nat) < 20 := by decide

end B6.Props.C30.Example
