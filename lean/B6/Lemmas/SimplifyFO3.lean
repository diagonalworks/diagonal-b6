import B6.Lemmas.SimplifyFO2
import B6.Lemmas.Simplify
/-!
C22 `simplify_preserves_lambda_free`, part 3: query building, the induction over `Simplify` on lambda-free
programs (`simplifyBoth_sim`: both the returned tree and the argument tree simulate the input), and
ill-formed closed lambda-free expressions evaluate to an error.
-/
namespace B6.Lemmas.SimplifyFO
open B6.Model B6.Model.Simplify B6.Lemmas.InterpFuel

theorem asStrings_inv : ∀ (args : List Expr) (ss : List String), asStrings args = some ss →
    args = ss.map (fun s => Expr.lit (.str s))
  | [], ss, h => by simp [asStrings] at h; subst h; rfl
  | a :: as, ss, h => by
    cases a with
    | lit l =>
      cases l with
      | str s =>
        simp only [asStrings, Option.map_eq_some_iff] at h
        obtain ⟨rest, hr, rfl⟩ := h
        simp [asStrings_inv as rest hr]
      | int _ => simp [asStrings] at h
      | query _ => simp [asStrings] at h
      | other _ _ => simp [asStrings] at h
    | sym _ => simp [asStrings] at h
    | call _ _ _ => simp [asStrings] at h
    | lam _ _ => simp [asStrings] at h

theorem ofName_and : Builtin.ofName "and" = some .and := by decide
theorem ofName_or : Builtin.ofName "or" = some .or := by decide
theorem ofName_typed : Builtin.ofName "typed" = some .typed := by decide
theorem ofName_keyed : Builtin.ofName "keyed" = some .keyed := by decide
theorem ofName_tagged : Builtin.ofName "tagged" = some .tagged := by decide

/-- `simplifyCallBuildingQuery`: the call evaluates, in any environment, to the query it is replaced by -/
theorem buildQuery_refines {s : String} {args : List Expr} {q : Query} (p : Bool) (h : buildQuery s args = some q) :
    Refines (.lit (.query q)) (.call (.sym s) args p) := by
  revert h
  fun_cases buildQuery s args with
  | case1 h1 a b =>
    simp only [Bool.or_eq_true, beq_iff_eq] at h1
    rcases h1 with rfl | rfl <;> rintro ⟨⟩
    · exact call_lits_refines ofName_and [.query a, .query b] _ p fun _ => rfl
    · exact call_lits_refines ofName_or [.query a, .query b] _ p fun _ => rfl
  | case3 _ h2 t q0 =>
    cases eq_of_beq h2; rintro ⟨⟩
    exact call_lits_refines ofName_typed [.str t, .query q0] _ p fun _ => rfl
  | case5 args _ _ h3 k ha =>
    cases eq_of_beq h3; rintro ⟨⟩
    rw [asStrings_inv args _ ha]
    exact call_lits_refines ofName_keyed [.str k] _ p fun _ => rfl
  | case7 args _ _ _ h4 k v ha =>
    cases eq_of_beq h4; rintro ⟨⟩
    rw [asStrings_inv args _ ha]
    exact call_lits_refines ofName_tagged [.str k, .str v] _ p fun _ => rfl
  | case2 | case4 | case6 | case8 | case9 => nofun  -- the builder's name with other arguments; another name

theorem ESim.build {s : String} {args : List Expr} {q : Query} (p : Bool) (h : buildQuery s args = some q) :
    ESim (.lit (.query (simplifyQuery q))) (.call (.sym s) args p) := by
  refine (ESim.litq q).trans fun n hne => ?_
  rw [← buildQuery_refines p h n [] hne]
  exact Sim.refl_lit _

theorem variadicName_name (b : Builtin) : variadicName b.name = b.variadic.isSome := by
  cases b <;> decide

theorem ofName_name {s : String} {b : Builtin} (h : Builtin.ofName s = some b) : b.name = s := by
  have := List.find?_some (by simpa [Builtin.ofName] using h)
  simpa using this

/-- what the guard of the no-argument rewrite knows about the symbol -/
theorem tableArgcV_pos {s : String} {n : Nat} (h : tableArgcV s = some n) (hn : n > 0) :
    ∃ b, Builtin.ofName s = some b ∧ b.variadic = none ∧ b.arity > 0 := by
  simp only [tableArgcV, argcOf, Option.map_eq_some_iff] at h
  obtain ⟨m, hc, rfl⟩ := h
  cases hvn : variadicName s with
  | true => simp [hvn] at hn
  | false =>
    have hne := hvn
    simp only [variadicName, Bool.or_eq_false_iff, beq_eq_false_iff_ne, ne_eq] at hne
    obtain ⟨b, hb, rfl⟩ : ∃ b, Builtin.ofName s = some b ∧ b.arity = m := by
      simpa [tableCount, hne.1, hne.2, tableArgc] using hc
    have hv := variadicName_name b
    rw [ofName_name hb, hvn] at hv
    exact ⟨b, hb, Option.not_isSome_iff_eq_none.mp (by rw [← hv]; decide), by simpa [hvn] using hn⟩

open B6.Lemmas.Simplify (simpArgsWith_cons simpCall_inv postCall_inv pickFunction_cases simplifyBoth_lambdaFree
  pickFunction_lambdaFree)

theorem simpArgs_sim (simp : Expr → Option (Expr × Expr))
    (hs : ∀ e s m, e.lambdaFree = true → simp e = some (s, m) → ESim s e ∧ ESim m e) :
    ∀ (as as' : List Expr), Expr.lambdaFrees as = true → simpArgsWith simp as = some as' → ESims as' as
  | [], as', _, h => by
    simp [simpArgsWith] at h; subst h; exact ESims.nil
  | a :: as, as', hl, h => by
    simp only [Expr.lambdaFrees, Bool.and_eq_true] at hl
    obtain ⟨a', ma, rest, h1, h2, rfl⟩ := simpArgsWith_cons h
    exact ESims.cons (hs a a' ma hl.1 h1).1 (simpArgs_sim simp hs as rest hl.2 h2)

theorem simplifyBoth_sim : ∀ (fuel : Nat) (e s m : Expr), e.lambdaFree = true →
    simplifyBoth tableArgcV fuel e = some (s, m) → ESim s e ∧ ESim m e
  | 0, _, _, _, _, h => by simp [simplifyBoth] at h
  | fuel + 1, e, s, m, hl, h => by
    have ih := simplifyBoth_sim fuel
    cases e with
    | sym x => simp [simplifyBoth] at h; obtain ⟨rfl, rfl⟩ := h; exact ⟨ESim.sym x, ESim.sym x⟩
    | lit l =>
      cases l with
      | query q => simp [simplifyBoth] at h; obtain ⟨rfl, rfl⟩ := h; exact ⟨ESim.litq q, ESim.lit _⟩
      | int _ | str _ | other _ _ => simp [simplifyBoth] at h; obtain ⟨rfl, rfl⟩ := h; exact ⟨ESim.lit _, ESim.lit _⟩
    | lam ps b => simp [Expr.lambdaFree] at hl
    | call f args p =>
      simp only [Expr.lambdaFree, Bool.and_eq_true] at hl
      simp only [simplifyBoth] at h
      obtain ⟨f', mf, args', h1, h2, hp, rfl⟩ := simpCall_inv h
      obtain ⟨hf1, hf2⟩ := ih f f' mf hl.1 h1
      have ha := simpArgs_sim _ ih args args' hl.2 h2
      have hlf := simplifyBoth_lambdaFree tableArgcV fuel f f' mf hl.1 h1
      refine ⟨?_, ESim.call p p hf2 ha⟩
      have hF : ESim (pickFunction tableArgcV f f' mf) f := by
        rcases pickFunction_cases tableArgcV f f' mf with h | h <;> rw [h] <;> assumption
      have hFl := pickFunction_lambdaFree (argc := tableArgcV) f hlf.1 hlf.2
      generalize pickFunction tableArgcV f f' mf = F at hp hF hFl
      have hcall : ESim (.call F args' p) (.call f args p) := ESim.call p p hF ha
      obtain rfl | ⟨x, n, rfl, rfl, hn, hpos, rfl⟩ | ⟨body, r, rfl, -, -, -⟩ | ⟨x, q, rfl, hq, rfl⟩ :=
        postCall_inv hp
      · exact hcall
      · obtain ⟨b, hb, hv, ha⟩ := tableArgcV_pos hn hpos
        exact (ESim.noarg p hb hv ha).trans hcall
      · simp [Expr.lambdaFree] at hFl
      · exact (ESim.build p hq).trans hcall

mutual
  theorem illformed_error (app : Val → List Val → Res Val) : (e : Expr) → e.lambdaFree = true →
      wfAt [] e = false → ∃ err, evalWith app [] e = .error err
    | .sym s, _, hw => by
      simp only [wfAt, List.contains_nil, Bool.false_or] at hw
      cases hb : Builtin.ofName s with
      | none => exact ⟨.error, by simp [evalWith, hb]⟩
      | some b => simp [hb] at hw
    | .lit _, _, hw => by simp [wfAt] at hw
    | .lam _ _, hl, _ => by simp [Expr.lambdaFree] at hl
    | .call f args p, hl, hw => by
      simp only [Expr.lambdaFree, Bool.and_eq_true] at hl
      rw [evalWith_call, fnEnv_nil]
      cases hwa : wfsAt [] args with
      | false => exact bind_error_left (illformeds_error app args hl.2 hwa)
      | true =>
        refine bind_error_right fun vs => ?_
        simp only [wfAt, hwa, Bool.true_and] at hw
        cases f with
        | sym s => exact bind_error_left (illformed_error app (.sym s) rfl (by simpa [wfAt] using hw))
        | lit l => exact ⟨.error, by cases l <;> rfl⟩
        | lam _ _ => simp [Expr.lambdaFree] at hl
        | call g gargs q => exact bind_error_left (illformed_error app (.call g gargs q) hl.1 hw)
  theorem illformeds_error (app : Val → List Val → Res Val) : (as : List Expr) → Expr.lambdaFrees as = true →
      wfsAt [] as = false → ∃ err, evalArgs app [] as = .error err
    | [], _, hw => by simp [wfsAt] at hw
    | a :: as, hl, hw => by
      simp only [Expr.lambdaFrees, Bool.and_eq_true] at hl
      rw [evalArgs_cons]
      cases hwa : wfAt [] a with
      | false => exact bind_error_left (illformed_error app a hl.1 hwa)
      | true =>
        simp only [wfsAt, hwa, Bool.true_and] at hw
        exact bind_error_right fun _ => bind_error_left (illformeds_error app as hl.2 hw)
end

end B6.Lemmas.SimplifyFO
