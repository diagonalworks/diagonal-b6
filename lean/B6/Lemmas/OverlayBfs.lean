import B6.Lemmas.OverlayWorld
/-!
C16: the breadth-first closure of `OverlayWorld.FindReferences` (fixes/C16-union-refs-closure.patch) is
exact: `BInv.round` (one round keeps `BInv`), `bfs_spec` (the loop ends within its fuel, since `byID` cannot outgrow
the feature set: `BInv.length_le`), `closed_complete` (with an empty queue `BInv` says every referrer has been collected).
-/
namespace B6.Lemmas.OverlayBfs
open B6.Model.OverlayWorld B6.Lemmas.OverlayWorld B6.Spec.Referrers

/-- distinct IDs within a layer: the hypotheses `ho`, `hb` of the C16 theorems, which spell it out -/
def NodupIds (l : Layer) : Prop := (l.map (·.id)).Nodup

theorem nodup_merged (w : OW) (ho : NodupIds w.overlay) (hb : NodupIds w.base) : NodupIds w.merged :=
  each_nodup w ho hb

def Direct (w : OW) (x : Id) (f : Feat) : Prop := f ∈ w.merged ∧ x ∈ f.refs

theorem refers_merged {w : OW} {x s : Id} : Refers (rl w.merged) x s ↔ ∃ f, Direct w x f ∧ f.id = s :=
  (refers_rl _ _ _).trans
    ⟨fun ⟨f, hf, hid, hr⟩ => ⟨f, ⟨hf, hr⟩, hid⟩, fun ⟨f, ⟨hf, hr⟩, hid⟩ => ⟨f, hf, hid, hr⟩⟩

theorem stepCands_mem {w : OW} (ho : NodupIds w.overlay) (hb : NodupIds w.base) {x : Id} {C : List Feat}
    (h : w.stepCands x = some C) (f : Feat) : f ∈ C ↔ Direct w x f := by
  revert h
  fun_cases OW.stepCands w x with
  | case2 => nofun
  | case1 B O hof hbf =>
    rintro ⟨⟩
    simp only [List.mem_filter, List.mem_append, List.contains_iff_mem, Bool.not_eq_true']
    unfold Direct
    rw [show w.merged = w.each from rfl, mem_each]
    constructor
    · rintro ⟨(⟨h1, h2⟩ | h1), h3⟩
      · exact ⟨Or.inr ⟨findRefs_sub hbf h1, h2⟩, h3⟩
      · exact ⟨Or.inl (findRefs_sub hof h1), h3⟩
    · rintro ⟨(h1 | ⟨h1, h2⟩), h3⟩
      · exact ⟨Or.inr (mem_findRefs_of_direct ho hof h1 h3), h3⟩
      · exact ⟨Or.inl ⟨mem_findRefs_of_direct hb hbf h1 h3, h2⟩, h3⟩

abbrev ids (l : List Feat) : List Id := l.map (·.id)

theorem visit_fold (cands acc : List Feat) (n0 : List Id) :
    ∃ new, cands.foldl visit (acc, n0) = (acc ++ new, n0 ++ ids new) ∧ (∀ f ∈ new, f ∈ cands) ∧
      (∀ c ∈ cands, c.id ∈ ids (acc ++ new)) ∧ ((ids acc).Nodup → (ids (acc ++ new)).Nodup) := by
  induction cands generalizing acc n0 with
  | nil => exact ⟨[], by simp, by simp⟩
  | cons c cs ih =>
    have hany : acc.any (fun g => decide (g.id = c.id)) = true ↔ c.id ∈ ids acc := by
      simp only [List.any_eq_true, decide_eq_true_eq, List.mem_map]
    by_cases hc : acc.any (fun g => decide (g.id = c.id)) = true
    · obtain ⟨new, he, hsub, hall, hnd⟩ := ih acc n0
      refine ⟨new, ?_, fun f hf => List.mem_cons_of_mem _ (hsub f hf), ?_, hnd⟩
      · rw [List.foldl_cons, visit, if_pos hc, he]
      · intro x hx
        rcases List.mem_cons.mp hx with rfl | hx
        · rw [ids, List.map_append]; exact List.mem_append_left _ (hany.1 hc)
        · exact hall x hx
    · obtain ⟨new, he, hsub, hall, hnd⟩ := ih (acc ++ [c]) (n0 ++ [c.id])
      rw [List.append_assoc, List.append_assoc] at he
      rw [List.append_assoc] at hall hnd
      refine ⟨c :: new, ?_, ?_, ?_, fun hn => hnd ?_⟩
      · rw [List.foldl_cons, visit, if_neg hc, he]; rfl
      · intro f hf
        rcases List.mem_cons.mp hf with rfl | hf
        · exact List.mem_cons_self
        · exact List.mem_cons_of_mem _ (hsub f hf)
      · intro x hx
        rcases List.mem_cons.mp hx with rfl | hx
        · exact List.mem_map_of_mem (List.mem_append_right _ List.mem_cons_self)
        · exact hall x hx
      · rw [ids, List.map_append]
        refine List.nodup_append.2 ⟨hn, List.pairwise_singleton _ _, ?_⟩
        intro a ha b hb e
        have e : a = c.id := e.trans (List.mem_singleton.1 hb)
        exact hc (hany.2 (e ▸ ha))

structure BInv (w : OW) (id : Id) (q : List Id) (acc : List Feat) : Prop where
  sound : ∀ f ∈ acc, f ∈ w.merged ∧ ReachPlus (rl w.merged) id f.id
  queue : ∀ x ∈ q, x = id ∨ x ∈ ids acc
  closed : ∀ x, (x = id ∨ x ∈ ids acc) → x ∈ q ∨ ∀ f, Direct w x f → f.id ∈ ids acc
  nodup : (ids acc).Nodup

theorem BInv.length_le {w : OW} {id : Id} {q : List Id} {acc : List Feat} (h : BInv w id q acc) :
    acc.length ≤ w.merged.length := by
  have hlen := h.nodup.length_le_of_subset (l₂ := ids w.merged) fun i =>
    List.forall_mem_map.2 (fun f hf => List.mem_map_of_mem (h.sound f hf).1) i
  rwa [ids, ids, List.length_map, List.length_map] at hlen

theorem BInv.init (w : OW) (id : Id) : BInv w id [id] [] :=
  ⟨fun _ hf => (nomatch hf), fun _ hx => .inl (List.mem_singleton.mp hx),
    fun _ hx => .inl (List.mem_singleton.mpr (hx.resolve_right fun h => nomatch h)), List.nodup_nil⟩

theorem BInv.round {w : OW} {id x : Id} {q : List Id} {acc new : List Feat} (h : BInv w id (x :: q) acc)
    (hsub : ∀ f ∈ new, Direct w x f) (hall : ∀ f, Direct w x f → f.id ∈ ids (acc ++ new))
    (hnd : (ids (acc ++ new)).Nodup) : BInv w id (q ++ ids new) (acc ++ new) := by
  have hids : ∀ i, i ∈ ids (acc ++ new) ↔ i ∈ ids acc ∨ i ∈ ids new := fun i => by
    rw [ids, List.map_append, List.mem_append]
  refine ⟨fun f hf => ?_, fun y hy => ?_, fun y hy => ?_, hnd⟩
  · rcases List.mem_append.mp hf with hf | hf
    · exact h.sound f hf
    · have hd := hsub f hf
      have hedge : Refers (rl w.merged) x f.id := refers_merged.2 ⟨f, hd, rfl⟩
      rcases h.queue x List.mem_cons_self with rfl | hx
      · exact ⟨hd.1, .direct hedge⟩
      · obtain ⟨g, hg, rfl⟩ := List.mem_map.mp hx
        exact ⟨hd.1, .step (h.sound g hg).2 hedge⟩
  · rcases List.mem_append.mp hy with hy | hy
    · exact (h.queue y (List.mem_cons_of_mem _ hy)).imp_right fun hi => (hids y).2 (.inl hi)
    · exact .inr ((hids y).2 (.inr hy))
  · by_cases hyx : y = x
    · exact .inr fun f hf => hall f (hyx ▸ hf)
    · have hold : (y = id ∨ y ∈ ids acc) ∨ y ∈ ids new := by
        rcases hy with hy | hy
        · exact .inl (.inl hy)
        · exact ((hids y).1 hy).imp_left .inr
      rcases hold with hold | hnew
      · -- `y` was seen before this round: it is still queued, or its referrers were collected then
        rcases h.closed y hold with hq | hp
        · exact .inl (List.mem_append_left _ ((List.mem_cons.mp hq).resolve_left hyx))
        · exact .inr fun f hf => (hids _).2 (.inl (hp f hf))
      · exact .inl (List.mem_append_right _ hnew)

theorem bfs_spec (w : OW) (ho : NodupIds w.overlay) (hb : NodupIds w.base) (id : Id)
    (hlayers : ∀ x, (w.stepCands x).isSome = true) :
    ∀ (fuel : Nat) (q : List Id) (acc : List Feat), BInv w id q acc →
      q.length + w.merged.length ≤ fuel + acc.length →
      ∃ R, w.bfs fuel q acc = some R ∧ BInv w id [] R := by
  intro fuel q acc hinv hJ
  fun_induction OW.bfs w fuel q acc with
  | case1 _ acc => exact ⟨acc, rfl, hinv⟩
  | case2 x q acc =>
    have := hinv.length_le
    rw [List.length_cons] at hJ
    omega
  | case3 fuel x q acc hC => exact nomatch hC ▸ hlayers x
  | case4 fuel x q acc C hC ih =>
    obtain ⟨new, hfold, hsub, hall, hnd⟩ := visit_fold C acc []
    have hCm := stepCands_mem ho hb hC
    rw [hfold, List.nil_append] at ih ⊢
    refine ih (hinv.round (fun f hf => (hCm f).mp (hsub f hf)) (fun f hf => hall f ((hCm f).mpr hf))
      (hnd hinv.nodup)) ?_
    simp only [List.length_append, List.length_cons, ids, List.length_map] at hJ ⊢
    omega

theorem closed_complete {w : OW} {id : Id} {R : List Feat} (h : BInv w id [] R) :
    ∀ s, ReachPlus (rl w.merged) id s → s ∈ ids R := by
  have step : ∀ x s, (x = id ∨ x ∈ ids R) → Refers (rl w.merged) x s → s ∈ ids R := by
    intro x s hx hd
    obtain ⟨f, hf, hid⟩ := refers_merged.1 hd
    rcases h.closed x hx with hq | hp
    · cases hq
    · exact hid ▸ hp f hf
  intro s hr
  induction hr with
  | direct hd => exact step _ _ (Or.inl rfl) hd
  | step _ hd ih => exact step _ _ (Or.inr ih) hd

end B6.Lemmas.OverlayBfs
