import B6.Model.Cells
import B6.Lemmas.Basic.Dedup
/-!
Which `s2:` / `a2:` tokens the functions of `B6.Model.Cells` emit, for `B6.Props.C04`.  The notion is containment:
`Covers p c`, "`p` is `c` or an ancestor of `c`" (same face, prefix of the child positions); two cells intersect when one
covers the other (`intersects_iff`: `Covers a b` or `b` a proper ancestor of `a`, the cases of the two kinds of token).
Both loops of spatial.go climb the ladder one rung (`parent?`) at a time, `chain` cell by cell, `cellIDAncestorTokens` a
set of cells per round; an ancestor of `c` covers `c`'s parent (`isAncestor_iff_parent`), so with enough fuel `chain`
lists exactly the cells that cover `c` (`mem_chain_of_le`).
-/
namespace B6.Lemmas.Cells
open B6.Model.Cells

theorem mem_dedup {α} [DecidableEq α] (x : α) (l : List α) : x ∈ dedup l ↔ x ∈ l :=
  (Basic.dedup_keepLast (c := fun x xs => x ∈ xs) (fun _ _ _ => Iff.rfl) rfl (fun _ _ => rfl) l).2 x

/-! ### `Cell.up`, the ancestor `k` levels up: what the model's definition says -/

theorem level_up (c : Cell) (k : Nat) : (c.up k).level = c.level - k := by
  show (c.path.take (c.level - k)).length = _
  rw [List.length_take]
  exact Nat.min_eq_left (Nat.sub_le _ _)

theorem up_zero (c : Cell) : c.up 0 = c := by
  rw [Cell.up, Nat.sub_zero, Cell.level, List.take_length]

theorem up_up (c : Cell) (j k : Nat) : (c.up j).up k = c.up (j + k) := by
  show (⟨c.face, (c.path.take (c.level - j)).take ((c.up j).level - k)⟩ : Cell) = _
  rw [level_up, List.take_take, Nat.sub_sub,
    Nat.min_eq_left (Nat.sub_le_sub_left (Nat.le_add_right j k) _), Cell.up]

theorem up_face (c : Cell) (k : Nat) : (c.up k).face = c.face := rfl

theorem isAncestor_iff (a c : Cell) :
    Cell.IsAncestor a c ↔ ∃ k, 1 ≤ k ∧ k ≤ c.level ∧ a = c.up k := by
  constructor
  · rintro ⟨hf, hp, hl⟩
    refine ⟨c.level - a.level, Nat.sub_pos_of_lt hl, Nat.sub_le _ _, ?_⟩
    show a = ⟨c.face, c.path.take (c.path.length - (c.path.length - a.path.length))⟩
    rw [Nat.sub_sub_self (Nat.le_of_lt hl), ← hf, ← List.prefix_iff_eq_take.mp hp]
  · rintro ⟨k, h1, h2, rfl⟩
    refine ⟨rfl, List.take_prefix _ _, ?_⟩
    show (c.up k).level < c.level
    rw [level_up]; omega

/-! ### containment, and one rung of the ladder -/

theorem parent?_eq_some (c p : Cell) : c.parent? = some p ↔ c.level ≠ 0 ∧ p = c.up 1 := by
  by_cases h : c.level = 0 <;> simp [Cell.parent?, h, eq_comm]

/-- `p` is `c` or one of its ancestors: the cell `p` contains the cell `c` -/
def Covers (p c : Cell) : Prop := p.face = c.face ∧ p.path <+: c.path

theorem covers_iff (p c : Cell) : Covers p c ↔ p = c ∨ Cell.IsAncestor p c := by
  constructor
  · rintro ⟨hf, hp⟩
    by_cases hl : p.path.length = c.path.length
    · cases p; cases c; cases hf; cases hp.eq_of_length hl; exact Or.inl rfl
    · exact Or.inr ⟨hf, hp, Nat.lt_of_le_of_ne hp.length_le hl⟩
  · rintro (rfl | ⟨hf, hp, _⟩)
    · exact ⟨rfl, List.prefix_rfl⟩
    · exact ⟨hf, hp⟩

theorem intersects_iff (a b : Cell) : Cell.Intersects a b ↔ Covers a b ∨ Cell.IsAncestor b a := by
  rw [covers_iff]; exact or_assoc.symm

theorem isAncestor_iff_parent (p c : Cell) :
    Cell.IsAncestor p c ↔ ∃ c', c.parent? = some c' ∧ Covers p c' := by
  simp only [parent?_eq_some]
  constructor
  · rintro ⟨hf, hp, hl⟩
    exact ⟨_, ⟨Nat.ne_zero_of_lt hl, rfl⟩, hf, List.prefix_take_iff.mpr ⟨hp, Nat.le_sub_one_of_lt hl⟩⟩
  · rintro ⟨_, ⟨h0, rfl⟩, hf, hp⟩
    obtain ⟨hp, hl⟩ := List.prefix_take_iff.mp hp
    exact ⟨hf, hp, Nat.lt_of_le_pred (Nat.pos_of_ne_zero h0) hl⟩

theorem level_parent {c c' : Cell} (h : c.parent? = some c') : c'.level = c.level - 1 := by
  rw [((parent?_eq_some c c').mp h).2, level_up]

theorem mem_chain_succ (p c : Cell) (n : Nat) :
    p ∈ chain (n + 1) c ↔ p = c ∨ ∃ c', c.parent? = some c' ∧ p ∈ chain n c' := by
  rw [chain, List.mem_cons]
  cases c.parent? <;> simp

theorem mem_chain_of_le (p : Cell) : ∀ (n : Nat) (c : Cell), c.level ≤ n → (p ∈ chain n c ↔ Covers p c) := by
  intro n
  induction n with
  | zero =>
    intro c hc
    rw [chain, List.mem_singleton, covers_iff]
    exact (or_iff_left fun h => Nat.not_lt_zero _ (Nat.lt_of_lt_of_le h.2.2 hc)).symm
  | succ n ih =>
    intro c hc
    rw [mem_chain_succ, covers_iff, isAncestor_iff_parent p c]
    exact or_congr_right (exists_congr fun c' => and_congr_right fun h =>
      ih c' (level_parent h ▸ Nat.sub_le_of_le_add hc))

theorem mem_selfAndAncestors (p c : Cell) : p ∈ selfAndAncestors c ↔ Covers p c :=
  mem_chain_of_le p c.level c (Nat.le_refl _)

theorem mem_parents (p : Cell) (cells : List Cell) :
    p ∈ parents cells ↔ ∃ c ∈ cells, c.parent? = some p := by
  simp only [parents, mem_dedup, List.mem_filterMap]

theorem ancestorTokensAux_nil : ∀ n, ancestorTokensAux n [] = []
  | 0 => rfl
  | _ + 1 => rfl

/-- the emptiness test of the loop only saves a round: the parents of no cells are no cells -/
theorem ancestorTokensAux_succ (n : Nat) (cells : List Cell) :
    ancestorTokensAux (n + 1) cells =
      (parents cells).map Token.a2 ++ ancestorTokensAux n (parents cells) := by
  cases cells with
  | nil => exact (ancestorTokensAux_nil n).symm
  | cons c cs => rfl

theorem mem_ancestorTokensAux (t : Token) : ∀ (n : Nat) (cells : List Cell),
    t ∈ ancestorTokensAux (n + 1) cells ↔ ∃ c ∈ parents cells, ∃ p ∈ chain n c, t = Token.a2 p := by
  intro n
  induction n with
  | zero =>
    intro cells
    rw [ancestorTokensAux_succ]
    simp only [ancestorTokensAux, List.append_nil, List.mem_map, chain, List.mem_singleton,
      exists_eq_left, eq_comm (a := t)]
  | succ n ih =>
    intro cells
    rw [ancestorTokensAux_succ, List.mem_append, ih, List.mem_map]
    simp only [mem_chain_succ, mem_parents (cells := parents cells)]
    constructor
    · rintro (⟨c, hc, rfl⟩ | ⟨c', ⟨c, hc, hp⟩, p, hpc, rfl⟩)
      · exact ⟨c, hc, c, Or.inl rfl, rfl⟩
      · exact ⟨c, hc, p, Or.inr ⟨c', hp, hpc⟩, rfl⟩
    · rintro ⟨c, hc, p, rfl | ⟨c', hp, hpc⟩, rfl⟩
      · exact Or.inl ⟨p, hc, rfl⟩
      · exact Or.inr ⟨c', ⟨c, hc, hp⟩, p, hpc, rfl⟩

theorem level_le_maxLevel {c : Cell} {cells : List Cell} (h : c ∈ cells) : c.level ≤ maxLevel cells := by
  induction cells with
  | nil => cases h
  | cons d ds ih =>
    rw [maxLevel, List.foldr_cons, ← maxLevel]
    cases h with
    | head => exact Nat.le_max_left ..
    | tail _ h' => exact Nat.le_trans (ih h') (Nat.le_max_right ..)

theorem a2_mem_ancestorTokens (p : Cell) (cov : List Cell) :
    Token.a2 p ∈ cellIDAncestorTokens cov ↔ ∃ c ∈ cov, Cell.IsAncestor p c := by
  simp only [cellIDAncestorTokens, mem_ancestorTokensAux, Token.a2.injEq, exists_eq_right', mem_parents]
  -- `maxLevel cov` is fuel enough for the parent of every covering cell
  have hb : ∀ {c c'}, c ∈ cov → c.parent? = some c' → c'.level ≤ maxLevel cov := fun hc hp =>
    level_parent hp ▸ Nat.le_trans (Nat.sub_le _ _) (level_le_maxLevel hc)
  constructor
  · rintro ⟨c', ⟨c, hc, hp⟩, h⟩
    exact ⟨c, hc, (isAncestor_iff_parent p c).mpr ⟨c', hp, (mem_chain_of_le p _ c' (hb hc hp)).mp h⟩⟩
  · rintro ⟨c, hc, h⟩
    obtain ⟨c', hp, h⟩ := (isAncestor_iff_parent p c).mp h
    exact ⟨c', ⟨c, hc, hp⟩, (mem_chain_of_le p _ c' (hb hc hp)).mpr h⟩

theorem s2_not_mem_ancestorTokens (p : Cell) (cov : List Cell) :
    Token.s2 p ∉ cellIDAncestorTokens cov :=
  fun h => by obtain ⟨_, _, _, _, e⟩ := (mem_ancestorTokensAux _ _ _).mp h; cases e

theorem s2_mem_tokens (skip0 : Bool) (p : Cell) (cov : List Cell) :
    Token.s2 p ∈ tokensForCoveringWith skip0 cov ↔ p ∈ cov ∧ ¬ (skip0 = true ∧ p.level = 0) := by
  simp only [tokensForCoveringWith, List.mem_append, List.mem_map, List.mem_filter, Token.s2.injEq,
    exists_eq_right, s2_not_mem_ancestorTokens, or_false, Bool.not_eq_true', ← Bool.not_eq_true,
    Bool.and_eq_true, beq_iff_eq]

theorem a2_mem_tokens (skip0 : Bool) (p : Cell) (cov : List Cell) :
    Token.a2 p ∈ tokensForCoveringWith skip0 cov ↔ ∃ c ∈ cov, Cell.IsAncestor p c := by
  simp only [tokensForCoveringWith, List.mem_append, List.mem_map, reduceCtorEq, and_false,
    exists_false, false_or, a2_mem_ancestorTokens]

theorem s2_mem_rewrite (p : Cell) (q : List Cell) :
    Token.s2 p ∈ rewriteSpatialQuery q ↔ ∃ c ∈ q, Covers p c := by
  simp only [rewriteSpatialQuery, List.mem_append, List.mem_map, reduceCtorEq, and_false, exists_false,
    false_or, Token.s2.injEq, exists_eq_right, mem_dedup, List.mem_flatMap, mem_selfAndAncestors]

theorem a2_mem_rewrite (p : Cell) (q : List Cell) :
    Token.a2 p ∈ rewriteSpatialQuery q ↔ p ∈ q := by
  simp only [rewriteSpatialQuery, List.mem_append, List.mem_map, Token.a2.injEq, exists_eq_right,
    reduceCtorEq, and_false, exists_false, or_false]

theorem shares_iff (ts rs : List Token) : shares ts rs = true ↔ ∃ t, t ∈ ts ∧ t ∈ rs := by
  simp only [shares, List.any_eq_true, decide_eq_true_eq]

theorem coveringsMeet_iff (f q : List Cell) :
    coveringsMeet f q = true ↔ ∃ a ∈ f, ∃ b ∈ q, Cell.Intersects a b := by
  simp only [coveringsMeet, List.any_eq_true, decide_eq_true_eq]

end B6.Lemmas.Cells
