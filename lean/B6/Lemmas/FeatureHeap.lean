import B6.Model.FeatureHeap
import B6.Lemmas.Basic.List
/-!
Ownership / frame reasoning on the feature heap model (`Model/FeatureHeap.lean`), for `B6.Props.C38`.

`Step F st st' F'` — "an operation whose footprint was `F` took the store from `st` to `st'` and its
footprint became `F'`": the store only grew, every existing array outside `F` is untouched, `F'` consists
of arrays of `F` and freshly allocated ones, and `F'` is allocated in `st'`.  `Outside` is the side condition of
every frame rule.

A primitive on a slice `s` is a `Step (addrs s) _ _ (addrs s')`; an operation of the feature API is a chain of
primitives, each lifted to the feature through the slot of `slices` it replaces (`lift_slot`).  Names: `X_step`
is the footprint rule OF the operation `X` (`append_step`, `mutate_step`, `cloneFeat_step` …), `X_cells` / `X_spec`
add what is read afterwards; `lift_X` carries a `Step` on the slot `X` of a feature to the feature.
-/
namespace B6.Lemmas.FeatureHeap
open B6.Model.FeatureHeap

/-- `valid` speaks of the result only: that `F` is allocated BEFORE is not part of a `Step`, which is why `Step.refl` and
`lift_step` ask for it -/
structure Step (F : List Nat) (st st' : Store) (F' : List Nat) : Prop where
  grow : st.length ≤ st'.length
  frame : ∀ a, a < st.length → a ∉ F → st'[a]? = st[a]?
  sub : ∀ a ∈ F', a ∈ F ∨ st.length ≤ a
  valid : ∀ a ∈ F', a < st'.length

theorem Step.refl {F : List Nat} {st : Store} (hv : ∀ a ∈ F, a < st.length) : Step F st st F :=
  ⟨Nat.le_refl _, fun _ _ _ => rfl, fun _ h => Or.inl h, hv⟩

/-- keeps what the first operation returned; `trans` forgets it -/
theorem Step.seq {F F1 G G2 : List Nat} {st st1 st2 : Store}
    (h1 : Step F st st1 F1) (h2 : Step G st1 st2 G2) (hG : ∀ a ∈ G, a ∈ F ∨ a ∈ F1) :
    Step F st st2 (F1 ++ G2) := by
  have old : ∀ a ∈ G, a ∈ F ∨ st.length ≤ a := fun a ha => (hG a ha).elim Or.inl (h1.sub a)
  refine ⟨Nat.le_trans h1.grow h2.grow, fun a ha hF => ?_, fun a ha => ?_, fun a ha => ?_⟩
  · rw [h2.frame a (Nat.lt_of_lt_of_le ha h1.grow) (fun hg => (old a hg).elim hF (by omega)),
      h1.frame a ha hF]
  · rcases List.mem_append.mp ha with h | h
    · exact h1.sub a h
    · exact (h2.sub a h).elim (old a) (fun h => Or.inr (Nat.le_trans h1.grow h))
  · rcases List.mem_append.mp ha with h | h
    · exact Nat.lt_of_lt_of_le (h1.valid a h) h2.grow
    · exact h2.valid a h

theorem Step.weaken {F F' F'' : List Nat} {st st' : Store} (h : Step F st st' F')
    (hs : ∀ a ∈ F'', a ∈ F') : Step F st st' F'' :=
  ⟨h.grow, h.frame, fun a ha => h.sub a (hs a ha), fun a ha => h.valid a (hs a ha)⟩

theorem Step.trans {F F1 F2 : List Nat} {st st1 st2 : Store}
    (h1 : Step F st st1 F1) (h2 : Step F1 st1 st2 F2) : Step F st st2 F2 :=
  (h1.seq h2 (fun _ h => Or.inr h)).weaken (fun _ h => List.mem_append_right _ h)

theorem Step.mono_left {F G F' : List Nat} {st st' : Store} (h : Step F st st' F')
    (hs : ∀ a ∈ F, a ∈ G) : Step G st st' F' :=
  ⟨h.grow, fun a ha hG => h.frame a ha (fun hF => hG (hs a hF)),
   fun a ha => (h.sub a ha).imp (hs a) id, h.valid⟩

theorem Step.of_pure {F F' : List Nat} {st st' : Store} (h : Step [] st st' F') : Step F st st' F' :=
  h.mono_left (fun _ h => nomatch h)

theorem Step.nil (st : Store) : Step [] st st [] := Step.refl (fun _ h => nomatch h)

theorem Step.pure_seq {X Y : List Nat} {st st1 st2 : Store} (h1 : Step [] st st1 X) (h2 : Step [] st1 st2 Y) :
    Step [] st st2 (X ++ Y) := h1.seq h2 (fun _ h => nomatch h)

/-- the arrays `X` are allocated in `st` and none of them is in `W` -/
def Outside (st : Store) (W X : List Nat) : Prop := ∀ a ∈ X, a < st.length ∧ a ∉ W

theorem Step.notin {F F' G : List Nat} {st st' : Store} (h : Step F st st' F')
    (hG : Outside st F G) {a : Nat} (ha : a ∈ F') : a ∉ G := fun hg =>
  (h.sub a ha).elim (hG a hg).2 (fun hge => Nat.lt_irrefl _ (Nat.lt_of_lt_of_le (hG a hg).1 hge))

theorem Outside.nil {st : Store} {X : List Nat} (hv : ∀ a ∈ X, a < st.length) : Outside st [] X :=
  fun a ha => ⟨hv a ha, List.not_mem_nil⟩

theorem Outside.mono {st st' : Store} {W W' X X' : List Nat} (h : Outside st W X)
    (hg : st.length ≤ st'.length) (hW : ∀ a ∈ W', a ∈ W) (hX : ∀ a ∈ X', a ∈ X) : Outside st' W' X' :=
  fun a ha => ⟨Nat.lt_of_lt_of_le (h a (hX a ha)).1 hg, fun hm => (h a (hX a ha)).2 (hW a hm)⟩

/-- what a step returned is outside every older, other footprint -/
theorem Step.result_outside {F F' G : List Nat} {st st' : Store} (h : Step F st st' F')
    (hG : Outside st F G) : Outside st' G F' :=
  fun a ha => ⟨h.valid a ha, h.notin hG ha⟩

/-- what was outside the footprint is outside the result, in the grown store -/
theorem Step.outside_after {F F' G : List Nat} {st st' : Store} (h : Step F st st' F')
    (hG : Outside st F G) : Outside st' F' G :=
  fun a ha => ⟨Nat.lt_of_lt_of_le (hG a ha).1 h.grow, fun hm => h.notin hG hm ha⟩

/-! ### store primitives: the footprint of each, and what it leaves readable -/

theorem push_step (st : Store) (arr : List Cell) : Step [] st (st ++ [arr]) [st.length] := by
  refine ⟨by simp, fun a ha _ => List.getElem?_append_left ha, fun a ha => ?_, fun a ha => ?_⟩ <;>
    rw [List.mem_singleton.mp ha]
  · exact Or.inr (Nat.le_refl _)
  · simp

theorem alloc_length (st : Store) (cs : List Cell) : (alloc st cs).1.length = st.length + 1 := by
  simp [alloc]

theorem alloc_addr (st : Store) (cs : List Cell) : (alloc st cs).2.addr = st.length := rfl

theorem alloc_step (st : Store) (cs : List Cell) :
    Step [] st (alloc st cs).1 (addrs (some (alloc st cs).2)) :=
  push_step st cs

theorem set_step {st : Store} {a : Nat} {arr : List Cell} (ha : a < st.length) :
    Step [a] st (st.set a arr) [a] := by
  refine ⟨by simp, fun b _ hb => ?_, fun x hx => Or.inl hx, fun x hx => ?_⟩
  · exact List.getElem?_set_ne (fun e => hb (by simp [e]))
  · simpa [List.mem_singleton.mp hx] using ha

theorem cells_none (st : Store) : cells st none = some [] := rfl

theorem cells_alloc (st : Store) (cs : List Cell) :
    cells (alloc st cs).1 (some (alloc st cs).2) = some cs := by
  simp [cells, alloc]

theorem cells_some_arr {st : Store} {s : Slice} {arr : List Cell} (ha : st[s.addr]? = some arr)
    (hl : s.len ≤ arr.length) : cells st (some s) = some (arr.take s.len) := by
  simp [cells, ha, hl]

theorem cells_set_self {st : Store} {a n : Nat} {arr : List Cell} (ha : a < st.length)
    (hn : n ≤ arr.length) : cells (st.set a arr) (some ⟨a, n⟩) = some (arr.take n) :=
  cells_some_arr (List.getElem?_set_self ha) hn

theorem cells_allocCap (st : Store) (cs pad : List Cell) :
    cells (allocCap st cs pad).1 (some (allocCap st cs pad).2) = some cs := by
  simp [cells, allocCap]

theorem cells_length {st : Store} {s : Slice} {cs : List Cell} (h : cells st (some s) = some cs) :
    cs.length = s.len := by
  dsimp only [cells] at h
  split at h
  · cases h
  · split at h <;> cases h
    next hl => exact List.length_take_of_le hl

theorem write_step {st st' : Store} {s : Option Slice} {i : Nat} {c : Cell}
    (h : write st s i c = some st') : Step (addrs s) st st' (addrs s) := by
  revert h
  fun_cases write st s i c with
  | case3 s arr harr => rintro ⟨⟩; exact set_step (Basic.lt_length_of_getElem? harr)
  | case1 | case2 | case4 => nofun

theorem append_step {st : Store} {s : Option Slice} {cs : List Cell} {r : Store × Option Slice}
    (h : append st s cs = some r) : Step (addrs s) st r.1 (addrs r.2) := by
  revert h
  fun_cases append st s cs with
  | case1 => rintro ⟨⟩; exact Step.nil _
  | case2 => rintro ⟨⟩; exact alloc_step st cs
  | case4 s arr harr => rintro ⟨⟩; exact set_step (Basic.lt_length_of_getElem? harr)
  | case5 s arr harr => rintro ⟨⟩; exact (push_step st _).of_pure
  | case3 | case6 => nofun

/-- `append` yields the old visible elements followed by the new ones, whether it wrote in place or
re-allocated — i.e. whatever the capacity was -/
theorem append_cells {st st' : Store} {s s' : Option Slice} {cs xs : List Cell}
    (h : append st s cs = some (st', s')) (hx : cells st s = some xs) :
    cells st' s' = some (xs ++ cs) := by
  revert h
  fun_cases append st s cs with
  | case1 hcs => rintro ⟨⟩; cases hx; rw [hcs]; rfl
  | case2 => rintro ⟨⟩; cases hx; exact cells_alloc st cs
  | case4 s arr harr hl hfit =>
    rintro ⟨⟩
    cases (cells_some_arr harr hl).symm.trans hx
    have hlen : (arr.take s.len ++ cs).length = s.len + cs.length := by
      rw [List.length_append, List.length_take_of_le hl]
    rw [cells_set_self (Basic.lt_length_of_getElem? harr) (by rw [List.length_append, hlen]; omega)]
    exact congrArg some (List.take_left' hlen)
  | case5 s arr harr hl _ =>
    rintro ⟨⟩
    cases (cells_some_arr harr hl).symm.trans hx
    exact cells_allocCap st _ _
  | case3 | case6 => nofun

theorem mergeInto_step {st : Store} {d : Option Slice} {src : List Cell} {r : Store × Option Slice}
    (h : mergeInto st d src = some r) : Step (addrs d) st r.1 (addrs r.2) := by
  revert h
  fun_cases mergeInto st d src with
  | case1 => intro h; exact append_step h
  | case3 d arr harr => intro h; exact (set_step (Basic.lt_length_of_getElem? harr)).trans (append_step h)
  | case4 d arr harr => rintro ⟨⟩; exact set_step (Basic.lt_length_of_getElem? harr)
  | case2 | case5 => nofun

/-- the `copy` + `append`/truncate idiom leaves exactly the source's elements visible, whatever the
receiver's old length and capacity were (shorter, equal, longer; nil) -/
theorem mergeInto_cells {st st' : Store} {d d' : Option Slice} {src : List Cell}
    (h : mergeInto st d src = some (st', d')) : cells st' d' = some src := by
  revert h
  fun_cases mergeInto st d src with
  | case1 => intro h; exact append_cells (s := none) h rfl
  | case3 d arr harr hl hshort =>
    -- `copy` fills the receiver's `len` elements, `append` adds the rest of the source
    intro h
    rw [Nat.min_eq_left (by omega)] at h
    have hlen : (src.take d.len).length = d.len := List.length_take_of_le (by omega)
    have := append_cells h ((cells_set_self (Basic.lt_length_of_getElem? harr)
      (by rw [List.length_append, hlen]; omega)).trans (congrArg some (List.take_left' hlen)))
    rwa [List.take_append_drop] at this
  | case4 d arr harr hl hlong =>
    -- the source fits: `copy` all of it and truncate
    rintro ⟨⟩
    rw [Nat.min_eq_right (by omega), List.take_of_length_le (Nat.le_refl _),
      cells_set_self (Basic.lt_length_of_getElem? harr) (by rw [List.length_append]; omega)]
    exact congrArg some (List.take_left' rfl)
  | case2 | case5 => nofun

theorem cloneMake_eq {st : Store} {s : Option Slice} {r : Store × Option Slice}
    (h : cloneMake st s = some r) :
    ∃ cs, cells st s = some cs ∧ r = ((alloc st cs).1, some (alloc st cs).2) := by
  unfold cloneMake at h
  split at h
  · cases h
  · next cs hc => exact ⟨cs, hc, (Option.some.inj h).symm⟩

theorem cloneMake_step {st : Store} {s : Option Slice} {r : Store × Option Slice}
    (h : cloneMake st s = some r) : Step [] st r.1 (addrs r.2) := by
  obtain ⟨cs, _, rfl⟩ := cloneMake_eq h
  exact alloc_step st cs

theorem cloneMake_cells {st : Store} {s : Option Slice} {r : Store × Option Slice}
    (h : cloneMake st s = some r) : cells r.1 r.2 = cells st s := by
  obtain ⟨cs, hc, rfl⟩ := cloneMake_eq h
  exact (cells_alloc st cs).trans hc.symm

theorem cloneKeepNil_step {st : Store} {s : Option Slice} {r : Store × Option Slice}
    (h : cloneKeepNil st s = some r) : Step [] st r.1 (addrs r.2) := by
  cases s with
  | none => cases h; exact Step.nil _
  | some s => exact cloneMake_step h

theorem cloneKeepNil_cells {st : Store} {s : Option Slice} {r : Store × Option Slice}
    (h : cloneKeepNil st s = some r) : cells r.1 r.2 = cells st s := by
  cases s with
  | none => cases h; rfl
  | some s => exact cloneMake_cells h

/-! ### tag operations -/

theorem tagsSet_step {st : Store} {t : Option Slice} {k v : String} {r : Store × Option Slice}
    (h : tagsSet st t k v = some r) : Step (addrs t) st r.1 (addrs r.2) := by
  revert h
  fun_cases tagsSet st t k v with
  | case1 => nofun
  | case2 => rw [Option.map_eq_some_iff]; rintro ⟨st1, hw, rfl⟩; exact write_step hw
  | case3 => intro h; exact append_step h

theorem tagsRemove_step {st : Store} {t : Option Slice} {k : String} {r : Store × Option Slice}
    (h : tagsRemove st t k = some r) : Step (addrs t) st r.1 (addrs r.2) := by
  revert h
  fun_cases tagsRemove st t k with
  | case1 => rintro ⟨⟩; exact Step.nil _
  | case6 s arr harr => rintro ⟨⟩; exact set_step (Basic.lt_length_of_getElem? harr)
  | case2 | case3 | case4 | case5 | case7 => nofun

theorem tagsRemoveMany_step {ks : List String} : ∀ {st : Store} {t : Option Slice}
    {r : Store × Option Slice}, tagsRemoveMany st t ks = some r → (∀ a ∈ addrs t, a < st.length) →
    Step (addrs t) st r.1 (addrs r.2) := by
  intro st t r h hv
  fun_induction tagsRemoveMany st t ks with
  | case1 st t => cases h; exact Step.refl hv
  | case2 st t k ks hr => cases h
  | case3 st t k ks r1 hr ih =>
    have h1 := tagsRemove_step hr
    exact h1.trans (ih h h1.valid)

theorem tagsSetAt_step {st : Store} {vals : Vals} {t : Option Slice} {k e : String} {i : Nat}
    {r : Store × Vals × Option Slice} (h : tagsSetAt st vals t k i e = some r) :
    Step (addrs t) st r.1 (addrs r.2.2) ∧ ∃ ext, r.2.1 = vals ++ ext := by
  revert h
  fun_cases tagsSetAt st vals t k i e with
  | case3 => rw [Option.map_eq_some_iff]; rintro ⟨st1, hw, rfl⟩; exact ⟨write_step hw, _, rfl⟩
  | case4 => rw [Option.map_eq_some_iff]; rintro ⟨a, ha, rfl⟩; exact ⟨append_step ha, _, rfl⟩
  | case1 | case2 => nofun

theorem tagsSetList_step {st : Store} {vals : Vals} {t : Option Slice} {k : String} {lit : List String}
    {spare : Nat} {r : Store × Vals × Option Slice} (h : tagsSetList st vals t k lit spare = some r) :
    Step (addrs t) st r.1 (addrs r.2.2) ∧ ∃ ext, r.2.1 = vals ++ ext := by
  revert h
  fun_cases tagsSetList st vals t k lit spare with
  | case1 => nofun
  | case2 => rw [Option.map_eq_some_iff]; rintro ⟨st1, hw, rfl⟩; exact ⟨write_step hw, _, rfl⟩
  | case3 => rw [Option.map_eq_some_iff]; rintro ⟨a, ha, rfl⟩; exact ⟨append_step ha, _, rfl⟩

/-! ### features: footprint, allocation, the unused fields of a kind, no array in common -/

/-- the slice headers of a feature, in the order of `fp` -/
def slices (f : Feat) : List (Option Slice) :=
  f.tags :: f.polygons :: f.members :: f.keys :: f.values :: f.ids

theorem mem_fp {f : Feat} {a : Nat} : a ∈ fp f ↔ ∃ s ∈ slices f, a ∈ addrs s := by
  simp [fp, slices]

theorem fp_of_slot {f : Feat} {n : Nat} {s : Option Slice} (hs : (slices f)[n]? = some s) {a : Nat}
    (ha : a ∈ addrs s) : a ∈ fp f :=
  mem_fp.mpr ⟨s, List.mem_of_getElem? hs, ha⟩

theorem fp_ids {f : Feat} {a : Nat} (ha : a ∈ f.ids.flatMap addrs) : a ∈ fp f := by
  obtain ⟨s, hs, ha⟩ := List.mem_flatMap.mp ha
  exact mem_fp.mpr ⟨s, by simp [slices, hs], ha⟩

theorem fp_tags {f : Feat} {a : Nat} (h : a ∈ addrs f.tags) : a ∈ fp f := fp_of_slot (n := 0) rfl h

theorem fp_polygons {f : Feat} {a : Nat} (h : a ∈ addrs f.polygons) : a ∈ fp f := fp_of_slot (n := 1) rfl h

theorem fp_members {f : Feat} {a : Nat} (h : a ∈ addrs f.members) : a ∈ fp f := fp_of_slot (n := 2) rfl h

theorem fp_keys {f : Feat} {a : Nat} (h : a ∈ addrs f.keys) : a ∈ fp f := fp_of_slot (n := 3) rfl h

theorem fp_values {f : Feat} {a : Nat} (h : a ∈ addrs f.values) : a ∈ fp f := fp_of_slot (n := 4) rfl h

def Valid (st : Store) (f : Feat) : Prop := ∀ a ∈ fp f, a < st.length

instance (st : Store) (f : Feat) : Decidable (Valid st f) := by unfold Valid; infer_instance

theorem Valid.grow {st st' : Store} {x : Feat} (hx : Valid st x) (h : st.length ≤ st'.length) :
    Valid st' x := fun a ha => Nat.lt_of_lt_of_le (hx a ha) h

theorem Valid.sub {st : Store} {f : Feat} (hv : Valid st f) {X : List Nat} (h : ∀ a ∈ X, a ∈ fp f) :
    ∀ a ∈ X, a < st.length := fun a ha => hv a (h a ha)

theorem valid_bare (st : Store) (kind : Kind) (id : String) (sorted : Bool) :
    Valid st { kind := kind, id := id, sorted := sorted } := fun _ h => nomatch h

/-- the unused fields of each feature kind are empty (`GenericFeature` has tags only, …) -/
def Proper (f : Feat) : Prop :=
  match f.kind with
  | .generic => f.ids = [] ∧ f.polygons = none ∧ f.members = none ∧ f.keys = none ∧ f.values = none
      ∧ f.sorted = false
  | .area => f.members = none ∧ f.keys = none ∧ f.values = none ∧ f.sorted = false
  | .relation => f.ids = [] ∧ f.polygons = none ∧ f.keys = none ∧ f.values = none ∧ f.sorted = false
  | .collection => f.ids = [] ∧ f.polygons = none ∧ f.members = none

instance (f : Feat) : Decidable (Proper f) := by
  unfold Proper
  split <;> infer_instance

def Disj (f g : Feat) : Prop := ∀ a ∈ fp f, a ∉ fp g

theorem Disj.symm {f g : Feat} (h : Disj f g) : Disj g f := fun a hg hf => h a hf hg

theorem Disj.outside {st : Store} {f g : Feat} (hd : Disj f g) (hg : Valid st g) : Outside st (fp f) (fp g) :=
  fun a ha => ⟨hg a ha, fun hf => hd a hf ha⟩

/-! ### from a step on arrays of a feature to a step of the feature -/

theorem lift_step {f f' : Feat} {st st' : Store} {G G' : List Nat} (hv : Valid st f)
    (h : Step G st st' G') (hG : ∀ a ∈ G, a ∈ fp f) (hf' : ∀ a ∈ fp f', a ∈ fp f ∨ a ∈ G') :
    Step (fp f) st st' (fp f') :=
  ((Step.refl hv).seq h fun a ha => Or.inl (hG a ha)).weaken fun a ha => List.mem_append.mpr (hf' a ha)

theorem lift_slot {f f' : Feat} {st st' : Store} (n : Nat) {s x : Option Slice} (hv : Valid st f)
    (hs : (slices f)[n]? = some s) (hf' : slices f' = (slices f).set n x)
    (h : Step (addrs s) st st' (addrs x)) : Step (fp f) st st' (fp f') := by
  refine lift_step hv h (fun _ => fp_of_slot hs) (fun a ha => ?_)
  obtain ⟨y, hy, hay⟩ := mem_fp.mp ha
  rw [hf'] at hy
  rcases List.mem_or_eq_of_mem_set hy with hy | rfl
  · exact Or.inl (mem_fp.mpr ⟨y, hy, hay⟩)
  · exact Or.inr hay

section
variable {f : Feat} {st st' : Store} {x : Option Slice}

theorem lift_tags (hv : Valid st f) (h : Step (addrs f.tags) st st' (addrs x)) :
    Step (fp f) st st' (fp { f with tags := x }) := lift_slot 0 hv rfl rfl h

theorem lift_polygons (hv : Valid st f) (h : Step (addrs f.polygons) st st' (addrs x)) :
    Step (fp f) st st' (fp { f with polygons := x }) := lift_slot 1 hv rfl rfl h

theorem lift_members (hv : Valid st f) (h : Step (addrs f.members) st st' (addrs x)) :
    Step (fp f) st st' (fp { f with members := x }) := lift_slot 2 hv rfl rfl h

theorem lift_keys (hv : Valid st f) (h : Step (addrs f.keys) st st' (addrs x)) :
    Step (fp f) st st' (fp { f with keys := x }) := lift_slot 3 hv rfl rfl h

theorem lift_values (hv : Valid st f) (h : Step (addrs f.values) st st' (addrs x)) :
    Step (fp f) st st' (fp { f with values := x }) := lift_slot 4 hv rfl rfl h

theorem lift_ids_set {i : Nat} {cur : Option Slice} (hv : Valid st f) (hc : f.ids[i]? = some cur)
    (h : Step (addrs cur) st st' (addrs x)) :
    Step (fp f) st st' (fp { f with ids := f.ids.set i x }) := lift_slot (i + 5) hv hc rfl h

theorem lift_ids {G G' : List Nat} {l : List (Option Slice)} (hv : Valid st f) (h : Step G st st' G')
    (hG : ∀ a ∈ G, a ∈ fp f) (hl : ∀ s ∈ l, s ∈ f.ids ∨ ∀ a ∈ addrs s, a ∈ G') :
    Step (fp f) st st' (fp { f with ids := l }) := by
  refine lift_step hv h hG (fun a ha => ?_)
  obtain ⟨y, hy, hay⟩ := mem_fp.mp ha
  -- the other five slots are those of `f`
  rcases List.mem_append.mp (show y ∈ (slices f).take 5 ++ l from hy) with hy | hy
  · exact Or.inl (mem_fp.mpr ⟨y, List.mem_of_mem_take hy, hay⟩)
  · exact (hl y hy).imp (fun hy => fp_ids (List.mem_flatMap.mpr ⟨y, hy, hay⟩)) (fun h => h a hay)

theorem lift_ids_new {l : List (Option Slice)} (hv : Valid st f) (h : Step [] st st' (l.flatMap addrs)) :
    Step (fp f) st st' (fp { f with ids := l }) :=
  lift_ids hv h (fun _ h => nomatch h) (fun s hs => Or.inr fun _ ha => List.mem_flatMap.mpr ⟨s, hs, ha⟩)

/-- an operation on `AreaMembers`: the inner slices and the polygons together -/
theorem lift_area {l : List (Option Slice)} (hv : Valid st f)
    (h : Step (f.ids.flatMap addrs ++ addrs f.polygons) st st' (l.flatMap addrs ++ addrs x)) :
    Step (fp f) st st' (fp { f with ids := l, polygons := x }) := by
  refine lift_step hv h (fun a ha => ?_) (fun a ha => ?_)
  · rcases List.mem_append.mp ha with ha | ha
    · exact fp_ids ha
    · exact fp_polygons ha
  · obtain ⟨y, hy, hay⟩ := mem_fp.mp ha
    simp only [slices, List.mem_cons] at hy
    rcases hy with rfl | rfl | rfl | rfl | rfl | hy
    · exact Or.inl (fp_tags hay)
    · exact Or.inr (List.mem_append_right _ hay)
    · exact Or.inl (fp_members hay)
    · exact Or.inl (fp_keys hay)
    · exact Or.inl (fp_values hay)
    · exact Or.inr (List.mem_append_left _ (List.mem_flatMap.mpr ⟨y, hy, hay⟩))

theorem lift_keep (n : Nat) {s : Option Slice} (hv : Valid st f) (hs : (slices f)[n]? = some s)
    (h : Step (addrs s) st st' (addrs s)) : Step (fp f) st st' (fp f) :=
  lift_step hv h (fun _ => fp_of_slot hs) (fun _ => Or.inl)

end

/-! ### the mutators -/

theorem mutate_step {st : Store} {f : Feat} {m : Mut} {r : Store × Feat}
    (h : mutate st f m = some r) (hv : Valid st f) : Step (fp f) st r.1 (fp r.2) := by
  -- a mutator guarded by the feature kind: the guard was false and the body succeeded
  have keep (n : Nat) {s : Option Slice} (hs : (slices f)[n]? = some s) {c : Prop} [Decidable c] {i : Nat}
      {x : Cell} (h : (if c then none else (write st s i x).map fun st' => (st', f)) = some r) :
      Step (fp f) st r.1 (fp r.2) := by
    obtain ⟨-, h⟩ := Option.ite_none_left_eq_some.mp h
    obtain ⟨st2, hw, rfl⟩ := Option.map_eq_some_iff.mp h
    exact lift_keep n hv hs (write_step hw)
  cases m with
  | setID id => cases h; exact Step.refl hv
  | setMember i id role => exact keep 2 rfl h
  | setKey i k => exact keep 3 rfl h
  | setValue i v => exact keep 4 rfl h
  | setTags lit => cases h; exact lift_tags hv (alloc_step st _).of_pure
  | rmAllTags => cases h; exact lift_tags hv (alloc_step st _).of_pure
  | addTag k v =>
    obtain ⟨a, ha, rfl⟩ := Option.map_eq_some_iff.mp h
    exact lift_tags hv (append_step ha)
  | setTag k v =>
    obtain ⟨a, ha, rfl⟩ := Option.map_eq_some_iff.mp h
    exact lift_tags hv (tagsSet_step ha)
  | rmTag k =>
    obtain ⟨a, ha, rfl⟩ := Option.map_eq_some_iff.mp h
    exact lift_tags hv (tagsRemove_step ha)
  | rmTags ks =>
    obtain ⟨a, ha, rfl⟩ := Option.map_eq_some_iff.mp h
    exact lift_tags hv (tagsRemoveMany_step ha (hv.sub fun _ => fp_tags))
  | setPathIDs i lit =>
    obtain ⟨hc, h⟩ := Option.ite_none_left_eq_some.mp h
    obtain ⟨st2, hw, rfl⟩ := Option.map_eq_some_iff.mp h
    -- `a.ids[i]` becomes the new literal, then `a.polygons[i] = nil`
    have s1 := lift_ids_set (i := i) hv (List.getElem?_eq_getElem (by omega))
      (alloc_step st (lit.map Cell.scalar)).of_pure
    exact s1.trans (lift_keep 1 s1.valid rfl (write_step hw))
  | setPathID i j id =>
    obtain ⟨-, h⟩ := Option.ite_none_left_eq_some.mp h
    split at h
    · cases h
    next cur hcur =>
    split at h
    · cases h
    next g hg =>
    split at h
    · cases h
    next st1 hw1 =>
    obtain ⟨st2, hw2, rfl⟩ := Option.map_eq_some_iff.mp h
    have s1 := lift_ids_set hv hcur (append_step hg)
    have s2 := lift_keep (i + 5) s1.valid
      (List.getElem?_set_self (Basic.lt_length_of_getElem? hcur)) (write_step hw1)
    exact s1.trans (s2.trans (lift_keep 1 s2.valid rfl (write_step hw2)))
  | setPolygon i p =>
    obtain ⟨hc, h⟩ := Option.ite_none_left_eq_some.mp h
    obtain ⟨st2, hw, rfl⟩ := Option.map_eq_some_iff.mp h
    have s1 := lift_keep 1 hv rfl (write_step hw)
    exact s1.trans (lift_ids_set (i := i) s1.valid (List.getElem?_eq_getElem (by omega))
      (Step.nil _).of_pure)
  | appendMember id role =>
    obtain ⟨-, h⟩ := Option.ite_none_left_eq_some.mp h
    obtain ⟨a, ha, rfl⟩ := Option.map_eq_some_iff.mp h
    exact lift_members hv (append_step ha)
  | appendKV k v =>
    obtain ⟨-, h⟩ := Option.ite_none_left_eq_some.mp h
    split at h
    · cases h
    next ks hk =>
    obtain ⟨vs, hvs, rfl⟩ := Option.map_eq_some_iff.mp h
    have s1 := lift_keys hv (append_step hk)
    exact s1.trans (lift_values s1.valid (append_step hvs))
  | sort =>
    obtain ⟨-, h⟩ := Option.ite_none_left_eq_some.mp h
    split at h
    · obtain ⟨-, h⟩ := Option.ite_none_left_eq_some.mp h
      dsimp only at h
      split at h
      · cases h
      next a ha =>
      obtain ⟨b, hb, rfl⟩ := Option.map_eq_some_iff.mp h
      have s1 := lift_keys hv (mergeInto_step ha)
      exact s1.trans (lift_values s1.valid (mergeInto_step hb))
    · cases h

theorem mutateV_step {st st' : Store} {vals vals' : Vals} {f f' : Feat} {m : MutV}
    (h : mutateV st vals f m = some (st', vals', f')) :
    (Valid st f → Step (fp f) st st' (fp f')) ∧ ∃ ext, vals' = vals ++ ext := by
  cases m with
  | setTagAt k i e =>
    obtain ⟨r, hr, he⟩ := Option.map_eq_some_iff.mp h
    cases he
    exact ⟨fun hv => lift_tags hv (tagsSetAt_step hr).1, (tagsSetAt_step hr).2⟩
  | setTagList k lit spare =>
    obtain ⟨r, hr, he⟩ := Option.map_eq_some_iff.mp h
    cases he
    exact ⟨fun hv => lift_tags hv (tagsSetList_step hr).1, (tagsSetList_step hr).2⟩

/-! ### what is observed of a feature depends on its own arrays only -/

theorem cells_congr {st st' : Store} {s : Option Slice} (h : ∀ a ∈ addrs s, st'[a]? = st[a]?) :
    cells st' s = cells st s := by
  cases s with
  | none => rfl
  | some s =>
    simp only [cells]
    rw [h s.addr (List.mem_singleton_self _)]

theorem viewIds_congr {st st' : Store} {l : List (Option Slice)}
    (h : ∀ a ∈ l.flatMap addrs, st'[a]? = st[a]?) : viewIds st' l = viewIds st l := by
  induction l with
  | nil => rfl
  | cons x rest ih =>
    rw [List.flatMap_cons] at h
    have hr := ih (fun a ha => h a (List.mem_append_right _ ha))
    cases x with
    | none => simp only [viewIds, hr]
    | some s =>
      simp only [viewIds, hr, cells_congr (s := some s) (fun a ha => h a (List.mem_append_left _ ha))]

theorem view_congr {st st' : Store} {f : Feat} (h : ∀ a ∈ fp f, st'[a]? = st[a]?) :
    view st' f = view st f := by
  have slot (n : Nat) {s : Option Slice} (hs : (slices f)[n]? = some s) : cells st' s = cells st s :=
    cells_congr (fun a ha => h a (fp_of_slot hs ha))
  unfold view
  rw [slot 0 rfl, slot 1 rfl, slot 2 rfl, slot 3 rfl, slot 4 rfl,
    viewIds_congr (l := f.ids) (fun a ha => h a (fp_ids ha))]

/-- **frame rule for observations**: an operation with footprint `W` does not change what is observed of
a feature whose arrays are allocated and disjoint from `W`. -/
theorem view_frame {W W' : List Nat} {st st' : Store} {g : Feat} (h : Step W st st' W')
    (hv : Valid st g) (hd : ∀ a ∈ fp g, a ∉ W) : view st' g = view st g :=
  view_congr (fun a ha => h.frame a (hv a ha) (hd a ha))

theorem cells_frame {W W' : List Nat} {st st' : Store} {s : Option Slice} (h : Step W st st' W')
    (hs : Outside st W (addrs s)) : cells st' s = cells st s :=
  cells_congr (fun a ha => h.frame a (hs a ha).1 (hs a ha).2)

theorem viewIds_frame {W W' : List Nat} {st st' : Store} {l : List (Option Slice)}
    (h : Step W st st' W') (hs : Outside st W (l.flatMap addrs)) :
    viewIds st' l = viewIds st l :=
  viewIds_congr (fun a ha => h.frame a (hs a ha).1 (hs a ha).2)

theorem cells_pure {X : List Nat} {st st' : Store} {s : Option Slice} (h : Step [] st st' X)
    (hv : ∀ a ∈ addrs s, a < st.length) : cells st' s = cells st s :=
  cells_frame h (Outside.nil hv)

theorem viewIds_pure {X : List Nat} {st st' : Store} {l : List (Option Slice)} (h : Step [] st st' X)
    (hv : ∀ a ∈ l.flatMap addrs, a < st.length) : viewIds st' l = viewIds st l :=
  viewIds_frame h (Outside.nil hv)

/-! ### `Clone` allocates everything it returns, and the copy starts out equal to its original -/

theorem cloneInner_spec {l : List (Option Slice)} : ∀ {st : Store} {r : Store × List (Option Slice)},
    cloneInner st l = some r → Step [] st r.1 (r.2.flatMap addrs) ∧
      ((∀ a ∈ l.flatMap addrs, a < st.length) → viewIds r.1 r.2 = viewIds st l) := by
  intro st r h
  fun_induction cloneInner st l generalizing r with
  | case1 st => cases h; exact ⟨Step.nil _, fun _ => rfl⟩
  | case2 st rest ih =>
    obtain ⟨r1, hr, rfl⟩ := Option.map_eq_some_iff.mp h
    exact ⟨(ih hr).1, fun hv => by simp only [viewIds, (ih hr).2 hv]⟩
  | case3 st s rest ha => cases h
  | case4 st s rest a ha ih =>
    obtain ⟨r1, hr, rfl⟩ := Option.map_eq_some_iff.mp h
    have h1 := cloneMake_step ha
    obtain ⟨h2, hview⟩ := ih hr
    refine ⟨h1.pure_seq h2, fun hv => ?_⟩
    rw [List.flatMap_cons] at hv
    have hvr := fun a ha => hv a (List.mem_append_right _ ha)
    have hrest : viewIds r1.1 r1.2 = viewIds st rest :=
      (hview fun a ha => Nat.lt_of_lt_of_le (hvr a ha) h1.grow).trans (viewIds_pure h1 hvr)
    have hhead : cells r1.1 a.2 = cells st (some s) :=
      (cells_pure h2 h1.valid).trans (cloneMake_cells ha)
    obtain ⟨cs, _, rfl⟩ := cloneMake_eq ha
    simp only [viewIds, hrest, hhead]

theorem cloneFeat_spec {st st' : Store} {f c : Feat} (h : cloneFeat st f = some (st', c)) :
    Step [] st st' (fp c) ∧ (Valid st f → Proper f → view st' c = view st f) := by
  have tags {t} (ht : cloneMake st f.tags = some t) :=
    lift_tags (valid_bare st f.kind f.id false) (cloneMake_step ht).of_pure
  revert h
  fun_cases cloneFeat st f with
  | case2 t ht hk =>
    rintro ⟨⟩
    refine ⟨tags ht, fun _ hp => ?_⟩
    simp only [Proper, hk] at hp
    simp only [view, cloneMake_cells ht, hp, hk, viewIds, cells_none]
  | case5 t ht hk i hi p hp =>   -- an area
    rintro ⟨⟩
    have h1 := cloneMake_step ht
    have s1 := tags ht
    obtain ⟨h2, hids⟩ := cloneInner_spec hi
    have h3 := cloneMake_step hp
    have s2 := lift_ids_new s1.valid h2
    refine ⟨s1.trans (s2.trans (lift_polygons s2.valid h3.of_pure)), fun hv hp' => ?_⟩
    simp only [Proper, hk] at hp'
    have hvi : ∀ a ∈ f.ids.flatMap addrs, a < st.length := fun a ha => hv a (fp_ids ha)
    have e1 : cells p.1 t.2 = cells st f.tags :=
      (cells_pure (h2.pure_seq h3) h1.valid).trans (cloneMake_cells ht)
    have e2 : viewIds p.1 i.2 = viewIds st f.ids :=
      (viewIds_pure h3 h2.valid).trans
        ((hids fun a ha => Nat.lt_of_lt_of_le (hvi a ha) h1.grow).trans (viewIds_pure h1 hvi))
    have e3 : cells p.1 p.2 = cells st f.polygons :=
      (cloneMake_cells hp).trans (cells_pure (h1.pure_seq h2) (hv.sub fun _ => fp_polygons))
    simp only [view, e1, e2, e3, hp', hk, cells_none]
  | case7 t ht hk m hm =>   -- a relation
    rintro ⟨⟩
    have h1 := cloneMake_step ht
    have s1 := tags ht
    have h2 := cloneMake_step hm
    refine ⟨s1.trans (lift_members s1.valid h2.of_pure), fun hv hp => ?_⟩
    simp only [Proper, hk] at hp
    have e1 : cells m.1 t.2 = cells st f.tags := (cells_pure h2 h1.valid).trans (cloneMake_cells ht)
    have e2 : cells m.1 m.2 = cells st f.members :=
      (cloneMake_cells hm).trans (cells_pure h1 (hv.sub fun _ => fp_members))
    simp only [view, e1, e2, hp, hk, viewIds, cells_none]
  | case10 t ht hk k hks v hvs =>   -- a collection
    rintro ⟨⟩
    have h1 := cloneMake_step ht
    have s1 := tags ht
    have h2 := cloneKeepNil_step hks
    have h3 := cloneKeepNil_step hvs
    have s2 := lift_keys s1.valid h2.of_pure
    refine ⟨s1.trans (s2.trans (lift_values s2.valid h3.of_pure)), fun hv hp => ?_⟩
    simp only [Proper, hk] at hp
    have e1 : cells v.1 t.2 = cells st f.tags :=
      (cells_pure (h2.pure_seq h3) h1.valid).trans (cloneMake_cells ht)
    have e2 : cells v.1 k.2 = cells st f.keys :=
      (cells_pure h3 h2.valid).trans ((cloneKeepNil_cells hks).trans (cells_pure h1 (hv.sub fun _ => fp_keys)))
    have e3 : cells v.1 v.2 = cells st f.values :=
      (cloneKeepNil_cells hvs).trans (cells_pure (h1.pure_seq h2) (hv.sub fun _ => fp_values))
    simp only [view, e1, e2, e3, hp, hk, viewIds, cells_none]
  | case1 | case3 | case4 | case6 | case8 | case9 => nofun

theorem cloneFeat_step {st st' : Store} {f c : Feat} (h : cloneFeat st f = some (st', c)) :
    Step [] st st' (fp c) := (cloneFeat_spec h).1

theorem fromWorld_step {st st' : Store} {w c : Feat} (h : fromWorld st w = some (st', c)) :
    Step [] st st' (fp c) := by
  have s1 {t} (ht : cloneMake st w.tags = some t) :=
    lift_tags (valid_bare st w.kind w.id false) (cloneMake_step ht).of_pure
  revert h
  fun_cases fromWorld st w with
  | case2 t ht => rintro ⟨⟩; exact s1 ht
  | case6 t ht hk i hi =>   -- an area
    rintro ⟨⟩
    have s2 := lift_ids_new (s1 ht).valid (cloneInner_spec hi).1
    exact (s1 ht).trans (s2.trans (lift_polygons s2.valid (alloc_step _ _).of_pure))
  | case8 t ht hk m hm =>   -- a relation
    rintro ⟨⟩; exact (s1 ht).trans (lift_members (s1 ht).valid (cloneMake_step hm).of_pure)
  | case10 t ht => rintro ⟨⟩; exact s1 ht   -- a collection without keys
  | case11 t ht hk ks vs =>   -- a collection
    rintro ⟨⟩
    have s2 := lift_keys (s1 ht).valid (alloc_step t.1 ks).of_pure
    exact (s1 ht).trans (s2.trans (lift_values s2.valid (alloc_step _ vs).of_pure))
  | case1 | case3 | case4 | case5 | case7 | case9 | case12 => nofun

theorem newFeat_step (st : Store) (kind : Kind) (id : String) (n : Nat) :
    Step [] st (newFeat st kind id n).1 (fp (newFeat st kind id n).2) := by
  cases kind <;> dsimp only [newFeat]
  case generic => exact Step.nil _
  case collection => exact Step.nil _
  case relation => exact lift_members (valid_bare st .relation id false) (alloc_step st _).of_pure
  case area =>
    have s0 := lift_ids (l := List.replicate n none) (valid_bare st .area id false)
      (Step.nil st) (fun _ h => nomatch h)
      fun s hs => Or.inr (by rw [List.eq_of_mem_replicate hs]; exact fun _ h => nomatch h)
    exact s0.trans (lift_polygons s0.valid (alloc_step st _).of_pure)

/-! ### `MergeFrom` of the area members: own arrays or new ones only, and the argument's value -/

theorem growIds_spec (rest : List (Option Slice)) : ∀ (st : Store) (mine : List (Option Slice)),
    ∃ news : List (Option Slice), (growIds st mine rest).2 = mine ++ news ∧ news.length = rest.length ∧
      (news.flatMap addrs).Nodup ∧ Step [] st (growIds st mine rest).1 (news.flatMap addrs) := by
  intro st mine
  fun_induction growIds st mine rest with
  | case1 st mine => exact ⟨[], by simp, rfl, List.nodup_nil, Step.nil _⟩
  | case2 st mine o rest a ih =>
    obtain ⟨news, h1, h2, h3, h4⟩ := ih
    refine ⟨some a.2 :: news, ?_, ?_, ?_, (alloc_step st _).pure_seq h4⟩
    · rw [h1, List.append_assoc]; rfl
    · rw [List.length_cons, h2, List.length_cons]
    · refine List.nodup_cons.mpr ⟨fun hm => ?_, h3⟩
      have := (h4.sub _ hm).resolve_left List.not_mem_nil
      rw [alloc_length] at this
      exact Nat.lt_irrefl _ this

theorem viewIds_cons_some {st : Store} {x : Option Slice} {rest : List (Option Slice)} {cs : List Cell}
    {r : List (Option (List Cell))} (hx : x ≠ none) (hc : cells st x = some cs)
    (hr : viewIds st rest = some r) : viewIds st (x :: rest) = some (some cs :: r) := by
  cases x with
  | none => exact absurd rfl hx
  | some s => simp only [viewIds, hc, hr]

/-- the loop of `AreaMembers.MergeFrom` over equally long lists: it succeeded, so it read every member of the
other; a member with an EMPTY non-nil path list would leave the receiver's nil member nil, hence `0 < slen s` -/
theorem mergeInner_spec {mine : List (Option Slice)} :
    ∀ {theirs : List (Option Slice)} {st : Store} {r : Store × List (Option Slice)},
    mergeInner st mine theirs = some r →
    Step (mine.flatMap addrs) st r.1 (r.2.flatMap addrs) ∧
    (mine.length = theirs.length →
      (∀ a ∈ mine.flatMap addrs, a < st.length) → (mine.flatMap addrs).Nodup →
      Outside st (mine.flatMap addrs) (theirs.flatMap addrs) →
      (∀ s ∈ theirs, s ≠ none → 0 < slen s) →
      ∃ tv, viewIds st theirs = some tv ∧ viewIds r.1 r.2 = some tv) := by
  intro theirs st r h
  fun_induction mergeInner st mine theirs generalizing r with
  | case1 st theirs =>
    cases h
    refine ⟨Step.nil _, fun hlen _ _ _ _ => ?_⟩
    cases List.eq_nil_of_length_eq_zero hlen.symm
    exact ⟨[], rfl, rfl⟩
  | case2 st m mine => cases h
  | case3 st m mine theirs ih =>
    simp only [List.flatMap_cons, List.length_cons, Nat.add_right_cancel_iff, List.mem_append,
      List.mem_cons, List.nodup_append]
    obtain ⟨r1, hr, rfl⟩ := Option.map_eq_some_iff.mp h
    obtain ⟨h2, hview⟩ := ih hr
    refine ⟨h2.mono_left fun _ => List.mem_append_right _,
      fun hlen hvalid hnd hth hne => ?_⟩
    obtain ⟨tv', hv', hres⟩ := hview hlen (fun a ha => hvalid a (Or.inr ha)) hnd.2.1
      (hth.mono (Nat.le_refl _) (fun _ => List.mem_append_right _) fun _ => List.mem_append_right _)
      (fun s hs => hne s (Or.inr hs))
    exact ⟨none :: tv', by simp only [viewIds, hv', Option.map_some],
      by simp only [viewIds, hres, Option.map_some]⟩
  | case4 st m mine theirs os hc => cases h
  | case5 st m mine theirs os src hc ha => cases h
  | case6 st m mine theirs os src hc a ha ih =>
    simp only [List.flatMap_cons, List.length_cons, Nat.add_right_cancel_iff, List.mem_append,
      List.mem_cons, List.nodup_append]
    obtain ⟨r1, hr, rfl⟩ := Option.map_eq_some_iff.mp h
    have h1 := mergeInto_step ha
    obtain ⟨h2, hview⟩ := ih hr
    refine ⟨(h1.mono_left fun _ => List.mem_append_left _).seq h2 fun _ h => Or.inl (List.mem_append_right _ h),
      fun hlen hvalid hnd hth hne => ?_⟩
    obtain ⟨tv', hv'', hih⟩ := hview hlen
      (fun x hx => Nat.lt_of_lt_of_le (hvalid x (Or.inr hx)) h1.grow) hnd.2.1
      (hth.mono h1.grow (fun _ => List.mem_append_right _) fun _ => List.mem_append_right _)
      (fun s hs => hne s (Or.inr hs))
    -- the other's remaining members were read after this member's copy, which did not touch them …
    have hv' : viewIds st theirs = some tv' :=
      (viewIds_frame h1 (hth.mono (Nat.le_refl _) (fun _ => List.mem_append_left _)
        fun _ => List.mem_append_right _)).symm.trans hv''
    -- … and this member's copy survives the rest of the loop
    have hhead : cells r1.1 a.2 = some src :=
      (cells_frame h2 (h1.result_outside fun y hy =>
        ⟨hvalid y (Or.inr hy), fun hm => hnd.2.2 y hm y hy rfl⟩)).trans (mergeInto_cells ha)
    refine ⟨some src :: tv', by simp only [viewIds, hc, hv'], viewIds_cons_some (fun hn => ?_) hhead hih⟩
    rw [hn] at hhead
    cases hhead
    have := hne (some os) (Or.inl rfl) nofun
    rw [slen, ← cells_length hc] at this
    exact Nat.lt_irrefl _ this

/-- first part of `AreaMembers.MergeFrom`: the receiver's inner slices, cut or extended to the other's count -/
theorem resizeIds_spec (st : Store) (e o : Feat) (hv : ∀ a ∈ e.ids.flatMap addrs, a < st.length) :
    ∃ gst mine, (if e.ids.length < o.ids.length then growIds st e.ids (o.ids.drop e.ids.length)
        else (st, e.ids.take o.ids.length)) = (gst, mine) ∧
      Step (e.ids.flatMap addrs) st gst (mine.flatMap addrs) ∧ mine.length = o.ids.length ∧
      ((e.ids.flatMap addrs).Nodup → (mine.flatMap addrs).Nodup) := by
  split
  · obtain ⟨news, h1, h2, h3, h4⟩ := growIds_spec (o.ids.drop e.ids.length) st e.ids
    refine ⟨_, _, rfl, ?_, ?_, fun hnd => ?_⟩
    · rw [h1, List.flatMap_append]
      exact (Step.refl hv).seq h4 (fun _ h => nomatch h)
    · rw [h1, List.length_append, h2, List.length_drop]; omega
    · rw [h1, List.flatMap_append]
      exact List.nodup_append.mpr ⟨hnd, h3, fun a ha b hb hab =>
        h4.notin (Outside.nil hv) hb (hab ▸ ha)⟩
  · have hsub : ∀ a ∈ (e.ids.take o.ids.length).flatMap addrs, a ∈ e.ids.flatMap addrs :=
      List.forall_mem_flatMap.2 fun s hs a ha => List.mem_flatMap.mpr ⟨s, List.mem_of_mem_take hs, ha⟩
    refine ⟨_, _, rfl, (Step.refl hv).weaken hsub, ?_, fun hnd => ?_⟩
    · rw [List.length_take]; omega
    · rw [← List.take_append_drop o.ids.length e.ids, List.flatMap_append] at hnd
      exact (List.nodup_append.mp hnd).1

theorem mergeAreaMembers_spec {st : Store} {e o : Feat} {r : Store × List (Option Slice) × Option Slice}
    (h : mergeAreaMembers st e o = some r)
    (hv : ∀ a ∈ e.ids.flatMap addrs ++ addrs e.polygons, a < st.length) :
    Step (e.ids.flatMap addrs ++ addrs e.polygons) st r.1 (r.2.1.flatMap addrs ++ addrs r.2.2) ∧
    ((e.ids.flatMap addrs ++ addrs e.polygons).Nodup →
      Outside st (e.ids.flatMap addrs ++ addrs e.polygons) (o.ids.flatMap addrs ++ addrs o.polygons) →
      (∀ s ∈ o.ids, s ≠ none → 0 < slen s) →
      ∃ iv pv, viewIds st o.ids = some iv ∧ cells st o.polygons = some pv ∧
        viewIds r.1 r.2.1 = some iv ∧ cells r.1 r.2.2 = some pv) := by
  unfold mergeAreaMembers at h
  dsimp only at h
  have hEids : ∀ a ∈ e.ids.flatMap addrs, a < st.length := fun a ha => hv a (List.mem_append_left _ ha)
  obtain ⟨gst, mine, hgeq, hgstep, hlen, hmnd⟩ := resizeIds_spec st e o hEids
  rw [hgeq] at h
  dsimp only at h
  split at h
  · cases h
  next i hi =>
  split at h
  · cases h
  next ps hc =>
  split at h
  · cases h
  next p hp =>
  cases h
  obtain ⟨histep, hiview⟩ := mergeInner_spec hi
  have hpstep := mergeInto_step hp
  have sids := hgstep.trans histep
  refine ⟨(sids.mono_left fun _ => List.mem_append_left _).seq hpstep fun a ha => Or.inl (List.mem_append_right _ ha),
    fun hnd ho hne => ?_⟩
  have hnd' := List.nodup_append.mp hnd
  have hoI : Outside st (e.ids.flatMap addrs) (o.ids.flatMap addrs) :=
    ho.mono (Nat.le_refl _) (fun _ => List.mem_append_left _) fun _ => List.mem_append_left _
  have hoP : Outside st (e.ids.flatMap addrs) (addrs o.polygons) :=
    ho.mono (Nat.le_refl _) (fun _ => List.mem_append_left _) fun _ => List.mem_append_right _
  have hP : Outside st (e.ids.flatMap addrs) (addrs e.polygons) := fun x hx =>
    ⟨hv x (List.mem_append_right _ hx), fun hm => hnd'.2.2 x hm x hx rfl⟩
  obtain ⟨iv, hiv, hids⟩ := hiview hlen hgstep.valid (hmnd hnd'.1) (hgstep.outside_after hoI) hne
  exact ⟨iv, ps, (viewIds_frame hgstep hoI).symm.trans hiv, (cells_frame sids hoP).symm.trans hc,
    (viewIds_frame hpstep (sids.result_outside hP)).trans hids, mergeInto_cells hp⟩

/-! ### `MergeFrom` -/

/-- That the argument is readable is not assumed: the call succeeded, so what it read of `o` was readable. -/
theorem mergeFrom_spec {st st' : Store} {e o e' : Feat} (h : mergeFrom st e o = some (st', e'))
    (hv : Valid st e) :
    Step (fp e) st st' (fp e') ∧ (Valid st o → Disj e o → (fp e).Nodup → Proper e → Proper o →
      e.kind = o.kind → (∀ s ∈ o.ids, s ≠ none → 0 < slen s) → view st' e' = view st o) := by
  -- both `Proper` hypotheses as one function, unfolded to their `match` on the kind: each branch rewrites the kind in it
  have proper (hpe : Proper e) (hpo : Proper o) := And.intro hpe hpo
  unfold Proper at proper
  unfold mergeFrom at h
  split at h
  · next hk =>
    split at h
    · cases h
    next c hc =>
    split at h
    · cases h
    next src hs =>
    split at h
    · cases h
    next t ht =>
    cases h
    have s1 := lift_step hv (cloneMake_step hc) (fun _ h => nomatch h) (fun _ => Or.inl)
    refine ⟨s1.trans (lift_tags s1.valid (mergeInto_step ht)), fun hvo hdisj hown hpe hpo hkind hpaths => ?_⟩
    have hp := proper hpe hpo
    rw [← hkind, hk] at hp
    have hsrc : cells st o.tags = some src := (cloneMake_cells hc).symm.trans hs
    simp only [view, mergeInto_cells ht, hsrc, hp, ← hkind, hk, viewIds, cells_none]
  split at h
  · cases h
  next hko =>
  split at h
  · cases h
  next src hc =>
  split at h
  · cases h
  next t ht =>
  have htstep := mergeInto_step ht
  have s1 := lift_tags hv htstep
  have htags := mergeInto_cells ht
  split at h
  · cases h
  · next hk =>
    split at h
    · cases h
    next r hm =>
    cases h
    have hE : ∀ a ∈ e.ids.flatMap addrs ++ addrs e.polygons, a ∈ fp e := fun a ha =>
      (List.mem_append.mp ha).elim fp_ids fp_polygons
    obtain ⟨hmstep, hmview⟩ := mergeAreaMembers_spec hm
      fun a ha => Nat.lt_of_lt_of_le (hv a (hE a ha)) htstep.grow
    refine ⟨s1.trans (lift_area s1.valid hmstep), fun hvo hdisj hown hpe hpo hkind hpaths => ?_⟩
    have hp := proper hpe hpo
    rw [← hkind, hk] at hp
    -- the receiver's own arrays: tags | polygons | ids …, all different
    rw [show fp e = addrs e.tags ++ (addrs e.polygons ++ e.ids.flatMap addrs) by simp [fp, hp, addrs],
      List.nodup_append] at hown
    have hO : ∀ a ∈ o.ids.flatMap addrs ++ addrs o.polygons, a ∈ fp o := fun a ha =>
      (List.mem_append.mp ha).elim fp_ids fp_polygons
    have hOE : Outside st (fp e) (o.ids.flatMap addrs ++ addrs o.polygons) :=
      (hdisj.outside hvo).mono (Nat.le_refl _) (fun _ => id) hO
    obtain ⟨iv, pv, hiv', hpv', r1, r2⟩ := hmview (List.perm_append_comm.nodup_iff.mp hown.2.1)
      (hOE.mono htstep.grow hE fun _ => id) hpaths
    -- read after the tags were copied, which did not touch `o`
    have hiv : viewIds st o.ids = some iv :=
      (viewIds_frame htstep (hOE.mono (Nat.le_refl _) (fun _ => fp_tags) fun _ => List.mem_append_left _)).symm.trans hiv'
    have hpv : cells st o.polygons = some pv :=
      (cells_frame htstep (hOE.mono (Nat.le_refl _) (fun _ => fp_tags) fun _ => List.mem_append_right _)).symm.trans hpv'
    have e1 : cells r.1 t.2 = some src :=
      (cells_frame hmstep (htstep.result_outside fun y hy =>
        ⟨hv y (hE y hy), fun hm => hown.2.2 y hm y (List.perm_append_comm.mem_iff.mp hy) rfl⟩)).trans htags
    simp only [view, e1, r1, r2, hc, hiv, hpv, hp, ← hkind, hk, cells_none]
  · next hk =>
    split at h
    · cases h
    next ms hms =>
    split at h
    · cases h
    next m hm =>
    cases h
    have hmstep := mergeInto_step hm
    refine ⟨s1.trans (lift_members s1.valid hmstep), fun hvo hdisj hown hpe hpo hkind hpaths => ?_⟩
    have hp := proper hpe hpo
    rw [← hkind, hk] at hp
    rw [show fp e = addrs e.tags ++ addrs e.members by simp [fp, hp, addrs], List.nodup_append] at hown
    have e1 : cells m.1 t.2 = some src :=
      (cells_frame hmstep (htstep.result_outside fun y hy =>
        ⟨hv y (fp_members hy), fun hm => hown.2.2 y hm y hy rfl⟩)).trans htags
    have e2 : cells st o.members = some ms :=
      (cells_frame htstep ((hdisj.outside hvo).mono (Nat.le_refl _) (fun _ => fp_tags) fun _ => fp_members)).symm.trans hms
    simp only [view, e1, e2, mergeInto_cells hm, hc, hp, ← hkind, hk, viewIds, cells_none]
  · next hk =>
    split at h
    · cases h
    next ks hks =>
    split at h
    · cases h
    next vs hvs =>
    cases h
    have hkstep := cloneKeepNil_step hks
    have hvstep := cloneKeepNil_step hvs
    have s2 := lift_keys s1.valid hkstep.of_pure
    refine ⟨s1.trans (s2.trans (lift_values s2.valid hvstep.of_pure)), fun hvo hdisj hown hpe hpo hkind hpaths => ?_⟩
    have hp := proper hpe hpo
    rw [← hkind, hk] at hp
    have hokeys : Outside st (addrs e.tags) (addrs o.keys) :=
      (hdisj.outside hvo).mono (Nat.le_refl _) (fun _ => fp_tags) fun _ => fp_keys
    have hovals : Outside st (addrs e.tags) (addrs o.values) :=
      (hdisj.outside hvo).mono (Nat.le_refl _) (fun _ => fp_tags) fun _ => fp_values
    have e1 : cells vs.1 t.2 = some src :=
      (cells_pure (hkstep.pure_seq hvstep) htstep.valid).trans htags
    have e2 : cells vs.1 ks.2 = cells st o.keys :=
      (cells_pure hvstep hkstep.valid).trans ((cloneKeepNil_cells hks).trans (cells_frame htstep hokeys))
    have e3 : cells vs.1 vs.2 = cells st o.values :=
      (cloneKeepNil_cells hvs).trans ((cells_pure hkstep fun a ha =>
        Nat.lt_of_lt_of_le (hovals a ha).1 htstep.grow).trans (cells_frame htstep hovals))
    simp only [view, e1, e2, e3, hc, hp, ← hkind, hk, viewIds, cells_none]

theorem mergeFrom_step {st st' : Store} {e o e' : Feat} (h : mergeFrom st e o = some (st', e'))
    (hv : Valid st e) : Step (fp e) st st' (fp e') := (mergeFrom_spec h hv).1

/-! ### separation of a set of owners -/

def SepIdx (l : List Feat) : Prop :=
  ∀ (i j : Nat) (x y : Feat), i ≠ j → l[i]? = some x → l[j]? = some y → Disj x y

theorem SepIdx.set {l : List Feat} {i : Nat} {r' : Feat} (h : SepIdx l)
    (hnew : ∀ j y, j ≠ i → l[j]? = some y → Disj r' y) : SepIdx (l.set i r') := by
  intro a b x y hab hx hy
  -- first the position `a`, then the position `b`, of the two positions read in `l.set i r'`
  refine Basic.forall_getElem?_set (P := fun a x => ∀ b y, a ≠ b → (l.set i r')[b]? = some y → Disj x y)
    (fun b y hib hy => ?_) (fun a x hai hx b y hab hy => ?_) a x hx b y hab hy
  · rw [List.getElem?_set_ne hib] at hy
    exact hnew b y (Ne.symm hib) hy
  · exact Basic.forall_getElem?_set (P := fun b y => a ≠ b → Disj x y) (fun _ => (hnew a x hai hx).symm)
      (fun b y _ hy hab => h a b x y hab hx hy) b y hy hab

theorem sepIdx_iff (l : List Feat) : SepIdx l ↔ l.Pairwise Disj := by
  rw [List.pairwise_iff_getElem]
  constructor
  · intro h i j hi hj hij
    exact h i j _ _ (Nat.ne_of_lt hij) (List.getElem?_eq_getElem hi) (List.getElem?_eq_getElem hj)
  · intro h i j x y hne hx hy
    obtain ⟨hi, rfl⟩ := List.getElem?_eq_some_iff.mp hx
    obtain ⟨hj, rfl⟩ := List.getElem?_eq_some_iff.mp hy
    rcases Nat.lt_or_gt_of_ne hne with hij | hij
    · exact h i j hi hj hij
    · exact (h j i hj hi hij).symm

theorem SepIdx.push {l : List Feat} {c : Feat} (h : SepIdx l) (hnew : ∀ y ∈ l, Disj c y) :
    SepIdx (l ++ [c]) :=
  (sepIdx_iff _).mpr (List.pairwise_append.mpr ⟨(sepIdx_iff l).mp h, List.pairwise_singleton _ _,
    fun x hx _ hy => List.mem_singleton.mp hy ▸ (hnew x hx).symm⟩)

theorem Step.disj {F : List Nat} {st st' : Store} {c x : Feat} (hs : Step F st st' (fp c))
    (hO : Outside st F (fp x)) : Disj c x := fun _ ha => hs.notin hO ha

/-- a feature made by allocation only: its arrays are new, it shares none with an older feature, and every older
array and older feature's value is as before -/
theorem fresh_apart {st st' : Store} {c x : Feat} (hs : Step [] st st' (fp c)) (hx : Valid st x) :
    (∀ a ∈ fp c, st.length ≤ a ∧ a < st'.length) ∧ Disj c x ∧
    (∀ a, a < st.length → st'[a]? = st[a]?) ∧ view st' x = view st x :=
  ⟨fun a ha => ⟨(hs.sub a ha).resolve_left List.not_mem_nil, hs.valid a ha⟩, hs.disj (Outside.nil hx),
    fun a ha => hs.frame a ha List.not_mem_nil, view_frame hs hx fun _ _ => List.not_mem_nil⟩

/-- two groups of owners (a world's entries and the callers' values): every feature allocated, no two
different owners share an array; the groups are interchangeable (`symm`), so `set` / `push` speak of the first -/
structure Sep2 (st : Store) (l1 l2 : List Feat) : Prop where
  valid1 : ∀ x ∈ l1, Valid st x
  valid2 : ∀ x ∈ l2, Valid st x
  sep1 : SepIdx l1
  sep2 : SepIdx l2
  cross : ∀ x ∈ l1, ∀ y ∈ l2, Disj x y

theorem Sep2.symm {st : Store} {l1 l2 : List Feat} (h : Sep2 st l1 l2) : Sep2 st l2 l1 :=
  ⟨h.valid2, h.valid1, h.sep2, h.sep1, fun y hy x hx => (h.cross x hx y hy).symm⟩

/-- an operation through the owner at position `i` of the first group -/
theorem Sep2.set {st st' : Store} {l1 l2 : List Feat} {i : Nat} {r r' : Feat} (h : Sep2 st l1 l2)
    (hi : l1[i]? = some r) (hs : Step (fp r) st st' (fp r')) :
    Sep2 st' (l1.set i r') l2 ∧
    (∀ j x, j ≠ i → l1[j]? = some x → view st' x = view st x) ∧
    (∀ x ∈ l2, view st' x = view st x) := by
  have hr : r ∈ l1 := List.mem_of_getElem? hi
  have hsep : ∀ j y, j ≠ i → l1[j]? = some y → Disj r y := fun j y hj hy =>
    h.sep1 i j r y (fun e => hj e.symm) hi hy
  refine ⟨⟨fun x hx => ?_, fun x hx => (h.valid2 x hx).grow hs.grow, ?_, h.sep2, fun x hx y hy => ?_⟩,
    fun j x hj hx => ?_, fun y hy => ?_⟩
  · rcases List.mem_or_eq_of_mem_set hx with hx | rfl
    · exact (h.valid1 x hx).grow hs.grow
    · exact hs.valid
  · exact h.sep1.set fun j y hj hy => hs.disj ((hsep j y hj hy).outside (h.valid1 y (List.mem_of_getElem? hy)))
  · rcases List.mem_or_eq_of_mem_set hx with hx | rfl
    · exact h.cross x hx y hy
    · exact hs.disj ((h.cross r hr y hy).outside (h.valid2 y hy))
  · exact view_frame hs (h.valid1 x (List.mem_of_getElem? hx)) fun a hax har => hsep j x hj hx a har hax
  · exact view_frame hs (h.valid2 y hy) fun a hay har => h.cross r hr y hy a har hay

/-- a new owner, made of newly allocated arrays, joins the first group -/
theorem Sep2.push {st st' : Store} {l1 l2 : List Feat} {c : Feat} (h : Sep2 st l1 l2)
    (hs : Step [] st st' (fp c)) :
    Sep2 st' (l1 ++ [c]) l2 ∧ (∀ x ∈ l1, view st' x = view st x) ∧ (∀ x ∈ l2, view st' x = view st x) := by
  refine ⟨⟨fun x hx => ?_, fun x hx => (h.valid2 x hx).grow hs.grow,
    h.sep1.push fun y hy => hs.disj (Outside.nil (h.valid1 y hy)), h.sep2, fun x hx y hy => ?_⟩,
    fun x hx => view_frame hs (h.valid1 x hx) fun _ _ => List.not_mem_nil,
    fun y hy => view_frame hs (h.valid2 y hy) fun _ _ => List.not_mem_nil⟩
  · rcases List.mem_append.mp hx with hx | hx
    · exact (h.valid1 x hx).grow hs.grow
    · cases List.mem_singleton.mp hx
      exact hs.valid
  · rcases List.mem_append.mp hx with hx | hx
    · exact h.cross x hx y hy
    · cases List.mem_singleton.mp hx
      exact hs.disj (Outside.nil (h.valid2 y hy))

end B6.Lemmas.FeatureHeap
