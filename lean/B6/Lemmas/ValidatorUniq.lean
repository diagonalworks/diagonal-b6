import B6.Lemmas.Validator
/-!
C37, about the structure `Validator` of `Model/Validate.lean` (like `Lemmas/Validator.lean`, on which it rests): what it
emits is a sub-multiset of what it was fed, up to the inversion of paths (`run_count`): for every property `P` that does
not look at a path's elements, emitted + still queued ≤ fed + queued before. Hence no feature is emitted twice
(`run_nodup`) and every emitted feature comes from the stream (`run_sub`); with `run_emitted`, the points together with
what was emitted form a world with distinct IDs in which every feature is valid (`validator_world_valid`).
-/
namespace B6.Lemmas.ValidatorUniq
open B6.Model.Validate B6.Lemmas.Validate B6.Lemmas.Validator

def cnt (x : Id) (l : List Feat) : Nat := (l.map (·.id)).count x

theorem cnt_nil (x : Id) : cnt x [] = 0 := rfl

/-- `P` does not look at the elements of a path (so not at their order: `feed` may reverse them) -/
def Blind (P : Feat → Bool) : Prop := ∀ i r r', P ⟨i, .path r⟩ = P ⟨i, .path r'⟩

theorem drainStep_count (P : Feat → Bool) (acc : Validator × List Feat × List Feat) (a : Feat) :
    (drainStep acc a).2.1.countP P + (drainStep acc a).2.2.countP P ≤
      acc.2.1.countP P + acc.2.2.countP P + [a].countP P := by
  rcases drainStep_cases acc a with e | ⟨_, _, _, ⟨_, e⟩ | e | e⟩ <;> rw [e]
  · omega
  · dsimp only; rw [List.countP_append]; omega
  · dsimp only; rw [List.countP_append]; omega
  · omega

theorem drainFold_count (P : Feat → Bool) : ∀ (q : List Feat) (acc : Validator × List Feat × List Feat),
    (q.foldl drainStep acc).2.1.countP P + (q.foldl drainStep acc).2.2.countP P ≤
      acc.2.1.countP P + acc.2.2.countP P + q.countP P := by
  intro q
  induction q with
  | nil => intro acc; exact Nat.le_refl _
  | cons a q ih =>
    intro acc
    have h1 := ih (drainStep acc a)
    have h2 := drainStep_count P acc a
    rw [List.foldl_cons, List.countP_cons]
    rw [List.countP_singleton] at h2
    omega

theorem drainQueue_count (P : Feat → Bool) (v : Validator) :
    v.drainQueue.2.countP P + v.drainQueue.1.queue.countP P ≤ v.queue.countP P := by
  unfold Validator.drainQueue
  have := drainFold_count P v.queue (v, [], [])
  simp only [List.countP_nil] at this
  dsimp only
  omega

theorem feed_count {P : Feat → Bool} (hP : Blind P) (O : Oracle) (v : Validator) (f : Feat) :
    (v.feed O f).2.countP P + (v.feed O f).1.queue.countP P ≤ [f].countP P + v.queue.countP P := by
  obtain ⟨fi, fg⟩ := f
  cases fg with
  | point l => exact Nat.le_refl _
  | other l => exact Nat.le_refl _
  | area polys =>
    obtain ⟨_, c3, _⟩ := checkArea_spec v polys
    rcases feed_area O v fi polys with ⟨_, e⟩ | e | e <;> rw [e] <;> dsimp only
    · rw [c3]; exact Nat.le_refl _
    · rw [List.countP_append, List.countP_nil, c3]; omega
    · rw [List.countP_nil, c3]; omega
  | path refs =>
    obtain ⟨st, own, hown, _, hr⟩ := feed_path O v fi refs
    have hc : own.countP P ≤ [(⟨fi, .path refs⟩ : Feat)].countP P := by
      rcases hown with rfl | ⟨r, rfl⟩
      · exact Nat.zero_le _
      · rw [List.countP_singleton, List.countP_singleton, hP fi r refs]; exact Nat.le_refl _
    have hd := drainQueue_count P (v.set fi st)
    rw [hr]
    split
    · dsimp only; rw [List.countP_append]; exact Nat.le_trans (by omega) (Nat.add_le_add hc hd)
    · exact Nat.add_le_add_right hc _

theorem run_count {P : Feat → Bool} (hP : Blind P) (O : Oracle) : ∀ (src : List Feat) (v : Validator),
    (Validator.run O v src).2.countP P + (Validator.run O v src).1.queue.countP P ≤
      src.countP P + v.queue.countP P := by
  intro src
  induction src with
  | nil => intro v; exact Nat.le_refl _
  | cons f fs ih =>
    intro v
    have h1 := feed_count hP O v f
    have h2 := ih (v.feed O f).1
    simp only [Validator.run]
    rw [List.countP_append, List.countP_cons]
    rw [List.countP_singleton] at h1
    omega

theorem run_sub {P : Feat → Bool} (hP : Blind P) (O : Oracle) (pts : World) (src : List Feat) {g : Feat}
    (hg : g ∈ (Validator.run O ⟨pts, [], []⟩ src).2) (hp : P g = true) : ∃ f ∈ src, P f = true := by
  have h := run_count hP O src ⟨pts, [], []⟩
  have : 0 < (Validator.run O ⟨pts, [], []⟩ src).2.countP P := List.countP_pos_iff.mpr ⟨g, hg, hp⟩
  exact List.countP_pos_iff.mp (by rw [List.countP_nil] at h; omega)

theorem run_ids (O : Oracle) (pts : World) (src : List Feat) {g : Feat}
    (hg : g ∈ (Validator.run O ⟨pts, [], []⟩ src).2) : g.id ∈ src.map (·.id) := by
  obtain ⟨f, hf, hfid⟩ := run_sub (P := fun f => f.id == g.id) (fun _ _ _ => rfl) O pts src hg (beq_self_eq_true _)
  exact List.mem_map.mpr ⟨f, hf, eq_of_beq hfid⟩

/-- an emitted point would have been fed -/
theorem run_pointLoc (O : Oracle) (pts : World) {src : List Feat} (hsrc : ∀ f ∈ src, ∀ l, f.geo ≠ .point l) {g : Feat}
    (hg : g ∈ (Validator.run O ⟨pts, [], []⟩ src).2) : pointLoc g = none := by
  cases hgeo : g.geo with
  | point l =>
    obtain ⟨f, hf, hfp⟩ := run_sub (P := fun f => f.geo matches .point _) (fun _ _ _ => rfl) O pts src hg (by rw [hgeo])
    cases hfg : f.geo with
    | point l' => exact absurd hfg (hsrc f hf l')
    | _ => rw [hfg] at hfp; cases hfp
  | _ => simp only [pointLoc, hgeo]

theorem run_cnt (O : Oracle) (pts : World) (src : List Feat) (x : Id) :
    cnt x (Validator.run O ⟨pts, [], []⟩ src).2 ≤ cnt x src := by
  have h := run_count (P := fun f => f.id == x) (fun _ _ _ => rfl) O src ⟨pts, [], []⟩
  rw [List.countP_nil] at h
  unfold cnt
  rw [List.count_eq_countP, List.countP_map, List.count_eq_countP, List.countP_map]
  exact Nat.le_trans (Nat.le_add_right _ _) h

theorem run_nodup (O : Oracle) (pts : World) (src : List Feat) (hu : (src.map (·.id)).Nodup) :
    ((Validator.run O ⟨pts, [], []⟩ src).2.map (·.id)).Nodup := by
  rw [List.nodup_iff_count] at hu ⊢
  exact fun x => Nat.le_trans (run_cnt O pts src x) (hu x)

theorem validator_world_valid (O : Oracle) (pts src : List Feat)
    (hpts : ∀ p ∈ pts, ∃ l, p.geo = .point l) (hsrc : ∀ f ∈ src, ∀ l, f.geo ≠ .point l)
    (hu : Uniq (pts ++ src)) (hc : ∀ f ∈ src, featContract O pts f) :
    Uniq (pts ++ (Validator.run O ⟨pts, [], []⟩ src).2) ∧
    ∀ g ∈ pts ++ (Validator.run O ⟨pts, [], []⟩ src).2,
      valid O (pts ++ (Validator.run O ⟨pts, [], []⟩ src).2) g = true := by
  have hids := fun g => run_ids O pts src (g := g)
  have hloc := locOf_append pts _ fun g hg => run_pointLoc O pts hsrc hg
  have hnd := run_nodup O pts src
  have hinv := run_emitted O pts src hc
  generalize (Validator.run O ⟨pts, [], []⟩ src).2 = out at hids hloc hnd hinv ⊢
  obtain ⟨hvp, hva⟩ := hinv
  unfold Uniq at hu
  rw [List.map_append, List.nodup_append] at hu
  obtain ⟨hup, hus, hdisj⟩ := hu
  have huo : Uniq (pts ++ out) := by
    unfold Uniq
    rw [List.map_append, List.nodup_append]
    exact ⟨hup, hnd hus, fun a ha => List.forall_mem_map.2 fun g hg => hdisj a ha _ (hids g hg)⟩
  refine ⟨huo, ?_⟩
  intro g hg
  rcases List.mem_append.mp hg with hg | hg
  · obtain ⟨l, hl⟩ := hpts g hg
    simp [valid, hl]
  · obtain ⟨gi, gg⟩ := g
    cases gg with
    | point l => simp [valid]
    | other l => simp [valid]
    | path refs =>
      rw [valid_path_congr hloc]
      exact hvp gi refs hg
    | area polys =>
      simp only [valid, List.all_eq_true]
      intro pid hpid
      obtain ⟨refs, hmem, hloop⟩ := hva gi polys hg pid hpid
      exact areaPathOk_iff.mpr ⟨pid, refs, find_of_mem huo (List.mem_append_right _ hmem),
        by rw [isLoop_congr fun t _ => hloc t]; exact hloop⟩

end B6.Lemmas.ValidatorUniq
