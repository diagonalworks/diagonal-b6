import B6.Spec.Collections
import B6.Lemmas.Basic.Sorted
/-!
Lemmas for C24.  The lazy functions: each iterator-style `next`, drained with enough fuel, yields its list reference
(`Spec.Collections`); the induction on the fuel is done once (`StepSpec.drain_spec`), an iterator only shows that one `next`
is one unfolding of its reference (`drain_X`: the step-spec of `X` drained, for every list of items, every fuel above the bound,
the end `fin` of the inner iteration a parameter); then what a composition lets through (`Den.src?`, `CountOk`).  The counting functions:
what the loop over `bump` does to `lookup`.  `top`: the loop invariant `TopInv` against any queue that keeps `PQLaw`.
Keys: the non-strict order of a `KeyOrder`, `sort.Search`, and `SearchOk`, under which the equal keys are the run where the
search lands (`eqAt_run`).  Core Lean only.
-/
namespace B6.Lemmas.Collections
open B6.Model.Collections B6.Spec.Collections

/-! ### draining an iterator whose `next` follows a list reference -/

/-- One `next` is one unfolding of the reference at `i`.  States are tied to indices by a relation `Rel`, so that
`ref` and the bound `μ` need not be computable from the state (join-missing, flatten); for the other iterators the index
is the state itself (`Rel := Eq`).  `StepSpec` says this of every related pair. -/
def Unfolds {σ ι : Type} (Rel : ι → σ → Prop) (ref : ι → List Item × Fin) (μ : ι → Nat) (i : ι) : Step σ → Prop
  | .yield it s' => ∃ j, Rel j s' ∧ μ j < μ i ∧ ref i = (it :: (ref j).1, (ref j).2)
  | .stop => ref i = ([], .done)
  | .fail => ref i = ([], .err)

def StepSpec {σ ι : Type} (next : σ → Step σ) (Rel : ι → σ → Prop) (ref : ι → List Item × Fin) (μ : ι → Nat) :
    Prop :=
  ∀ i s, Rel i s → Unfolds Rel ref μ i (next s)

theorem Unfolds.skip {σ ι : Type} {Rel : ι → σ → Prop} {ref : ι → List Item × Fin} {μ : ι → Nat} {i i' : ι}
    {r : Step σ} (href : ref i = ref i') (hμ : μ i' ≤ μ i) (h : Unfolds Rel ref μ i' r) : Unfolds Rel ref μ i r := by
  cases r with
  | yield it s' => obtain ⟨j, hj, hlt, hr⟩ := h; exact ⟨j, hj, Nat.lt_of_lt_of_le hlt hμ, href.trans hr⟩
  | stop => exact href.trans h
  | fail => exact href.trans h

theorem StepSpec.drain_spec {σ ι : Type} {next : σ → Step σ} {Rel : ι → σ → Prop} {ref : ι → List Item × Fin}
    {μ : ι → Nat} (h : StepSpec next Rel ref μ) :
    ∀ (f : Nat) (i : ι) (s : σ), Rel i s → μ i < f → drain next f s = ref i ∧ (ref i).2 ≠ .nofuel := by
  intro f i s hP hf
  have hs := h i s hP
  fun_induction drain next f s generalizing i with
  | case1 s => omega
  | case2 f s it s' hn ih =>
    rw [hn] at hs
    obtain ⟨j, hj, hlt, hr⟩ := hs
    obtain ⟨h1, h2⟩ := ih j hj (by omega) (h j s' hj)
    rw [h1, hr]
    exact ⟨rfl, h2⟩
  | case3 f s hn =>
    rw [hn] at hs
    rw [show ref i = ([], .done) from hs]
    exact ⟨rfl, nofun⟩
  | case4 f s hn =>
    rw [hn] at hs
    rw [show ref i = ([], .err) from hs]
    exact ⟨rfl, nofun⟩

theorem StepSpec.drain_eq {σ ι : Type} {next : σ → Step σ} {Rel : ι → σ → Prop} {ref : ι → List Item × Fin}
    {μ : ι → Nat} (h : StepSpec next Rel ref μ) {f : Nat} {i : ι} {s : σ} (hP : Rel i s) (hf : μ i < f) :
    drain next f s = ref i :=
  (h.drain_spec f i s hP hf).1

theorem StepSpec.fin_ne_nofuel {σ ι : Type} {next : σ → Step σ} {Rel : ι → σ → Prop} {ref : ι → List Item × Fin}
    {μ : ι → Nat} (h : StepSpec next Rel ref μ) {i : ι} {s : σ} (hP : Rel i s) : (ref i).2 ≠ .nofuel :=
  (h.drain_spec (μ i + 1) i s hP (Nat.lt_succ_self _)).2

/-! ### array / pair collection -/

theorem src_stepSpec : StepSpec Src.next Eq (fun s => (s.rest, finOf s.fin)) (·.rest.length) := by
  rintro _ ⟨rest, fin⟩ rfl
  cases rest with
  | nil => cases fin <;> rfl
  | cons x xs => exact ⟨⟨xs, fin⟩, rfl, Nat.lt_succ_self _, rfl⟩

theorem drain_src (fin : End) : ∀ (items : List Item) (f : Nat), items.length < f →
    drain Src.next f ⟨items, fin⟩ = (items, finOf fin) :=
  fun _ _ hf => src_stepSpec.drain_eq rfl hf

/-! ### take -/

theorem takeRef_nonpos {n : Int} (hn : ¬ n > 0) (s : Src) : takeRef n s = ([], .done) := by
  have h : n.toNat = 0 := by omega
  simp [takeRef, h]

theorem takeRef_nil {n : Int} (hn : n > 0) (fin : End) : takeRef n ⟨[], fin⟩ = ([], finOf fin) := by
  have h : ¬ n.toNat ≤ 0 := by omega
  simp [takeRef, h]

theorem takeRef_cons {n : Int} (hn : n > 0) (x : Item) (xs : List Item) (fin : End) :
    takeRef n ⟨x :: xs, fin⟩ = (x :: (takeRef (n - 1) ⟨xs, fin⟩).1, (takeRef (n - 1) ⟨xs, fin⟩).2) := by
  have e : n.toNat = (n - 1).toNat + 1 := by omega
  simp only [takeRef, List.length_cons, e, Nat.add_le_add_iff_right, List.take_succ_cons]
  split <;> rfl

theorem take_stepSpec : StepSpec takeNext Eq (fun s => takeRef s.2 s.1) (·.1.rest.length) := by
  rintro _ ⟨⟨rest, fin⟩, n⟩ rfl
  by_cases hn : n > 0
  · simp only [takeNext, hn, if_true]
    cases rest with
    | nil => cases fin <;> exact takeRef_nil hn _
    | cons x xs => exact ⟨(⟨xs, fin⟩, n - 1), rfl, Nat.lt_succ_self _, takeRef_cons hn x xs fin⟩
  · simp only [takeNext, hn, if_false]
    exact takeRef_nonpos hn _

theorem drain_take (fin : End) : ∀ (rest : List Item) (n : Int) (f : Nat), rest.length < f →
    drain takeNext f (⟨rest, fin⟩, n) = takeRef n ⟨rest, fin⟩ :=
  fun _ _ _ hf => take_stepSpec.drain_eq rfl hf

theorem takeArg_eq (n : Int) : takeArg n = max n 0 := by
  unfold takeArg; omega

theorem takeRef_takeArg (n : Int) (s : Src) : takeRef (takeArg n) s = takeRef n s := by
  have : (takeArg n).toNat = n.toNat := by rw [takeArg_eq]; omega
  simp only [takeRef, this]

theorem takeCount_takeArg (cnt : Option Int) (n : Int) :
    takeCountRaw cnt (takeArg n) = cnt.map fun k => min k (max n 0) := by
  rw [takeArg_eq]
  generalize max n 0 = m
  cases cnt with
  | none => rfl
  | some c => exact congrArg some (show (if c < m then c else m) = min c m by omega)

/-! ### map-items, map, filter -/

theorem mapItems_stepSpec (g : Val → Val → Option Item) :
    StepSpec (mapItemsNext g) Eq (fun s => mapItemsRef g s.fin s.rest) (·.rest.length) := by
  rintro _ ⟨rest, fin⟩ rfl
  cases rest with
  | nil => cases fin <;> rfl
  | cons x xs =>
    obtain ⟨k, v⟩ := x
    cases hg : g k v <;> simp [Unfolds, mapItemsNext, Src.next, mapItemsRef, hg]

theorem drain_mapItems (g : Val → Val → Option Item) (fin : End) : ∀ (rest : List Item) (f : Nat),
    rest.length < f → drain (mapItemsNext g) f ⟨rest, fin⟩ = mapItemsRef g fin rest :=
  fun _ _ hf => (mapItems_stepSpec g).drain_eq rfl hf

theorem mapItemsRef_len (g : Val → Val → Option Item) (fin : End) : ∀ xs : List Item,
    (mapItemsRef g fin xs).1.length ≤ xs.length ∧
    ((mapItemsRef g fin xs).2 = .done → fin = .done ∧ (mapItemsRef g fin xs).1.length = xs.length) := by
  intro xs
  fun_induction mapItemsRef g fin xs with
  | case1 => cases fin <;> simp [finOf]
  | case2 k v xs kv hf ih =>
    simp only [List.length_cons]
    exact ⟨by omega, fun h => ⟨(ih.2 h).1, by have := (ih.2 h).2; omega⟩⟩
  | case3 k v xs hf => simp

def onValue (f : Val → Option Val) (k v : Val) : Option Item := (f v).map fun v' => (k, v')

theorem mapNext_eq (f : Val → Option Val) (s : Src) : mapNext f s = mapItemsNext (onValue f) s := by
  obtain ⟨rest, fin⟩ := s
  cases rest with
  | nil => cases fin <;> rfl
  | cons x xs => simp only [mapNext, mapItemsNext, Src.next, onValue]; cases f x.2 <;> rfl

theorem mapRef_eq (f : Val → Option Val) (fin : End) : ∀ xs, mapRef f fin xs = mapItemsRef (onValue f) fin xs
  | [] => rfl
  | (k, v) :: xs => by
    simp only [mapRef, mapItemsRef, onValue, mapRef_eq f fin xs]
    cases f v <;> rfl

theorem drain_map (g : Val → Option Val) (fin : End) (rest : List Item) (f : Nat) (hf : rest.length < f) :
    drain (mapNext g) f ⟨rest, fin⟩ = mapRef g fin rest := by
  rw [funext (mapNext_eq g), mapRef_eq]
  exact drain_mapItems _ fin rest f hf

theorem mapRef_list (g : Val → Val) : ∀ items : List Item,
    mapRef (fun v => some (g v)) .done items = (items.map (fun it => (it.1, g it.2)), .done) := by
  intro items
  induction items with
  | nil => rfl
  | cons x xs ih => obtain ⟨k, v⟩ := x; simp [mapRef, ih]

theorem filter_stepSpec (p : Val → Option Val) :
    StepSpec (filterNext p) Eq (fun s => filterRef p s.fin s.rest) (·.rest.length) := by
  rintro _ ⟨rest, fin⟩ rfl
  induction rest with
  | nil => cases fin <;> rfl
  | cons x xs ih =>
    obtain ⟨k, v⟩ := x
    cases hp : p v with
    | none => simp [Unfolds, filterNext, filterGo, filterRef, hp]
    | some a =>
      cases a with
      | bool b =>
        cases b with
        | false =>
          -- a `false` answer drops the item: `next` and the reference both go on with the rest
          have e : filterNext p ⟨(k, v) :: xs, fin⟩ = filterNext p ⟨xs, fin⟩ := by simp only [filterNext, filterGo, hp]
          rw [e]
          exact ih.skip (by simp only [filterRef, hp]) (Nat.le_succ _)
        | true => simp [Unfolds, filterNext, filterGo, filterRef, hp]
      | _ => simp [Unfolds, filterNext, filterGo, filterRef, hp]

theorem drain_filter (p : Val → Option Val) (fin : End) : ∀ (rest : List Item) (f : Nat),
    rest.length < f → drain (filterNext p) f ⟨rest, fin⟩ = filterRef p fin rest :=
  fun _ _ hf => (filter_stepSpec p).drain_eq rfl hf

theorem filterRef_list (q : Val → Bool) : ∀ items : List Item,
    filterRef (fun v => some (.bool (q v))) .done items = (items.filter (fun it => q it.2), .done) := by
  intro items
  induction items with
  | nil => rfl
  | cons x xs ih =>
    obtain ⟨k, v⟩ := x
    cases hq : q v <;> simp [filterRef, hq, ih]

/-! ### flatten -/

def itemsTotal : List Src → Nat
  | [] => 0
  | s :: ss => s.rest.length + itemsTotal ss

theorem itemsTotal_le_srcTotal : ∀ ss : List Src, itemsTotal ss ≤ srcTotal ss
  | [] => Nat.le_refl _
  | s :: ss => by
    have := itemsTotal_le_srcTotal ss
    simp only [itemsTotal, srcTotal]; omega

theorem flattenNext_some (ofin : End) (c : Src) (cs : List Src) :
    flattenNext ofin (cs, some c) = flattenOuter ofin (c :: cs) := by
  obtain ⟨rest, cfin⟩ := c
  cases rest with
  | nil => cases cfin <;> rfl
  | cons x xs => rfl

theorem flattenOuter_spec (ofin : End) : ∀ ss : List Src,
    Unfolds (fun ss s => flattenNext ofin s = flattenOuter ofin ss) (flattenRef ofin) itemsTotal ss
      (flattenOuter ofin ss)
  | [] => by cases ofin <;> exact rfl
  | ⟨[], .err⟩ :: cs => rfl
  | ⟨[], .done⟩ :: cs => (flattenOuter_spec ofin cs).skip (by simp [flattenRef]) (by simp [itemsTotal])
  | ⟨x :: xs, cfin⟩ :: cs =>
    ⟨⟨xs, cfin⟩ :: cs, flattenNext_some ofin _ cs, by simp [itemsTotal], by cases cfin <;> simp [flattenRef]⟩

theorem flatten_stepSpec (ofin : End) :
    StepSpec (flattenNext ofin) (fun ss s => flattenNext ofin s = flattenOuter ofin ss) (flattenRef ofin)
      itemsTotal := by
  intro ss s h
  rw [h]
  exact flattenOuter_spec ofin ss

theorem drain_flatten_none (ofin : End) : ∀ (ss : List Src) (f : Nat), itemsTotal ss < f →
    drain (flattenNext ofin) f (ss, none) = flattenRef ofin ss :=
  fun ss _ hf => (flatten_stepSpec ofin).drain_eq (i := ss) rfl hf

/-! ### join-missing -/

theorem goLess_none_iff (a b : Val) : goLess a b = none ↔ goEqual a b = none := by
  fun_cases goLess a b <;> simp [goEqual, *]

theorem goLess_some_of_goEqual_false {a b : Val} (h : goEqual a b = some false) :
    ∃ l, goLess a b = some l :=
  Option.ne_none_iff_exists'.mp fun hl => by rw [(goLess_none_iff a b).mp hl] at h; cases h

/-- every started state of the merge is `jmSt B J`: `B`, `J` = current item followed by what is still to come -/
def jmSt (bfin jfin : End) (B J : List Item) : JM :=
  { started := true, b := ⟨B.tail, bfin⟩, j := ⟨J.tail, jfin⟩, bcur := B.head?, jcur := J.head? }

/-- what is left once the current item of `jmSt B J` has been emitted -/
def jmPend : List Item → List Item → List Item × List Item
  | b :: bs, j :: js => if goLess j.1 b.1 = some true then (b :: bs, js) else (bs, j :: js)
  | _ :: bs, [] => (bs, [])
  | [], _ :: js => ([], js)
  | [], [] => ([], [])

theorem adv_ok {L : List Item} {fin : End} (h : L = [] → fin = .done) :
    adv ⟨L, fin⟩ = some (L.head?, ⟨L.tail, fin⟩) := by
  cases L with
  | nil => rw [h rfl]; rfl
  | cons x xs => rfl

theorem adv_err {L : List Item} {fin : End} (h : ¬ (L = [] → fin = .done)) : adv ⟨L, fin⟩ = none := by
  cases L with
  | nil => cases fin with
    | done => exact absurd (fun _ => rfl) h
    | err => rfl
  | cons x xs => exact absurd nofun h

/-- the heads of a started state are not equal (the skip loop ran) -/
def HeadsDiffer : List Item → List Item → Prop
  | b :: _, j :: _ => goEqual j.1 b.1 = some false
  | _, _ => True

/-- an exhausted side ended without an error -/
def EndsOk (bfin jfin : End) (B J : List Item) : Prop := (B = [] → bfin = .done) ∧ (J = [] → jfin = .done)

theorem joinRef_err_of_not_endsOk (bfin jfin : End) (B J : List Item) (h : ¬ EndsOk bfin jfin B J) :
    joinRef bfin jfin B J = ([], .err) := by
  unfold EndsOk at h
  cases B with
  | nil =>
    cases J with
    | nil => cases bfin <;> cases jfin <;> simp_all [joinRef]
    | cons j js => cases bfin <;> simp_all [joinRef]
  | cons b bs =>
    cases J with
    | nil => cases jfin <;> simp_all [joinRef]
    | cons j js => simp at h

/-- the first half of `Next` takes `s` to `jmSt p.1 p.2`, or fails when a side that has just run out ended with an
error -/
def Pending (bfin jfin : End) (p : List Item × List Item) (s : JM) : Prop :=
  (EndsOk bfin jfin p.1 p.2 → jmAdvance s = some (jmSt bfin jfin p.1 p.2)) ∧
  (¬ EndsOk bfin jfin p.1 p.2 → jmAdvance s = none)

/-- `s` advances its joined side and keeps the rest of `jmSt B (j :: js)` (`pending_of_advB`: the base side) -/
theorem pending_of_advJ {bfin jfin : End} {s : JM} {B js : List Item} {j : Item} (hB : B = [] → bfin = .done)
    (hs : jmAdvance s = (adv ⟨js, jfin⟩).map fun (jc, j') => { jmSt bfin jfin B (j :: js) with j := j', jcur := jc }) :
    Pending bfin jfin (B, js) s :=
  ⟨fun h => by rw [hs, adv_ok h.2]; rfl, fun h => by rw [hs, adv_err fun hj => h ⟨hB, hj⟩]; rfl⟩

theorem pending_of_advB {bfin jfin : End} {s : JM} {bs J : List Item} {b : Item} (hJ : J = [] → jfin = .done)
    (hs : jmAdvance s = (adv ⟨bs, bfin⟩).map fun (bc, b') => { jmSt bfin jfin (b :: bs) J with b := b', bcur := bc }) :
    Pending bfin jfin (bs, J) s :=
  ⟨fun h => by rw [hs, adv_ok h.1]; rfl, fun h => by rw [hs, adv_err fun hb => h ⟨hb, hJ⟩]; rfl⟩

theorem jmAdvance_st (bfin jfin : End) : ∀ (B J : List Item), HeadsDiffer B J → EndsOk bfin jfin B J →
    Pending bfin jfin (jmPend B J) (jmSt bfin jfin B J)
  | [], [], _, hok => ⟨fun _ => rfl, fun h => absurd hok h⟩
  | [], j :: js, _, hok => pending_of_advJ hok.1 rfl
  | b :: bs, [], _, hok => pending_of_advB hok.2 rfl
  | b :: bs, j :: js, hd, hok => by
    obtain ⟨l, hl⟩ := goLess_some_of_goEqual_false hd
    cases l with
    | true =>
      rw [show jmPend (b :: bs) (j :: js) = (b :: bs, js) by simp only [jmPend, hl, if_true]]
      exact pending_of_advJ (j := j) hok.1 (by
        simp only [jmAdvance, jmSt, hl, List.head?_cons, List.tail_cons, Bool.not_true, Bool.false_eq_true, if_false])
    | false =>
      rw [show jmPend (b :: bs) (j :: js) = (bs, j :: js) by simp [jmPend, hl]]
      exact pending_of_advB (b := b) hok.2 (by
        simp only [jmAdvance, jmSt, hl, List.head?_cons, List.tail_cons, Bool.not_true, Bool.false_eq_true, if_false])

theorem pending_start (bfin jfin : End) (B J : List Item) :
    Pending bfin jfin (B, J) { started := false, b := ⟨B, bfin⟩, j := ⟨J, jfin⟩, bcur := none, jcur := none } := by
  refine ⟨fun h => ?_, fun h => ?_⟩
  · simp only [jmAdvance, adv_ok h.1, adv_ok h.2]; rfl
  · by_cases hb : B = [] → bfin = .done
    · simp only [jmAdvance, adv_ok hb, adv_err fun hj => h ⟨hb, hj⟩]; rfl
    · simp only [jmAdvance, adv_err hb]; rfl

theorem jmSkip_spec (bfin jfin : End) (b : Item) (bs : List Item) (ji : Item) (js : List Item) :
    (jmSkip b.1 jfin ji js = none ∧ joinRef bfin jfin (b :: bs) (ji :: js) = ([], .err)) ∨
    (∃ J2 : List Item, jmSkip b.1 jfin ji js = some (J2.head?, ⟨J2.tail, jfin⟩) ∧
      joinRef bfin jfin (b :: bs) (ji :: js) = joinRef bfin jfin (b :: bs) J2 ∧
      HeadsDiffer (b :: bs) J2 ∧ (J2 = [] → jfin = .done) ∧ J2.length ≤ js.length + 1) := by
  fun_induction jmSkip b.1 jfin ji js with
  | case1 jk jv rest he => exact .inl ⟨rfl, by simp [joinRef, he]⟩
  | case2 jk jv rest he => exact .inr ⟨(jk, jv) :: rest, rfl, rfl, he, nofun, Nat.le_refl _⟩
  | case3 jk jv he x xs ih =>
    have e : joinRef bfin jfin (b :: bs) ((jk, jv) :: x :: xs) = joinRef bfin jfin (b :: bs) (x :: xs) := by
      simp [joinRef, he]
    rw [e]
    rcases ih with h | ⟨J2, h1, h2, h3, h4, h5⟩
    · exact .inl h
    · exact .inr ⟨J2, h1, h2, h3, h4, Nat.le_succ_of_le h5⟩
  | case4 jk jv he hfin =>
    subst hfin
    exact .inr ⟨[], rfl, by simp [joinRef, he], trivial, fun _ => rfl, Nat.zero_le _⟩
  | case5 jk jv he hfin =>
    subst hfin
    exact .inl ⟨rfl, by simp [joinRef, he]⟩

/-- second half of `Next` (skip loop, then `iterator()` picks the current item) -/
def jmEmit (s1 : JM) : Step JM :=
  match s1.bcur, s1.jcur with
  | some bi, some ji =>
    match jmSkip bi.1 s1.j.fin ji s1.j.rest with
    | none => .fail
    | some (jc, j') =>
      let s2 : JM := { s1 with j := j', jcur := jc }
      match jc with
      | some ji' => if (goLess ji'.1 bi.1).getD false then .yield ji' s2 else .yield bi s2
      | none => .yield bi s2
  | some bi, none => .yield bi s1
  | none, some ji => .yield ji s1
  | none, none => .stop

theorem jmNext_eq (s : JM) : jmNext s = match jmAdvance s with
    | none => .fail
    | some s1 => jmEmit s1 := rfl

abbrev joinAt (bfin jfin : End) (p : List Item × List Item) : List Item × Fin := joinRef bfin jfin p.1 p.2
abbrev joinLen (p : List Item × List Item) : Nat := p.1.length + p.2.length

theorem joinLen_pend : ∀ (B J : List Item), B ≠ [] ∨ J ≠ [] → joinLen (jmPend B J) + 1 = B.length + J.length
  | [], [], h => by cases h <;> contradiction
  | [], _ :: _, _ => rfl
  | _ :: _, [], _ => rfl
  | b :: bs, j :: js, _ => by
    simp only [jmPend]
    split
    · rfl
    · exact Nat.add_right_comm _ _ _

theorem joinRef_heads_differ (bfin jfin : End) {b j : Item} (bs js : List Item) {l : Bool}
    (he : goEqual j.1 b.1 = some false) (hl : goLess j.1 b.1 = some l) :
    joinRef bfin jfin (b :: bs) (j :: js) =
      ((if l then j else b) :: (joinAt bfin jfin (jmPend (b :: bs) (j :: js))).1,
        (joinAt bfin jfin (jmPend (b :: bs) (j :: js))).2) := by
  cases l <;> simp [joinAt, joinRef, jmPend, he, hl]

theorem unfolds_yield (bfin jfin : End) {B J J2 : List Item} {it : Item} (hd : HeadsDiffer B J2)
    (hok : EndsOk bfin jfin B J2) (hne : B ≠ [] ∨ J2 ≠ []) (hlen : J2.length ≤ J.length)
    (href : joinRef bfin jfin B J = (it :: (joinAt bfin jfin (jmPend B J2)).1, (joinAt bfin jfin (jmPend B J2)).2)) :
    Unfolds (Pending bfin jfin) (joinAt bfin jfin) joinLen (B, J) (.yield it (jmSt bfin jfin B J2)) :=
  ⟨jmPend B J2, jmAdvance_st bfin jfin B J2 hd hok, by have := joinLen_pend B J2 hne; simp only [joinLen] at *; omega,
    href⟩

theorem jmEmit_spec (bfin jfin : End) (B J : List Item) (hok : EndsOk bfin jfin B J) :
    Unfolds (Pending bfin jfin) (joinAt bfin jfin) joinLen (B, J) (jmEmit (jmSt bfin jfin B J)) := by
  cases B with
  | nil =>
    cases J with
    | nil =>
      have hb : bfin = .done := hok.1 rfl
      have hj : jfin = .done := hok.2 rfl
      subst hb; subst hj
      simp [Unfolds, jmEmit, jmSt, joinAt, joinRef]
    | cons j js =>
      have hb : bfin = .done := hok.1 rfl
      subst hb
      exact unfolds_yield .done jfin (J2 := j :: js) trivial hok (.inr nofun) (Nat.le_refl _)
        (by simp [joinAt, joinRef, jmPend])
  | cons b bs =>
    cases J with
    | nil =>
      have hj : jfin = .done := hok.2 rfl
      subst hj
      exact unfolds_yield bfin .done (J2 := []) trivial hok (.inl nofun) (Nat.le_refl _)
        (by simp [joinAt, joinRef, jmPend])
    | cons j js =>
      rcases jmSkip_spec bfin jfin b bs j js with ⟨h1, h2⟩ | ⟨J2, h1, h2, h3, h4, h5⟩
      all_goals simp only [jmEmit, jmSt, List.head?_cons, List.tail_cons, h1]
      · exact h2
      · cases J2 with
        | nil =>
          have hj : jfin = .done := h4 rfl
          subst hj
          exact unfolds_yield bfin .done (J2 := []) trivial ⟨nofun, fun _ => rfl⟩ (.inl nofun) (Nat.zero_le _)
            (by rw [h2]; simp [joinAt, joinRef, jmPend])
        | cons j2 js2 =>
          obtain ⟨l, hl⟩ := goLess_some_of_goEqual_false h3
          have href := h2.trans (joinRef_heads_differ bfin jfin bs js2 h3 hl)
          simp only [List.head?_cons, hl, Option.getD_some]
          -- `iterator()` and the reference pick the same head, whichever way `Less` answers
          cases l <;> exact unfolds_yield bfin jfin h3 ⟨nofun, nofun⟩ (.inl nofun) h5 href

theorem jm_stepSpec (bfin jfin : End) : StepSpec jmNext (Pending bfin jfin) (joinAt bfin jfin) joinLen := by
  intro p s h
  by_cases hok : EndsOk bfin jfin p.1 p.2
  · simp only [jmNext_eq, h.1 hok]
    exact jmEmit_spec bfin jfin p.1 p.2 hok
  · simp only [jmNext_eq, h.2 hok]
    exact joinRef_err_of_not_endsOk bfin jfin _ _ hok

theorem drain_jm (bfin jfin : End) (B J : List Item) (f : Nat) (hf : B.length + J.length < f) :
    drain jmNext f { started := false, b := ⟨B, bfin⟩, j := ⟨J, jfin⟩, bcur := none, jcur := none }
      = joinRef bfin jfin B J :=
  (jm_stepSpec bfin jfin).drain_eq (pending_start bfin jfin B J) hf

theorem filter_absentFrom_cons {b : Item} (bs : List Item) {F : List Item} (h : ∀ x ∈ F, b.1 ≠ x.1) :
    F.filter (absentFrom (b :: bs)) = F.filter (absentFrom bs) :=
  List.filter_congr fun x hx => by simp [absentFrom, h x hx]

theorem joinRef_nil_left : ∀ J : List Item, joinRef .done .done [] J = (J, .done)
  | [] => by simp [joinRef]
  | j :: js => by simp [joinRef, joinRef_nil_left js]

theorem mergeRef_nil_right (lt : Val → Val → Bool) : ∀ B, mergeRef lt B [] = B
  | [] => by simp [mergeRef]
  | _ :: _ => by simp [mergeRef]

theorem mergeRef_nil_left (lt : Val → Val → Bool) (J : List Item) : mergeRef lt [] J = J := by
  simp [mergeRef]

theorem mergeRef_head (lt : Val → Val → Bool) (b : Item) (bs F : List Item)
    (h : ∀ x ∈ F, lt x.1 b.1 = false) : mergeRef lt (b :: bs) F = b :: mergeRef lt bs F := by
  cases F with
  | nil => simp [mergeRef_nil_right]
  | cons x F' =>
    have := h x (List.mem_cons_self ..)
    simp [mergeRef, this]

/-! ### compositions: what a node sees of its argument (`Den.src?`), and the reported counts -/

theorem src?_eq {d : Den} {s : Src} (h : d.src? = some s) :
    s.rest = d.items ∧ finOf s.fin = d.fin := by
  obtain ⟨e, he, rfl⟩ := Option.map_eq_some_iff.mp h
  revert he
  fun_cases Fin.toEnd? d.fin with
  | case1 | case2 => rintro ⟨⟩; exact ⟨rfl, rfl⟩
  | case3 => nofun

theorem src?_of_fin {d : Den} (h : d.fin ≠ .nofuel) : ∃ s, d.src? = some s := by
  unfold Den.src?
  cases hf : d.fin with
  | nofuel => exact absurd hf h
  | done => exact ⟨_, rfl⟩
  | err => exact ⟨_, rfl⟩

/-- a reported count is never exceeded, and is exact when the iteration ends without an error -/
def CountOk (d : Den) : Prop :=
  ∀ k, d.count = some k → (d.items.length : Int) ≤ k ∧ (d.fin = .done → (d.items.length : Int) = k)

theorem countOk_none {d : Den} (h : d.count = none) : CountOk d :=
  fun k hk => by rw [h] at hk; cases hk

theorem CountOk.of_le {d : Den} (h : CountOk d) {s : Src} (hs : d.src? = some s) {r : List Item × Fin}
    (hr : r.1.length ≤ s.rest.length ∧ (r.2 = .done → s.fin = .done ∧ r.1.length = s.rest.length)) :
    CountOk ⟨r.1, r.2, d.count⟩ := by
  intro k hk
  obtain ⟨hle, heq⟩ := h k hk
  obtain ⟨hr1, hf⟩ := src?_eq hs
  rw [← hr1] at hle heq
  show (r.1.length : Int) ≤ k ∧ (r.2 = .done → (r.1.length : Int) = k)
  refine ⟨by have := hr.1; omega, fun hd => ?_⟩
  obtain ⟨h3, h4⟩ := hr.2 hd
  have := heq (by rw [← hf, h3]; rfl)
  omega

/-- the arithmetic of `CountOk.take`, apart so that `omega` sees only these variables -/
theorem take_count_arith (n k0 : Int) (len : Nat) (hle : (len : Int) ≤ k0) :
    (n.toNat ≤ len → (n.toNat : Int) = min k0 (max n 0)) ∧
    (¬ n.toNat ≤ len → (len : Int) ≤ min k0 (max n 0) ∧ ((len : Int) = k0 → (len : Int) = min k0 (max n 0))) := by
  omega

theorem CountOk.take {d : Den} (h : CountOk d) {s : Src} (hs : d.src? = some s) (n : Int) :
    CountOk ⟨(takeRef n s).1, (takeRef n s).2, d.count.map fun k => min k (max n 0)⟩ := by
  intro k hk
  obtain ⟨k0, hc, rfl⟩ := Option.map_eq_some_iff.mp hk
  obtain ⟨hle, heq⟩ := h k0 hc
  obtain ⟨hr, hf⟩ := src?_eq hs
  rw [← hr] at hle heq
  obtain ⟨hall, hfew⟩ := take_count_arith n k0 s.rest.length hle
  simp only [takeRef]
  split
  · next hn =>
    rw [List.length_take, Nat.min_eq_left hn]
    exact ⟨Int.le_of_eq (hall hn), fun _ => hall hn⟩
  · next hn => exact ⟨(hfew hn).1, fun hd => (hfew hn).2 (heq (by rw [← hf]; exact hd))⟩

theorem count_bound : ∀ c : Co, CountOk (specDen c)
  | .arr items => fun k h => by cases h; exact ⟨Int.le_refl _, fun _ => rfl⟩
  | .take c n => by
    simp only [specDen]
    split
    · exact countOk_none rfl
    · next s hs => exact (count_bound c).take hs n
  | .filter c p => by
    simp only [specDen]
    split <;> exact countOk_none rfl
  | .map c f => by
    simp only [specDen]
    split
    · exact countOk_none rfl
    · next s hs => rw [mapRef_eq]; exact (count_bound c).of_le hs (mapItemsRef_len _ s.fin s.rest)
  | .mapItems c g => by
    simp only [specDen]
    split
    · exact countOk_none rfl
    · next s hs => exact (count_bound c).of_le hs (mapItemsRef_len _ s.fin s.rest)
  | .flatten cs => by
    simp only [specDen]
    split <;> exact countOk_none rfl
  | .join b j => by
    simp only [specDen]
    split <;> exact countOk_none rfl

/-! ### the counting functions (Go `map[interface{}]int` as an association list) -/

theorem wrap64_wrap64_add (a d : Int) : wrap64 (wrap64 a + d) = wrap64 (a + d) := by
  unfold wrap64; exact Int.bmod_add_bmod

theorem lookup_bump (k k' : Val) (d : Int) : ∀ acc : List (Val × Int),
    lookup k (bump k' d acc) =
      if k' = k then some (match lookup k acc with
        | some c => wrap64 (c + d)
        | none => wrap64 d)
      else lookup k acc := by
  intro acc
  fun_induction bump k' d acc with
  | case1 => by_cases h : k' = k <;> simp [lookup, h]
  | case2 c rest => by_cases h : k' = k <;> simp [lookup, h]
  | case3 k2 c rest h2 ih =>
    by_cases h : k' = k
    · subst h; simp only [lookup, h2, if_false, ih, if_true]
    · simp only [lookup, if_false, ih, h]

theorem keys_bump (k' : Val) (d : Int) : ∀ acc : List (Val × Int),
    (bump k' d acc).map (·.1) = if k' ∈ acc.map (·.1) then acc.map (·.1) else acc.map (·.1) ++ [k'] := by
  intro acc
  fun_induction bump k' d acc with
  | case1 => rfl
  | case2 c rest => simp
  | case3 k2 c rest h ih =>
    simp only [List.map_cons, ih, List.mem_cons, Ne.symm h, false_or]
    split <;> simp

theorem nodup_bump (k' : Val) (d : Int) (acc : List (Val × Int)) (h : (acc.map (·.1)).Nodup) :
    ((bump k' d acc).map (·.1)).Nodup := by
  rw [keys_bump]
  split
  · exact h
  · next hn =>
    rw [List.nodup_append]
    refine ⟨h, by simp, ?_⟩
    intro a ha b hb
    simp at hb; subst hb
    intro e; subst e; exact hn ha

theorem weightFor_eq_zero (keyOf : Item → Val) (delta : Item → Int) (k : Val) : ∀ seen : List Item,
    k ∉ seen.map keyOf → weightFor keyOf delta k seen = 0
  | [], _ => rfl
  | x :: xs, h => by
    rw [List.map_cons, List.mem_cons, not_or] at h
    rw [weightFor, if_neg (fun e => h.1 e.symm)]
    exact weightFor_eq_zero keyOf delta k xs h.2

theorem lookup_foldl_bump (keyOf : Item → Val) (delta : Item → Int) (k : Val) :
    ∀ (items : List Item) (acc : List (Val × Int)),
      lookup k (items.foldl (fun acc it => bump (keyOf it) (delta it) acc) acc) =
        if k ∈ items.map keyOf then some (wrap64 ((lookup k acc).getD 0 + weightFor keyOf delta k items))
        else lookup k acc
  | [], acc => by simp
  | x :: xs, acc => by
    rw [List.foldl_cons, lookup_foldl_bump keyOf delta k xs, lookup_bump, weightFor]
    simp only [List.map_cons, List.mem_cons]
    by_cases hx : keyOf x = k
    · -- the entry of `k` after `x` is `wrap64 (c + delta x)`, `c` the entry before (0 if there was none)
      simp only [hx, if_true, Option.getD_some, true_or]
      split
      · cases lookup k acc <;> simp only [Option.getD, wrap64_wrap64_add, Int.zero_add, Int.add_assoc]
      · next hn =>
        cases lookup k acc <;>
          simp only [Option.getD, weightFor_eq_zero keyOf delta k xs hn, Int.add_zero, Int.zero_add]
    · simp only [hx, if_false, Ne.symm hx, false_or]

theorem nodup_foldl_bump (keyOf : Item → Val) (delta : Item → Int) : ∀ (items : List Item) (acc : List (Val × Int)),
    (acc.map (·.1)).Nodup → ((items.foldl (fun acc it => bump (keyOf it) (delta it) acc) acc).map (·.1)).Nodup
  | [], _, h => h
  | _ :: xs, acc, h => nodup_foldl_bump keyOf delta xs _ (nodup_bump _ _ acc h)

theorem countBy_spec (keyOf : Item → Val) (delta : Item → Int) (items : List Item) (l : List (Val × Int))
    (h : countBy keyOf delta items .done = some l) :
    (l.map (·.1)).Nodup ∧
    ∀ k, lookup k l = if k ∈ items.map keyOf then some (wrap64 (weightFor keyOf delta k items)) else none := by
  cases h
  exact ⟨nodup_foldl_bump keyOf delta items [] .nil, fun k => by
    rw [lookup_foldl_bump]; simp only [lookup, Option.getD_none, Int.zero_add]⟩

/-- the int value of an item (0 for anything else; only used when all values are ints) -/
def intDelta : Item → Int
  | (_, .int v) => v
  | _ => 0

theorem sumFor_eq_weightFor (k : Val) : ∀ items : List Item,
    sumFor k items = weightFor (·.1) intDelta k items := by
  intro items
  induction items with
  | nil => rfl
  | cons x xs ih =>
    obtain ⟨k', v⟩ := x
    cases v <;> by_cases h : k' = k <;> simp [sumFor, weightFor, intDelta, h, ih]

theorem sumByKey_go (fin : End) : ∀ (items : List Item) (acc : List (Val × Int)),
    sumByKey.go fin acc items =
      if (items.all fun it => match it.2 with | .int _ => true | _ => false) then
        (match fin with
          | .done => some (items.foldl (fun acc it => bump it.1 (intDelta it) acc) acc)
          | .err => none)
      else none := by
  intro items acc
  fun_induction sumByKey.go fin acc items with
  | case1 acc hf => rw [hf]; rfl
  | case2 acc hf => rw [hf]; rfl
  | case3 acc k v xs ih =>
    simp only [ih, List.all_cons, Bool.true_and, List.foldl_cons]
    rfl
  | case4 acc x xs hx =>
    obtain ⟨k, v⟩ := x
    cases v with
    | int i => exact absurd rfl (hx k i)
    | _ => simp

/-! ### top -/

def Numeric (it : Item) : Prop := (valNum it.2).isSome = true

theorem itemLess_asymm {a b : Item} (h : itemLess a b = true) : ¬ itemLess b a = true := by
  revert h
  fun_cases itemLess a b with
  | case1 x y ha hb => simp only [itemLess, ha, hb, decide_eq_true_eq]; omega
  | case2 => nofun

theorem itemLess_trans_le {a b c : Item} (ha : Numeric a) (hb : Numeric b) (hc : Numeric c)
    (h1 : ¬ itemLess a b = true) (h2 : ¬ itemLess b c = true) : ¬ itemLess a c = true := by
  obtain ⟨x, hx⟩ := Option.isSome_iff_exists.mp ha
  obtain ⟨y, hy⟩ := Option.isSome_iff_exists.mp hb
  obtain ⟨z, hz⟩ := Option.isSome_iff_exists.mp hc
  simp only [itemLess, hx, hy, hz, decide_eq_true_eq] at h1 h2 ⊢
  omega

/-- What `top` relies on from a priority queue: relative to an invariant `inv` (heap order) and the multiset
`elems` of what the queue holds, Push adds and Pop removes and returns a minimum w.r.t. `Less`.
Only numeric items (ints or floats) are ever pushed by `top`. -/
structure PQLaw (pq : PQ) where
  elems : pq.Q → List Item
  inv : pq.Q → Prop
  inv_empty : inv pq.empty
  empty : elems pq.empty = []
  size : ∀ q, pq.size q = (elems q).length
  push : ∀ q x, inv q → Numeric x → (∀ y ∈ elems q, Numeric y) →
    inv (pq.push q x) ∧ (elems (pq.push q x)).Perm (x :: elems q)
  pop_none : ∀ q, pq.pop q = none → elems q = []
  pop_some : ∀ q x q', inv q → (∀ y ∈ elems q, Numeric y) → pq.pop q = some (x, q') →
    inv q' ∧ (elems q).Perm (x :: elems q') ∧ ∀ y ∈ elems q', ¬ itemLess y x = true

theorem numeric_of_sameKind {first v : Val} (h : sameKind first v = true) (k : Val) : Numeric (k, v) := by
  unfold Numeric
  cases first <;> cases v <;> simp_all [sameKind, valNum]

/-- loop invariant of `top`: `H` in the heap, `D` dropped so far, `P` processed -/
structure TopInv (n : Int) (P H D : List Item) : Prop where
  perm : (H ++ D).Perm P
  low : ∀ d ∈ D, ∀ h ∈ H, ¬ itemLess h d = true
  len : H.length = min n.toNat P.length
  num : ∀ x ∈ P, Numeric x

theorem TopInv.numH {n : Int} {P H D : List Item} (h : TopInv n P H D) : ∀ y ∈ H, Numeric y :=
  fun y hy => h.num y (h.perm.mem_iff.mp (List.mem_append_left D hy))

theorem TopInv.nil (n : Int) : TopInv n [] [] [] :=
  ⟨List.Perm.refl _, fun _ hd => (nomatch hd), (Nat.min_eq_right (Nat.zero_le _)).symm, fun _ hx => (nomatch hx)⟩

theorem TopInv.push {n : Int} {P H D H' : List Item} {x : Item} (h : TopInv n P H D) (hx : Numeric x)
    (hp : H'.Perm (x :: H)) (hlt : H.length < n.toNat) : TopInv n (P ++ [x]) H' D := by
  -- below capacity the heap holds everything processed
  have hHP : H.length = P.length := by have := h.len; omega
  have hD : D = [] := List.eq_nil_of_length_eq_zero (by
    have := h.perm.length_eq
    rw [List.length_append] at this
    omega)
  subst hD
  refine ⟨?_, fun d hd => (nomatch hd), ?_, List.forall_mem_append.mpr ⟨h.num, List.forall_mem_singleton.mpr hx⟩⟩
  · rw [List.append_nil]
    exact hp.trans (((List.append_nil H ▸ h.perm).cons x).trans (List.perm_append_comm (l₁ := [x])))
  · rw [hp.length_eq, List.length_cons, List.length_append, List.length_singleton, ← hHP,
      Nat.min_eq_right (Nat.succ_le_of_lt hlt)]

theorem TopInv.push_pop {n : Int} {P H D H1 : List Item} {x m : Item} (h : TopInv n P H D) (hx : Numeric x)
    (hp : (x :: H).Perm (m :: H1)) (hmin : ∀ y ∈ H1, ¬ itemLess y m = true)
    (hn : n.toNat ≤ H.length) : TopInv n (P ++ [x]) H1 (m :: D) := by
  have hnumxH : ∀ y ∈ x :: H, Numeric y := List.forall_mem_cons.mpr ⟨hx, h.numH⟩
  refine ⟨?_, ?_, ?_, List.forall_mem_append.mpr ⟨h.num, List.forall_mem_singleton.mpr hx⟩⟩
  · have h1 : (H1 ++ m :: D).Perm ((m :: H1) ++ D) := List.perm_middle
    have h2 : ((m :: H1) ++ D).Perm ((x :: H) ++ D) := hp.symm.append_right D
    have h3 : ((x :: H) ++ D).Perm (x :: P) := h.perm.cons x
    exact h1.trans (h2.trans (h3.trans (List.perm_append_comm (l₁ := [x]))))
  · intro d hd y hy
    have hyxH : y ∈ x :: H := hp.mem_iff.mpr (List.mem_cons_of_mem m hy)
    rcases List.mem_cons.mp hd with hdm | hdD
    · rw [hdm]; exact hmin y hy
    · rcases List.mem_cons.mp hyxH with hyx | hyH
      · -- `m` is `x` itself (the heap is as before), or it was in `H`, where nothing dropped is above it
        by_cases hmx : m = x
        · rw [hmx] at hp
          exact h.low d hdD y (hp.cons_inv.mem_iff.mpr hy)
        · have hmH : m ∈ H := by
            rcases List.mem_cons.mp (hp.mem_iff.mpr (List.mem_cons_self ..)) with e | e
            · exact absurd e hmx
            · exact e
          have hnd : Numeric d := h.num d (h.perm.mem_iff.mp (List.mem_append_right _ hdD))
          exact itemLess_trans_le (hnumxH y hyxH) (h.numH m hmH) hnd (hmin y hy) (h.low d hdD m hmH)
      · exact h.low d hdD y hyH
  · -- at capacity the heap holds `n` items before and after
    have hHn : H.length = n.toNat := Nat.le_antisymm (by rw [h.len]; exact Nat.min_le_left _ _) hn
    have hnP : n.toNat ≤ P.length := by rw [← hHn, h.len]; exact Nat.min_le_right _ _
    rw [List.length_append, List.length_singleton, Nat.min_eq_left (Nat.le_succ_of_le hnP), ← hHn]
    exact (Nat.succ.inj hp.length_eq).symm

theorem topLoop_inv (pq : PQ) (law : PQLaw pq) (n : Int) (first : Val) :
    ∀ (xs P : List Item) (q : pq.Q) (D : List Item) (q' : pq.Q),
      law.inv q → TopInv n P (law.elems q) D → topLoop pq n first xs q = some q' →
      ∃ D', law.inv q' ∧ TopInv n (P ++ xs) (law.elems q') D' := by
  intro xs P q D q' hq hinv h
  fun_induction topLoop pq n first xs q generalizing P D with
  | case1 q => cases h; exact ⟨D, hq, by rwa [List.append_nil]⟩
  | case2 k v xs q hk => cases h
  | case3 k v xs q hk q1 q2 ih =>
    have hnum : Numeric (k, v) := numeric_of_sameKind (by simpa using hk) k
    obtain ⟨hq1, hpush⟩ := law.push q (k, v) hq hnum hinv.numH
    have hsz : pq.size q1 = (law.elems q).length + 1 := by rw [law.size, hpush.length_eq]; rfl
    rw [List.append_cons]
    -- one turn of the loop keeps the invariant; the rest is the induction hypothesis
    have turn : ∃ D2, law.inv q2 ∧ TopInv n (P ++ [(k, v)]) (law.elems q2) D2 := by
      simp only [q2, hsz]
      by_cases hgt : (((law.elems q).length + 1 : Nat) : Int) > n
      · rw [if_pos hgt]
        cases hp : pq.pop q1 with
        | none =>
          have := hpush.length_eq
          rw [law.pop_none _ hp] at this
          cases this
        | some r =>
          obtain ⟨m, q3⟩ := r
          have hnumH1 : ∀ y ∈ law.elems q1, Numeric y :=
            fun y hy => List.forall_mem_cons.mpr ⟨hnum, hinv.numH⟩ y (hpush.mem_iff.mp hy)
          obtain ⟨hq2, hperm, hmin⟩ := law.pop_some _ _ _ hq1 hnumH1 hp
          exact ⟨m :: D, hq2, hinv.push_pop hnum (hpush.symm.trans hperm) hmin (by omega)⟩
      · rw [if_neg hgt]
        exact ⟨D, hq1, hinv.push hnum hpush (by omega)⟩
    obtain ⟨D2, i2, t2⟩ := turn
    exact ih _ D2 i2 t2 h

theorem popAll_spec (pq : PQ) (law : PQLaw pq) : ∀ (f : Nat) (q : pq.Q) (acc : List Item),
    (law.elems q).length ≤ f → law.inv q → (∀ y ∈ law.elems q, Numeric y) →
    ∃ out, popAll pq f q acc = out ++ acc ∧ out.Perm (law.elems q) ∧
      out.Pairwise (fun a b => ¬ itemLess a b = true) := by
  intro f q acc h hq hnum
  fun_induction popAll pq f q acc with
  | case1 q acc =>
    have : law.elems q = [] := List.eq_nil_of_length_eq_zero (by omega)
    exact ⟨[], rfl, by simp [this], .nil⟩
  | case2 f q acc hp => exact ⟨[], rfl, by simp [law.pop_none q hp], .nil⟩
  | case3 f q acc x q1 hp ih =>
    obtain ⟨hq1, hperm, hmin⟩ := law.pop_some q x q1 hq hnum hp
    have hl := hperm.length_eq
    simp only [List.length_cons] at hl
    obtain ⟨out, h1, h2, h3⟩ := ih (by omega) hq1 fun y hy => hnum y (hperm.mem_iff.mpr (List.mem_cons_of_mem _ hy))
    refine ⟨out ++ [x], by simp [h1], ?_, ?_⟩
    · exact (List.perm_append_comm (l₂ := [x])).trans ((List.Perm.cons x h2).trans hperm.symm)
    · rw [List.pairwise_append]
      refine ⟨h3, by simp, ?_⟩
      intro a ha b hb
      simp at hb; subst hb
      exact hmin a (h2.mem_iff.mp ha)

/-! A second, simpler queue that keeps `PQLaw` (used by examples of Props/C24): an unsorted list whose `pop` extracts a
minimum.  The queue the code and the driver run is `goHeap` (`Lemmas/CollectionsHeap.lean`). -/

def extractMin : List Item → Option (Item × List Item)
  | [] => none
  | x :: xs =>
    match extractMin xs with
    | none => some (x, [])
    | some (m, rest) => if itemLess m x then some (m, x :: rest) else some (x, xs)

def listPQ : PQ :=
  { Q := List Item, empty := [], push := fun q x => x :: q, pop := extractMin, size := List.length }

theorem extractMin_cons_ne_none (x : Item) (xs : List Item) : extractMin (x :: xs) ≠ none := by
  rw [extractMin]
  split
  · nofun
  · split <;> nofun

theorem extractMin_spec : ∀ (l : List Item) (m : Item) (rest : List Item),
    extractMin l = some (m, rest) →
    l.Perm (m :: rest) ∧ ((∀ y ∈ l, Numeric y) → ∀ y ∈ rest, ¬ itemLess y m = true) := by
  intro l m rest h
  fun_induction extractMin l generalizing m rest with
  | case1 => cases h
  | case2 x xs hx ih =>
    have hnil : xs = [] := by
      cases xs with
      | nil => rfl
      | cons y ys => exact absurd hx (extractMin_cons_ne_none y ys)
    cases h; subst hnil
    exact ⟨List.Perm.refl _, fun _ y hy => nomatch hy⟩
  | case3 x xs m0 rest0 hx hl ih =>
    -- the minimum of the tail is below `x`: it stays the minimum
    cases h
    obtain ⟨hp, hmin⟩ := ih m0 rest0 hx
    refine ⟨(hp.cons x).trans (List.Perm.swap ..), fun hnum y hy => ?_⟩
    rcases List.mem_cons.mp hy with e | e
    · rw [e]; exact itemLess_asymm hl
    · exact hmin (fun z hz => hnum z (List.mem_cons_of_mem _ hz)) y e
  | case4 x xs m0 rest0 hx hl ih =>
    -- `x` is not above it, hence not above anything in the tail
    cases h
    obtain ⟨hp, hmin⟩ := ih m0 rest0 hx
    refine ⟨List.Perm.refl _, fun hnum y hy => ?_⟩
    have hnxs : ∀ z ∈ xs, Numeric z := fun z hz => hnum z (List.mem_cons_of_mem _ hz)
    rcases List.mem_cons.mp (hp.mem_iff.mp hy) with e | e
    · rw [e]; exact hl
    · exact itemLess_trans_le (hnxs y hy) (hnxs m0 (hp.mem_iff.mpr (List.mem_cons_self ..)))
        (hnum x (List.mem_cons_self ..)) (hmin hnxs y e) hl

def listPQLaw : PQLaw listPQ where
  elems := fun q => q
  inv := fun _ => True
  inv_empty := trivial
  empty := rfl
  size := fun _ => rfl
  push := fun _ _ _ _ _ => ⟨trivial, List.Perm.refl _⟩
  pop_none := by
    intro q h
    cases q with
    | nil => rfl
    | cons x xs =>
      simp only [listPQ, extractMin] at h
      cases hx : extractMin xs with
      | none => simp [hx] at h
      | some r => obtain ⟨a, b⟩ := r; simp only [hx] at h; split at h <;> cases h
  pop_some := fun q x q' _ hnum h =>
    ⟨trivial, (extractMin_spec q x q' h).1, (extractMin_spec q x q' h).2 hnum⟩

/-! ### keys in the order of `b6.Less`

`lt b a = false` reads `a ≤ b`: the non-strict order of a `KeyOrder`, with the laws the arguments about sorted keys use. -/

section
variable {S : Val → Prop} {lt : Val → Val → Bool} (ord : KeyOrder S lt)
include ord

theorem _root_.B6.Spec.Collections.KeyOrder.ne_of_lt {a b : Val} (ha : S a) (h : lt a b = true) : a ≠ b :=
  fun e => by rw [← e, ord.irrefl a ha] at h; cases h

/-- `a < b ≤ c → a < c` -/
theorem _root_.B6.Spec.Collections.KeyOrder.lt_of_lt_of_le {a b c : Val} (ha : S a) (hb : S b) (hc : S c)
    (h1 : lt a b = true) (h2 : lt c b = false) : lt a c = true := by
  rcases ord.total a c ha hc with h | h | h
  · exact h
  · rw [← h, h1] at h2; cases h2
  · rw [ord.trans c a b hc ha hb h h1] at h2; cases h2

/-- `a ≤ b ≤ c → a ≤ c` -/
theorem _root_.B6.Spec.Collections.KeyOrder.le_trans {a b c : Val} (ha : S a) (hb : S b) (hc : S c)
    (h1 : lt b a = false) (h2 : lt c b = false) : lt c a = false := by
  cases h : lt c a with
  | false => rfl
  | true =>
    rcases ord.total a b ha hb with h' | h' | h'
    · rw [ord.trans c a b hc ha hb h h'] at h2; cases h2
    · rw [← h', h] at h2; cases h2
    · rw [h1] at h'; cases h'

theorem _root_.B6.Spec.Collections.KeyOrder.le_antisymm {a b : Val} (ha : S a) (hb : S b)
    (h1 : lt b a = false) (h2 : lt a b = false) : a = b := by
  rcases ord.total a b ha hb with h | h | h
  · rw [h2] at h; cases h
  · exact h
  · rw [h1] at h; cases h

theorem _root_.B6.Spec.Collections.KeyOrder.asymm {a b : Val} (ha : S a) (hb : S b) (h : lt a b = true) :
    lt b a = false := by
  cases hba : lt b a with
  | false => rfl
  | true => have := ord.trans a b a ha hb ha h hba; rw [ord.irrefl a ha] at this; cases this

theorem _root_.B6.Spec.Collections.KeyOrder.lt_all {b : Val} {j : Item} {js : List Item} (hb : S b)
    (hS : ∀ x ∈ j :: js, S x.1) (hs : KeySorted lt (j :: js)) (h : lt b j.1 = true) : ∀ x ∈ j :: js, lt b x.1 = true := by
  intro x hx
  rcases List.mem_cons.mp hx with e | hx'
  · rw [e]; exact h
  · exact ord.lt_of_lt_of_le hb (hS j (List.mem_cons_self ..)) (hS x hx) h ((List.pairwise_cons.mp hs).1 x hx')
end

/-! ### sort.Search and CollectionFeature.FindValue -/

/-- `sort.Search` on a monotone predicate returns the first index where it holds (or `n`) -/
theorem searchGo_spec (f : Nat → Bool) (n : Nat)
    (mono : ∀ x y, x ≤ y → y < n → f x = true → f y = true) :
    ∀ (fuel i j : Nat), i ≤ j → j ≤ n → j - i < fuel →
      (∀ x, x < i → f x = false) → (∀ x, j ≤ x → x < n → f x = true) →
      (∀ x, x < searchGo f fuel i j → f x = false) ∧
      (∀ x, searchGo f fuel i j ≤ x → x < n → f x = true) ∧ searchGo f fuel i j ≤ n := by
  intro fuel i j hij hjn hfuel hlo hhi
  fun_induction searchGo f fuel i j with
  | case1 i j => exact absurd hfuel (Nat.not_lt_zero _)
  | case2 fuel i j hlt h hf ih =>
    -- the midpoint fails, and by monotonicity so does everything below it
    have hmid : i ≤ h ∧ h < j := by omega
    refine ih hmid.2 hjn (by omega) (fun x hx => ?_) hhi
    cases hfx : f x with
    | false => rfl
    | true =>
      rw [mono x h (Nat.le_of_lt_succ hx) (Nat.lt_of_lt_of_le hmid.2 hjn) hfx] at hf
      cases hf
  | case3 fuel i j hlt h hf ih =>
    have hmid : i ≤ h ∧ h < j := by omega
    exact ih hmid.1 (Nat.le_trans (Nat.le_of_lt hmid.2) hjn) (by omega) hlo
      fun x hx hxn => mono h x hx hxn (by simpa using hf)
  | case4 fuel i j hlt =>
    cases Nat.le_antisymm hij (Nat.le_of_not_lt hlt)
    exact ⟨hlo, hhi, hjn⟩

/-- what FindValue needs from the keys and the probe, in terms of the two observations the code makes:
`notLess keys key i` = `!(Keys[i] < key)` and `eqAt keys key i` = `Keys[i] == key` (errors read as false) -/
structure SearchOk (keys : Array Val) (key : Val) : Prop where
  mono : ∀ i j, i ≤ j → j < keys.size → notLess keys key i = true → notLess keys key j = true
  eq_ge : ∀ i, eqAt keys key i = true → notLess keys key i = true
  gt_stays : ∀ i j, i ≤ j → j < keys.size → notLess keys key i = true → eqAt keys key i = false →
    eqAt keys key j = false
  between : ∀ i x j, i ≤ x → x ≤ j → j < keys.size → eqAt keys key i = true → eqAt keys key j = true →
    eqAt keys key x = true

theorem sortSearch_spec (keys : Array Val) (key : Val) (h : SearchOk keys key) :
    (∀ x, x < sortSearch keys.size (notLess keys key) → notLess keys key x = false) ∧
    (∀ x, sortSearch keys.size (notLess keys key) ≤ x → x < keys.size → notLess keys key x = true) ∧
    sortSearch keys.size (notLess keys key) ≤ keys.size := by
  unfold sortSearch
  exact searchGo_spec (notLess keys key) keys.size h.mono (keys.size + 1) 0 keys.size
    (Nat.zero_le _) (Nat.le_refl _) (by omega) (by intro x hx; omega) (by intro x hx hxn; omega)

theorem filter_eq_takeWhile_range' (P : Nat → Bool) (m a : Nat)
    (h : ∀ x y, a ≤ y → y ≤ x → x < a + m → P x = true → P y = true) :
    (List.range' a m).filter P = (List.range' a m).takeWhile P :=
  (List.Pairwise.takeWhile_eq_filter (R := (· < ·)) (List.pairwise_lt_range' (s := a) (n := m))
    fun y hy x hx hyx hp => h x y (List.mem_range'_1.1 hy).1 (Nat.le_of_lt hyx) (List.mem_range'_1.1 hx).2 hp).symm

theorem eqAt_run (keys : Array Val) (key : Val) (h : SearchOk keys key) :
    (List.range keys.size).filter (eqAt keys key) =
      (List.range' (sortSearch keys.size (notLess keys key))
        (keys.size - sortSearch keys.size (notLess keys key))).takeWhile (eqAt keys key) := by
  obtain ⟨hlo, hhi, hle⟩ := sortSearch_spec keys key h
  generalize sortSearch keys.size (notLess keys key) = i at *
  have hsplit : List.range keys.size = List.range' 0 i ++ List.range' i (keys.size - i) := by
    have := List.range'_append_1 (s := 0) (m := i) (n := keys.size - i)
    rw [Nat.zero_add, Nat.add_sub_cancel' hle] at this
    rw [List.range_eq_range', this]
  have hbefore : (List.range' 0 i).filter (eqAt keys key) = [] := by
    rw [List.filter_eq_nil_iff]
    intro x hx hex
    have := h.eq_ge x hex
    rw [hlo x (by have := List.mem_range'_1.mp hx; omega)] at this; cases this
  rw [hsplit, List.filter_append, hbefore, List.nil_append]
  apply filter_eq_takeWhile_range'
  intro x y hy hyx hx hex
  have hxn : x < keys.size := by omega
  -- an equal key at or after `i` makes the key at `i` equal: otherwise it is greater, and so are all later ones
  have hi0 : eqAt keys key i = true := by
    cases hei : eqAt keys key i with
    | true => rfl
    | false =>
      have := h.gt_stays i x (by omega) hxn (hhi i (Nat.le_refl _) (by omega)) hei
      rw [hex] at this; cases this
  exact h.between i y x hy hyx hxn hi0 hex

theorem collectRun_eq (keys vals : Array Val) (key : Val) (hv : keys.size ≤ vals.size) :
    ∀ (fuel i : Nat), keys.size - i ≤ fuel →
      collectRun keys vals key fuel i =
        ((List.range' i (keys.size - i)).takeWhile (eqAt keys key)).filterMap (vals[·]?) := by
  intro fuel
  induction fuel with
  | zero => intro i h; rw [Nat.le_zero.mp h]; rfl
  | succ fuel ih =>
    intro i h
    rw [collectRun]
    by_cases hi : i < keys.size
    · rw [show keys.size - i = (keys.size - (i + 1)) + 1 by omega, List.range'_succ]
      cases he : eqAt keys key i with
      | false => rw [List.takeWhile_cons_of_neg (by simp [he])]; simp
      | true =>
        rw [List.takeWhile_cons_of_pos he, List.filterMap_cons, ← ih (i + 1) (by omega),
          Array.getElem?_eq_getElem (Nat.lt_of_lt_of_le hi hv)]
        simp [hi]
    · rw [Nat.sub_eq_zero_of_le (Nat.le_of_not_lt hi)]; simp [hi]

theorem find?_range_first (p : Nat → Bool) (n i : Nat) (hi : i < n) (hp : p i = true)
    (hlt : ∀ x, x < i → p x = false) : (List.range n).find? p = some i :=
  List.find?_range_eq_some.mpr ⟨hp, List.mem_range.mpr hi, fun x hx => by rw [hlt x hx]; rfl⟩

theorem find?_range_none (p : Nat → Bool) (n : Nat) (h : ∀ x, x < n → p x = false) :
    (List.range n).find? p = none :=
  List.find?_range_eq_none.mpr fun x hx => by rw [h x hx]; rfl

end B6.Lemmas.Collections
