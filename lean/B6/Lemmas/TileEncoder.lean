import B6.Model.TileEncoder
import B6.Lemmas.Varint
import B6.Lemmas.Basic.List
/-! Lemmas for C33 about `B6.Model.TileEncoder`.  A geometry is written as a script, a list of `Op`s in absolute
coordinates: the encoder appends the script's words (`encodeGeom_wrote`), the decoder reads the words of any script back
as the same commands relative to the tile origin (`drun_script`), and the MVT grammar reads those as the shape of the
feature's type (`grammar_script`).  Tags: the key and value tables only grow, so what decoded through them before decodes
to the same pairs afterwards, and every finished feature's tag words keep decoding (`LayerTagsOk`). -/
namespace B6.Lemmas.TileEncoder
open B6.Model.TileEncoder
open B6.Model.Varint (zig_eq_xor zag_eq_xor zag_zig zig_zag)
open B6.Lemmas.Basic (getElem?_append_of_some)

/-! ## zigzag (`zig` / `zag` of `Lemmas/Varint` at width 32; C10 has its own model of the same Go function,
`zigzagEncode32` / `zigzagDecode32` of `Model/Bits`) -/

theorem unzigzag32_zigzag32 (x : BitVec 32) : unzigzag32 (zigzag32 x) = x := by
  rw [unzigzag32, zigzag32, zig_eq_xor, zag_eq_xor, zag_zig]

theorem zigzag32_unzigzag32 (u : BitVec 32) : zigzag32 (unzigzag32 u) = u := by
  rw [unzigzag32, zigzag32, zag_eq_xor, zig_eq_xor, zig_zag]

theorem paramValue_zigzagEncode (d : Int) (h : inInt32 d) : paramValue (zigzagEncode d) = d := by
  show (unzigzag32 (zigzag32 (BitVec.ofInt 32 d))).toInt = d
  rw [unzigzag32_zigzag32]
  exact BitVec.toInt_ofInt_eq_self (by decide) h.1 h.2

theorem and7_toNat (w : UInt32) : (w &&& (7 : UInt32)).toNat = w.toNat % 8 := by
  rw [UInt32.toNat_and]
  exact Nat.and_two_pow_sub_one_eq_mod _ 3

theorem shr3_toNat (w : UInt32) : (w >>> (3 : UInt32)).toNat = w.toNat / 8 := by
  rw [UInt32.toNat_shiftRight, show UInt32.toNat 3 % 32 = 3 from rfl, Nat.shiftRight_eq_div_pow]

theorem cmdWord_toNat (id n : Nat) (hid : id < 8) (hn : n < 2 ^ 29) : (cmdWord id n).toNat = n * 8 + id := by
  unfold cmdWord
  rw [UInt32.toNat_or, and7_toNat, UInt32.toNat_shiftLeft, UInt32.toNat_ofNat', UInt32.toNat_ofNat',
    show UInt32.toNat 3 % 32 = 3 from rfl, Nat.shiftLeft_eq, Nat.mod_eq_of_lt (a := id) (by omega),
    Nat.mod_eq_of_lt (a := n) (by omega), Nat.mod_eq_of_lt (a := id) hid, Nat.mod_eq_of_lt (a := n * 2 ^ 3) (by omega),
    Nat.or_comm, ← Nat.shiftLeft_eq, ← Nat.shiftLeft_add_eq_or_of_lt (show id < 2 ^ 3 from hid), Nat.shiftLeft_eq]

theorem cmdId_cmdWord (id n : Nat) (hid : id < 8) (hn : n < 2 ^ 29) : cmdId (cmdWord id n) = id := by
  rw [cmdId, and7_toNat, cmdWord_toNat id n hid hn, Nat.add_comm, Nat.add_mul_mod_self_right, Nat.mod_eq_of_lt hid]

theorem cmdCount_cmdWord (id n : Nat) (hid : id < 8) (hn : n < 2 ^ 29) : cmdCount (cmdWord id n) = n := by
  rw [cmdCount, shr3_toNat, cmdWord_toNat id n hid hn, Nat.add_comm, Nat.add_mul_div_right _ _ (by decide),
    Nat.div_eq_of_lt hid, Nat.zero_add]

/-! ## encoder: what each method appends -/

/-- parameter words for visiting `pts` from cursor `c` -/
def ptsWords : Pt → List Pt → List UInt32
  | _, [] => []
  | c, p :: ps => xyWords c p ++ ptsWords p ps

def lastPt : Pt → List Pt → Pt
  | c, [] => c
  | _, p :: ps => lastPt p ps

theorem lastPt_append : ∀ (a b : List Pt) (c : Pt), lastPt c (a ++ b) = lastPt (lastPt c a) b
  | [], _, _ => rfl
  | p :: a, b, _ => by simp only [List.cons_append, lastPt, lastPt_append a b p]

/-- `e` after `ws` were appended to the current feature `f` and the cursor moved to `c` -/
def adv (e : Enc) (f : Feat) (ws : List UInt32) (c : Pt) : Enc :=
  { e with cur := some { f with geometry := f.geometry ++ ws }, cx := c.1, cy := c.2 }

theorem adv_cur (e : Enc) (f : Feat) (ws c) :
    (adv e f ws c).cur = some { f with geometry := f.geometry ++ ws } := rfl

theorem adv_adv (e : Enc) (f : Feat) (ws ws' c c') :
    adv (adv e f ws c) { f with geometry := f.geometry ++ ws } ws' c' = adv e f (ws ++ ws') c' := by
  simp [adv, List.append_assoc]

theorem emit_adv (e : Enc) (f : Feat) (h : e.cur = some f) (ws : List UInt32) :
    emit e ws = some (adv e f ws (e.cx, e.cy)) := by
  simp [emit, withCur, h, adv]

theorem xy_adv (e : Enc) (f : Feat) (h : e.cur = some f) (x y : Int) :
    xy e x y = some (adv e f (xyWords (e.cx, e.cy) (x, y)) (x, y)) := by
  simp [xy, emit, withCur, h, adv]

theorem xys_adv : ∀ (pts : List Pt) (e : Enc) (f : Feat), e.cur = some f →
    xys e pts = some (adv e f (ptsWords (e.cx, e.cy) pts) (lastPt (e.cx, e.cy) pts))
  | [], e, f, h => by
    cases e; simp only at h; subst h
    simp [xys, ptsWords, lastPt, adv]
  | p :: ps, e, f, h => by
    rw [xys, xy_adv e f h]
    simp only [Option.bind_some]
    rw [xys_adv ps _ _ (adv_cur ..), adv_adv]
    simp [ptsWords, lastPt, adv]

theorem adv_nil (e : Enc) (f : Feat) (h : e.cur = some f) : adv e f [] (e.cx, e.cy) = e := by
  cases e; simp only at h; subst h; simp [adv]

/-! the same methods on an encoder in `adv` form, followed by the rest `k` of the calling method -/
section
variable (e : Enc) (f : Feat) (ws : List UInt32) (c : Pt) (k : Enc → Option Enc)

theorem emit_bind (ws' : List UInt32) : (emit (adv e f ws c) ws').bind k = k (adv e f (ws ++ ws') c) := by
  rw [emit_adv _ _ (adv_cur ..), Option.bind_some]; exact congrArg k (adv_adv ..)

theorem xy_bind (x y : Int) : (xy (adv e f ws c) x y).bind k = k (adv e f (ws ++ xyWords c (x, y)) (x, y)) := by
  rw [xy_adv _ _ (adv_cur ..), Option.bind_some]; exact congrArg k (adv_adv ..)

theorem xys_bind (ps : List Pt) :
    (xys (adv e f ws c) ps).bind k = k (adv e f (ws ++ ptsWords c ps) (lastPt c ps)) := by
  rw [xys_adv _ _ _ (adv_cur ..), Option.bind_some]; exact congrArg k (adv_adv ..)
end

theorem length_ite_reverse (hole : Bool) (ps : List Pt) : (if hole = true then ps.reverse else ps).length = ps.length := by
  split <;> simp

/-! ## scripts: the commands a geometry is written as -/

def opPts : Op → List Pt
  | .moveTo ps => ps
  | .lineTo ps => ps
  | .closePath => []

def opRel (o : Pt) : Op → Op
  | .moveTo ps => .moveTo (ps.map (rel o))
  | .lineTo ps => .lineTo (ps.map (rel o))
  | .closePath => .closePath

/-- the words of one command, written with the cursor at `c` -/
def opWords (c : Pt) : Op → List UInt32
  | .moveTo ps => cmdWord cmdMoveTo ps.length :: ptsWords c ps
  | .lineTo ps => cmdWord cmdLineTo ps.length :: ptsWords c ps
  | .closePath => [cmdWord cmdClosePath 1]

def visited (s : List Op) : List Pt := s.flatMap opPts

def scriptWords : Pt → List Op → List UInt32
  | _, [] => []
  | c, op :: r => opWords c op ++ scriptWords (lastPt c (opPts op)) r

theorem scriptWords_append : ∀ (a b : List Op) (c : Pt),
    scriptWords c (a ++ b) = scriptWords c a ++ scriptWords (lastPt c (visited a)) b
  | [], _, _ => rfl
  | op :: a, b, c => by
    simp only [List.cons_append, scriptWords, visited, List.flatMap_cons, lastPt_append, List.append_assoc]
    rw [scriptWords_append a b]; rfl

/-- `e` after the script `s` was written into the current feature `f` -/
def wrote (e : Enc) (f : Feat) (s : List Op) : Enc :=
  adv e f (scriptWords (e.cx, e.cy) s) (lastPt (e.cx, e.cy) (visited s))

theorem wrote_cur (e : Enc) (f : Feat) (s : List Op) :
    (wrote e f s).cur = some { f with geometry := f.geometry ++ scriptWords (e.cx, e.cy) s } := rfl

theorem wrote_nil (e : Enc) (f : Feat) (h : e.cur = some f) : wrote e f [] = e := adv_nil e f h

theorem wrote_wrote (e : Enc) (f : Feat) (s t : List Op) :
    wrote (wrote e f s) { f with geometry := f.geometry ++ scriptWords (e.cx, e.cy) s } t = wrote e f (s ++ t) := by
  simp only [wrote, adv_adv, scriptWords_append, visited, List.flatMap_append, lastPt_append]
  rfl

/-- the commands of one loop; a loop of fewer than two points is not drawn, a hole goes backwards from its first
vertex -/
def ringScript (hole : Bool) : List Pt → List Op
  | p :: q :: qs => [.moveTo [p], .lineTo (if hole then (q :: qs).reverse else q :: qs), .closePath]
  | _ => []

def loopsScript (loops : List (Bool × List Pt)) : List Op := loops.flatMap fun l => ringScript l.1 l.2

def script : Geom → List Op
  | .point p => [.moveTo [p]]
  | .line [] => []
  | .line (p :: ps) => [.moveTo [p], .lineTo ps]
  | .polygon loops => loopsScript loops

theorem encodeLoop_wrote (e : Enc) (f : Feat) (h : e.cur = some f) (hole : Bool) :
    ∀ pts, encodeLoop e hole pts = some (wrote e f (ringScript hole pts))
  | [] => congrArg some (wrote_nil e f h).symm
  | [_] => congrArg some (wrote_nil e f h).symm
  | p :: q :: qs => by
    have hlen := length_ite_reverse hole (q :: qs)
    rw [encodeLoop, if_pos (by simp)]
    conv => lhs; rw [← adv_nil e f h]
    simp only [bind, ringScript, ← hlen, moveTo, lineTo, emit_bind, xy_bind, xys_bind]
    rw [closePath, emit_adv _ _ (adv_cur ..), adv_adv]
    simp [wrote, adv, scriptWords, opWords, opPts, visited, ptsWords, lastPt]

theorem encodeLoops_wrote : ∀ (loops : List (Bool × List Pt)) (e : Enc) (f : Feat), e.cur = some f →
    encodeLoops e loops = some (wrote e f (loopsScript loops))
  | [], e, f, h => congrArg some (wrote_nil e f h).symm
  | (hole, pts) :: r, e, f, h => by
    rw [encodeLoops, encodeLoop_wrote e f h, Option.bind_some, encodeLoops_wrote r _ _ (wrote_cur ..), wrote_wrote]
    rfl

/-- the encoder after `StartFeature` and `setType t` -/
def start (e : Enc) (t : Nat) : Enc := { startFeature e with cur := some { ftype := t } }

theorem start_adv (e : Enc) (t : Nat) : start e t = adv (start e t) { ftype := t } [] (e.ox, e.oy) := rfl

/-- **the encoder writes the geometry's script** into a fresh feature (an empty line string panics) -/
theorem encodeGeom_wrote (e : Enc) (g : Geom) (hne : g ≠ .line []) :
    encodeGeom e g = some (wrote (start e g.ftype) { ftype := g.ftype } (script g)) := by
  cases g with
  | point p =>
    show (moveTo (start e 1) 1).bind (fun e => xy e p.1 p.2) = _
    rw [start_adv, moveTo, emit_bind, xy_adv _ _ (adv_cur ..), adv_adv]
    rfl
  | line pts =>
    cases pts with
    | nil => exact absurd rfl hne
    | cons p ps =>
      show (moveTo (start e 2) 1).bind
        (fun e => (xy e p.1 p.2).bind fun e => (lineTo e ps.length).bind fun e => xys e ps) = _
      rw [start_adv, moveTo, emit_bind, xy_bind, lineTo, emit_bind, xys_adv _ _ _ (adv_cur ..), adv_adv]
      simp only [wrote, script, scriptWords, opWords, visited, List.flatMap_cons, List.flatMap_nil, opPts, lastPt,
        List.append_nil, List.nil_append, List.cons_append, List.length_singleton, ptsWords, xyWords]
      rfl
  | polygon loops => exact encodeLoops_wrote loops (start e 3) _ rfl

theorem visited_ringScript (hole : Bool) : ∀ pts : List Pt,
    visited (ringScript hole pts) = if pts.length > 1 then ringOrder hole pts else []
  | [] => rfl
  | [_] => rfl
  | p :: q :: qs => by simp [visited, ringScript, opPts, ringOrder]

theorem visited_script : ∀ g : Geom, visited (script g) = g.visited
  | .point _ => rfl
  | .line [] => rfl
  | .line (_ :: _) => by simp [visited, script, opPts, Geom.visited]
  | .polygon loops => by
    induction loops with
    | nil => rfl
    | cons l r ih =>
      simp only [script, loopsScript, Geom.visited, visited, List.flatMap_cons, List.flatMap_append] at ih ⊢
      rw [ih, ← visited, visited_ringScript, List.filter_cons]
      by_cases hl : l.2.length > 1 <;> simp [hl]

/-! ## decoder -/

theorem drun_append : ∀ (a b : List UInt32) (s : DState),
    drun s (a ++ b) = (drun s a).bind fun s' => drun s' b
  | [], b, s => by simp [drun]
  | w :: a, b, s => by simp only [List.cons_append, drun, drun_append a b, Option.bind_assoc]

theorem deltasOk_append : ∀ (a b : List Pt) (c : Pt),
    DeltasOk c (a ++ b) ↔ DeltasOk c a ∧ DeltasOk (lastPt c a) b
  | [], b, c => by simp [DeltasOk, lastPt]
  | p :: a, b, c => by
    simp only [List.cons_append, DeltasOk, lastPt, deltasOk_append a b p, and_assoc]

theorem rel_step (o c p : Pt) (hx : inInt32 (p.1 - c.1)) (hy : inInt32 (p.2 - c.2)) :
    ((rel o c).1 + paramValue (zigzagEncode (p.1 - c.1)), (rel o c).2 + paramValue (zigzagEncode (p.2 - c.2)))
      = rel o p := by
  rw [paramValue_zigzagEncode _ hx, paramValue_zigzagEncode _ hy]
  simp only [rel]
  rw [Prod.mk.injEq]; constructor <;> omega

theorem drun_params (o : Pt) (id : Nat) : ∀ (pts : List Pt) (c : Pt) (acc : List Pt) (ops : List Op),
    pts ≠ [] → DeltasOk c pts →
    drun { cur := rel o c, ops := ops, mode := .px id pts.length acc } (ptsWords c pts)
      = some { cur := rel o (lastPt c pts), ops := ops ++ [mkOp id (acc ++ pts.map (rel o))], mode := .cmd }
  | [], _, _, _, h, _ => absurd rfl h
  | p :: ps, c, acc, ops, _, hd => by
    obtain ⟨hx, hy, hd'⟩ := hd
    simp only [ptsWords, xyWords, List.cons_append, List.nil_append, drun, dstep, Option.bind_some]
    rw [rel_step o c p hx hy]
    by_cases hps : ps = []
    · subst hps
      simp [drun, lastPt, ptsWords]
    · have hlen : ¬ (ps.length + 1 ≤ 1) := fun h =>
        hps (List.eq_nil_of_length_eq_zero (Nat.le_zero.1 (Nat.le_of_succ_le_succ h)))
      simp only [List.length_cons, hlen, if_false, Option.bind_some, Nat.add_sub_cancel]
      rw [drun_params o id ps p (acc ++ [rel o p]) ops hps hd']
      simp [lastPt]

theorem dstep_cmd (s : DState) (hm : s.mode = .cmd) (id n : Nat) (hid : id = cmdMoveTo ∨ id = cmdLineTo)
    (hn0 : n ≠ 0) (hn : n < 2 ^ 29) :
    dstep s (cmdWord id n) = some { s with mode := .px id n [] } := by
  have hid8 : id < 8 := by rcases hid with h | h <;> subst h <;> decide
  unfold dstep
  rw [hm]
  simp only [cmdId_cmdWord id n hid8 hn, cmdCount_cmdWord id n hid8 hn, hid, if_true, hn0, if_false]

theorem dstep_close (s : DState) (hm : s.mode = .cmd) :
    dstep s (cmdWord cmdClosePath 1) = some { s with ops := s.ops ++ [.closePath] } := by
  unfold dstep
  rw [hm]
  have h1 : cmdId (cmdWord 7 1) = 7 := by decide
  have h2 : cmdCount (cmdWord 7 1) = 1 := by decide
  simp [h1, h2, cmdMoveTo, cmdLineTo, cmdClosePath]

theorem drun_command (o : Pt) (id : Nat) (hid : id = cmdMoveTo ∨ id = cmdLineTo) (pts : List Pt) (c : Pt)
    (ops : List Op) (hne : pts ≠ []) (hlen : pts.length < 2 ^ 29) (hd : DeltasOk c pts) :
    drun { cur := rel o c, ops := ops, mode := .cmd } (cmdWord id pts.length :: ptsWords c pts)
      = some { cur := rel o (lastPt c pts), ops := ops ++ [mkOp id (pts.map (rel o))], mode := .cmd } := by
  have hn0 : pts.length ≠ 0 := fun h => hne (List.eq_nil_of_length_eq_zero h)
  rw [drun, dstep_cmd _ rfl id _ hid hn0 hlen]
  simp only [Option.bind_some]
  rw [drun_params o id pts c [] ops hne hd]
  simp

/-- a command the 29-bit count can express -/
def opOk (op : Op) : Prop := op = .closePath ∨ (0 < (opPts op).length ∧ (opPts op).length < 2 ^ 29)

theorem drun_op (o c : Pt) (op : Op) (ops : List Op) (hok : opOk op) (hd : DeltasOk c (opPts op)) :
    drun { cur := rel o c, ops := ops, mode := .cmd } (opWords c op)
      = some { cur := rel o (lastPt c (opPts op)), ops := ops ++ [opRel o op], mode := .cmd } := by
  cases op with
  | moveTo ps =>
    obtain h | ⟨hne, hlen⟩ := hok
    · cases h
    · exact drun_command o cmdMoveTo (Or.inl rfl) ps c ops (List.ne_nil_of_length_pos hne) hlen hd
  | lineTo ps =>
    obtain h | ⟨hne, hlen⟩ := hok
    · cases h
    · exact drun_command o cmdLineTo (Or.inr rfl) ps c ops (List.ne_nil_of_length_pos hne) hlen hd
  | closePath => rw [opWords, drun, dstep_close _ rfl]; rfl

/-- **the decoder reads what a script writes**: from a cursor in step with the encoder's, the words of a script
decode to the script's commands relative to the origin -/
theorem drun_script (o : Pt) : ∀ (s : List Op) (c : Pt) (ops : List Op), (∀ op ∈ s, opOk op) →
    DeltasOk c (visited s) →
    drun { cur := rel o c, ops := ops, mode := .cmd } (scriptWords c s)
      = some { cur := rel o (lastPt c (visited s)), ops := ops ++ s.map (opRel o), mode := .cmd }
  | [], c, ops, _, _ => by simp [scriptWords, visited, drun, lastPt]
  | op :: s, c, ops, hok, hd => by
    simp only [visited, List.flatMap_cons, deltasOk_append] at hd
    rw [scriptWords, drun_append, drun_op o c op ops (hok op List.mem_cons_self) hd.1, Option.bind_some,
      drun_script o s _ _ (fun x hx => hok x (List.mem_cons_of_mem _ hx)) hd.2]
    simp [visited, lastPt_append]

theorem decodeOps_scriptWords (o : Pt) (s : List Op) (hok : ∀ op ∈ s, opOk op) (hd : DeltasOk o (visited s)) :
    decodeOps (scriptWords o s) = some (s.map (opRel o)) := by
  have h := drun_script o s o [] hok hd
  rw [show rel o o = (0, 0) by simp [rel]] at h
  rw [decodeOps, show ({} : DState) = { cur := (0, 0), ops := [], mode := .cmd } from rfl, h]
  rfl

theorem opOk_moveTo (p : Pt) : opOk (.moveTo [p]) := .inr ⟨Nat.one_pos, show 1 < 2 ^ 29 by decide⟩

theorem ringScript_ok (hole : Bool) : ∀ pts : List Pt, pts.length ≤ 2 ^ 29 → ∀ op ∈ ringScript hole pts, opOk op
  | [], _, _, h | [_], _, _, h => nomatch h
  | p :: q :: qs, hlen, op, h => by
    simp only [List.length_cons] at hlen
    simp only [ringScript, List.mem_cons, List.not_mem_nil, or_false] at h
    rcases h with rfl | rfl | rfl
    · exact opOk_moveTo _
    · refine .inr ⟨?_, ?_⟩ <;> rw [opPts, length_ite_reverse, List.length_cons] <;> omega
    · exact .inl rfl

theorem script_ok : ∀ g : Geom, g.wellFormed → ∀ op ∈ script g, opOk op
  | .point _, _, _, h => by cases List.mem_singleton.1 h; exact opOk_moveTo _
  | .line [], _, _, h => nomatch h
  | .line (p :: ps), hwf, op, h => by
    simp only [Geom.wellFormed, List.length_cons] at hwf
    simp only [script, List.mem_cons, List.not_mem_nil, or_false] at h
    rcases h with rfl | rfl
    · exact opOk_moveTo _
    · refine .inr ⟨?_, ?_⟩ <;> rw [opPts] <;> omega
  | .polygon loops, hwf, op, h => by
    obtain ⟨l, hl, hop⟩ := List.mem_flatMap.1 h
    exact ringScript_ok l.1 l.2 (hwf l hl).2 op hop

/-! ## grammar -/

theorem asRings_loopsScript (o : Pt) : ∀ (loops : List (Bool × List Pt)),
    (∀ l ∈ loops, l.2.length ≠ 2) → asRings ((loopsScript loops).map (opRel o)) = some (expectedRings o loops)
  | [], _ => rfl
  | (h, pts) :: r, hne => by
    have ih := asRings_loopsScript o r (fun l hl => hne l (List.mem_cons_of_mem _ hl))
    have h2 : pts.length ≠ 2 := hne (h, pts) List.mem_cons_self
    simp only [loopsScript, List.flatMap_cons, List.map_append, expectedRings, List.filter_cons] at ih ⊢
    match pts, h2 with
    | [], _ => exact ih
    | [_], _ => exact ih
    | p :: q :: qs, h2 =>
      simp only [List.length_cons] at h2
      have hq : (if h = true then (q :: qs).reverse else q :: qs).length ≥ 2 := by
        rw [length_ite_reverse]; simp only [List.length_cons]; omega
      rw [if_pos (by simp), List.map_cons, show ringOrder h (p :: q :: qs) = p :: _ from rfl,
        show ringScript h (p :: q :: qs) = [.moveTo [p], .lineTo _, .closePath] from rfl]
      generalize (if h = true then (q :: qs).reverse else q :: qs) = rs at hq
      simp [opRel, asRings, hq, ih]

/-- the grammar half of `decodeGeometry`: the commands read as the shape of the feature's type -/
def readOps (t : Nat) (ops : List Op) : Option Decoded :=
  if t = 1 then (asPoints ops).map .points
  else if t = 2 then (if ops = [] then none else (asLines ops).map .lines)
  else if t = 3 then (asRings ops).map .rings
  else none

theorem grammar_script (o : Pt) : ∀ g : Geom, g.wellFormed →
    readOps g.ftype ((script g).map (opRel o)) = some (g.expected o)
  | .point _, _ => rfl
  | .line [], hwf => by simp [Geom.wellFormed] at hwf
  | .line (_ :: _), _ => by simp [readOps, Geom.ftype, script, opRel, asLines, Geom.expected]
  | .polygon loops, hwf => by
    simp [readOps, Geom.ftype, script, asRings_loopsScript o loops (fun l hl => (hwf l hl).1), Geom.expected]

/-! ## signed area -/

theorem cross_antisymm (a b : Pt) : cross b a = - cross a b := by
  unfold cross; grind

theorem cross_rel (o a b : Pt) : cross (rel o a) (rel o b) = cross a b - cross a o + cross b o := by
  unfold cross rel; grind

theorem pathSum_snoc2 : ∀ (l : List Pt) (a b : Pt), pathSum (l ++ [a, b]) = pathSum (l ++ [a]) + cross a b
  | [], a, b => by simp [pathSum]
  | [x], a, b => by simp [pathSum]
  | x :: y :: l, a, b => by
    have ih := pathSum_snoc2 (y :: l) a b
    simp only [List.cons_append, pathSum] at ih ⊢
    omega

theorem pathSum_reverse : ∀ (l : List Pt), pathSum l.reverse = - pathSum l
  | [] => by simp [pathSum]
  | [_] => by simp [pathSum]
  | a :: b :: r => by
    have ih := pathSum_reverse (b :: r)
    have e : (a :: b :: r).reverse = r.reverse ++ [b, a] := by simp
    have e' : (b :: r).reverse = r.reverse ++ [b] := by simp
    rw [e, pathSum_snoc2, ← e', ih, cross_antisymm a b]
    simp only [pathSum]
    omega

theorem area2_ringOrder_hole (pts : List Pt) : area2 (ringOrder true pts) = - area2 pts := by
  cases pts with
  | nil => simp [ringOrder, area2]
  | cons p ps =>
    simp only [ringOrder, if_true, area2]
    rw [← pathSum_reverse]
    simp

theorem pathSum_rel (o : Pt) : ∀ (a : Pt) (r : List Pt),
    pathSum ((a :: r).map (rel o)) = pathSum (a :: r) - cross a o + cross (lastPt a r) o
  | a, [] => by simp [pathSum, lastPt]; omega
  | a, b :: r => by
    have ih := pathSum_rel o b r
    simp only [List.map_cons, pathSum, lastPt, cross_rel] at ih ⊢
    omega

theorem area2_rel (o : Pt) (pts : List Pt) : area2 (pts.map (rel o)) = area2 pts := by
  cases pts with
  | nil => rfl
  | cons p ps =>
    simp only [List.map_cons, area2]
    have h := pathSum_rel o p (ps ++ [p])
    have hl : lastPt p (ps ++ [p]) = p := by rw [lastPt_append]; rfl
    simp only [List.map_cons, List.map_append, List.map_nil, hl] at h
    simp only [List.cons_append] at h ⊢
    rw [h]; omega

/-! ## tags -/

theorem decodeTags_cons (keys : List String) (values : List Val) (k v : UInt32) (r : List UInt32)
    (out : List (String × Val)) :
    decodeTags keys values (k :: v :: r) = some out ↔
      ∃ key val rest, keys[k.toNat]? = some key ∧ values[v.toNat]? = some val ∧
        decodeTags keys values r = some rest ∧ out = (key, val) :: rest := by
  rw [decodeTags]
  cases keys[k.toNat]? with
  | none => simp
  | some key =>
    cases values[v.toNat]? with
    | none => simp
    | some val =>
      cases decodeTags keys values r with
      | none => simp
      | some rest => simp [eq_comm]

theorem decodeTags_append (keys : List String) (values : List Val) : ∀ (a : List UInt32) (ra : List (String × Val))
    (k v : UInt32) (key : String) (val : Val),
    decodeTags keys values a = some ra → keys[k.toNat]? = some key → values[v.toNat]? = some val →
    decodeTags keys values (a ++ [k, v]) = some (ra ++ [(key, val)])
  | [], ra, k, v, key, val, ha, hk, hv => by
    cases ha
    exact (decodeTags_cons ..).2 ⟨key, val, [], hk, hv, rfl, rfl⟩
  | [_], _, _, _, _, _, ha, _, _ => by simp [decodeTags] at ha
  | k0 :: v0 :: a, ra, k, v, key, val, ha, hk, hv => by
    obtain ⟨key0, val0, rest, hk0, hv0, hr, rfl⟩ := (decodeTags_cons ..).1 ha
    exact (decodeTags_cons ..).2
      ⟨key0, val0, _, hk0, hv0, decodeTags_append keys values a rest k v key val hr hk hv, rfl⟩

theorem decodeTags_mono (keys keys' : List String) (values values' : List Val) :
    ∀ (a : List UInt32) (ra : List (String × Val)),
    decodeTags keys values a = some ra → decodeTags (keys ++ keys') (values ++ values') a = some ra
  | [], ra, ha => by simpa [decodeTags] using ha
  | [_], _, ha => by simp [decodeTags] at ha
  | k0 :: v0 :: a, ra, ha => by
    obtain ⟨key0, val0, rest, hk0, hv0, hr, rfl⟩ := (decodeTags_cons ..).1 ha
    exact (decodeTags_cons ..).2 ⟨key0, val0, rest, getElem?_append_of_some hk0 _, getElem?_append_of_some hv0 _,
      decodeTags_mono keys keys' values values' a rest hr, rfl⟩

/-- interning (the common body of `internKey` and `internVal`) returns an index at which the grown table holds the
item -/
theorem intern_spec {α : Type} [DecidableEq α] (xs : List α) (x : α) (hlen : xs.length < 2 ^ 32) :
    let r := if x ∈ xs then (xs, UInt32.ofNat (xs.idxOf x)) else (xs ++ [x], UInt32.ofNat xs.length)
    (∃ ext, r.1 = xs ++ ext ∧ ext.length ≤ 1) ∧ r.1[r.2.toNat]? = some x := by
  by_cases hx : x ∈ xs
  · simp only [hx, if_true]
    have hi : xs.idxOf x < xs.length := List.idxOf_lt_length_of_mem hx
    refine ⟨⟨[], by simp, by simp⟩, ?_⟩
    rw [UInt32.toNat_ofNat_of_lt' (show xs.idxOf x < 2 ^ 32 by omega)]
    rw [List.getElem?_eq_getElem hi]
    simp
  · simp only [hx, if_false]
    refine ⟨⟨[x], rfl, by simp⟩, ?_⟩
    rw [UInt32.toNat_ofNat_of_lt' hlen]
    simp

theorem internKey_spec (keys : List String) (k : String) (hlen : keys.length < 2 ^ 32) :
    (∃ ext, (internKey keys k).1 = keys ++ ext ∧ ext.length ≤ 1) ∧
      (internKey keys k).1[(internKey keys k).2.toNat]? = some k := intern_spec keys k hlen

theorem internVal_spec (values : List Val) (v : Val) (hlen : values.length < 2 ^ 32) :
    (∃ ext, (internVal values v).1 = values ++ ext ∧ ext.length ≤ 1) ∧
      (internVal values v).1[(internVal values v).2.toNat]? = some v := intern_spec values v hlen

theorem tag_spec (e : Enc) (f : Feat) (h : e.cur = some f) (k : String) (a : TagArg) (v : Val)
    (hv : a.val? = some v) (hk : e.keys.length < 2 ^ 32) (hvl : e.values.length < 2 ^ 32) :
    ∃ ke ve ki vi,
      tag e k a = some { e with keys := e.keys ++ ke, values := e.values ++ ve,
                                cur := some { f with tags := f.tags ++ [ki, vi] } }
      ∧ ke.length ≤ 1 ∧ ve.length ≤ 1 ∧ (e.keys ++ ke)[ki.toNat]? = some k ∧ (e.values ++ ve)[vi.toNat]? = some v := by
  obtain ⟨⟨ke, hke, hkl⟩, hki⟩ := internKey_spec e.keys k hk
  obtain ⟨⟨ve, hve, hvl'⟩, hvi⟩ := internVal_spec e.values v hvl
  refine ⟨ke, ve, (internKey e.keys k).2, (internVal e.values v).2, ?_, hkl, hvl', hke ▸ hki, hve ▸ hvi⟩
  unfold tag
  simp only [hv, withCur, h, Option.map_some]
  rw [hke, hve]

def tagWords (e : Enc) : List (List UInt32) := e.features.map (·.tags)

/-- every feature's tag words decode to the expected pairs through the tables -/
def TagsOk (keys : List String) (values : List Val) : List (List UInt32) → List (List (String × Val)) → Prop
  | [], [] => True
  | w :: ws, T :: exp => decodeTags keys values w = some T ∧ TagsOk keys values ws exp
  | _, _ => False

theorem tagsOk_mono (keys keys' : List String) (values values' : List Val) :
    ∀ (ws : List (List UInt32)) (exp : List (List (String × Val))),
    TagsOk keys values ws exp → TagsOk (keys ++ keys') (values ++ values') ws exp
  | [], [], _ => trivial
  | [], _ :: _, h => h.elim
  | _ :: _, [], h => h.elim
  | _ :: ws, _ :: exp, h => ⟨decodeTags_mono _ _ _ _ _ _ h.1, tagsOk_mono keys keys' values values' ws exp h.2⟩

theorem tagsOk_snoc (keys : List String) (values : List Val) (w : List UInt32) (T : List (String × Val))
    (hw : decodeTags keys values w = some T) :
    ∀ (ws : List (List UInt32)) (exp : List (List (String × Val))),
    TagsOk keys values ws exp → TagsOk keys values (ws ++ [w]) (exp ++ [T])
  | [], [], _ => ⟨hw, trivial⟩
  | [], _ :: _, h => h.elim
  | _ :: _, [], h => h.elim
  | _ :: ws, _ :: exp, h => ⟨h.1, tagsOk_snoc keys values w T hw ws exp h.2⟩

/-- the invariant between features: every feature of the layer decodes, through the current tables, to its expected
pairs -/
def LayerTagsOk (e : Enc) (exp : List (List (String × Val))) : Prop := TagsOk e.keys e.values (tagWords e) exp

/-- the invariant while a feature is written: the finished features decode to `exp`, the current one to `T` -/
def WritingTagsOk (e : Enc) (exp : List (List (String × Val))) (T : List (String × Val)) : Prop :=
  TagsOk e.keys e.values (e.prev.map (·.tags)) exp ∧
    ∃ f, e.cur = some f ∧ decodeTags e.keys e.values f.tags = some T

theorem tagWords_cur (e : Enc) (f : Feat) (h : e.cur = some f) :
    tagWords e = e.prev.map (·.tags) ++ [f.tags] := by
  simp [tagWords, Enc.features, h]

theorem writing_done {e : Enc} {exp : List (List (String × Val))} {T : List (String × Val)} (h : WritingTagsOk e exp T) :
    LayerTagsOk e (exp ++ [T]) := by
  obtain ⟨h0, f, hc, hT⟩ := h
  rw [LayerTagsOk, tagWords_cur e f hc]
  exact tagsOk_snoc _ _ _ _ hT _ _ h0

theorem tag_step (e : Enc) (exp : List (List (String × Val))) (T : List (String × Val)) (hinv : WritingTagsOk e exp T)
    (k : String) (a : TagArg) (v : Val) (hv : a.val? = some v)
    (hk : e.keys.length < 2 ^ 32) (hvl : e.values.length < 2 ^ 32) :
    ∃ e', tag e k a = some e' ∧ WritingTagsOk e' exp (T ++ [(k, v)]) ∧
      e'.keys.length ≤ e.keys.length + 1 ∧ e'.values.length ≤ e.values.length + 1 := by
  obtain ⟨h0, f, h, hT⟩ := hinv
  obtain ⟨ke, ve, ki, vi, htag, hkl, hvl', hki, hvi⟩ := tag_spec e f h k a v hv hk hvl
  -- the tables only grow: what decoded before still does, and the new pair decodes at the end
  exact ⟨_, htag, ⟨tagsOk_mono _ _ _ _ _ _ h0, _, rfl,
    decodeTags_append _ _ _ _ _ _ _ _ (decodeTags_mono _ _ _ _ _ _ hT) hki hvi⟩,
    by simp only [List.length_append]; omega, by simp only [List.length_append]; omega⟩

theorem tags_steps : ∀ (ts : List (String × String)) (e : Enc) (exp : List (List (String × Val)))
    (T : List (String × Val)), WritingTagsOk e exp T →
    e.keys.length + ts.length ≤ 2 ^ 32 → e.values.length + ts.length ≤ 2 ^ 32 →
    ∃ e', tags e (ts.map fun (k, v) => (k, TagArg.str v)) = some e' ∧
      WritingTagsOk e' exp (T ++ ts.map fun (k, v) => (k, Val.str v)) ∧
      e'.keys.length ≤ e.keys.length + ts.length ∧ e'.values.length ≤ e.values.length + ts.length
  | [], e, exp, T, hinv, _, _ =>
    ⟨e, rfl, by rw [List.map_nil, List.append_nil]; exact hinv, Nat.le_add_right .., Nat.le_add_right ..⟩
  | (k, v) :: ts, e, exp, T, hinv, hk, hvl => by
    simp only [List.length_cons] at hk hvl
    obtain ⟨e1, ht, hinv1, hk1, hv1⟩ := tag_step e exp T hinv k (.str v) (.str v) rfl (by omega) (by omega)
    obtain ⟨e2, hts, hinv2, hk2, hv2⟩ := tags_steps ts e1 exp _ hinv1 (by omega) (by omega)
    refine ⟨e2, ?_, ?_, by simp only [List.length_cons]; omega, by simp only [List.length_cons]; omega⟩
    · simp only [List.map_cons, tags, ht, Option.bind_some]; exact hts
    · rw [List.append_assoc] at hinv2; exact hinv2

theorem encodeGeom_inv (e e' : Enc) (g : Geom) (exp : List (List (String × Val))) (hinv : LayerTagsOk e exp)
    (h : encodeGeom e g = some e') : e'.keys = e.keys ∧ e'.values = e.values ∧ WritingTagsOk e' exp [] := by
  by_cases hne : g = .line []
  · subst hne; cases h
  · rw [encodeGeom_wrote e g hne] at h
    cases h
    exact ⟨rfl, rfl, by simpa [wrote, adv, start, startFeature, LayerTagsOk, tagWords, Enc.features] using hinv, _, rfl, rfl⟩

theorem encodeFeature_inv (e e' : Enc) (f : FeatureIn) (exp : List (List (String × Val))) (hinv : LayerTagsOk e exp)
    (hk : e.keys.length + f.tags.length ≤ 2 ^ 32) (hvl : e.values.length + f.tags.length ≤ 2 ^ 32)
    (h : encodeFeature e f = some e') :
    LayerTagsOk e' (exp ++ [f.tags.map fun (k, v) => (k, Val.str v)]) ∧
      e'.keys.length ≤ e.keys.length + f.tags.length ∧ e'.values.length ≤ e.values.length + f.tags.length := by
  unfold encodeFeature at h
  obtain ⟨e1, hg, h⟩ := Option.bind_eq_some_iff.1 h
  obtain ⟨e2, hid, h⟩ := Option.bind_eq_some_iff.1 h
  obtain ⟨hk1, hv1, hinv1⟩ := encodeGeom_inv e e1 f.geom exp hinv hg
  -- the optional ID touches neither tables nor tag words
  have hinv2 : e2.keys = e1.keys ∧ e2.values = e1.values ∧ WritingTagsOk e2 exp [] := by
    obtain ⟨h0, f1, hc1, hT⟩ := hinv1
    split at hid
    · simp only [setID, withCur, hc1, Option.some.injEq] at hid
      exact hid ▸ ⟨rfl, rfl, h0, _, rfl, hT⟩
    · cases hid; exact ⟨rfl, rfl, h0, f1, hc1, hT⟩
  obtain ⟨hk2, hv2, hinv2⟩ := hinv2
  obtain ⟨e3, hts, hinv3, hk3, hv3⟩ :=
    tags_steps f.tags e2 exp [] hinv2 (by rw [hk2, hk1]; exact hk) (by rw [hv2, hv1]; exact hvl)
  rw [hts] at h
  cases h
  rw [hk2, hk1] at hk3; rw [hv2, hv1] at hv3
  exact ⟨by simpa using writing_done hinv3, hk3, hv3⟩

end B6.Lemmas.TileEncoder
