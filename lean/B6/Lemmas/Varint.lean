import B6.Model.Varint
/-!
# Lemmas about the L0 varint layer of `Model/Varint.lean` (kernel-only: propext, Classical.choice, Quot.sound)

`binary.Uvarint` is followed from the middle of its loop (`i` bytes read, shift `s`, accumulator `x`): on
`PutUvarint v ++ rest` it returns `v` and the length (the prefix-code lemma every codec proof rests on), on a proper
prefix `(0, 0)`, and whatever it returns with a positive count is below `2^64`.  Zigzag is `zig`/`zag`, the branching
forms of `binary.PutVarint`/`binary.Varint` at any width, inverse to each other through their `toNat`; the xor forms of
ints.go and of the tile encoder are rewritten into them.  Fixed-width integers go through `leValue`, the little-endian
value of a byte list.
-/
namespace B6.Model.Varint

/-! ## putUvarint -/

theorem putUvarintFuel_length_pos (f v : Nat) : 1 ≤ (putUvarintFuel f v).length := by
  cases f with
  | zero => simp [putUvarintFuel]
  | succ f => unfold putUvarintFuel; split <;> simp

theorem putUvarintFuel_length_le (f v : Nat) : (putUvarintFuel f v).length ≤ f + 1 := by
  fun_induction putUvarintFuel f v with
  | case1 v => simp
  | case2 f v h => simp
  | case3 f v h ih => simp only [List.length_cons]; omega

theorem putUvarint_length_pos (v : Nat) : 1 ≤ (putUvarint v).length := putUvarintFuel_length_pos 9 v

theorem putUvarint_length_le (v : Nat) : (putUvarint v).length ≤ 10 := putUvarintFuel_length_le 9 v

theorem putUvarint_ne_nil (v : Nat) : putUvarint v ≠ [] := by
  intro h; have := putUvarint_length_pos v; simp [h] at this

theorem putUvarintFuel_last (f : Nat) : ∀ v, v < 2 ^ (7 * f + 7) →
    ∃ init b, putUvarintFuel f v = init ++ [b] ∧ b.toNat < 128 := by
  intro v hv
  fun_induction putUvarintFuel f v with
  | case1 v => exact ⟨[], v.toUInt8, rfl, by simp [Nat.toUInt8, UInt8.toNat_ofNat']; omega⟩
  | case2 f v hlt => exact ⟨[], v.toUInt8, rfl, by simp [Nat.toUInt8, UInt8.toNat_ofNat']; omega⟩
  | case3 f v _ ih =>
    have hpow : v / 128 < 2 ^ (7 * f + 7) := by
      have e : 2 ^ (7 * (f + 1) + 7) = 2 ^ (7 * f + 7) * 128 := by rw [Nat.mul_succ, Nat.pow_add _ _ 7]
      rw [e] at hv
      exact Nat.div_lt_of_lt_mul (by rw [Nat.mul_comm]; exact hv)
    obtain ⟨init, b, h1, h2⟩ := ih hpow
    exact ⟨(v % 128 + 128).toUInt8 :: init, b, by rw [h1]; rfl, h2⟩

theorem putUvarint_last (v : Nat) (hv : v < 2 ^ 64) : ∃ init b, putUvarint v = init ++ [b] ∧ b.toNat < 128 :=
  putUvarintFuel_last 9 v (by omega)

theorem uvarintRawAux_last (v s x i : Nat) (rest : Bytes) (hv : v < 128) (hi : i ≠ 10) (h9 : ¬ (i = 9 ∧ v > 1)) :
    uvarintRawAux (v.toUInt8 :: rest) s x i = (x + v * 2 ^ s, (i : Int) + 1) := by
  rw [uvarintRawAux, if_neg hi, UInt8.toNat_ofNat_of_lt' (Nat.lt_trans hv (by decide)), if_pos hv, if_neg h9]

theorem uvarintRawAux_cont (b : UInt8) (bs : Bytes) (s x i : Nat) (hb : 128 ≤ b.toNat) (hi : i ≠ 10) :
    uvarintRawAux (b :: bs) s x i = uvarintRawAux bs (s + 7) (x + (b.toNat - 128) * 2 ^ s) (i + 1) := by
  rw [uvarintRawAux, if_neg hi, if_neg (Nat.not_lt.2 hb)]

/-- generalised prefix lemma: decoding resumes in the middle of the loop (`i` bytes already consumed). -/
theorem uvarintRawAux_putUvarintFuel (f : Nat) : ∀ (v s x i : Nat) (rest : Bytes),
    v < 2 ^ (7 * f + 1) → i + f = 9 →
    uvarintRawAux (putUvarintFuel f v ++ rest) s x i
      = (x + v * 2 ^ s, (i : Int) + (putUvarintFuel f v).length) := by
  intro v s x i rest hv hi
  fun_induction putUvarintFuel f v generalizing s x i with
  | case1 v => exact uvarintRawAux_last v s x i rest (by omega) (by omega) (by omega)
  | case2 f v hlt => exact uvarintRawAux_last v s x i rest hlt (by omega) (by omega)
  | case3 f v _ ih =>
    have hb : ((v % 128 + 128).toUInt8).toNat = v % 128 + 128 :=
      UInt8.toNat_ofNat_of_lt' (Nat.add_lt_add_right (Nat.mod_lt v (by decide)) 128)
    have hpow : v / 128 < 2 ^ (7 * f + 1) := Nat.div_lt_of_lt_mul (by
      rw [show 7 * (f + 1) + 1 = 7 + (7 * f + 1) by omega, Nat.pow_add] at hv; exact hv)
    rw [List.cons_append, uvarintRawAux_cont _ _ s x i (by rw [hb]; exact Nat.le_add_left _ _) (by omega), hb,
      ih (s + 7) _ (i + 1) hpow (by omega)]
    have e2 : x + (v % 128 + 128 - 128) * 2 ^ s + v / 128 * 2 ^ (s + 7) = x + v * 2 ^ s := by
      rw [Nat.add_sub_cancel, Nat.pow_add, Nat.mul_left_comm, Nat.mul_comm _ (2 ^ s), Nat.add_assoc, ← Nat.mul_add,
        show (2 : Nat) ^ 7 = 128 from rfl, Nat.mod_add_div', Nat.mul_comm]
    rw [e2, List.length_cons, Int.natCast_add, Int.natCast_add, Int.add_assoc, Int.add_comm (1 : Nat)]

theorem uvarintRaw_putUvarint_append (v : Nat) (hv : v < 2 ^ 64) (rest : Bytes) :
    uvarintRaw (putUvarint v ++ rest) = (v, ((putUvarint v).length : Int)) := by
  have h := uvarintRawAux_putUvarintFuel 9 v 0 0 0 rest (by omega) (by omega)
  simpa [uvarintRaw, putUvarint] using h

theorem uvarint_putUvarint_append (v : Nat) (hv : v < 2 ^ 64) (rest : Bytes) :
    uvarint (putUvarint v ++ rest) = some (v, (putUvarint v).length) := by
  simp only [uvarint, uvarintRaw_putUvarint_append v hv rest]
  simp [putUvarint_ne_nil]

theorem uvarint_putUvarint (v : Nat) (hv : v < 2 ^ 64) :
    uvarint (putUvarint v) = some (v, (putUvarint v).length) := by
  simpa using uvarint_putUvarint_append v hv []

/-! ## prefixes of a varint -/

theorem uvarintRawAux_prefix (f : Nat) : ∀ (v k s x i : Nat),
    k < (putUvarintFuel f v).length → i + k ≤ 10 → uvarintRawAux ((putUvarintFuel f v).take k) s x i = (0, 0) := by
  intro v k s x i hk hi
  fun_induction putUvarintFuel f v generalizing k s x i with
  | case1 v =>
    have : k = 0 := by simpa using hk
    subst this; rfl
  | case2 f v _ =>
    have : k = 0 := by simpa using hk
    subst this; rfl
  | case3 f v _ ih =>
    cases k with
    | zero => rfl
    | succ k =>
      simp only [List.length_cons] at hk
      have hb : ((v % 128 + 128).toUInt8).toNat = v % 128 + 128 := UInt8.toNat_ofNat_of_lt' (show _ < 256 by omega)
      rw [List.take_succ_cons, uvarintRawAux_cont _ _ s x i (by omega) (by omega)]
      exact ih k _ _ (i + 1) (by omega) (by omega)

theorem uvarintRaw_prefix (v k : Nat) (hk : k < (putUvarint v).length) :
    uvarintRaw ((putUvarint v).take k) = (0, 0) := by
  have hl := putUvarint_length_le v
  exact uvarintRawAux_prefix 9 v k 0 0 0 hk (by omega)

/-! ## what a successful decode guarantees -/

theorem uvarintAcc_lt (x b s : Nat) (hx : x < 2 ^ s) (hb : b < 128) : x + b * 2 ^ s < 2 ^ (s + 7) := by
  have := Nat.mul_le_mul_right (2 ^ s) (Nat.le_of_lt_succ hb)
  rw [Nat.pow_add]; omega

theorem uvarintRawAux_bound : ∀ (bs : Bytes) (s x i : Nat) (v : Nat) (n : Int),
    uvarintRawAux bs s x i = (v, n) → n > 0 → s = 7 * i → x < 2 ^ s → i ≤ 10 →
    v < 2 ^ 64 ∧ n ≤ (i : Int) + bs.length ∧ n > i ∧ n ≤ 10 := by
  intro bs s x i v n h hn hs hx hi
  fun_induction uvarintRawAux bs s x i with
  | case1 s x i => cases h; exact absurd hn (Int.lt_irrefl 0)
  | case2 b bs s x => cases h; omega
  | case3 b bs s x i hi10 hb h9 => cases h; omega
  | case4 b bs s x i hi10 hb h9 =>
    cases h
    refine ⟨?_, by rw [List.length_cons]; omega, by omega, by omega⟩
    subst hs
    by_cases hi9 : i = 9
    · -- the tenth byte is 0 or 1
      subst hi9
      have : b.toNat * 2 ^ (7 * 9) ≤ 1 * 2 ^ (7 * 9) := Nat.mul_le_mul_right _ (by omega)
      omega
    · exact Nat.lt_of_lt_of_le (uvarintAcc_lt x b.toNat _ hx hb)
        (Nat.pow_le_pow_right (by decide) (by omega))
  | case5 b bs s x i hi10 hb ih =>
    have := ih h (by omega) (uvarintAcc_lt x _ s hx (by have := b.toNat_lt; omega)) (by omega)
    rw [List.length_cons]
    omega

theorem uvarint_spec (bs : Bytes) (v n : Nat) (h : uvarint bs = some (v, n)) :
    v < 2 ^ 64 ∧ 1 ≤ n ∧ n ≤ bs.length ∧ n ≤ 10 ∧ uvarintRaw bs = (v, (n : Int)) := by
  revert h
  fun_cases uvarint bs with
  | case1 r hpos =>
    rintro ⟨⟩
    have hb := uvarintRawAux_bound bs 0 0 0 r.1 r.2 rfl hpos rfl (by simp) (by omega)
    refine ⟨hb.1, by omega, by omega, ?_, Prod.ext rfl (show r.2 = _ by omega)⟩
    -- n ≤ 10: the loop stops at byte index 10
    have := hb.2.2.2
    omega
  | case2 => nofun

/-! ## zigzag and signed varints -/

theorem allOnes64 : (18446744073709551615#64) = BitVec.allOnes 64 := by decide

def zig {w : Nat} (x : BitVec w) : BitVec w := if x.msb then ~~~(x <<< 1) else x <<< 1
def zag {w : Nat} (u : BitVec w) : BitVec w := if u &&& 1#w ≠ 0#w then ~~~(u >>> 1) else u >>> 1

theorem varintZig_eq_zig (x : BitVec 64) : varintZig x = zig x := rfl
theorem varintZag_eq_zag (u : BitVec 64) : varintZag u = zag u := rfl

theorem msb_iff {w : Nat} (x : BitVec (w + 1)) : x.msb = true ↔ 2 ^ w ≤ x.toNat := by
  rw [BitVec.msb_eq_decide, decide_eq_true_iff, Nat.add_sub_cancel]

theorem sshiftRight_last {w : Nat} (x : BitVec (w + 1)) :
    x.sshiftRight w = if x.msb then BitVec.allOnes (w + 1) else 0#(w + 1) := by
  have low (y : BitVec (w + 1)) (h : y.msb = false) : y >>> w = 0#(w + 1) := by
    apply BitVec.eq_of_toNat_eq
    rw [BitVec.toNat_ushiftRight, Nat.shiftRight_eq_div_pow, BitVec.toNat_ofNat, Nat.zero_mod]
    exact Nat.div_eq_of_lt (Nat.lt_of_not_le fun hh => by rw [(msb_iff y).2 hh] at h; cases h)
  cases h : x.msb
  · rw [BitVec.sshiftRight_eq_of_msb_false h, low x h]; rfl
  · rw [BitVec.sshiftRight_eq_of_msb_true h, low (~~~x) (by rw [BitVec.msb_not, h]; rfl)]
    simp

theorem zig_eq_xor {w : Nat} (x : BitVec (w + 1)) : (x <<< 1) ^^^ x.sshiftRight w = zig x := by
  rw [sshiftRight_last, zig]
  cases x.msb
  · exact BitVec.xor_zero
  · exact BitVec.xor_allOnes

theorem and_one_toNat {w : Nat} (v : BitVec (w + 1)) : (v &&& 1#(w + 1)).toNat = v.toNat % 2 := by
  rw [BitVec.toNat_and, BitVec.toNat_ofNat, Nat.mod_eq_of_lt (Nat.one_lt_two_pow (Nat.succ_ne_zero w)),
    Nat.and_one_is_mod]

theorem and_one_ne_zero_iff {w : Nat} (v : BitVec (w + 1)) : v &&& 1#(w + 1) ≠ 0#(w + 1) ↔ v.toNat % 2 = 1 := by
  rw [Ne, ← BitVec.toNat_inj, and_one_toNat, BitVec.toNat_ofNat, Nat.zero_mod]; omega

theorem zag_eq_xor {w : Nat} (v : BitVec (w + 1)) : (v >>> 1) ^^^ -(v &&& 1#(w + 1)) = zag v := by
  fun_cases zag v with
  | case1 h =>
    have : v &&& 1#(w + 1) = 1#(w + 1) := by
      apply BitVec.eq_of_toNat_eq
      rw [and_one_toNat, (and_one_ne_zero_iff v).1 h, BitVec.toNat_ofNat,
        Nat.mod_eq_of_lt (Nat.one_lt_two_pow (Nat.succ_ne_zero w))]
    rw [this, BitVec.neg_one_eq_allOnes, BitVec.xor_allOnes]
  | case2 h => rw [Decidable.not_not.1 h, BitVec.neg_zero, BitVec.xor_zero]

theorem zig_toNat {w : Nat} (x : BitVec (w + 1)) :
    (zig x).toNat = if 2 ^ w ≤ x.toNat then 2 * (2 ^ (w + 1) - 1 - x.toNat) + 1 else 2 * x.toNat := by
  have hx := x.isLt
  unfold zig
  rw [Nat.pow_succ] at *
  by_cases h : 2 ^ w ≤ x.toNat
  · rw [if_pos ((msb_iff x).2 h), if_pos h, BitVec.toNat_not, BitVec.toNat_shiftLeft, Nat.shiftLeft_eq, Nat.pow_one,
      Nat.pow_succ, show x.toNat * 2 = 2 ^ w * 2 + (x.toNat - 2 ^ w) * 2 by omega, Nat.add_mod_left,
      Nat.mod_eq_of_lt (by omega)]
    omega
  · rw [if_neg (fun hh => h ((msb_iff x).1 hh)), if_neg h, BitVec.toNat_shiftLeft, Nat.shiftLeft_eq, Nat.pow_one,
      Nat.pow_succ, Nat.mod_eq_of_lt (by omega), Nat.mul_comm]

theorem zag_toNat {w : Nat} (u : BitVec (w + 1)) :
    (zag u).toNat = if u.toNat % 2 = 1 then 2 ^ (w + 1) - 1 - u.toNat / 2 else u.toNat / 2 := by
  unfold zag
  by_cases h : u.toNat % 2 = 1
  · rw [if_pos ((and_one_ne_zero_iff u).2 h), if_pos h, BitVec.toNat_not, BitVec.toNat_ushiftRight,
      Nat.shiftRight_eq_div_pow, Nat.pow_one]
  · rw [if_neg (fun hh => h ((and_one_ne_zero_iff u).1 hh)), if_neg h, BitVec.toNat_ushiftRight,
      Nat.shiftRight_eq_div_pow, Nat.pow_one]

theorem zag_zig {w : Nat} (x : BitVec (w + 1)) : zag (zig x) = x := by
  apply BitVec.eq_of_toNat_eq
  rw [zag_toNat, zig_toNat]
  by_cases h : 2 ^ w ≤ x.toNat
  · rw [if_pos h, Nat.mul_add_mod, if_pos rfl, Nat.mul_add_div (by decide), Nat.div_eq_of_lt (by decide : 1 < 2)]
    exact Nat.sub_sub_self (Nat.le_sub_one_of_lt x.isLt)
  · rw [if_neg h, Nat.mul_mod_right, if_neg (by decide), Nat.mul_div_cancel_left _ (by decide)]

theorem zig_zag {w : Nat} (u : BitVec (w + 1)) : zig (zag u) = u := by
  apply BitVec.eq_of_toNat_eq
  have hq : u.toNat / 2 < 2 ^ w := Nat.div_lt_of_lt_mul (by rw [Nat.mul_comm, ← Nat.pow_succ]; exact u.isLt)
  have hd := Nat.div_add_mod u.toNat 2
  rw [zig_toNat, zag_toNat]
  by_cases h : u.toNat % 2 = 1
  · have hle : u.toNat / 2 ≤ 2 ^ (w + 1) - 1 :=
      Nat.le_sub_one_of_lt (Nat.lt_trans hq (Nat.pow_lt_pow_right (by decide) (Nat.lt_succ_self w)))
    rw [if_pos h, if_pos (by rw [Nat.pow_succ]; omega), Nat.sub_sub_self hle]
    rwa [h] at hd
  · rw [if_neg h, if_neg (Nat.not_le.2 hq)]
    rwa [(Nat.mod_two_eq_zero_or_one _).resolve_right h, Nat.add_zero] at hd

/-- Go's `uint64(v<<1) ^ uint64(v>>63)` is the branchy form used by `binary.PutVarint`. -/
theorem zigzagEncode_eq_varintZig (x : BitVec 64) : zigzagEncode x = varintZig x :=
  (zig_eq_xor x).trans (varintZig_eq_zig x).symm

theorem zigzagDecode_eq_varintZag (v : BitVec 64) : zigzagDecode v = varintZag v :=
  (zag_eq_xor v).trans (varintZag_eq_zag v).symm

theorem varintZag_varintZig (x : BitVec 64) : varintZag (varintZig x) = x := by
  rw [varintZig_eq_zig, varintZag_eq_zag, zag_zig]

theorem zigzagDecode_zigzagEncode (x : BitVec 64) : zigzagDecode (zigzagEncode x) = x := by
  rw [zigzagDecode_eq_varintZag, zigzagEncode_eq_varintZig, varintZag_varintZig]

theorem zigzagEncode_zigzagDecode (v : BitVec 64) : zigzagEncode (zigzagDecode v) = v := by
  rw [zigzagDecode_eq_varintZag, zigzagEncode_eq_varintZig, varintZag_eq_zag, varintZig_eq_zig, zig_zag]

/-- the code before the repair (arithmetic shift in `ZigzagDecode`) lost `x = 2^62`. -/
theorem zigzagDecodeArith_counterexample :
    zigzagDecodeArith (zigzagEncode 0x4000000000000000#64) ≠ 0x4000000000000000#64 := by decide

theorem varint_putVarint_append (x : BitVec 64) (rest : Bytes) :
    varint (putVarint x ++ rest) = some (x, (putVarint x).length) := by
  unfold varint putVarint
  rw [uvarint_putUvarint_append _ (varintZig x).isLt rest]
  simp [varintZag_varintZig]

theorem putVarint_length_pos (x : BitVec 64) : 1 ≤ (putVarint x).length := putUvarint_length_pos _
theorem putVarint_length_le (x : BitVec 64) : (putVarint x).length ≤ 10 := putUvarint_length_le _

theorem uvarint64_putUvarint64_append (v : BitVec 64) (rest : Bytes) :
    uvarint64 (putUvarint64 v ++ rest) = some (v, (putUvarint64 v).length) := by
  unfold uvarint64 putUvarint64
  rw [uvarint_putUvarint_append _ v.isLt rest]
  simp

/-! ## fixed-width integers -/

theorem marshalUint64_length (v l : Nat) : (marshalUint64 v l).length = l := by
  induction l generalizing v with
  | zero => rfl
  | succ l ih => simp [marshalUint64, ih]

theorem leValue_marshalUint64 (l : Nat) : ∀ v, leValue (marshalUint64 v l) = v % 256 ^ l := by
  induction l with
  | zero => intro v; simp [marshalUint64, leValue, Nat.mod_one]
  | succ l ih =>
    intro v
    have hb : ((v % 256).toUInt8).toNat = v % 256 := UInt8.toNat_ofNat_of_lt' (Nat.mod_lt _ (by omega))
    simp only [marshalUint64, leValue, hb, ih]
    rw [Nat.pow_succ, Nat.mul_comm (256 ^ l) 256, Nat.mod_mul]

theorem leValue_take_marshalUint64 (n v : Nat) (hv : v < 256 ^ n) (rest : Bytes) :
    ¬ (marshalUint64 v n ++ rest).length < n ∧ leValue ((marshalUint64 v n ++ rest).take n) = v := by
  have hl := marshalUint64_length v n
  refine ⟨by rw [List.length_append]; omega, ?_⟩
  rw [List.take_append_of_le_length (by omega), List.take_of_length_le (by omega), leValue_marshalUint64,
    Nat.mod_eq_of_lt hv]

theorem uint64Length_bounds (v : Nat) :
    1 ≤ uint64Length v ∧ uint64Length v ≤ 8 ∧ (uint64Length v = 8 ∨ v < 256 ^ uint64Length v) ∧
      (uint64Length v = 1 ∨ 256 ^ (uint64Length v - 1) ≤ v) := by
  unfold uint64Length
  -- down the chain of tests by hand: `split` is very slow on this goal
  by_cases h1 : v < 2 ^ 8
  · rw [if_pos h1]; omega
  rw [if_neg h1]
  by_cases h2 : v < 2 ^ 16
  · rw [if_pos h2]; omega
  rw [if_neg h2]
  by_cases h3 : v < 2 ^ 24
  · rw [if_pos h3]; omega
  rw [if_neg h3]
  by_cases h4 : v < 2 ^ 32
  · rw [if_pos h4]; omega
  rw [if_neg h4]
  by_cases h5 : v < 2 ^ 40
  · rw [if_pos h5]; omega
  rw [if_neg h5]
  by_cases h6 : v < 2 ^ 48
  · rw [if_pos h6]; omega
  rw [if_neg h6]
  by_cases h7 : v < 2 ^ 56
  · rw [if_pos h7]; omega
  rw [if_neg h7]; omega

theorem uint64Length_spec (v : Nat) (hv : v < 2 ^ 64) : 1 ≤ uint64Length v ∧ uint64Length v ≤ 8 ∧ v < 256 ^ uint64Length v := by
  obtain ⟨h1, h8, hlt | hlt, _⟩ := uint64Length_bounds v
  · exact ⟨h1, h8, by rw [hlt]; omega⟩
  · exact ⟨h1, h8, hlt⟩

theorem uint64Length_mono {p q : Nat} (h : p ≤ q) : uint64Length p ≤ uint64Length q := by
  have hp := uint64Length_bounds p
  have hq := uint64Length_bounds q
  -- otherwise `q < 256 ^ len q ≤ 256 ^ (len p - 1) ≤ p`
  false_or_by_contra
  have := Nat.pow_le_pow_right (show 0 < 256 by omega) (show uint64Length q ≤ uint64Length p - 1 by omega)
  omega

theorem unmarshal_marshalUint64_append (v l : Nat) (hv : v < 2 ^ 64) (hl : uint64Length v ≤ l) (rest : Bytes) :
    unmarshalUint64 l (marshalUint64 v l ++ rest) = some v := by
  have hs := uint64Length_spec v hv
  have hpow : 256 ^ uint64Length v ≤ 256 ^ l := Nat.pow_le_pow_right (by omega) hl
  obtain ⟨h1, h2⟩ := leValue_take_marshalUint64 l v (by omega) rest
  rw [unmarshalUint64, if_neg (by omega), h2, Nat.mod_eq_of_lt hv]

end B6.Model.Varint
