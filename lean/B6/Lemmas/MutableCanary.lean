import B6.Lemmas.Mutable
/-!
`MergedChange`'s canary (a fresh overlay over the world's view) and the world itself, run in lock step (C13): the two
show the same (`Sim`), every call answers the same on both and keeps it so (`prim_step`), whence the faithfulness
theorems by one induction (`lockstep`).  What validation reads of a world are geometry skeletons and locations; the
answer of `AddFeature` is one proposition over them and the set `FindReferences` returns (`addFeature_ok_iff`).
-/
namespace B6.Model.Mutable

/-! ## what validation reads -/

def pointOfG : Geom → Option Pt
  | .point p => some p
  | _ => none

theorem pointOf_eq (f : Feature) : pointOf f = pointOfG f.geom := by
  unfold pointOf pointOfG; cases f.geom <;> rfl

def geomOf (v : View) (id : Id) : Option Geom := (v.find id).map (·.f.geom)

theorem geomOf_eq_some {v : View} {x : Id} {g : Geom} :
    geomOf v x = some g ↔ ∃ fv, v.find x = some fv ∧ fv.f.geom = g := by
  simp [geomOf]

theorem geomOf_obs (v : View) (id : Id) : geomOf v id = (obs v id).map (·.geom) := by
  unfold geomOf obs; rw [Option.map_map]; rfl

/-- locations are the locations of the points the world shows -/
def View.LocOK (v : View) : Prop := ∀ id, v.loc id = (geomOf v id).bind pointOfG

/-- `ValidateFeature` only looks at the geometry of the feature -/
def validateG (v : View) (o : Oracle) : Geom → Bool
  | .point _ => true
  | .path ps => validatePath v o ps
  | .area ps => validateArea v ps
  | .relation _ => true
  | .collection _ => true

theorem validate_eq (v : View) (o : Oracle) (f : Feature) : validate v o f = validateG v o f.geom := by
  unfold validate validateG; cases f.geom <;> rfl

theorem validateG_congr {v v' : View} (hl : v'.loc = v.loc) (hg : ∀ id, geomOf v' id = geomOf v id) (o : Oracle)
    (g : Geom) : validateG v' o g = validateG v o g := by
  cases g with
  | point p => rfl
  | path ps => simp only [validateG, validatePath, hl]
  | area ps =>
    simp only [validateG, validateArea, hl]
    congr 1
    funext id
    have := hg id
    simp only [geomOf] at this
    rw [this]
  | relation ms => rfl
  | collection ks => rfl

/-! ## geometry and locations of a layered world -/

theorem geomOf_overlay {b : View} {l : Layer} {x : Id} {g : Feature} (h : AMap.get l.feats x = some g)
    (ll : Id → Option Pt) : geomOf (l.view b ll) x = some g.geom := by
  rw [geomOf_obs, obs_view, Layer.obs_some h]; rfl

theorem geomOf_base {b : View} {l : Layer} {x : Id} (h : AMap.get l.feats x = none) (ll : Id → Option Pt) :
    geomOf (l.view b ll) x = geomOf b x := by
  rw [geomOf_obs, obs_view, Layer.obs_none h, geomOf_obs, Option.map_map]; rfl

theorem geomOf_view_cases {b : View} {l : Layer} {ll : Id → Option Pt} {x : Id} {g : Geom}
    (h : geomOf (l.view b ll) x = some g) :
    (∃ f, AMap.get l.feats x = some f ∧ f.geom = g) ∨ (AMap.get l.feats x = none ∧ geomOf b x = some g) := by
  cases hx : AMap.get l.feats x with
  | some f => rw [geomOf_overlay hx] at h; exact .inl ⟨f, rfl, Option.some.inj h⟩
  | none => rw [geomOf_base hx] at h; exact .inr ⟨rfl, h⟩

theorem view_locOK {b : View} (hb : b.LocOK) (l : Layer) (ll : Id → Option Pt) : (l.view b ll).LocOK := by
  intro id
  show l.loc b id = _
  unfold Layer.loc
  cases h : AMap.get l.feats id with
  | some f => rw [geomOf_overlay h]; exact pointOf_eq f
  | none => rw [geomOf_base h]; exact hb id

/-- agreement of two worlds on everything validation reads -/
structure GAgree (v v' : View) : Prop where
  loc : v'.loc = v.loc
  geom : ∀ id, geomOf v' id = geomOf v id

theorem geomOf_congr {v v' : View} {i : Id} (h : obs v' i = obs v i) : geomOf v' i = geomOf v i := by
  rw [geomOf_obs, geomOf_obs, h]

theorem gagree_of_obs {v v' : View} (hv : v.LocOK) (hv' : v'.LocOK) (h : ∀ i, obs v' i = obs v i) : GAgree v v' :=
  ⟨funext fun i => by rw [hv' i, hv i, geomOf_congr (h i)], fun i => geomOf_congr (h i)⟩

theorem obs_putTmp (b : View) (l : Layer) (f : Feature) (i : Id) :
    (l.putTmp f).obs b i = if i = f.id then some (shownOf f) else l.obs b i := by
  by_cases hi : i = f.id
  · rw [if_pos hi]; exact Layer.obs_some (by simp [Layer.putTmp, AMap.get_set, hi])
  · rw [if_neg hi]; exact Layer.obs_congr (by simp [Layer.putTmp, AMap.get_set, hi]) rfl

/-! ## the answer of `AddFeature` -/

theorem addFeature_verdict_values (b : View) (o : Oracle) (l : Layer) (f : Feature) :
    (l.addFeature b o f).2 = none ∨ (l.addFeature b o f).2 = some Err.invalid := by
  rcases addFeature_cases b o l f with ⟨_, h, _⟩ | ⟨_, h, _⟩ <;> rw [h]
  · exact .inr rfl
  · exact .inl rfl

theorem verdict_eq_of_iff {v0 b : View} {o : Oracle} {c l : Layer} {f : Feature}
    (h : (c.addFeature v0 o f).2 = none ↔ (l.addFeature b o f).2 = none) :
    (c.addFeature v0 o f).2 = (l.addFeature b o f).2 := by
  rcases addFeature_verdict_values v0 o c f with h1 | h1 <;> rcases addFeature_verdict_values b o l f with h2 | h2
  · rw [h1, h2]
  · rw [h.1 h1] at h2; cases h2
  · rw [h.2 h2] at h1; cases h1
  · rw [h1, h2]

/-- the model's branch for an empty answer of `FindReferences` is no special case -/
theorem addFeature_ok_iff (b : View) (o : Oracle) (l : Layer) (f : Feature) :
    (l.addFeature b o f).2 = none ↔
      validateG (l.view b (l.loc b)) o f.geom = true ∧
      ∀ x ∈ (l.view b (l.loc b)).refs f.id, ∀ g, geomOf (l.view b (l.loc b)) x = some g →
        validateG ((l.putTmp f).view b ((l.putTmp f).loc b)) o g = true := by
  have hall : (∀ r ∈ l.referrers b f.id, validate ((l.putTmp f).view b ((l.putTmp f).loc b)) o r.f = true) ↔
      ∀ x ∈ (l.view b (l.loc b)).refs f.id, ∀ g, geomOf (l.view b (l.loc b)) x = some g →
        validateG ((l.putTmp f).view b ((l.putTmp f).loc b)) o g = true := by
    simp only [Layer.referrers, List.mem_filterMap, geomOf_eq_some, find_view, validate_eq]
    exact ⟨fun h x hx g ⟨fv, hfv, hg⟩ => hg ▸ h fv ⟨x, hx, hfv⟩, fun h fv ⟨x, hx, hfv⟩ => h x hx _ ⟨fv, hfv, rfl⟩⟩
  rw [← hall, ← validate_eq]
  rcases addFeature_cases b o l f with ⟨l1, h1, _, hn⟩ | ⟨l1, h1, _, hv, hr⟩ <;> rw [h1]
  · exact ⟨fun h => (nomatch h), fun h => absurd h hn⟩
  · exact ⟨fun _ => ⟨hv, hr⟩, fun _ => rfl⟩

theorem mem_of_sameRefs {a b : List Id} (h : sameRefs a b = true) (x : Id) : x ∈ a ↔ x ∈ b := by
  simp only [sameRefs, Bool.and_eq_true, List.all_eq_true, List.contains_eq_mem, decide_eq_true_eq] at h
  exact ⟨h.1 x, h.2 x⟩

/-! ## the canary and the world, call by call -/

/-- the canary (`c` over `v0`) and the world (`l` over `b`) show the same -/
structure Sim (v0 b : View) (c l : Layer) : Prop where
  shows : ∀ i, c.obs v0 i = l.obs b i
  cFeats : c.FeatsId
  lFeats : l.FeatsId

theorem Sim.gagree {v0 b : View} {c l : Layer} (hs : Sim v0 b c l) (hv0 : v0.LocOK) (hb : b.LocOK) :
    GAgree (l.view b (l.loc b)) (c.view v0 (c.loc v0)) :=
  gagree_of_obs (view_locOK hb _ _) (view_locOK hv0 _ _) fun i => by rw [obs_view, obs_view, hs.shows]

theorem Sim.gagree_tmp {v0 b : View} {c l : Layer} (hs : Sim v0 b c l) (hv0 : v0.LocOK) (hb : b.LocOK) (f : Feature) :
    GAgree ((l.putTmp f).view b ((l.putTmp f).loc b)) ((c.putTmp f).view v0 ((c.putTmp f).loc v0)) :=
  gagree_of_obs (view_locOK hb _ _) (view_locOK hv0 _ _) fun i => by
    rw [obs_view, obs_view, obs_putTmp, obs_putTmp, hs.shows]

theorem addFeature_same_verdict {v0 b : View} {o : Oracle} {c l : Layer} {f : Feature}
    (hv0 : v0.LocOK) (hb : b.LocOK) (hs : Sim v0 b c l)
    (href : sameRefs ((c.view v0 (c.loc v0)).refs f.id) ((l.view b (l.loc b)).refs f.id) = true) :
    (c.addFeature v0 o f).2 = (l.addFeature b o f).2 := by
  have hg := hs.gagree hv0 hb
  have ht := hs.gagree_tmp hv0 hb f
  apply verdict_eq_of_iff
  simp only [addFeature_ok_iff, validateG_congr hg.loc hg.geom, validateG_congr ht.loc ht.geom, hg.geom,
    mem_of_sameRefs href]

theorem edit_verdict {p : Prim} {id : Id} {k : Key} {m : Mod} (hp : p.Edits id k m) (b : View) (o : Oracle) (l : Layer) :
    (p.apply b o l).2 = if (l.obs b id).isSome then none else some .noFeature := by
  rw [← obs_view b (l.loc b), obs_isSome, find_view]
  rcases edit_apply hp b o l with ⟨hn, h1⟩ | ⟨hf, _, h1, _⟩ <;> rw [h1]
  · rw [hn]; rfl
  · rw [hf]; rfl

/-- the two worlds go on showing the same because both apply `p.onObs`, or both are left as they were -/
theorem prim_step {v0 b : View} {o : Oracle} {c l : Layer} (p : Prim)
    (hv0 : v0.IdsOK) (hb : b.IdsOK) (hs : Sim v0 b c l)
    (hfeat : ∀ f, p = .feat f → (c.addFeature v0 o f).2 = (l.addFeature b o f).2) :
    (p.apply v0 o c).2 = (p.apply b o l).2 ∧ Sim v0 b (p.apply v0 o c).1 (p.apply b o l).1 := by
  have hv : (p.apply v0 o c).2 = (p.apply b o l).2 := by
    rcases p.feat_or_edit with ⟨f, rfl⟩ | ⟨id, k, m, hp⟩
    · exact hfeat f rfl
    · rw [edit_verdict hp, edit_verdict hp, hs.shows]
  refine ⟨hv, fun i => ?_, featsId_prim c p hs.cFeats, featsId_prim l p hs.lFeats⟩
  cases h1 : p.apply v0 o c with
  | mk c' rc =>
    cases h2 : p.apply b o l with
    | mk l' rl =>
      rw [h1, h2] at hv
      cases hv
      cases rc with
      | none => rw [obs_prim hv0 hs.cFeats h1, obs_prim hb hs.lFeats h2, funext hs.shows]
      | some e => rw [obs_same (prim_rejected h1).2, obs_same (prim_rejected h2).2]; exact hs.shows i

/-- lock step: `R` is what is carried along (it sees the calls still to come); each call answers the same on both
sides and, when accepted, hands `R` on -/
theorem lockstep {v0 b : View} {o : Oracle} {R : Layer → Layer → List Prim → Prop}
    (hstep : ∀ c l p rest, R c l (p :: rest) → (p.apply v0 o c).2 = (p.apply b o l).2 ∧
      ((p.apply v0 o c).2 = none → R (p.apply v0 o c).1 (p.apply b o l).1 rest)) :
    ∀ ps c l, R c l ps → (applyPrims v0 o c ps).2 = (applyPrims b o l ps).2 := by
  intro ps
  induction ps with
  | nil => intro c l _; rfl
  | cons p rest ih =>
    intro c l h
    obtain ⟨hv, hr⟩ := hstep c l p rest h
    simp only [applyPrims]
    cases hc : p.apply v0 o c with
    | mk c' rc =>
      cases hl : p.apply b o l with
      | mk l' rl =>
        rw [hc, hl] at hv hr
        cases hv
        cases rc with
        | none => exact ih c' l' (hr rfl)
        | some e => rfl

/-- tag calls only: there is no `AddFeature` to answer for, hence no hypothesis on `FindReferences` -/
theorem prims_faithful_edits {v0 b : View} {o : Oracle} (hv0 : v0.IdsOK) (hb : b.IdsOK) (ps : List Prim) (c l : Layer)
    (hs : Sim v0 b c l) (hps : ∀ p ∈ ps, ∃ k m, p.Edits p.target k m) :
    (applyPrims v0 o c ps).2 = (applyPrims b o l ps).2 :=
  lockstep (R := fun c l ps => Sim v0 b c l ∧ ∀ p ∈ ps, ∃ k m, p.Edits p.target k m)
    (fun _ _ p _ ⟨hs, hps⟩ =>
      have h := prim_step (o := o) p hv0 hb hs fun f hf => by
        obtain ⟨_, _, he⟩ := hps p List.mem_cons_self; subst hf; cases he
      ⟨h.1, fun _ => ⟨h.2, fun q hq => hps q (List.mem_cons_of_mem _ hq)⟩⟩)
    ps c l ⟨hs, hps⟩

theorem prims_faithful {v0 b : View} {o : Oracle} (hv0 : v0.IdsOK) (hv0l : v0.LocOK) (hb : b.IdsOK) (hbl : b.LocOK)
    (ps : List Prim) : ∀ (c l : Layer), Sim v0 b c l → lockstepRefs v0 b o c l ps = true →
      (applyPrims v0 o c ps).2 = (applyPrims b o l ps).2 := by
  intro c l hs hlock
  refine lockstep (R := fun c l ps => Sim v0 b c l ∧ lockstepRefs v0 b o c l ps = true) ?_ ps c l ⟨hs, hlock⟩
  rintro c l p rest ⟨hs, hlock⟩
  simp only [lockstepRefs, Bool.and_eq_true] at hlock
  obtain ⟨hv, hs'⟩ := prim_step (o := o) p hv0 hb hs
    (fun f hp => addFeature_same_verdict hv0l hbl hs (by subst hp; exact hlock.1))
  refine ⟨hv, fun hn => ⟨hs', ?_⟩⟩
  have h2 := hlock.2
  cases hc : p.apply v0 o c with
  | mk c' rc =>
    cases hl : p.apply b o l with
    | mk l' rl =>
      simp only [hc, hl] at hv hn h2
      subst hv hn
      exact h2

theorem sim_init (b : View) (l : Layer) (hl : l.FeatsId) : Sim (l.view b (l.loc b)) b Layer.empty l :=
  ⟨fun i => by rw [obs_empty_layer, obs_view], fun i f h => by simp [Layer.empty] at h, hl⟩

end B6.Model.Mutable
