import B6.Lemmas.VMRel
import B6.Lemmas.InterpFuel
import B6.Lemmas.Basic.AssocList
/-!
C21 `vm_lambda_partial`: the simulation between the reference interpreter and the VM on programs with
lambdas, for the fragment `Expr.regSafe`, over code whose layout `VM.matchExpr` has validated.
`expr_sim` (structural induction on the expression, given the contract `CallOK` for calls) and `call_sim`
(`CallOK` at every fuel level, induction on fuel).
-/
namespace B6.Lemmas.VMLambda
open B6.Model B6.Model.VM B6.Lemmas.VM

variable {code : List Instr}

theorem lookup_filter_ne (regs : List (Nat × Val)) (r r' : Nat) (h : r' ≠ r) :
    (regs.filter (fun p => p.1 != r)).lookup r' = regs.lookup r' :=
  (B6.Lemmas.Basic.isLookup_lookup.filter_ne (fun _ => bne_iff_ne) regs r').trans (if_neg h)

theorem setReg_lookup_self (regs : List (Nat × Val)) (r : Nat) (v : Val) : (setReg regs r v).lookup r = some v :=
  B6.Lemmas.Basic.isLookup_lookup.cons_self (r, v) _

theorem setReg_lookup_ne (regs : List (Nat × Val)) (r r' : Nat) (v : Val) (h : r' ≠ r) :
    (setReg regs r v).lookup r' = regs.lookup r' :=
  (B6.Lemmas.Basic.isLookup_lookup.cons_ne (e := (r, v)) (Ne.symm h) _).trans (lookup_filter_ne regs r r' h)

def storeAll : List Nat → List Val → List (Nat × Val) → List (Nat × Val)
  | o :: os, a :: as, regs => storeAll os as (setReg regs o a)
  | _, _, regs => regs

theorem storeAll_lookup_notin : ∀ (os : List Nat) (as : List Val) (regs : List (Nat × Val)) (o : Nat),
    o ∉ os → (storeAll os as regs).lookup o = regs.lookup o
  | [], _, _, _, _ => by simp [storeAll]
  | _ :: _, [], _, _, _ => by simp [storeAll]
  | o0 :: os, a :: as, regs, o, h => by
    simp only [List.mem_cons, not_or] at h
    simp only [storeAll]
    rw [storeAll_lookup_notin os as _ o h.2, setReg_lookup_ne _ _ _ _ h.1]

theorem storeAll_lookup : ∀ (os : List Nat) (as : List Val) (regs : List (Nat × Val)),
    os.Nodup → ∀ o a, (o, a) ∈ os.zip as → (storeAll os as regs).lookup o = some a
  | [], _, _, _, _, _, h => by simp at h
  | _ :: _, [], _, _, _, _, h => by simp at h
  | o0 :: os, a0 :: as, regs, hn, o, a, h => by
    rw [List.nodup_cons] at hn
    simp only [List.zip_cons_cons, List.mem_cons, Prod.mk.injEq] at h
    simp only [storeAll]
    rcases h with ⟨rfl, rfl⟩ | h
    · rw [storeAll_lookup_notin os as _ o hn.1, setReg_lookup_self]
    · exact storeAll_lookup os as _ hn.2 o a h

theorem zip_reverse_mem {α β : Type} {l : List α} {l' : List β} (h : l.length = l'.length) {a : α} {b : β}
    (hm : (a, b) ∈ l.zip l') : (a, b) ∈ l.reverse.zip l'.reverse := by
  have : l.reverse.zip l'.reverse = (l.zip l').reverse := by
    unfold List.zip
    exact (List.reverse_zipWith h).symm
  rw [this]
  simpa using hm

theorem nodup_reverse {l : List Nat} (h : l.Nodup) : l.reverse.Nodup :=
  List.pairwise_reverse.mpr (h.imp Ne.symm)

theorem exec_stores (call : Val → Nat → St → Res St) (fr : Val) : ∀ (os : List Nat) (as S : List Val)
    (regs : List (Nat × Val)) (rest : List Instr), os.length = as.length → (∀ o ∈ os, o < maxArgs) →
    execList call (os.map Instr.store ++ rest) ⟨fr :: (as ++ S), regs⟩
      = execList call rest ⟨fr :: S, storeAll os as regs⟩
  | [], [], S, regs, rest, _, _ => by simp [storeAll]
  | [], _ :: _, _, _, _, h, _ => by simp at h
  | _ :: _, [], _, _, _, h, _ => by simp at h
  | o :: os, a :: as, S, regs, rest, h, ho => by
    have h1 : o < maxArgs := ho o (by simp)
    simp only [List.map_cons, List.cons_append, execList, h1, if_true, storeAll]
    exact exec_stores call fr os as S _ rest (by simpa using h) (fun o' ho' => ho o' (by simp [ho']))

theorem lookup_zip_notin {β : Type} : ∀ (ps : List String) (xs : List β) (rest : List (String × β)) (s : String),
    ps.contains s = false → (ps.zip xs ++ rest).lookup s = rest.lookup s
  | [], _, _, _, _ => by simp
  | _ :: _, [], _, _, _ => by simp
  | p :: ps, x :: xs, rest, s, h => by
    simp only [List.contains_cons, Bool.or_eq_false_iff] at h
    simp only [List.zip_cons_cons, List.cons_append, List.lookup, h.1]
    exact lookup_zip_notin ps xs rest s h.2

/-- the first parameter named `s`: its register, its interpreter value, its VM value -/
theorem lookup_zip3 : ∀ (ps : List String) (own : List Nat) (args args' : List Val) (f : Frame) (env : Env) (s : String),
    ps.length = own.length → ps.length = args.length → VRs code args args' → ps.contains s = true →
    ∃ r v v', (ps.zip own ++ f).lookup s = some r ∧ (ps.zip args ++ env).lookup s = some v ∧
      (r, v') ∈ own.zip args' ∧ VR code v v'
  | [], _, _, _, _, _, _, _, _, _, h => by simp at h
  | _ :: _, [], _, _, _, _, _, h, _, _, _ => by simp at h
  | _ :: _, _ :: _, [], _, _, _, _, _, h, _, _ => by simp at h
  | p :: ps, o :: own, a :: args, args', f, env, s, h1, h2, hv, hs => by
    cases hv with
    | cons hv1 hv2 =>
      rename_i a' as'
      by_cases hp : (s == p) = true
      · exact ⟨o, a, a', by simp [List.lookup, hp], by simp [List.lookup, hp], by simp, hv1⟩
      · have hp' : (s == p) = false := by simpa using hp
        have hs' : ps.contains s = true := by
          simp only [List.contains_cons, hp', Bool.false_or] at hs
          exact hs
        obtain ⟨r, v, v', e1, e2, e3, e4⟩ := lookup_zip3 ps own args as' f env s (by simpa using h1) (by simpa using h2) hv2 hs'
        exact ⟨r, v, v', by simp [List.lookup, hp', e1], by simp [List.lookup, hp', e2],
          by simp [e3], e4⟩

mutual
  theorem regScan_mono : (e : Expr) → ∀ (bound own : List String) (d : Bool),
      Expr.regScan bound own d e = some false → d = false
    | .sym s, bound, own, d, h => by
      simp only [Expr.regScan] at h
      cases d <;> simp_all
    | .lit _, _, _, d, h => by simpa [Expr.regScan] using h
    | .lam ps b, bound, own, d, h => by
      simp only [Expr.regScan] at h
      split at h <;> simp_all
    | .call f args p, bound, own, d, h => by
      simp only [Expr.regScan] at h
      cases ha : Expr.regScanArgs bound own d args with
      | none => simp [ha] at h
      | some d1 =>
        simp only [ha] at h
        have : d1 = false := by
          cases f with
          | sym s =>
            simp only at h
            cases hb : Builtin.ofName s with
            | none => simpa [hb] using h
            | some b => simp [hb] at h; exact h.1
          | lit _ => simpa using h
          | lam _ _ => simp only at h; split at h <;> simp_all
          | call _ _ _ => simp only at h; split at h <;> simp_all
        subst this
        exact regScanArgs_mono args bound own d ha
  theorem regScanArgs_mono : (as : List Expr) → ∀ (bound own : List String) (d : Bool),
      Expr.regScanArgs bound own d as = some false → d = false
    | [], _, _, d, h => by simpa [Expr.regScanArgs] using h
    | a :: as, bound, own, d, h => by
      simp only [Expr.regScanArgs] at h
      cases ha : Expr.regScan bound own d a with
      | none => simp [ha] at h
      | some d1 =>
        simp only [ha] at h
        have := regScanArgs_mono as bound own d1 h
        subst this
        exact regScan_mono a bound own d ha
end

/-! The contracts below (`CallOK`, `ExprSim`, `ArgsSim`) all say of two outcomes `r`, `c`: "if `r` is an error so is `c`, the
same; if `r` is a value, `c` is …".  `on_error` and `on_ok` are the two introduction rules of such a pair. -/

theorem on_error {α : Type} {P : Fail → Prop} {Q : α → Prop} {e : Fail} (h : P e) :
    (∀ err, (Except.error e : Res α) = .error err → P err) ∧ (∀ a, (Except.error e : Res α) = .ok a → Q a) :=
  ⟨fun _ h' => by cases h'; exact h, fun _ h' => nomatch h'⟩

theorem on_ok {α : Type} {P : Fail → Prop} {Q : α → Prop} {a : α} (h : Q a) :
    (∀ err, (Except.ok a : Res α) = .error err → P err) ∧ (∀ a', (Except.ok a : Res α) = .ok a' → Q a') :=
  ⟨fun _ h' => (nomatch h'), fun _ h' => by cases h'; exact h⟩

/-- the contract between `CallFromStack` and the interpreter's function application at one fuel level -/
def CallOK (code : List Instr) (call : Val → Nat → St → Res St) (app : Val → List Val → Res Val) : Prop :=
  ∀ (f f' : Val) (args args' S : List Val) (regs : List (Nat × Val)),
    VR code f f' → f.isCallable = true → VRs code args args' →
    (∀ err, app f args = .error err →
        call f' args'.length ⟨.int args'.length :: (args'.reverse ++ S), regs⟩ = .error err) ∧
    (∀ v, app f args = .ok v → ∃ v' regs', VR code v v' ∧
        (∀ b, f' = .builtin b → b.higherOrder = false → regs' = regs) ∧
        call f' args'.length ⟨.int args'.length :: (args'.reverse ++ S), regs⟩ = .ok ⟨v' :: S, regs'⟩)

/-- `CallOK` is `Post (app f args) (call f' …) S regs f'` for all related `f`, `args` -/
def Post (code : List Instr) (r : Res Val) (c : Res St) (S : List Val) (regs : List (Nat × Val)) (f' : Val) : Prop :=
  (∀ err, r = .error err → c = .error err) ∧
  (∀ v, r = .ok v → ∃ v' regs', VR code v v' ∧
      (∀ b, f' = .builtin b → b.higherOrder = false → regs' = regs) ∧ c = .ok ⟨v' :: S, regs'⟩)

theorem post_err {e : Fail} {S : List Val} {regs : List (Nat × Val)} {f' : Val} :
    Post code (.error e) (.error e) S regs f' :=
  on_error rfl

theorem post_ok {v v' : Val} {S : List Val} {regs regs' : List (Nat × Val)} {f' : Val} (hv : VR code v v')
    (hr : ∀ b, f' = .builtin b → b.higherOrder = false → regs' = regs) :
    Post code (.ok v) (.ok ⟨v' :: S, regs'⟩) S regs f' :=
  on_ok ⟨v', regs', hv, hr, rfl⟩

/-- the registers of the running lambda hold its arguments -/
def Clean (code : List Instr) (env : Env) (frame : Frame) (own : List String) (regs : List (Nat × Val)) : Prop :=
  ∀ s, own.contains s = true → ∃ r v v', frame.lookup s = some r ∧ r < maxArgs ∧ env.lookup s = some v ∧
    regs.lookup r = some v' ∧ VR code v v'

/-- names that are neither own parameters nor parameters of an enclosing lambda are bound nowhere -/
def Outer (env : Env) (frame : Frame) (bound own : List String) : Prop :=
  ∀ s, own.contains s = false → bound.contains s = false → env.lookup s = none ∧ frame.lookup s = none

/-- `d`, `d'`: has a call that may run lambda code happened in this activation, before and after `e` (`Expr.regScan`); until
then the registers hold the arguments of the running lambda (`Clean`), and evaluating `e` leaves them as they are -/
def ExprSim (code : List Instr) (call : Val → Nat → St → Res St) (app : Val → List Val → Res Val) (e : Expr) : Prop :=
  ∀ (bound own : List String) (env : Env) (frame : Frame) (d d' : Bool) (is rest : List Instr) (S : List Val)
    (regs : List (Nat × Val)),
    Expr.regScan bound own d e = some d' → matchExpr code frame e is = some rest →
    Outer env frame bound own → (d = false → Clean code env frame own regs) →
    (∀ err, evalWith app env e = .error err → execList call is ⟨S, regs⟩ = .error err) ∧
    (∀ v, evalWith app env e = .ok v → ∃ v' regs', VR code v v' ∧ (d' = false → regs' = regs) ∧
        execList call is ⟨S, regs⟩ = execList call rest ⟨v' :: S, regs'⟩)

def ArgsSim (code : List Instr) (call : Val → Nat → St → Res St) (app : Val → List Val → Res Val) (as : List Expr) : Prop :=
  ∀ (bound own : List String) (env : Env) (frame : Frame) (d d' : Bool) (is rest : List Instr) (S : List Val)
    (regs : List (Nat × Val)),
    Expr.regScanArgs bound own d as = some d' → matchArgs code frame as is = some rest →
    Outer env frame bound own → (d = false → Clean code env frame own regs) →
    (∀ err, evalArgs app env as = .error err → execList call is ⟨S, regs⟩ = .error err) ∧
    (∀ vs, evalArgs app env as = .ok vs → ∃ vs' regs', VRs code vs vs' ∧ (d' = false → regs' = regs) ∧
        execList call is ⟨S, regs⟩ = execList call rest ⟨vs'.reverse ++ S, regs'⟩)

theorem clo_of_scan {bound own ps : List String} {b : Expr} {env : Env} {frame : Frame} {pc : Nat}
    (ho : Outer env frame bound own)
    (hb : (Expr.regScan (own ++ bound) ps false b).isSome = true)
    (hm : matchLamWith (fun fr js => matchExpr code fr b js) code frame ps pc = true) :
    VR code (.closure ps b env) (.lam pc ps.length) := by
  refine VR.clo (bound := own ++ bound) ?_ hb hm
  intro s hs'
  rw [List.contains_append, Bool.or_eq_false_iff] at hs'
  exact ho s hs'.1 hs'.2

theorem scan_lam_body {bound own ps : List String} {b : Expr} {d d' : Bool}
    (hs : Expr.regScan bound own d (.lam ps b) = some d') :
    (Expr.regScan (own ++ bound) ps false b).isSome = true ∧ d' = d := by
  simp only [Expr.regScan] at hs
  cases hb : Expr.regScan (own ++ bound) ps false b with
  | none => simp [hb] at hs
  | some d2 => simp [hb] at hs; simp [hs]

/-- what `callFn`, `callLam` and `callStack` come to once arguments and callee are on the stack -/
theorem call_runs {call : Val → Nat → St → Res St} {app : Val → List Val → Res Val} (H : CallOK code call app)
    {f f' : Val} {vs vs' S : List Val} {is rest : List Instr} {regs regs1 : List (Nat × Val)} {d' : Bool}
    (hf : VR code f f') (hc : f.isCallable = true) (hvs : VRs code vs vs')
    (hstep : execList call is ⟨S, regs⟩ =
      match call f' vs'.length ⟨.int vs'.length :: (vs'.reverse ++ S), regs1⟩ with
      | .error e => .error e
      | .ok st' => execList call rest st')
    (hd : d' = false → regs1 = regs ∧ ∃ b, f' = .builtin b ∧ b.higherOrder = false) :
    (∀ err, app f vs = .error err → execList call is ⟨S, regs⟩ = .error err) ∧
    (∀ v, app f vs = .ok v → ∃ v' regs', VR code v v' ∧ (d' = false → regs' = regs) ∧
        execList call is ⟨S, regs⟩ = execList call rest ⟨v' :: S, regs'⟩) := by
  obtain ⟨c1, c2⟩ := H f f' vs vs' S regs1 hf hc hvs
  refine ⟨fun err h => by rw [hstep, c1 err h], fun v h => ?_⟩
  obtain ⟨v', regs', hv, hr, hcall⟩ := c2 v h
  refine ⟨v', regs', hv, fun hd' => ?_, by rw [hstep, hcall]⟩
  obtain ⟨e, b, rfl, hb⟩ := hd hd'
  rw [hr b rfl hb, e]

mutual
  theorem expr_sim {call : Val → Nat → St → Res St} {app : Val → List Val → Res Val} (H : CallOK code call app) :
      (e : Expr) → ExprSim code call app e
    | .sym s => by
      intro bound own env frame d d' is rest S regs hs hm ho hc
      simp only [Expr.regScan] at hs
      simp only [evalWith]
      by_cases hown : own.contains s = true
      · simp only [hown, if_true] at hs
        cases d with
        | true => simp at hs
        | false =>
          simp at hs
          subst hs
          obtain ⟨r, v, v', e1, e2, e3, e4, e5⟩ := hc rfl s hown
          cases matchExpr_sym_load e1 hm
          simp only [e3]
          exact on_ok ⟨v', regs, e5, fun _ => rfl, by simp [execList, e2, e4]⟩
      · have hown' : own.contains s = false := by simpa using hown
        simp only [hown', Bool.false_eq_true, if_false] at hs
        by_cases hbd : bound.contains s = true
        · rw [if_pos hbd] at hs; cases hs
        · have hbd' : bound.contains s = false := by simpa using hbd
          simp only [hbd', Bool.false_eq_true, if_false, Option.some.injEq] at hs
          subst hs
          obtain ⟨e1, e2⟩ := ho s hown' hbd'
          obtain ⟨b, hb, rfl⟩ := matchExpr_sym_fn e2 hm
          simp only [e1, hb]
          exact on_ok ⟨.builtin b, regs, .builtin b, fun _ => rfl, by simp [execList]⟩
    | .lit l => by
      intro bound own env frame d d' is rest S regs hs hm ho hc
      simp only [Expr.regScan, Option.some.injEq] at hs
      subst hs
      cases matchExpr_lit hm
      simp only [evalWith]
      exact on_ok ⟨l.toVal, regs, VR_lit l, fun _ => rfl, by simp [execList]⟩
    | .lam ps b => by
      intro bound own env frame d d' is rest S regs hs hm ho hc
      obtain ⟨hbody, hd⟩ := scan_lam_body hs
      obtain ⟨pc, rfl, hml⟩ := matchExpr_lam hm
      simp only [evalWith]
      exact on_ok ⟨.lam pc ps.length, regs, clo_of_scan ho hbody hml, fun _ => rfl, by simp [execList]⟩
    | .call f args p => by
      intro bound own env frame d d' is rest S regs hs hm ho hc
      rw [Expr.regScan] at hs
      obtain ⟨is1, hma, hm⟩ := matchExpr_call hm
      rw [evalWith]
      cases hsa : Expr.regScanArgs bound own d args with
      | none => simp [hsa] at hs
      | some d1 =>
        simp only [hsa] at hs
        obtain ⟨ha1, ha2⟩ := args_sim H args bound own env frame d d1 is is1 S regs hsa hma ho hc
        cases hev : evalArgs app env args with
        | error err => exact on_error (ha1 err hev)
        | ok vs =>
          obtain ⟨vs', regs1, hvs, hr1, hex⟩ := ha2 vs hev
          have hlen : args.length = vs'.length := by rw [← VRs_length hvs, InterpFuel.evalArgs_length hev]
          cases f with
          | lit l => exact hm.elim
          | sym s =>
            obtain ⟨b, hb, rfl⟩ := hm
            dsimp only at hs ⊢
            simp only [hb, Option.some.injEq] at hs ⊢
            refine call_runs (regs1 := regs1) H (.builtin b) rfl hvs (by rw [hex]; simp only [execList, hlen]; rfl) fun hd' => ?_
            subst hs
            rw [Bool.or_eq_false_iff] at hd'
            exact ⟨hr1 hd'.1, b, rfl, hd'.2⟩
          | lam ps b =>
            obtain ⟨pc, rfl, hml⟩ := hm
            dsimp only at hs ⊢
            simp only [evalWith]
            cases hsl : Expr.regScan bound own d1 (.lam ps b) with
            | none => simp [hsl] at hs
            | some d2 =>
              simp only [hsl, Option.some.injEq] at hs
              subst hs
              simp only [Val.isCallable, if_true]
              exact call_runs (regs1 := regs1) H (clo_of_scan (env := env) ho (scan_lam_body hsl).1 hml) rfl hvs
                (by rw [hex]; simp only [execList, hlen]; rfl) (fun h => nomatch h)
          | call g gargs q =>
            have hmf : matchExpr code frame (.call g gargs q) is1 = some (.callStack args.length :: rest) := hm
            dsimp only at hs ⊢
            cases hsf : Expr.regScan bound own d1 (.call g gargs q) with
            | none => simp [hsf] at hs
            | some d2 =>
              simp only [hsf, Option.some.injEq] at hs
              subst hs
              have hc1 : d1 = false → Clean code env frame own regs1 := by
                intro hd1
                have hd0 := regScanArgs_mono args bound own d (by rw [hsa, hd1])
                rw [hr1 hd1]
                exact hc hd0
              obtain ⟨hf1, hf2⟩ := expr_sim H (.call g gargs q) bound own env frame d1 d2 is1 _
                (vs'.reverse ++ S) regs1 hsf hmf ho hc1
              cases hef : evalWith app env (.call g gargs q) with
              | error err => exact on_error (by rw [hex]; exact hf1 err hef)
              | ok fv =>
                obtain ⟨fv', regs2, hfv, _, hexf⟩ := hf2 fv hef
                have hcal := (VR_callable hfv).1
                dsimp only
                cases hic : fv.isCallable with
                | false =>
                  refine on_error ?_
                  rw [hex, hexf]
                  simp [execList, ← hcal, hic]
                | true =>
                  rw [hic] at hcal
                  simp only [if_true]
                  exact call_runs (regs1 := regs2) H hfv hic hvs
                    (by rw [hex, hexf]; simp only [execList, ← hcal, if_true, hlen]; rfl) (fun h => nomatch h)
  theorem args_sim {call : Val → Nat → St → Res St} {app : Val → List Val → Res Val} (H : CallOK code call app) :
      (as : List Expr) → ArgsSim code call app as
    | [] => by
      intro bound own env frame d d' is rest S regs hs hm ho hc
      simp only [Expr.regScanArgs, Option.some.injEq] at hs
      simp only [matchArgs, Option.some.injEq] at hm
      subst hs; subst hm
      simp only [evalArgs]
      exact on_ok ⟨[], regs, .nil, fun _ => rfl, by simp⟩
    | a :: as => by
      intro bound own env frame d d' is rest S regs hs hm ho hc
      simp only [Expr.regScanArgs] at hs
      simp only [matchArgs] at hm
      simp only [evalArgs]
      cases hsa : Expr.regScan bound own d a with
      | none => simp [hsa] at hs
      | some d1 =>
        cases hma : matchExpr code frame a is with
        | none => simp [hma] at hm
        | some is1 =>
          simp only [hsa] at hs
          simp only [hma] at hm
          obtain ⟨h1, h2⟩ := expr_sim H a bound own env frame d d1 is is1 S regs hsa hma ho hc
          cases hev : evalWith app env a with
          | error err =>
            refine on_error ?_
            exact h1 err hev
          | ok v =>
            obtain ⟨v', regs1, hv, hr1, hex⟩ := h2 v hev
            have hc1 : d1 = false → Clean code env frame own regs1 := by
              intro hd1
              have hd0 := regScan_mono a bound own d (by rw [hsa, hd1])
              rw [hr1 hd1]
              exact hc hd0
            obtain ⟨g1, g2⟩ := args_sim H as bound own env frame d1 d' is1 rest (v' :: S) regs1 hs hm ho hc1
            cases hes : evalArgs app env as with
            | error err =>
              refine on_error ?_
              rw [hex]
              exact g1 err hes
            | ok vs =>
              refine on_ok ?_
              obtain ⟨vs', regs2, hvs, hr2, hex2⟩ := g2 vs hes
              refine ⟨v' :: vs', regs2, .cons hv hvs, ?_, ?_⟩
              · intro hd'
                have hd1 := regScanArgs_mono as bound own d1 (by rw [hs, hd'])
                rw [hr2 hd', hr1 hd1]
              · rw [hex, hex2]
                simp
end

theorem call_sim (code : List Instr) : ∀ (fuel : Nat), CallOK code (callFromStack code fuel) (applyFn fuel) := by
  intro fuel
  induction fuel with
  | zero =>
    intro f f' args args' S regs hf hcal hargs
    simp [callFromStack, applyFn]
  | succ fuel ih =>
    intro f f' args args' S regs hf hcal hargs
    have hlen := VRs_length hargs
    have hf0 := hf
    show Post code (applyFn (fuel + 1) f args)
      (callFromStack code (fuel + 1) f' args'.length ⟨.int args'.length :: (args'.reverse ++ S), regs⟩) S regs f'
    cases hf with
    | int _ => simp [Val.isCallable] at hcal
    | str _ => simp [Val.isCallable] at hcal
    | query _ => simp [Val.isCallable] at hcal
    | other _ _ => simp [Val.isCallable] at hcal
    | pair _ _ => simp [Val.isCallable] at hcal
    | builtin b =>
      rw [callFromStack_builtin, InterpFuel.applyFn_builtin]
      simp only [hlen]
      by_cases h1 : args'.length > b.want args'.length
      · simp only [h1, if_true]; exact post_err
      · simp only [h1, if_false]
        by_cases h2 : args'.length = b.want args'.length
        · have h2' : (args'.length == b.want args'.length) = true := by simpa using h2
          simp only [h2', if_true]
          have cr := (VR_transports code).convertAll (ts := b.paramsAt args'.length) (VRs_lift hargs)
          cases hc : convertAll (b.paramsAt args'.length) args with
          | error e => rw [hc] at cr; rw [cr]; exact post_err
          | ok cs =>
            rw [hc] at cr
            obtain ⟨cs', hc', hcs⟩ := cr
            rw [hc']
            dsimp only
            obtain ⟨v, v', hs, hs', hv⟩ | ⟨hs, hs'⟩ | ⟨g, xs, g', xs', hs, hs', hg, hxs⟩ :=
              Builtins.step_cases (VR_transports code) (b := b) hcs <;> rw [hs, hs']
            · exact post_ok hv (fun _ _ _ => rfl)
            · exact post_err
            · have hgc := Builtins.step_tail_isCallable (args := args) (by rw [hlen]; exact hc) hs
              obtain ⟨i1, i2⟩ := ih g g' xs xs' (.int args'.length :: (args'.reverse ++ S)) regs hg hgc (lift_VRs hxs)
              dsimp only
              cases happ : applyFn fuel g xs with
              | error e => rw [i1 e happ]; exact post_err
              | ok v =>
                obtain ⟨v', regs', hv, _, hcall⟩ := i2 v happ
                rw [hcall]
                refine post_ok hv ?_
                intro b' hb' hho
                cases hb'
                rw [(Builtins.step_tail hs').2] at hho
                cases hho
        · have h3 : (args'.length == b.want args'.length) = false := by simpa using h2
          simp only [h3, Bool.false_eq_true, if_false]
          exact post_ok (.part hf0 rfl rfl rfl rfl hargs) (fun _ _ _ => rfl)
    | clo ho hb hm =>
      rename_i ps body env frame bound pc
      rw [callFromStack_lam, InterpFuel.applyFn_closure]
      simp only [hlen]
      by_cases h1 : args'.length = ps.length
      · simp only [h1, beq_self_eq_true, if_true]
        obtain ⟨own, is0, tl', hcode, hol, hlt, hnd, hmb⟩ := matchLamWith_inv hm
        cases hsc : Expr.regScan bound ps false body with
        | none => simp [hsc] at hb
        | some d' =>
          have hal : args.length = ps.length := by rw [hlen, h1]
          have houter : Outer (ps.zip args ++ env) (ps.zip own ++ frame) bound ps := by
            intro s hs1 hs2
            rw [lookup_zip_notin ps args env s hs1, lookup_zip_notin ps own frame s hs1]
            exact ho s hs2
          have hclean : Clean code (ps.zip args ++ env) (ps.zip own ++ frame) ps
              (storeAll own.reverse args'.reverse regs) := by
            intro s hs1
            obtain ⟨r, v, v', e1, e2, e3, e4⟩ := lookup_zip3 ps own args args' frame env s hol.symm hal.symm hargs hs1
            refine ⟨r, v, v', e1, ?_, e2, ?_, e4⟩
            · have := (List.of_mem_zip e3).1
              exact hlt r this
            · exact storeAll_lookup _ _ _ (nodup_reverse hnd) r v' (zip_reverse_mem (by rw [hol, h1]) e3)
          obtain ⟨s1, s2⟩ := expr_sim (call := callFromStack code fuel) (app := applyFn fuel) ih body bound ps
            (ps.zip args ++ env) (ps.zip own ++ frame) false d' is0 (.discard :: .ret :: tl')
            (.int ps.length :: S) (storeAll own.reverse args'.reverse regs) hsc hmb houter (fun _ => hclean)
          have hex : execList (callFromStack code fuel) (List.drop pc code)
              ⟨.int ps.length :: (args'.reverse ++ S), regs⟩ =
              execList (callFromStack code fuel) is0 ⟨.int ps.length :: S, storeAll own.reverse args'.reverse regs⟩ := by
            rw [hcode]
            exact exec_stores _ _ own.reverse args'.reverse S regs is0 (by simp [hol, h1])
              (fun o ho' => hlt o (by simpa using ho'))
          rw [hex]
          cases hev : evalWith (applyFn fuel) (ps.zip args ++ env) body with
          | error e => rw [s1 e hev]; exact post_err
          | ok v =>
            obtain ⟨v', regs', hv, _, hexb⟩ := s2 v hev
            rw [hexb]
            simp only [execList]
            exact post_ok hv (fun b hb' _ => by cases hb')
      · have h1' : (args'.length == ps.length) = false := by simpa using h1
        simp only [h1', Bool.false_eq_true, if_false]
        by_cases h2 : args'.length < ps.length
        · simp only [h2, if_true]
          exact post_ok (.part hf0 rfl rfl rfl rfl hargs) (fun _ hb' _ => by cases hb')
        · simp only [h2, if_false]; exact post_err
    | part hg h1 h2 hgc hgv hbs =>
      rename_i g g' bs bs' snap m
      have hbl := VRs_length hbs
      rw [InterpFuel.applyFn_part, callFromStack_part code fuel bs' snap args' S regs h2]
      simp only [h1, hlen, hbl]
      by_cases e1 : args'.length + bs'.length = m
      · simp only [e1, beq_self_eq_true, if_true]
        obtain ⟨i1, i2⟩ := ih g g' (args ++ bs) (args' ++ bs') S snap hg hgc (VRs_append hargs hbs)
        cases happ : applyFn fuel g (args ++ bs) with
        | error e => rw [i1 e happ]; exact post_err
        | ok v =>
          obtain ⟨v', regs', hv, _, hcall⟩ := i2 v happ
          rw [hcall]
          exact post_ok hv (fun b hb' _ => by cases hb')
      · have e1' : (args'.length + bs'.length == m) = false := by simpa using e1
        simp only [e1', Bool.false_eq_true, if_false]
        by_cases e2 : args'.length + bs'.length < m
        · simp only [e2, if_true]
          refine post_ok (.part (m := m - bs.length) hf0 ?_ ?_ rfl rfl hargs) (fun b hb' _ => by cases hb')
          · simp [Val.arity, h1]
          · simp [Val.arity, h2, hbl]
        · simp only [e2, if_false]; exact post_err

end B6.Lemmas.VMLambda
