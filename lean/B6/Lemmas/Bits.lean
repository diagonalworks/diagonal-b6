import B6.Model.Bits
import B6.Lemmas.Varint
/-!
# Lemmas for the packings of `B6.Model.Bits`

The word packings all have the shape `x <<< k ||| lo` with `lo` below `2^k`; `field_hi`, `field_lo` and
`field_and` read such a word back, and each packing theorem is an instance of them.  The string packings (GB
postcodes, UK ONS codes) are inductions over the string.  The record codecs of C11 reason about a `Nat` model of their
own for the value-type and geometry words (`Lemmas/Records.lean`).  Everything here audits to propext / Classical.choice /
Quot.sound.
-/
namespace B6.Lemmas.Bits
open B6.Model.Bits B6.Model.Varint

/-! ## reading a field back out of `x <<< k ||| lo`; shifts, masks and widths -/

theorem or_shr {w : Nat} (x lo : BitVec w) (k : Nat) (h : lo.toNat < 2 ^ k) : (x ||| lo) >>> k = x >>> k := by
  apply BitVec.eq_of_toNat_eq
  rw [BitVec.ushiftRight_or_distrib, BitVec.toNat_or, BitVec.toNat_ushiftRight lo,
    Nat.shiftRight_eq_div_pow, Nat.div_eq_of_lt h, Nat.or_zero]

theorem shl_shr {w : Nat} (x : BitVec w) (n k : Nat) (h : x.toNat < 2 ^ n) (hw : n + k ≤ w) :
    x <<< k >>> k = x := by
  apply BitVec.eq_of_toNat_eq
  have : x.toNat <<< k < 2 ^ w :=
    Nat.lt_of_lt_of_le
      (by rw [Nat.shiftLeft_eq, Nat.pow_add]; exact Nat.mul_lt_mul_of_pos_right h (Nat.two_pow_pos k))
      (Nat.pow_le_pow_right (by decide) hw)
  rw [BitVec.toNat_ushiftRight, BitVec.toNat_shiftLeft, Nat.mod_eq_of_lt this, Nat.shiftLeft_shiftRight]

theorem shl_shr_iff {w : Nat} (x : BitVec w) (k : Nat) (hk : k ≤ w) : x <<< k >>> k = x ↔ x.toNat < 2 ^ (w - k) :=
  ⟨fun h => h ▸ BitVec.toNat_ushiftRight_lt _ k hk, fun h => shl_shr x _ k h (by omega)⟩

theorem shl_and {w : Nat} (x m : BitVec w) (k : Nat) (h : m.toNat < 2 ^ k) : x <<< k &&& m = 0#w := by
  apply BitVec.eq_of_toNat_eq
  apply Nat.eq_of_testBit_eq
  intro i
  -- bit `i` of `x <<< k` is clear below `k`, bit `i` of `m` is clear from `k` on
  simp only [BitVec.toNat_and, BitVec.toNat_shiftLeft, Nat.testBit_and, Nat.testBit_mod_two_pow,
    Nat.testBit_shiftLeft, BitVec.toNat_ofNat, Nat.zero_mod, Nat.zero_testBit]
  by_cases hi : i < k
  · simp [Nat.not_le.2 hi]
  · rw [Nat.testBit_lt_two_pow (Nat.lt_of_lt_of_le h (Nat.pow_le_pow_right (by decide) (Nat.le_of_not_lt hi)))]
    simp

theorem and_mask {w : Nat} (x m : BitVec w) (k : Nat) (hm : m.toNat = 2 ^ k - 1) (h : x.toNat < 2 ^ k) :
    x &&& m = x := by
  apply BitVec.eq_of_toNat_eq
  rw [BitVec.toNat_and, hm, Nat.and_two_pow_sub_one_of_lt_two_pow h]

theorem field_hi {w : Nat} (x lo : BitVec w) (n k : Nat) (hx : x.toNat < 2 ^ n) (hw : n + k ≤ w)
    (hlo : lo.toNat < 2 ^ k) : (x <<< k ||| lo) >>> k = x := by
  rw [or_shr _ _ _ hlo, shl_shr _ _ _ hx hw]

theorem field_and {w : Nat} (x lo m : BitVec w) (k : Nat) (hm : m.toNat < 2 ^ k) :
    (x <<< k ||| lo) &&& m = lo &&& m := by
  rw [BitVec.and_or_distrib_right, shl_and _ _ _ hm, BitVec.zero_or]

theorem field_lo {w : Nat} (x lo m : BitVec w) (k : Nat) (hm : m.toNat = 2 ^ k - 1) (hlo : lo.toNat < 2 ^ k) :
    (x <<< k ||| lo) &&& m = lo := by
  rw [field_and _ _ _ k (by rw [hm]; exact Nat.sub_one_lt (Nat.ne_of_gt (Nat.two_pow_pos k))), and_mask _ _ k hm hlo]

theorem pack_lt {w : Nat} (x lo : BitVec w) (n k : Nat) (hx : x.toNat < 2 ^ n) (hlo : lo.toNat < 2 ^ k) :
    (x <<< k ||| lo).toNat < 2 ^ (n + k) := by
  rw [BitVec.toNat_or, BitVec.toNat_shiftLeft]
  refine Nat.or_lt_two_pow (Nat.lt_of_le_of_lt (Nat.mod_le _ _) ?_)
    (Nat.lt_of_lt_of_le hlo (Nat.pow_le_pow_right (by decide) (Nat.le_add_left k n)))
  rw [Nat.shiftLeft_eq, Nat.pow_add]
  exact Nat.mul_lt_mul_of_pos_right hx (Nat.two_pow_pos k)

theorem shr_shl_or_and {w : Nat} (x m : BitVec w) (k : Nat) (hm : m.toNat = 2 ^ k - 1) :
    x &&& m ||| x >>> k <<< k = x := by
  apply BitVec.eq_of_toNat_eq
  have hle : x.toNat / 2 ^ k * 2 ^ k ≤ x.toNat := Nat.div_mul_le_self _ _
  rw [BitVec.toNat_or, BitVec.toNat_shiftLeft, BitVec.toNat_ushiftRight, BitVec.toNat_and, hm,
    Nat.and_two_pow_sub_one_eq_mod, Nat.shiftRight_eq_div_pow, Nat.shiftLeft_eq,
    Nat.mod_eq_of_lt (Nat.lt_of_le_of_lt hle x.isLt), Nat.or_comm, Nat.mul_comm,
    ← Nat.two_pow_add_eq_or_of_lt (Nat.mod_lt _ (Nat.two_pow_pos k)), Nat.div_add_mod]

theorem one_shl_toNat {w : Nat} (k : Nat) (hk : k < w) : (1#w <<< k).toNat = 2 ^ k := by
  have h : 2 ^ k < 2 ^ w := Nat.pow_lt_pow_right (by decide) hk
  rw [BitVec.toNat_shiftLeft, Nat.shiftLeft_eq, BitVec.toNat_ofNat,
    Nat.mod_eq_of_lt (Nat.lt_of_le_of_lt (Nat.two_pow_pos k) h), Nat.one_mul, Nat.mod_eq_of_lt h]

theorem mask_toNat {w : Nat} (k : Nat) (hk : k < w) : (1#w <<< k - 1#w).toNat = 2 ^ k - 1 := by
  have h1 : (1#w).toNat = 1 := by
    rw [BitVec.toNat_ofNat, Nat.mod_eq_of_lt (Nat.one_lt_two_pow (Nat.ne_of_gt (Nat.zero_lt_of_lt hk)))]
  rw [BitVec.toNat_sub_of_le (by rw [BitVec.le_def, one_shl_toNat k hk, h1]; exact Nat.two_pow_pos k),
    one_shl_toNat k hk, h1]

theorem setWidth_setWidth_of_lt {w : Nat} (x : BitVec w) (n : Nat) (h : x.toNat < 2 ^ n) :
    (x.setWidth n).setWidth w = x := by
  apply BitVec.eq_of_toNat_eq
  rw [BitVec.toNat_setWidth, BitVec.toNat_setWidth, Nat.mod_eq_of_lt h, Nat.mod_eq_of_lt x.isLt]

theorem setWidth_signExtend {w v : Nat} (x : BitVec w) (h : w ≤ v) : (x.signExtend v).setWidth w = x := by
  ext i hi
  rw [BitVec.getElem_setWidth, BitVec.getLsbD_signExtend, if_pos hi, BitVec.getLsbD_eq_getElem hi,
    decide_eq_true (Nat.lt_of_lt_of_le hi h), Bool.true_and]

theorem lt_one_shl (x k : BitVec 64) (hk : k.toNat ≤ 63) (h : x < 1#64 <<< k) : x.toNat < 2 ^ k.toNat := by
  have : x.toNat < (1#64 <<< k).toNat := h
  rwa [BitVec.shiftLeft_eq', one_shl_toNat _ (by omega)] at this

/-! ## value type, geometry, type + namespace, lat/lng, ONS fields -/

theorem value_type (t v : BitVec 64) (ht : t < 4#64) (hv : v < 0x4000000000000000#64) :
    ∃ e, encodeValueType t v = some e ∧ decodeValue e = v ∧ decodeValueType e = t := by
  refine ⟨v <<< 2 ||| t, ?_, field_hi v t 62 2 hv (by decide) ht, field_lo v t 3#64 2 rfl ht⟩
  unfold encodeValueType
  rw [shl_shr v 62 2 hv (by decide)]
  simp

theorem value_type_guard (t v : BitVec 64) :
    encodeValueType t v = none ↔ ¬ v < 0x4000000000000000#64 := by
  unfold encodeValueType
  rw [← show v <<< 2 >>> 2 = v ↔ v < 0x4000000000000000#64 from shl_shr_iff v 2 (by decide)]
  simp

theorem geometry_len (e : BitVec 8) (l : BitVec 64) (he : e < 3#8) (hl : l < 0x4000000000000000#64) :
    ∃ v, encodeGeometry e l = some v ∧ decodeGeometryLen v = l ∧ decodeGeometryEncoding v = e := by
  have h3 : e = 0#8 ∨ e = 1#8 ∨ e = 2#8 := by
    have : e.toNat < 3 := he
    simp only [← BitVec.toNat_inj, BitVec.toNat_ofNat]; omega
  -- the encodings tag the length with the low bits `0`, `01`, `11`
  have len2 (c : BitVec 64) (hc : c.toNat < 2 ^ 2) : (l <<< 2 ||| c) >>> 2 = l :=
    field_hi l c 62 2 hl (by decide) hc
  have bit (c m : BitVec 64) (hm : m.toNat < 2 ^ 2) : (l <<< 2 ||| c) &&& m = c &&& m := field_and l c m 2 hm
  unfold decodeGeometryLen decodeGeometryEncoding
  rcases h3 with h | h | h <;> subst h
  · refine ⟨l <<< 1, rfl, ?_, ?_⟩ <;> rw [shl_and l 1#64 1 (by decide)]
    · exact shl_shr l 62 1 hl (by decide)
    · rfl
  · refine ⟨l <<< 2 ||| 1#64, rfl, ?_, ?_⟩
    · rw [bit 1#64 1#64 (by decide)]; exact len2 1#64 (by decide)
    · rw [bit 1#64 1#64 (by decide), bit 1#64 2#64 (by decide)]; rfl
  · refine ⟨l <<< 2 ||| 3#64, rfl, ?_, ?_⟩
    · rw [bit 3#64 1#64 (by decide)]; exact len2 3#64 (by decide)
    · rw [bit 3#64 1#64 (by decide), bit 3#64 2#64 (by decide)]; rfl

theorem type_ns (t : BitVec 64) (ns : BitVec 16) (ht : t < 8#64) (hns : ns < 8192#16) :
    splitTypeNs (combineTypeNs t ns) = (t, ns) := by
  have ht16 : (t.setWidth 16).toNat < 2 ^ 3 := by
    rw [BitVec.toNat_setWidth]; exact Nat.lt_of_le_of_lt (Nat.mod_le _ _) ht
  unfold splitTypeNs combineTypeNs
  rw [BitVec.setWidth_shiftLeft_of_le (by decide), field_hi _ ns 3 13 ht16 (by decide) hns,
    field_lo _ ns 8191#16 13 rfl hns, setWidth_setWidth_of_lt t 16 (Nat.lt_trans ht (by decide))]

theorem latlng_id (lat lng : BitVec 32) : latLngFromID (newLatLngID lat lng) = (lat, lng) := by
  have h (x : BitVec 32) : (x.setWidth 64).toNat < 2 ^ 32 := by
    rw [BitVec.toNat_setWidth]; exact Nat.lt_of_le_of_lt (Nat.mod_le _ _) x.isLt
  have s (x : BitVec 32) : (x.setWidth 64).setWidth 32 = x := by
    rw [BitVec.setWidth_setWidth_of_le x (by decide), BitVec.setWidth_eq]
  unfold latLngFromID newLatLngID
  rw [field_hi _ _ 32 32 (h lat) (by decide) (h lng), field_lo _ _ 4294967295#64 32 rfl (h lng),
    and_mask _ 4294967295#64 32 rfl (h lat), s, s]

theorem ons_fields (c y m : BitVec 64) (hc : c < 256#64) (hy : y < 256#64) (hm : m < 4294967296#64) :
    (((c <<< 40 ||| y <<< 32 ||| m) >>> 40) &&& 255#64) = c ∧
    (((c <<< 40 ||| y <<< 32 ||| m) >>> 32) &&& 255#64) = y ∧
    ((c <<< 40 ||| y <<< 32 ||| m) &&& 4294967295#64) = m := by
  -- the word is `(c <<< 8 ||| y) <<< 32 ||| m`
  have e : c <<< 40 ||| y <<< 32 = (c <<< 8 ||| y) <<< 32 := by
    rw [BitVec.shiftLeft_or_distrib, ← BitVec.shiftLeft_add]
  have hu : (c <<< 40 ||| y <<< 32 ||| m) >>> 32 = c <<< 8 ||| y := by
    rw [e]; exact field_hi _ m _ 32 (pack_lt c y 8 8 hc hy) (by decide) hm
  rw [show 40 = 32 + 8 from rfl, BitVec.shiftRight_add, hu, field_hi c y 8 8 hc (by decide) hy, e]
  exact ⟨and_mask c _ 8 rfl hc, field_lo c y _ 8 rfl hy, field_lo _ m _ 32 rfl hm⟩

/-! ## 32-bit zigzag -/

theorem zigzag32_roundtrip (x : BitVec 32) : zigzagDecode32 (zigzagEncode32 x) = x := by
  unfold zigzagDecode32 zigzagEncode32
  rw [zig_eq_xor (w := 31), zag_eq_xor (w := 31), zag_zig]

theorem renderer_zigzag32 (x : BitVec 32) :
    rendererZigzagDecode (rendererZigzagEncode (x.signExtend 64)) = x.signExtend 64 := by
  unfold rendererZigzagDecode rendererZigzagEncode
  rw [setWidth_signExtend x (by decide), zigzag32_roundtrip]

/-! ## bucket header -/

/-- the bucket header, from the one fact that the shifted id still fits above the tag. -/
theorem header_core (id tag b t : BitVec 64) (hb : b.toNat ≤ 63) (ht : t.toNat ≤ 63)
    (hfit : (id >>> b.toNat).toNat < 2 ^ (64 - t.toNat)) (htag : tag.toNat < 2 ^ t.toNat) :
    headerUnpackID (bucketForID id b) (headerPack id tag b t) b t = id ∧
    headerUnpackTag (headerPack id tag b t) t = tag := by
  unfold headerUnpackID bucketForID headerUnpackTag headerPack
  simp only [BitVec.shiftLeft_eq', BitVec.ushiftRight_eq']
  rw [field_hi _ tag _ _ hfit (by omega) htag]
  exact ⟨shr_shl_or_and id _ _ (mask_toNat _ (by omega)), field_lo _ tag _ _ (mask_toNat _ (by omega)) htag⟩

theorem header_roundtrip (id tag b t : BitVec 64) (hb : b ≤ 63#64) (htb : t ≤ b) (htag : tag < (1#64 <<< t)) :
    headerUnpackID (bucketForID id b) (headerPack id tag b t) b t = id ∧
    headerUnpackTag (headerPack id tag b t) t = tag := by
  have hb' : b.toNat ≤ 63 := hb
  have htb' : t.toNat ≤ b.toNat := htb
  exact header_core id tag b t hb' (by omega)
    (Nat.lt_of_lt_of_le (BitVec.toNat_ushiftRight_lt id _ (by omega)) (Nat.pow_le_pow_right (by decide) (by omega)))
    (lt_one_shl tag t (by omega) htag)

theorem header_roundtrip_small_id (id tag b t : BitVec 64) (ht : t ≤ 63#64) (hbt : b < t)
    (hid : id < (1#64 <<< (64#64 - (t - b)))) (htag : tag < (1#64 <<< t)) :
    headerUnpackID (bucketForID id b) (headerPack id tag b t) b t = id ∧
    headerUnpackTag (headerPack id tag b t) t = tag := by
  have ht' : t.toNat ≤ 63 := ht
  have hbt' : b.toNat < t.toNat := hbt
  have htb : (t - b).toNat = t.toNat - b.toNat := BitVec.toNat_sub_of_le (Nat.le_of_lt hbt')
  have hs : (64#64 - (t - b)).toNat = 64 - t.toNat + b.toNat := by
    rw [BitVec.toNat_sub_of_le (by rw [BitVec.le_def, htb]; show _ ≤ 64; omega), htb]
    show 64 - _ = _; omega
  have hid' := lt_one_shl id _ (by omega) hid
  rw [hs, Nat.pow_add] at hid'
  refine header_core id tag b t (by omega) ht' ?_ (lt_one_shl tag t ht' htag)
  rw [BitVec.toNat_ushiftRight, Nat.shiftRight_eq_div_pow]
  exact Nat.div_lt_of_lt_mul (by rwa [Nat.mul_comm])

theorem bucketForID_lt (id b : BitVec 64) (hb : b ≤ 63#64) : (bucketForID id b).toNat < 2 ^ b.toNat := by
  have hb' : b.toNat ≤ 63 := hb
  unfold bucketForID
  rw [BitVec.shiftLeft_eq', BitVec.toNat_and, mask_toNat _ (by omega)]
  exact Nat.lt_of_le_of_lt Nat.and_le_right (Nat.sub_one_lt (Nat.ne_of_gt (Nat.two_pow_pos _)))

theorem layoutOK_iff (b t : BitVec 64) : layoutOK b t = true ↔ t ≤ b ∧ b ≤ 63#64 := by
  simp only [layoutOK, Bool.and_eq_true, decide_eq_true_eq]

theorem builderLayout_ok (b t : BitVec 64) (hb : b ≤ 63#64) (ht : t ≤ 63#64) :
    (builderLayout b t).2 = t ∧ (builderLayout b t).2 ≤ (builderLayout b t).1 ∧ (builderLayout b t).1 ≤ 63#64 := by
  have hb' : b.toNat ≤ 63 := hb
  have ht' : t.toNat ≤ 63 := ht
  unfold builderLayout
  by_cases h : BitVec.slt b t = true
  · rw [if_pos h]; exact ⟨rfl, BitVec.le_refl _, ht⟩
  · rw [if_neg h]
    -- both are small, so the signed comparison of the Go code is the unsigned one
    rw [BitVec.slt, decide_eq_true_eq, BitVec.toInt_eq_toNat_of_lt (by omega),
      BitVec.toInt_eq_toNat_of_lt (by omega)] at h
    exact ⟨rfl, show t.toNat ≤ b.toNat by omega, hb⟩

/-! ## tile ids -/

theorem tile_id (x y z : BitVec 64) (hz : z ≤ 29#64) (hx : x < 1#64 <<< z) (hy : y < 1#64 <<< z) :
    tileIDToXYZ (tileIDFromXYZ x y z) = (x, y, z) := by
  have hz' : z.toNat ≤ 29 := hz
  have hx' := lt_one_shl x z (by omega) hx
  have hy' := lt_one_shl y z (by omega) hy
  have hm := mask_toNat (w := 64) z.toNat (by omega)
  have hzz' : 2 ^ z.toNat ≤ 2 ^ (59 - z.toNat) := Nat.pow_le_pow_right (by decide) (by omega)
  have hy59 : y.toNat < 2 ^ (59 - z.toNat) := Nat.lt_of_lt_of_le hy' hzz'
  -- the word is `(z <<< (59 - z) ||| y) <<< z ||| x`
  have e : tileIDFromXYZ x y z = (z <<< (59 - z.toNat) ||| y) <<< z.toNat ||| x := by
    unfold tileIDFromXYZ
    rw [BitVec.shiftLeft_or_distrib, ← BitVec.shiftLeft_add, BitVec.shiftLeft_eq', Nat.sub_add_cancel (by omega)]
  have hu : (tileIDFromXYZ x y z) >>> z.toNat = z <<< (59 - z.toNat) ||| y := by
    rw [e]
    exact field_hi _ x _ _ (pack_lt z y 5 _ (Nat.lt_of_le_of_lt hz' (by decide)) hy59) (by omega) hx'
  have hzz : (tileIDFromXYZ x y z) >>> 59 = z := by
    rw [show 59 = z.toNat + (59 - z.toNat) by omega, BitVec.shiftRight_add, hu]
    exact field_hi z y 5 _ (Nat.lt_of_le_of_lt hz' (by decide)) (by omega) hy59
  unfold tileIDToXYZ
  simp only [hzz, BitVec.shiftLeft_eq', BitVec.ushiftRight_eq', hu]
  rw [e, field_lo _ x _ _ hm hx', field_and z y _ _ (by have := Nat.two_pow_pos z.toNat; omega), and_mask y _ _ hm hy']

/-! ## bucket bits for a count -/

theorem ceilLog2_spec (n : Nat) : n ≤ 2 ^ ceilLog2 n ∧ ∀ b, n ≤ 2 ^ b → ceilLog2 n ≤ b := by
  fun_cases ceilLog2 n with
  | case1 h => exact ⟨by simp; omega, fun b _ => Nat.zero_le _⟩
  | case2 h =>
    have hne : n - 1 ≠ 0 := by omega
    constructor
    · have := @Nat.lt_log2_self (n - 1)
      omega
    · intro b hb
      have : (n - 1).log2 < b := (Nat.log2_lt hne).2 (by omega)
      omega

theorem bucketBitsForCount_spec (n : Nat) :
    1 ≤ bucketBitsForCount n ∧ n ≤ 2 ^ bucketBitsForCount n ∧
    ∀ b, 1 ≤ b → n ≤ 2 ^ b → bucketBitsForCount n ≤ b := by
  obtain ⟨h1, h2⟩ := ceilLog2_spec n
  unfold bucketBitsForCount
  refine ⟨Nat.le_max_left _ _, ?_, ?_⟩
  · exact Nat.le_trans h1 (Nat.pow_le_pow_right (by omega) (Nat.le_max_right _ _))
  · intro b hb hn
    exact Nat.max_le.2 ⟨hb, h2 b hn⟩

theorem bucketBitsClose_le (n g : Nat) (h : bucketBitsClose n g = true) : g ≤ bucketBitsForCount n + 1 := by
  unfold bucketBitsClose at h
  split at h
  · exact Nat.le_succ_of_le (Nat.le_of_eq (beq_iff_eq.1 h))
  · simp only [Bool.and_eq_true, Bool.or_eq_true, decide_eq_true_eq, beq_iff_eq] at h
    omega

/-! ## postcodes -/

theorem char_le_iff (a b : Char) : a ≤ b ↔ a.toNat ≤ b.toNat := by
  rw [Char.le_def, UInt32.le_iff_toNat_le]; rfl

theorem charValue_spec (c : Char) (v : Nat) (h : postcodeCharValue c = some v) :
    v < 36 ∧ postcodeValueChar v = some c := by
  have e0 : '0'.toNat = 48 := rfl
  have e9 : '9'.toNat = 57 := rfl
  have eA : 'A'.toNat = 65 := rfl
  have eZ : 'Z'.toNat = 90 := rfl
  revert h
  unfold postcodeValueChar
  fun_cases postcodeCharValue c with
  | case1 hc =>
    rintro ⟨⟩
    rw [char_le_iff, char_le_iff, e0, e9] at hc
    rw [e0, if_pos (show c.toNat - 48 < 10 by omega), show 48 + (c.toNat - 48) = c.toNat by omega, Char.ofNat_toNat]
    exact ⟨by omega, rfl⟩
  | case2 _ hc =>
    rintro ⟨⟩
    rw [char_le_iff, char_le_iff, eA, eZ] at hc
    rw [eA, if_neg (show ¬ c.toNat - 65 + 10 < 10 by omega), if_pos (show c.toNat - 65 + 10 < 36 by omega),
      Nat.add_sub_cancel, show 65 + (c.toNat - 65) = c.toNat by omega, Char.ofNat_toNat]
    exact ⟨by omega, rfl⟩
  | case3 => nofun

theorem postcodeFold_spec : ∀ (cs : List Char) (v0 : Nat), (∀ c ∈ cs, (postcodeCharValue c).isSome) →
    ∃ id, postcodeFold cs v0 = some id ∧ id / 64 ^ cs.length = v0 ∧
      ∀ k acc, postcodeUnfold (cs.length + k) id acc = postcodeUnfold k v0 (cs ++ acc) := by
  intro cs v0 h
  fun_induction postcodeFold cs v0 with
  | case1 v0 => exact ⟨v0, rfl, by simp, fun k acc => by simp⟩
  | case2 c cs v0 v hv ih =>
    obtain ⟨id, hid, hq, hun⟩ := ih (List.forall_mem_cons.mp h).2
    have hs := charValue_spec c v hv
    refine ⟨id, hid, ?_, fun k acc => ?_⟩
    · rw [List.length_cons, Nat.pow_succ, ← Nat.div_div_eq_div_mul, hq]; omega
    · rw [List.length_cons, Nat.add_right_comm, Nat.add_assoc, hun (k + 1) acc, postcodeUnfold,
        show (v0 * 64 + v) % 64 = v by omega, show (v0 * 64 + v) / 64 = v0 by omega, hs.2]
      rfl
  | case3 c cs v0 hn => simpa [hn] using h c (by simp)

theorem postcode_roundtrip (s : List Char)
    (h5 : 5 ≤ (normalizePostcode s).length) (h7 : (normalizePostcode s).length ≤ 7)
    (hc : ∀ c ∈ normalizePostcode s, (postcodeCharValue c).isSome) :
    ∃ id, pointIDFromGBPostcode s = some id ∧ postcodeFromPointID id = some (normalizePostcode s) ∧ id < 2 ^ 44 := by
  obtain ⟨id, hid, hq, hun⟩ := postcodeFold_spec (normalizePostcode s) 0 hc
  have hlen : ¬ ((normalizePostcode s).length < 5 ∨ (normalizePostcode s).length > 7) := by omega
  refine ⟨id * 4 + ((normalizePostcode s).length - 5), ?_, ?_, ?_⟩
  · simp only [pointIDFromGBPostcode, hlen, if_false, hid]
  · unfold postcodeFromPointID
    have e1 : 5 + (id * 4 + ((normalizePostcode s).length - 5)) % 4 = (normalizePostcode s).length + 0 := by omega
    have e2 : (id * 4 + ((normalizePostcode s).length - 5)) / 4 = id := by omega
    rw [e1, e2, hun 0 []]
    simp [postcodeUnfold]
  · have hb : id < 64 ^ (normalizePostcode s).length :=
      Nat.lt_of_div_eq_zero (Nat.pow_pos (by decide)) hq
    have hp : 64 ^ (normalizePostcode s).length ≤ 64 ^ 7 := Nat.pow_le_pow_right (by omega) h7
    omega

/-! ## ONS codes -/

/-- the `k` low decimal digits of `n`, most significant first -/
def digits : Nat → Nat → List Char
  | 0, _ => []
  | k + 1, n => digitChar (n / 10 ^ k) :: digits k n

theorem digitValue_spec (c : Char) (d : Nat) (h : digitValue c = some d) :
    d < 10 ∧ digitChar d = c ∧ c ≠ '-' ∧ c ≠ '+' := by
  have e0 : '0'.toNat = 48 := rfl
  revert h
  fun_cases digitValue c with
  | case1 hr =>
    rintro ⟨⟩
    have hc : 48 ≤ c.toNat ∧ c.toNat ≤ 57 := ⟨(char_le_iff _ _).1 hr.1, (char_le_iff _ _).1 hr.2⟩
    rw [e0]
    refine ⟨by omega, ?_, ?_, ?_⟩
    · unfold digitChar
      rw [e0]
      have : 48 + (c.toNat - 48) % 10 = c.toNat := by omega
      simp [this]
    · intro hh; subst hh; revert hr; decide
    · intro hh; subst hh; revert hr; decide
  | case2 => nofun

theorem atoiDigits_spec : ∀ (ds : List Char) (acc : Nat), (∀ c ∈ ds, (digitValue c).isSome) →
    ∃ n, atoiDigits ds acc = some n ∧ n / 10 ^ ds.length = acc ∧ digits ds.length n = ds := by
  intro ds acc h
  fun_induction atoiDigits ds acc with
  | case1 acc => exact ⟨acc, rfl, by simp, rfl⟩
  | case2 c cs acc d hd ih =>
    obtain ⟨n, hn, hq, hds⟩ := ih (List.forall_mem_cons.mp h).2
    have hs := digitValue_spec c d hd
    refine ⟨n, hn, ?_, ?_⟩
    · rw [List.length_cons, Nat.pow_succ, ← Nat.div_div_eq_div_mul, hq]; omega
    · rw [List.length_cons, digits, hq, hds, digitChar, Nat.mul_add_mod_self_right, ← digitChar, hs.2.1]
  | case3 c cs acc hn => simpa [hn] using h c (by simp)

theorem atoi_of_digit_head (c : Char) (cs : List Char) (d : Nat) (h : digitValue c = some d) :
    atoi (c :: cs) = (atoiDigits (c :: cs) 0).map fun n => (n : Int) := by
  have hs := digitValue_spec c d h
  unfold atoi
  split
  · rename_i heq; simp at heq
  · rename_i ds heq
    simp only [List.cons.injEq] at heq
    exact absurd heq.1 hs.2.2.1
  · rename_i ds heq
    simp only [List.cons.injEq] at heq
    exact absurd heq.1 hs.2.2.2
  · rfl

theorem fmt08_eq_digits (n : Nat) (h : n < 10 ^ 8) : fmt08 n = digits 8 n := by
  simp only [fmt08, digits, if_pos h, Nat.reducePow, Nat.div_one]

theorem ons_roundtrip (c0 : Char) (ds : List Char) (year : Int)
    (hc0 : c0.toNat < 128) (hlen : ds.length = 8) (hd : ∀ c ∈ ds, (digitValue c).isSome)
    (hy0 : 1900 ≤ year) (hy1 : year ≤ 2155) :
    ∃ v, featureIDFromUKONSCode (c0 :: ds) year = some v ∧ ukONSCodeFromFeatureID v = (c0 :: ds, year) := by
  obtain ⟨n, hn, hq, hds⟩ := atoiDigits_spec ds 0 hd
  rw [hlen] at hq hds
  have hnlt : n < 10 ^ 8 := by omega
  have hatoi : atoi ds = some (n : Int) := by
    match ds, hlen with
    | c :: cs, _ =>
      obtain ⟨d, hd⟩ := Option.isSome_iff_exists.1 (hd c (by simp))
      rw [atoi_of_digit_head c cs d hd, hn]; rfl
  have hcw : (BitVec.ofNat 64 (c0.toNat % 256)).toNat = c0.toNat := by
    have h256 : c0.toNat < 256 := Nat.lt_trans hc0 (by decide)
    rw [BitVec.toNat_ofNat, Nat.mod_eq_of_lt h256, Nat.mod_eq_of_lt (Nat.lt_trans h256 (by decide))]
  have hyw : ((BitVec.ofInt 8 (year - 1900)).setWidth 64).toNat = (year - 1900).toNat := by
    have h256 : (year - 1900).toNat < 256 := by omega
    rw [BitVec.toNat_setWidth, BitVec.toNat_ofInt, Int.emod_eq_of_lt (by omega) (by omega),
      Nat.mod_eq_of_lt (Nat.lt_trans h256 (by decide))]
  have hmw : (BitVec.ofInt 64 (n : Int)).toNat = n := by
    rw [BitVec.ofInt_natCast, BitVec.toNat_ofNat, Nat.mod_eq_of_lt (Nat.lt_trans hnlt (by decide))]
  have f := ons_fields (BitVec.ofNat 64 (c0.toNat % 256)) ((BitVec.ofInt 8 (year - 1900)).setWidth 64)
    (BitVec.ofInt 64 n)
    (by rw [BitVec.lt_def, hcw]; exact Nat.lt_trans hc0 (by decide)) (by rw [BitVec.lt_def, hyw]; show _ < 256; omega)
    (by rw [BitVec.lt_def, hmw]; show _ < 4294967296; omega)
  simp only [featureIDFromUKONSCode, hlen, hatoi, ne_eq, not_true, if_false, Option.some.injEq, exists_eq_left',
    ukONSCodeFromFeatureID, f.1, f.2.1, f.2.2, hcw, hyw, hmw, fmt08_eq_digits n hnlt, hds, Char.ofNat_toNat]
  congr 1
  omega

end B6.Lemmas.Bits
