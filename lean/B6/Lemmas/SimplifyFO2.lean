import B6.Lemmas.SimplifyFO
import B6.Lemmas.InterpFuel
/-!
C22 `simplify_preserves_lambda_free`, part 2: applying chains of partial applications; function
application respects the simulation at equal fuel (`apply_sim`); closed expressions (`ESim`, congruence
of calls, transitivity); the rewrites `(f)` to `f` and query flattening.
-/
namespace B6.Lemmas.SimplifyFO
open B6.Model B6.Lemmas.InterpFuel

theorem FnLike.depth_zero {v : Val} {b : Builtin} {L : List Val} (h : FnLike v b L) (hd : depth v = 0) :
    v = .builtin b ∧ L = [] := by
  cases h with
  | base => exact ⟨rfl, rfl⟩
  | part _ _ => simp [depth] at hd

theorem applyFn_chain {g : Val} {b : Builtin} {L bs : List Val} (n : Nat) (args : List Val) (hg : FnLike g b L) :
    applyFn (n + 1) (.part g bs []) args =
      if args.length + (bs ++ L).length = b.arity then applyFn n g (args ++ bs)
      else if args.length + (bs ++ L).length < b.arity then .ok (.part (.part g bs []) args [])
      else .error .error := by
  obtain ⟨ha, hle⟩ := hg.arity
  rw [applyFn_part, ha, List.length_append]
  dsimp only
  have e1 : (args.length + bs.length == b.arity - L.length) = decide (args.length + (bs.length + L.length) = b.arity) := by
    rw [Bool.eq_iff_iff, beq_iff_eq, decide_eq_true_iff]; omega
  have e2 : (args.length + bs.length < b.arity - L.length) ↔ args.length + (bs.length + L.length) < b.arity := by omega
  simp only [e1, e2, decide_eq_true_iff]

/-- `v` is a variadic builtin itself, not under a partial application: the one kind of function value that takes any
number of arguments (`Builtin.want`); every other function value wants a fixed number (`arity`) -/
def BareVariadic (b : Builtin) (v : Val) : Prop := b.variadic.isSome = true ∧ depth v = 0

theorem base_nonvar {b : Builtin} (hv : ¬ BareVariadic b (.builtin b)) : b.variadic = none :=
  Option.not_isSome_iff_eq_none.mp fun h => hv ⟨h, rfl⟩

theorem paramsAt_nonvar {b : Builtin} (h : b.variadic = none) (n : Nat) : b.paramsAt n = b.params := by
  simp [Builtin.paramsAt, h]

theorem not_bareVariadic {b : Builtin} (hv : b.variadic = none) (v : Val) : ¬ BareVariadic b v :=
  fun h => by have := h.1; rw [hv] at this; cases this

theorem chain_lt {v : Val} {b : Builtin} {L args : List Val} (n : Nat) (h : FnLike v b L)
    (hv : ¬ BareVariadic b v)
    (hl : args.length + L.length < b.arity) : applyFn (n + 1) v args = .ok (.part v args []) := by
  cases h with
  | base =>
    rw [applyFn_builtin, want_nonvar (base_nonvar hv), if_neg (by simp only [List.length_nil] at hl; omega),
      if_neg (by simp only [List.length_nil, beq_iff_eq] at hl ⊢; omega)]
  | part hg _ => rw [applyFn_chain n args hg, if_neg (by omega), if_pos hl]

theorem chain_gt {v : Val} {b : Builtin} {L args : List Val} (n : Nat) (h : FnLike v b L)
    (hv : ¬ BareVariadic b v)
    (hl : args.length + L.length > b.arity) : applyFn (n + 1) v args = .error .error := by
  cases h with
  | base => rw [applyFn_builtin, want_nonvar (base_nonvar hv), if_pos (by simpa using hl)]
  | part hg _ => rw [applyFn_chain n args hg, if_neg (by omega), if_neg (by omega)]

theorem noarg_eval {s : String} {b : Builtin} (hb : Builtin.ofName s = some b) (hv : b.variadic = none) (ha : b.arity > 0)
    (k : Nat) (env : Env) (p : Bool) :
    evalWith (applyFn (k + 1)) env (.call (.sym s) [] p) = .ok (.part (.builtin b) [] []) :=
  (evalWith_call_lits hb (applyFn (k + 1)) env [] p).trans
    (chain_lt k (.base b) (not_bareVariadic hv _) (by simpa using ha))

theorem chain_eq : ∀ {v : Val} {b : Builtin} {L : List Val} (n : Nat) (args : List Val), FnLike v b L →
    args.length + L.length = b.arity → applyFn (n + depth v) v args = applyFn n (.builtin b) (args ++ L)
  | _, _, _, n, args, .base b, _ => by rw [List.append_nil]; rfl
  | _, _, _, n, args, .part (bs := bs) hg _, hl => by
    show applyFn (n + depth _ + 1) _ _ = _
    rw [applyFn_chain _ args hg, if_pos hl, chain_eq n (args ++ bs) hg (by simpa [Nat.add_assoc] using hl),
      List.append_assoc]

theorem chain_fuel : ∀ {v : Val} {b : Builtin} {L : List Val} (n : Nat) (args : List Val), FnLike v b L →
    args.length + L.length = b.arity → n ≤ depth v → applyFn n v args = .error .fuel
  | _, _, _, 0, _, _, _, _ => rfl
  | _, _, _, n + 1, args, .base b, _, hn => absurd hn (Nat.not_succ_le_zero n)
  | _, _, _, n + 1, args, .part (bs := bs) hg _, hl, hn => by
    rw [applyFn_chain n args hg, if_pos hl]
    exact chain_fuel n (args ++ bs) hg (by simpa [Nat.add_assoc] using hl) (Nat.le_of_succ_le_succ hn)

def ApplySim (j : Nat) : Prop :=
  ∀ (v' v : Val) (args' args : List Val), Sim v' v → v.isCallable = true → Sims args' args →
    applyFn j v args ≠ .error .fuel → ResSim (applyFn j v' args') (applyFn j v args)

open B6.Lemmas.Builtins (step_cases step_tail_isCallable Follows)

theorem builtin_sim (j : Nat) (IH : ApplySim j) (b : Builtin) (xs' xs : List Val) (hx : Sims xs' xs)
    (hne : applyFn (j + 1) (.builtin b) xs ≠ .error .fuel) :
    ResSim (applyFn (j + 1) (.builtin b) xs') (applyFn (j + 1) (.builtin b) xs) := by
  have hlen := Sims_length hx
  rw [applyFn_builtin] at hne
  rw [applyFn_builtin, applyFn_builtin, hlen]
  by_cases h1 : xs.length > b.want xs.length
  · rw [if_pos h1, if_pos h1]; rfl
  rw [if_neg h1] at hne ⊢
  rw [if_neg h1]
  by_cases h2 : (xs.length == b.want xs.length) = true
  · rw [if_pos h2] at hne ⊢
    rw [if_pos h2]
    obtain ⟨e, e1, e2⟩ | ⟨cs', cs, e1, e2, hcs⟩ :=
      (sim_transports.convertAll (ts := b.paramsAt xs.length) hx.lift).inv <;> rw [e2] at hne <;> rw [e1, e2]
    · rfl
    dsimp only at hne ⊢
    obtain ⟨v', v, s1, s2, hv⟩ | ⟨s1, s2⟩ | ⟨g', ys', g, ys, s1, s2, hg, hys⟩ :=
      step_cases sim_transports (b := b) hcs <;> rw [s2] at hne <;> rw [s1, s2]
    · exact hv
    · rfl
    · exact IH _ _ _ _ hg (step_tail_isCallable e2 s2) (Sims.of_lift hys) hne
  · rw [if_neg h2, if_neg h2]
    have hlt : xs.length < b.arity := lt_arity_of_lt_want (by simp only [beq_iff_eq] at h2; omega)
    exact .fn (.part (L := []) (.base b) (by simpa [hlen] using hlt)) (.part (L := []) (.base b) (by simpa using hlt))
      (Sims_append hx .nil) (Nat.le_refl _) (fun _ => rfl)

theorem apply_sim : ∀ (n : Nat), ApplySim n := by
  intro n
  induction n using Nat.strongRecOn with
  | _ n ih =>
    intro v' v args' args hs hc ha hne
    cases n with
    | zero => simp [applyFn] at hne
    | succ k =>
      have hfn : ∃ b L' L, FnLike v' b L' ∧ FnLike v b L ∧ Sims L' L ∧ depth v' ≤ depth v ∧
          (b.variadic.isSome = true → depth v = depth v') := by
        cases hs with
        | fn f1 f2 fs fd fv => exact ⟨_, _, _, f1, f2, fs, fd, fv⟩
        | _ => simp [Val.isCallable] at hc
      obtain ⟨b, L', L, f1, f2, fs, fd, fv⟩ := hfn
      by_cases hdir : BareVariadic b v
      · have hd' : depth v' = 0 := (fv hdir.1).symm.trans hdir.2
        obtain ⟨rfl, rfl⟩ := f2.depth_zero hdir.2
        obtain ⟨rfl, rfl⟩ := f1.depth_zero hd'
        exact builtin_sim k (ih k (Nat.lt_succ_self k)) b args' args ha hne
      have hdir' : ¬ BareVariadic b v' := fun h => hdir ⟨h.1, (fv h.1).trans h.2⟩
      have hlen : args'.length + L'.length = args.length + L.length := by rw [Sims_length ha, Sims_length fs]
      rcases Nat.lt_trichotomy (args.length + L.length) b.arity with hlt | heq | hgt
      · rw [chain_lt k f1 hdir' (hlen ▸ hlt), chain_lt k f2 hdir hlt]
        exact .fn (.part f1 (hlen ▸ hlt)) (.part f2 hlt) (Sims_append ha fs) (Nat.succ_le_succ fd)
          (fun hh => congrArg (· + 1) (fv hh))
      · -- both chains unwind to the builtin; the shorter one has fuel to spare, which `applyFn_mono_add` drops
        by_cases hk : k + 1 ≤ depth v
        · exact absurd (chain_fuel (k + 1) args f2 heq hk) hne
        obtain ⟨j, rfl⟩ := Nat.exists_eq_add_of_le' (Nat.le_of_lt_succ (Nat.lt_of_not_le hk))
        obtain ⟨d, hd⟩ := Nat.exists_eq_add_of_le fd
        rw [Nat.add_right_comm j, chain_eq (j + 1) args f2 heq] at hne ⊢
        have hb := builtin_sim j (ih j (Nat.lt_succ_of_le (Nat.le_add_right j _))) b (args' ++ L') (args ++ L) (Sims_append ha fs) hne
        rw [hd, ← Nat.add_assoc, Nat.add_right_comm (j + 1), chain_eq (j + 1 + d) args' f1 (hlen ▸ heq),
          applyFn_mono_add _ _ _ _ (hb.ne_fuel hne)]
        exact hb
      · rw [chain_gt k f1 hdir' (hlen ▸ hgt), chain_gt k f2 hdir hgt]
        rfl

/-! ### expressions (closed, evaluated in the empty environment) -/

def ESim (e' e : Expr) : Prop :=
  ∀ n, evalWith (applyFn n) [] e ≠ .error .fuel → ResSim (evalWith (applyFn n) [] e') (evalWith (applyFn n) [] e)

def ESims (as' as : List Expr) : Prop :=
  ∀ n, evalArgs (applyFn n) [] as ≠ .error .fuel →
    Follows Sims (evalArgs (applyFn n) [] as') (evalArgs (applyFn n) [] as)

theorem ESim.trans {a b c : Expr} (h1 : ESim a b) (h2 : ESim b c) : ESim a c := by
  intro n hne
  have r2 := h2 n hne
  exact (h1 n (r2.ne_fuel hne)).trans r2

theorem ESims.nil : ESims [] [] := fun _ _ => ⟨_, rfl, .nil⟩

theorem ESims.cons {a' a : Expr} {as' as : List Expr} (h1 : ESim a' a) (h2 : ESims as' as) :
    ESims (a' :: as') (a :: as) := by
  intro n hne
  rw [evalArgs_cons] at hne ⊢
  rw [evalArgs_cons]
  exact follows_bind (fun h => (h1 n h).follows)
    (fun _ _ hv => follows_bind (h2 n) fun _ _ hvs _ => ⟨_, rfl, .cons hv hvs⟩) hne

theorem ESim.call {F f : Expr} {as' as : List Expr} (p' p : Bool) (hf : ESim F f) (ha : ESims as' as) :
    ESim (.call F as' p') (.call f as p) := by
  intro n hne
  rw [evalWith_call, fnEnv_nil] at hne ⊢
  rw [evalWith_call, fnEnv_nil]
  refine .of_follows (follows_bind (ha n) (fun vs' vs hvs => follows_bind (fun h => (hf n h).follows)
    fun fv' fv hfv hne => ?_) hne)
  rw [hfv.callable]
  split
  · exact (apply_sim n fv' fv vs' vs hfv ‹_› hvs (by rwa [if_pos ‹_›] at hne)).follows
  · rfl

theorem ESim.sym (s : String) : ESim (.sym s) (.sym s) := by
  intro n _
  simp only [evalWith, List.lookup]
  cases Builtin.ofName s with
  | none => simp [ResSim]
  | some b => exact Sim.refl_builtin b

theorem ESim.lit (l : Lit) : ESim (.lit l) (.lit l) := by
  intro n _
  simp only [evalWith, ResSim]
  exact Sim.refl_lit l

theorem ESim.noarg {s : String} {b : Builtin} (p : Bool) (hb : Builtin.ofName s = some b) (hv : b.variadic = none)
    (ha : b.arity > 0) :
    ESim (.sym s) (.call (.sym s) [] p) := by
  intro n hne
  cases n with
  | zero => simp [evalWith, evalArgs, hb, applyFn] at hne
  | succ k =>
    rw [noarg_eval hb hv ha]
    simp only [evalWith, List.lookup, hb, ResSim]
    exact .fn (.base b) (.part (L := []) (.base b) (by simpa using ha)) .nil (by simp [depth]) (fun hh => by rw [hv] at hh; cases hh)

theorem canonInter_append : ∀ (a b : List Query), canonInter (a ++ b) = canonInter a ++ canonInter b
  | [], b => by simp [canonInter]
  | q :: a, b => by simp [canonInter, canonInter_append a b]

theorem canonUnion_append : ∀ (a b : List Query), canonUnion (a ++ b) = canonUnion a ++ canonUnion b
  | [], b => by simp [canonUnion]
  | q :: a, b => by simp [canonUnion, canonUnion_append a b]

mutual
  theorem canon_simplifyQuery : (q : Query) → (simplifyQuery q).canon = q.canon
    | .inter qs => by simp only [simplifyQuery, Query.canon, canon_flattenInter qs]
    | .union qs => by simp only [simplifyQuery, Query.canon, canon_flattenUnion qs]
    | .typed _ _ => by simp [simplifyQuery]
    | .keyed _ => by simp [simplifyQuery]
    | .tagged _ _ => by simp [simplifyQuery]
    | .other _ => by simp [simplifyQuery]
  theorem canon_flattenInter : (qs : List Query) → canonInter (flattenInter qs) = canonInter qs
    | [] => by simp [flattenInter]
    | q :: qs => by
      have h1 := canon_simplifyQuery q
      have h2 := canon_flattenInter qs
      simp only [flattenInter, canonInter_append, h2, canonInter]
      congr 1
      rw [← h1]
      cases simplifyQuery q <;> simp [Query.canon, canonInter]
  theorem canon_flattenUnion : (qs : List Query) → canonUnion (flattenUnion qs) = canonUnion qs
    | [] => by simp [flattenUnion]
    | q :: qs => by
      have h1 := canon_simplifyQuery q
      have h2 := canon_flattenUnion qs
      simp only [flattenUnion, canonUnion_append, h2, canonUnion]
      congr 1
      rw [← h1]
      cases simplifyQuery q <;> simp [Query.canon, canonUnion]
end

theorem ESim.litq (q : Query) : ESim (.lit (.query (simplifyQuery q))) (.lit (.query q)) := by
  intro n _
  simp only [evalWith, Lit.toVal, ResSim]
  exact .query (canon_simplifyQuery q)

end B6.Lemmas.SimplifyFO
