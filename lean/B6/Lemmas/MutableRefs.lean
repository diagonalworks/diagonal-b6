import B6.Lemmas.Mutable
import B6.Lemmas.Basic.List
/-!
The reference table of `MutableOverlayWorld` (`m.references`) is the inverse of the references of the
overlay's features, after every operation (C12 `refs_inv_step`).
-/
namespace B6.Model.Mutable
open B6.Lemmas.Basic (mem_look_foldl_or mem_look_foldl_and_not exists_mem_key)

/-- `references[t]` holds exactly the overlay features whose current geometry / members / keys name `t` -/
def RefsInv (l : Layer) : Prop :=
  ∀ t s, s ∈ sources l.refs t ↔ ∃ g, AMap.get l.feats s = some g ∧ t ∈ geomRefs g.geom

theorem sources_set (rs : List (Id × List Id)) (t : Id) (v : List Id) (t' : Id) :
    sources (AMap.set rs t v) t' = if t' = t then v else sources rs t' := by
  unfold sources
  rw [AMap.get_set]
  by_cases h : t' = t <;> simp [h]

theorem refsAdd_fold (fid : Id) (ts : List Id) (rs : List (Id × List Id)) (t s : Id) :
    s ∈ sources (ts.foldl (fun rs tgt =>
        if (sources rs tgt).contains fid then rs else AMap.set rs tgt (sources rs tgt ++ [fid])) rs) t ↔
      s ∈ sources rs t ∨ (s = fid ∧ t ∈ ts) :=
  (mem_look_foldl_or (look := sources) (D := fun a t s => t = a ∧ s = fid) (fun rs a t s => by
    split
    · -- `fid` is recorded under `a` already: the table stays, and holds the share
      next hc => exact ⟨.inl, fun h => h.elim id fun ⟨e1, e2⟩ => e1 ▸ e2 ▸ List.contains_iff_mem.mp hc⟩
    · rw [sources_set]
      by_cases h : t = a
      · subst h; simp
      · simp [h]) ts rs t s).trans (or_congr_right (exists_mem_key.trans and_comm))

theorem mem_refsAdd (rs : List (Id × List Id)) (f : Feature) (t s : Id) :
    s ∈ sources (refsAdd rs f) t ↔ s ∈ sources rs t ∨ (s = f.id ∧ t ∈ geomRefs f.geom) :=
  refsAdd_fold f.id _ rs t s

theorem refsRemoveStep_sources (fid : Id) (rs : List (Id × List Id)) (a t : Id) :
    sources (refsRemoveStep fid rs a) t =
      if t = a then (sources rs a).filter (fun y => decide (y ≠ fid)) else sources rs t := by
  unfold refsRemoveStep
  cases h : AMap.get rs a with
  | some l =>
    simp only [sources_set]
    by_cases ht : t = a
    · simp [ht, sources, h]
    · simp [ht]
  | none =>
    by_cases ht : t = a
    · simp [ht, sources, h]
    · simp [ht]

theorem refsRemove_fold (fid : Id) (ts : List Id) (rs : List (Id × List Id)) (t s : Id) :
    s ∈ sources (ts.foldl (refsRemoveStep fid) rs) t ↔ s ∈ sources rs t ∧ ¬ (s = fid ∧ t ∈ ts) :=
  (mem_look_foldl_and_not (look := sources) (D := fun a t s => t = a ∧ s = fid) (fun rs a t s => by
    rw [refsRemoveStep_sources]
    by_cases h : t = a
    · subst h; simp
    · simp [h]) ts rs t s).trans (and_congr_right fun _ => not_congr (exists_mem_key.trans and_comm))

theorem mem_refsRemove (rs : List (Id × List Id)) (f : Feature) (t s : Id) :
    s ∈ sources (refsRemove rs f) t ↔ s ∈ sources rs t ∧ ¬ (s = f.id ∧ t ∈ geomRefs f.geom) :=
  refsRemove_fold f.id _ rs t s

theorem mem_removeAll (es : List Feature) (rs : List (Id × List Id)) (t s : Id) :
    s ∈ sources (es.foldl refsRemove rs) t ↔ s ∈ sources rs t ∧ ¬ ∃ e ∈ es, s = e.id ∧ t ∈ geomRefs e.geom :=
  mem_look_foldl_and_not (D := fun (e : Feature) t s => s = e.id ∧ t ∈ geomRefs e.geom) (fun rs e => mem_refsRemove rs e)
    es rs t s

theorem mem_olds {l : Layer} (hl : l.FeatsId) {rs : List FV} {e : Feature} :
    e ∈ olds l rs ↔ AMap.get l.feats e.id = some e ∧ ∃ r ∈ rs, r.f.id = e.id := by
  simp only [olds, List.mem_filterMap]
  constructor
  · rintro ⟨r, hr, he⟩; have := hl _ _ he; exact ⟨this ▸ he, r, hr, this.symm⟩
  · rintro ⟨he, r, hr, hid⟩; exact ⟨r, hr, hid ▸ he⟩

theorem mem_addCopies (cs : List Feature) (rs : List (Id × List Id)) (t s : Id) :
    s ∈ sources (cs.foldl refsAdd rs) t ↔ s ∈ sources rs t ∨ ∃ c ∈ cs, s = c.id ∧ t ∈ geomRefs c.geom :=
  mem_look_foldl_or (D := fun (c : Feature) t s => s = c.id ∧ t ∈ geomRefs c.geom) (fun rs c => mem_refsAdd rs c) cs rs t s

theorem refsInv_same {l l' : Layer} (hs : l.Same l') (h : RefsInv l) : RefsInv l' := by
  intro t s; rw [hs.refs]; simp only [hs.feats]; exact h t s

theorem refsInv_empty : RefsInv Layer.empty := by
  intro t s; simp [Layer.empty, sources]

theorem refsInv_adopt {l : Layer} {f : Feature} (h : RefsInv l) (hf : AMap.get l.feats f.id = none) :
    RefsInv (l.adopt f) := by
  intro t s
  simp only [adopt_refs, adopt_feats, mem_refsAdd, h t s]
  by_cases hs : s = f.id
  · subst hs; simp [hf]
  · simp [hs]

/-- a tag edit of an overlay feature: geometry and the table are untouched -/
theorem refsInv_retag {l : Layer} {id : Id} {f : Feature} {tags : List Tag} {ix : List (Token × List Id)}
    (h : RefsInv l) (hf : AMap.get l.feats id = some f) :
    RefsInv { l with index := ix, feats := AMap.set l.feats id { f with tags := tags } } := by
  intro t s
  simp only [AMap.get_set, h t s]
  by_cases hs : s = id
  · subst hs; simp [hf]
  · simp [hs]

theorem refsInv_tagStep {b : View} {l l' : Layer} {id : Id} {k : Key} {m : Mod}
    (hb : b.IdsOK) (hl : l.FeatsId) (hi : RefsInv l) (h : TagStep b l id k m l') : RefsInv l' := by
  cases h with
  | retag hf => exact refsInv_retag hi hf
  | adopt hf hv => exact refsInv_adopt hi (by simp only [find_id hb hl hv]; exact hf)
  | record | skip => exact hi

theorem refsInv_commit {l : Layer} {f : Feature} {rs : List FV} (hl : l.FeatsId) (hi : RefsInv l) :
    RefsInv (l.commit f rs) := by
  intro t s
  rw [commit_refs]
  simp only [mem_addCopies, mem_refsAdd, mem_removeAll, mem_olds hl, hi t s, commit_feats]
  by_cases hsf : s = f.id
  · subst hsf
    have hnc : ¬ ∃ c ∈ (copyReferrers f.id l rs).2, f.id = c.id ∧ t ∈ geomRefs c.geom :=
      fun ⟨c, hcm, he, _⟩ => (copy_spec hcm).1 he.symm
    simp only [↓reduceIte, Option.some.injEq, exists_eq_left', hnc, or_false]
    constructor
    · rintro ((⟨⟨g, hg, ht⟩, hn⟩ | h) | ⟨e, ⟨_, r, hr, hid⟩, he, _⟩)
      · -- the existing feature was taken out
        exact absurd ⟨g, ⟨(hl _ _ hg).symm ▸ hg, _, List.mem_cons_self, (hl _ _ hg).symm⟩, (hl _ _ hg).symm, ht⟩ hn
      · exact h.2
      · -- the referrers put back are never the new feature itself
        have := (List.mem_filter.1 hr).2
        simp only [Bool.and_eq_true, bne_iff_ne, ne_eq] at this
        exact absurd (hid.trans he.symm) this.2
    · exact fun h => .inl (.inr ⟨trivial, h⟩)
  · simp only [hsf, false_and, or_false, ↓reduceIte]
    constructor
    · rintro ((⟨⟨g, hg, ht⟩, _⟩ | ⟨e, ⟨he, _⟩, rfl, ht⟩) | ⟨c, hcm, rfl, ht⟩)
      · exact ⟨g, (copied_feats_iff ..).2 (.inl hg), ht⟩
      · exact ⟨e, (copied_feats_iff ..).2 (.inl he), ht⟩
      · exact ⟨c, (copied_feats_iff ..).2 (.inr ⟨(copy_spec hcm).2.1, hcm, rfl⟩), ht⟩
    · rintro ⟨g, hg, ht⟩
      rcases (copied_feats_iff ..).1 hg with h | ⟨_, hmem, h4⟩
      · -- an old overlay feature: taken out and put back as a referrer, or untouched
        by_cases hre : ∃ e, (AMap.get l.feats e.id = some e ∧ ∃ r ∈ ⟨f, none⟩ :: rs.filter fun r =>
            AMap.contains l.feats r.f.id && r.f.id != f.id, r.f.id = e.id) ∧ s = e.id ∧ t ∈ geomRefs e.geom
        · obtain ⟨e, ⟨he, r, hr, hid⟩, hse, hte⟩ := hre
          rcases List.mem_cons.1 hr with rfl | hr
          · exact absurd (hse.trans hid.symm) hsf
          · exact .inl (.inr ⟨e, ⟨he, r, hr, hid⟩, hse, hte⟩)
        · exact .inl (.inl ⟨⟨g, h, ht⟩, hre⟩)
      · exact .inr ⟨g, hmem, h4.symm, ht⟩

theorem refsInv_prim {b : View} {o : Oracle} (hb : b.IdsOK) (l : Layer) (p : Prim)
    (h : l.FeatsId ∧ RefsInv l) : (p.apply b o l).1.FeatsId ∧ RefsInv (p.apply b o l).1 := by
  refine ⟨featsId_prim l p h.1, ?_⟩
  cases prim_cases b o l p with
  | rejected eq _ same => rw [eq]; exact refsInv_same same h.2
  | committed _ _ _ eq same => rw [eq]; exact refsInv_commit (featsId_same same h.1) (refsInv_same same h.2)
  | edited _ _ _ eq step => rw [eq]; exact refsInv_tagStep hb h.1 h.2 step

theorem featsId_refsInv_same {l l' : Layer} (hs : l.Same l') (h : l.FeatsId ∧ RefsInv l) : l'.FeatsId ∧ RefsInv l' :=
  ⟨featsId_same hs h.1, refsInv_same hs h.2⟩

end B6.Model.Mutable
