import B6.Model.Locksets
import B6.Lemmas.Basic.List
/-! Invariants for the C35 models: lock ownership = statically held locks; the fill-once cell; the LRU. -/
namespace B6.Lemmas.Locksets
open B6.Model.Proto B6.Model.Locksets
open B6.Lemmas.Basic (forall_getElem?_set map_set_eq)

theorem forall_set' {α : Type} {l : List α} {i : Nat} {c' : α} {P P' : Nat → α → Prop}
    (h : ∀ j cj, l[j]? = some cj → P j cj) (ho : ∀ j cj, j ≠ i → P j cj → P' j cj) (hi : P' i c') :
    ∀ j cj, (l.set i c')[j]? = some cj → P' j cj :=
  forall_getElem?_set hi fun j a hji hj => ho j a hji (h j a hj)

theorem forall_set {α : Type} {l : List α} {i : Nat} {c' : α} {P : Nat → α → Prop}
    (h : ∀ j cj, l[j]? = some cj → P j cj) (hi : P i c') : ∀ j cj, (l.set i c')[j]? = some cj → P j cj :=
  forall_getElem?_set hi fun j a _ => h j a

/-! ## locksets -/

theorem isWrite_cell {a : Action} {x : Nat} (hw : a.isWrite = true) (hc : a.cell? = some x) : a = .write x := by
  cases a with
  | write y => exact congrArg Action.write (Option.some.inj hc)
  | _ => cases hw

/-- what one action does to the set of mutexes held: the body of the fold `heldAfter` -/
def upd (held : List Nat) (a : Action) : List Nat :=
  match a with
  | .acq l => l :: held
  | .rel l => held.erase l
  | _ => held

theorem heldAfter_eq (as : List Action) : heldAfter as = as.foldl upd [] := rfl

theorem upd_access {a : Action} {x : Nat} (h : a.cell? = some x) (held : List Nat) : upd held a = held := by
  cases a with
  | read | write => rfl
  | acq | rel => cases h

theorem foldl_upd_accesses (as : List Action) (held : List Nat) (h : ∀ a ∈ as, ∃ x, a.cell? = some x) :
    as.foldl upd held = held :=
  as.foldlRecOn (motive := (· = held)) upd rfl fun b hb a ha => by
    obtain ⟨x, hx⟩ := h a ha
    rw [upd_access hx, hb]

theorem heldAfter_snoc (as : List Action) (a : Action) : heldAfter (as ++ [a]) = upd (heldAfter as) a := by
  rw [heldAfter_eq, heldAfter_eq, List.foldl_append]; rfl

theorem take_next (t : Thread) (a : Action) (h : t.next = some a) :
    t.prog.take (t.pc + 1) = t.prog.take t.pc ++ [a] := by
  unfold Thread.next at h
  rw [List.take_add_one, h]; rfl

/-- the mutexes thread `j` holds, read off its program counter -/
def held (s : LState) (j : Nat) : List Nat :=
  match s.threads[j]? with
  | some t => heldAfter (t.prog.take t.pc)
  | none => []

theorem held_of {s : LState} {i : Nat} {t : Thread} (h : s.threads[i]? = some t) :
    held s i = heldAfter (t.prog.take t.pc) := by
  rw [held, h]

/-- `Does o i a o'`: with owner map `o`, thread `i` may execute `a`, and the owner map becomes `o'` -/
inductive Does (o : Nat → Option Nat) (i : Nat) : Action → (Nat → Option Nat) → Prop
  | acq {l} : o l = none → Does o i (.acq l) (fun l' => if l' = l then some i else o l')
  | rel {l} : o l = some i → Does o i (.rel l) (fun l' => if l' = l then none else o l')
  | read {x} : Does o i (.read x) o
  | write {x} : Does o i (.write x) o

theorem threadStep_spec {s s' : LState} {i : Nat} {t : Thread} (h : s' ∈ threadStep s i t) :
    ∃ a, t.next = some a ∧ Does s.owner i a s'.owner ∧ s'.threads = advance s i t := by
  unfold threadStep at h
  split at h
  · cases h
  · obtain ⟨hg, rfl⟩ := mem_guard.mp h; exact ⟨_, ‹_›, .acq hg, rfl⟩
  · obtain ⟨hg, rfl⟩ := mem_guard.mp h; exact ⟨_, ‹_›, .rel hg, rfl⟩
  · cases List.mem_singleton.mp h; exact ⟨_, ‹_›, .read, rfl⟩
  · cases List.mem_singleton.mp h; exact ⟨_, ‹_›, .write, rfl⟩

theorem held_advance {s s' : LState} {i : Nat} {t : Thread} {a : Action} (ht : s.threads[i]? = some t)
    (hn : t.next = some a) (hs : s'.threads = advance s i t) (j : Nat) :
    held s' j = if j = i then upd (held s i) a else held s j := by
  by_cases e : j = i
  · have hi' : s'.threads[i]? = some { t with pc := t.pc + 1 } := hs ▸ getElem?_set_self' ht
    rw [if_pos e, e, held_of hi', held_of ht]
    exact (congrArg heldAfter (take_next t a hn)).trans (heldAfter_snoc ..)
  · rw [if_neg e, held, held, hs, advance, List.getElem?_set_ne (Ne.symm e)]

/-- the owner map stays the inverse of the held sets: thread `i` gains or loses exactly the mutex of `a`; no other
thread is touched, since `acq l` needs `l` free and `rel l` needs it owned by `i` -/
theorem own_step {o o' : Nat → Option Nat} {i : Nat} {a : Action} {H : Nat → List Nat} (hd : Does o i a o')
    (own : ∀ l j, o l = some j ↔ l ∈ H j) (hnd : (H i).Nodup) (l j : Nat) :
    o' l = some j ↔ l ∈ if j = i then upd (H i) a else H j := by
  by_cases hj : j = i
  · subst hj
    rw [if_pos rfl]
    cases hd with
    | read | write => exact own l j
    | @acq l0 h0 =>
      show (if l = l0 then some j else o l) = some j ↔ l ∈ l0 :: H j
      rw [List.mem_cons]
      by_cases hl : l = l0
      · simp [hl]
      · rw [if_neg hl, own l j]; exact (or_iff_right hl).symm
    | @rel l0 h0 =>
      show (if l = l0 then none else o l) = some j ↔ l ∈ (H j).erase l0
      rw [hnd.mem_erase_iff]
      by_cases hl : l = l0
      · simp [hl]
      · rw [if_neg hl, own l j]; exact (and_iff_right hl).symm
  · rw [if_neg hj, ← own l j]
    have hne : some i ≠ some j := fun e => hj (Option.some.inj e).symm
    cases hd with
    | read | write => rfl
    | @acq l0 h0 =>
      show (if l = l0 then some i else o l) = some j ↔ _
      by_cases hl : l = l0
      · rw [if_pos hl, hl, h0]; exact ⟨fun e => absurd e hne, nofun⟩
      · rw [if_neg hl]
    | @rel l0 h0 =>
      show (if l = l0 then none else o l) = some j ↔ _
      by_cases hl : l = l0
      · rw [if_pos hl, hl, h0]; exact ⟨nofun, fun e => absurd e hne⟩
      · rw [if_neg hl]

theorem nodup_step {o o' : Nat → Option Nat} {i : Nat} {a : Action} {H : Nat → List Nat} (hd : Does o i a o')
    (own : ∀ l j, o l = some j ↔ l ∈ H j) (hnd : (H i).Nodup) : (upd (H i) a).Nodup := by
  cases hd with
  | read | write => exact hnd
  | @acq l0 h0 => exact List.nodup_cons.mpr ⟨fun hk => by simpa [h0] using (own l0 i).mpr hk, hnd⟩
  | rel => exact hnd.erase _

structure LInv (progs : List (List Action)) (s : LState) : Prop where
  shape : s.threads.map (·.prog) = progs
  own : ∀ (l i : Nat), s.owner l = some i ↔ l ∈ held s i
  nodup : ∀ i : Nat, (held s i).Nodup

theorem linv_init (progs : List (List Action)) : LInv progs (linit progs) := by
  have h0 (i : Nat) : held (linit progs) i = [] := by
    simp only [held, linit, List.getElem?_map]
    cases progs[i]? <;> rfl
  exact ⟨by simp [linit, Function.comp_def], fun l i => by rw [h0]; simp [linit], fun i => by simp [h0]⟩

theorem linv_step (progs : List (List Action)) (s s' : LState) (h : LInv progs s) (hs : s' ∈ lstep s) :
    LInv progs s' := by
  obtain ⟨i, t, ht, hs⟩ := mem_forWorkers.mp hs
  obtain ⟨a, hn, hd, hth⟩ := threadStep_spec hs
  have hH := held_advance ht hn hth
  refine ⟨?_, fun l j => ?_, fun j => ?_⟩
  · rw [hth, advance]; exact (map_set_eq (c' := { t with pc := t.pc + 1 }) ht rfl).trans h.shape
  · rw [hH]; exact own_step hd h.own (h.nodup i) l j
  · rw [hH]
    split
    · exact nodup_step hd h.own (h.nodup i)
    · exact h.nodup j

theorem reachable_linv {progs : List (List Action)} {s : LState} (h : Reachable lstep (linit progs) s) :
    LInv progs s :=
  Reachable.invariant (LInv progs) (linv_init progs) (fun s s' => linv_step progs s s') s h

/-! ## the fill-once cell -/

/-- between `Lock` and `Unlock` -/
def inCS (pc : CPc) : Bool := pc == .check || pc == .fill || pc == .ret || pc == .unlock

/-- what the program counter of caller `j` says about the lock and the cell -/
structure CallerOK (compute : Nat) (holder cell : Option Nat) (j : Nat) (c : Caller) : Prop where
  hold : inCS c.pc = true ↔ holder = some j
  fillpc : c.pc = .fill → cell = none
  retpc : c.pc = .ret → cell = some compute
  res : c.pc = .unlock ∨ c.pc = .done → c.result = some compute

/-- a caller that does not move stays fine when the lock changes hands between others and the cell changes only
while it is outside the critical section -/
theorem CallerOK.frame {compute : Nat} {H H' cell cell' : Option Nat} {j : Nat} {c : Caller}
    (h : CallerOK compute H cell j c) (hH : H' = some j ↔ H = some j) (hc : inCS c.pc = true → cell' = cell) :
    CallerOK compute H' cell' j c :=
  ⟨h.hold.trans hH.symm, fun hp => (hc (by rw [hp]; rfl)).trans (h.fillpc hp),
    fun hp => (hc (by rw [hp]; rfl)).trans (h.retpc hp), h.res⟩

structure CellInv (compute : Nat) (s : CellState) : Prop where
  val : s.cell = none ∨ s.cell = some compute
  once : (s.cell = none → s.writes = 0) ∧ (s.cell ≠ none → s.writes = 1)
  callers : ∀ (j : Nat) (c : Caller), s.callers[j]? = some c → CallerOK compute s.holder s.cell j c

theorem cellInv_init (compute n : Nat) : CellInv compute (cellInit n) := by
  refine ⟨.inl rfl, ⟨fun _ => rfl, fun h => absurd rfl h⟩, fun j c hj => ?_⟩
  cases (List.mem_replicate.mp (List.mem_of_getElem? hj)).2
  exact ⟨⟨nofun, nofun⟩, nofun, nofun, fun h => by rcases h with h | h <;> cases h⟩

theorem cellInv_step (compute : Nat) (s s' : CellState) (h : CellInv compute s) (hs : s' ∈ cellStep compute s) :
    CellInv compute s' := by
  obtain ⟨i, c, hc, hs⟩ := mem_forWorkers.mp hs
  have hi := h.callers i c hc
  -- the lock passes between `i` and nobody: for the others nothing changes
  have pass {j : Nat} (hji : j ≠ i) : (none : Option Nat) = some j ↔ some i = some j :=
    ⟨nofun, fun e => absurd (Option.some.inj e).symm hji⟩
  unfold cellCallerStep at hs
  cases hpc : c.pc <;> simp only [hpc] at hs
  case lock =>
    obtain ⟨hnone, rfl⟩ := mem_guard.mp hs
    exact ⟨h.val, h.once, forall_set' h.callers
      (fun j cj hji hok => hok.frame (by rw [hnone]; exact (pass hji).symm) fun _ => rfl)
      ⟨⟨fun _ => rfl, fun _ => rfl⟩, nofun, nofun, nofun⟩⟩
  case done => cases hs
  all_goals have hhold : s.holder = some i := hi.hold.mp (by rw [hpc]; rfl)
  case check =>
    split at hs <;> cases List.mem_singleton.mp hs
    · rename_i hcell _
      exact ⟨h.val, h.once, forall_set h.callers ⟨⟨fun _ => hhold, fun _ => rfl⟩, fun _ => hcell, nofun, nofun⟩⟩
    · rename_i v hcell _
      refine ⟨h.val, h.once, forall_set h.callers ⟨⟨fun _ => hhold, fun _ => rfl⟩, nofun, fun _ => ?_, nofun⟩⟩
      exact h.val.resolve_left (by rw [hcell]; nofun)
  case fill =>
    -- the others are outside the critical section
    cases List.mem_singleton.mp hs
    have hnone := hi.fillpc hpc
    refine ⟨.inr rfl, ⟨nofun, fun _ => by rw [h.once.1 hnone]⟩, forall_set' h.callers
      (fun j cj hji hok => hok.frame Iff.rfl fun hin => ?_) ⟨⟨fun _ => hhold, fun _ => rfl⟩, nofun, fun _ => rfl, nofun⟩⟩
    exact absurd (hhold.symm.trans (hok.hold.mp hin)) fun e => hji (Option.some.inj e).symm
  case ret =>
    cases List.mem_singleton.mp hs
    exact ⟨h.val, h.once, forall_set h.callers ⟨⟨fun _ => hhold, fun _ => rfl⟩, nofun, nofun, fun _ => hi.retpc hpc⟩⟩
  case unlock =>
    cases List.mem_singleton.mp hs
    exact ⟨h.val, h.once, forall_set' h.callers
      (fun j cj hji hok => hok.frame (by rw [hhold]; exact pass hji) fun _ => rfl)
      ⟨⟨nofun, nofun⟩, nofun, nofun, fun _ => hi.res (.inl hpc)⟩⟩

theorem reachable_cellInv {compute n : Nat} {s : CellState} (h : Reachable (cellStep compute) (cellInit n) s) :
    CellInv compute s :=
  Reachable.invariant (CellInv compute) (cellInv_init compute n) (fun s s' => cellInv_step compute s s') s h

/-! ## the LRU -/

structure LruInv (cap : Nat) (find : Nat → Option Nat) (s : LruState) : Prop where
  entries : ∀ p ∈ s.cache, find p.1 = some p.2
  size : s.cache.length ≤ cap
  results : ∀ (j : Nat) (q : Querier), s.queriers[j]? = some q → ∀ r ∈ q.results, r.2 = find r.1
  adding : ∀ (j : Nat) (q : Querier) (v : Nat), s.queriers[j]? = some q → q.pc = .add v →
    ∃ id rest, q.todo = id :: rest ∧ find id = some v

theorem cacheGet_eq_some {c c' : Cache} {id v : Nat} (h : cacheGet c id = some (v, c')) :
    (id, v) ∈ c ∧ c' = (id, v) :: c.filter (fun p => p.1 != id) := by
  revert h
  fun_cases cacheGet c id with
  | case1 i x hf =>
    rintro ⟨⟩
    obtain rfl : i = id := by simpa using List.find?_some hf
    exact ⟨List.mem_of_find?_eq_some hf, rfl⟩
  | case2 => nofun

/-- the hit is filtered out before it is put in front -/
theorem cacheGet_length {c c' : Cache} {id v : Nat} (h : cacheGet c id = some (v, c')) : c'.length ≤ c.length := by
  obtain ⟨hm, rfl⟩ := cacheGet_eq_some h
  exact List.length_filter_lt_length_iff_exists.mpr ⟨_, hm, by simp⟩

theorem lruInv_init (cap : Nat) (find : Nat → Option Nat) (todos : List (List Nat)) :
    LruInv cap find (lruInit todos) := by
  have hq : ∀ (j : Nat) (q : Querier), (lruInit todos).queriers[j]? = some q → q.pc = .get ∧ q.results = [] := by
    intro j q hj
    simp only [lruInit, List.getElem?_map] at hj
    cases ht : todos[j]? with
    | none => simp [ht] at hj
    | some t => simp [ht] at hj; subst hj; exact ⟨rfl, rfl⟩
  refine ⟨by simp [lruInit], by simp [lruInit], ?_, ?_⟩
  · intro j q hj r hr; rw [(hq j q hj).2] at hr; simp at hr
  · intro j q v hj hp; rw [(hq j q hj).1] at hp; simp at hp

theorem lruInv_update {cap : Nat} {find : Nat → Option Nat} {s : LruState} (h : LruInv cap find s) {i : Nat}
    {c' : Cache} {q' : Querier} (hent : ∀ p ∈ c', find p.1 = some p.2) (hsize : c'.length ≤ cap)
    (hres : ∀ r ∈ q'.results, r.2 = find r.1)
    (hadd : ∀ v, q'.pc = .add v → ∃ id rest, q'.todo = id :: rest ∧ find id = some v) :
    LruInv cap find { cache := c', queriers := s.queriers.set i q' } :=
  ⟨hent, hsize, forall_set h.results hres,
    fun j qj v hj => forall_set (P := fun _ q => ∀ v, q.pc = .add v → ∃ id rest, q.todo = id :: rest ∧ find id = some v)
      (fun j q hj v => h.adding j q v hj) hadd j qj hj v⟩

theorem lruInv_step (cap : Nat) (find : Nat → Option Nat) (s s' : LruState) (h : LruInv cap find s)
    (hs : s' ∈ lruStep cap find s) : LruInv cap find s' := by
  obtain ⟨i, q, hq, hs⟩ := mem_forWorkers.mp hs
  have hres := h.results i q hq
  -- an answer `(id, r)` with `r = find id` joins the results
  have answered {id : Nat} {r : Option Nat} (hr : r = find id) : ∀ x ∈ q.results ++ [(id, r)], x.2 = find x.1 :=
    List.forall_mem_append.mpr ⟨hres, List.forall_mem_singleton.mpr hr⟩
  revert hs
  fun_cases lruQuerierStep cap find s i q with
  | case2 _ id rest hpc htodo v c' hget =>   -- get, hit
    intro hs
    cases List.mem_singleton.mp hs
    obtain ⟨hm, rfl⟩ := cacheGet_eq_some hget
    -- `nofun`, here and in every leaf but "found": the new program counter is not `add`, the querier owes nothing
    refine lruInv_update h ?_ (Nat.le_trans (cacheGet_length hget) h.size) (answered (h.entries _ hm).symm) nofun
    intro p hp
    rcases List.mem_cons.mp hp with rfl | hp
    · exact h.entries _ hm
    · exact h.entries p (List.mem_filter.mp hp).1
  | case3 =>   -- get, miss
    intro hs
    cases List.mem_singleton.mp hs
    exact lruInv_update h h.entries h.size hres nofun
  | case4 _ id rest hpc htodo v hfind =>   -- compute, found
    intro hs
    cases List.mem_singleton.mp hs
    exact lruInv_update h h.entries h.size hres fun v' e => by cases e; exact ⟨id, rest, htodo, hfind⟩
  | case5 _ id rest hpc htodo hfind =>   -- compute, not found
    intro hs
    cases List.mem_singleton.mp hs
    exact lruInv_update h h.entries h.size (answered hfind.symm) nofun
  | case6 _ id rest v hpc htodo =>   -- add: the value being added was found for this ID
    intro hs
    obtain ⟨id', rest', htodo', hfind⟩ := h.adding i q v hq hpc
    cases htodo.symm.trans htodo'
    cases List.mem_singleton.mp hs
    refine lruInv_update h ?_ ?_ (answered hfind.symm) nofun
    · intro p hp
      rcases List.mem_cons.mp (List.mem_of_mem_take hp) with rfl | hp'
      · exact hfind
      · exact h.entries p (List.mem_filter.mp hp').1
    · rw [cacheAdd, List.length_take]; exact Nat.min_le_left ..
  | case1 | case7 => nofun

theorem reachable_lruInv {cap : Nat} {find : Nat → Option Nat} {todos : List (List Nat)} {s : LruState}
    (h : Reachable (lruStep cap find) (lruInit todos) s) : LruInv cap find s :=
  Reachable.invariant (LruInv cap find) (lruInv_init cap find todos) (fun s s' => lruInv_step cap find s s') s h

end B6.Lemmas.Locksets
