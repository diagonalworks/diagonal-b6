import B6.Model.DouglasPeucker
/-!
Lemmas for C34: facts about the scan loop, the glue between the index view
(`points[b]`, `points[b+1 : e-1]`) and the slice view (`seg` with `points = pre ++ seg ++ post`), what one stack
entry stands for (`Entry`), and the stack-invariant lemma `core` that the theorems of `Props/C34.lean` are read off from.
-/
namespace B6.Lemmas.DouglasPeucker
open B6.Model.DouglasPeucker

variable {P D : Type}

theorem scanFrom_range (m : Metric P D) (a b : P) (l : List P) :
    ∀ (i : Nat) (mx : D) (mi : Nat),
      (scanFrom m a b l i mx mi).2 = mi ∨
      (i ≤ (scanFrom m a b l i mx mi).2 ∧ (scanFrom m a b l i mx mi).2 < i + l.length) := by
  intro i mx mi
  fun_induction scanFrom m a b l i mx mi with
  | case1 => exact .inl rfl
  | case2 p ps i mx mi h ih =>
    rw [List.length_cons]
    omega
  | case3 p ps i mx mi h ih =>
    rw [List.length_cons]
    omega

/-- Go's `maxi` when the scan is run on absolute indices `i + k` instead of slice-relative `i`:
`0` ("nothing selected") stays `0`, a selected index is shifted. -/
def shift (k x : Nat) : Nat := if x = 0 then 0 else x + k

theorem scanFrom_shift (m : Metric P D) (a b : P) (k : Nat) (l : List P) :
    ∀ (i : Nat) (mx : D) (mi : Nat), 0 < i →
      scanFrom m a b l (i + k) mx (shift k mi) =
        ((scanFrom m a b l i mx mi).1, shift k (scanFrom m a b l i mx mi).2) := by
  intro i mx mi hi
  fun_induction scanFrom m a b l i mx mi with
  | case1 => rfl
  | case2 p ps i mx mi h ih =>
    have e : shift k i = i + k := if_neg (by omega)
    rw [scanFrom, if_pos h, ← ih (by omega), e, Nat.add_right_comm]
  | case3 p ps i mx mi h ih => rw [scanFrom, if_neg h, ← ih (by omega), Nat.add_right_comm]

theorem shift_pos (k x : Nat) : 0 < shift k x ↔ 0 < x := by
  unfold shift
  split
  · next h => rw [h]
  · next h => exact ⟨fun _ => Nat.pos_of_ne_zero h, fun h => Nat.add_pos_left h k⟩

theorem getElem?_pre (pre seg post : List P) (a : P) (h : seg.head? = some a) :
    (pre ++ seg ++ post)[pre.length]? = some a := by
  cases seg with
  | nil => simp at h
  | cons x xs =>
    simp at h
    subst h
    simp [List.append_assoc]

theorem getElem?_last (pre seg post : List P) (z : P) (h : seg.getLast? = some z) :
    (pre ++ seg ++ post)[pre.length + seg.length - 1]? = some z := by
  have hne : seg ≠ [] := by intro e; subst e; simp at h
  have hl : 0 < seg.length := List.length_pos_iff.mpr hne
  rw [List.getLast?_eq_getElem?] at h
  rw [List.append_assoc, List.getElem?_append_right (by omega)]
  rw [List.getElem?_append_left (by omega)]
  have : pre.length + seg.length - 1 - pre.length = seg.length - 1 := by omega
  rw [this]; exact h

theorem slice_interior (pre post : List P) (a : P) (rest : List P) :
    slice (pre ++ (a :: rest) ++ post) (pre.length + 1) (pre.length + (a :: rest).length - 1)
      = rest.dropLast := by
  unfold slice
  have h1 : (pre ++ (a :: rest) ++ post).drop (pre.length + 1) = rest ++ post := by
    have : pre ++ (a :: rest) ++ post = (pre ++ [a]) ++ (rest ++ post) := by simp
    rw [this, List.drop_append]
    simp
  rw [h1]
  have h2 : pre.length + (a :: rest).length - 1 - (pre.length + 1) = rest.length - 1 := by
    simp only [List.length_cons]; omega
  rw [h2, List.take_append_of_le_length (by omega), List.dropLast_eq_take]

/-- the loop's scan of interval `[b, b+|seg|)` is the reference's scan of the slice, shifted by `b` -/
theorem iterScan_eq (m : Metric P D) (pre seg post : List P) (hne : seg ≠ []) :
    iterScan m (pre ++ seg ++ post) pre.length (pre.length + seg.length)
      = some ((refScan m seg).1, shift pre.length (refScan m seg).2) := by
  cases seg with
  | nil => exact absurd rfl hne
  | cons a rest =>
    cases hr : rest.getLast? with
    | none =>
      have : rest = [] := by simpa using hr
      subst this
      have hc : ¬ (pre.length + 1 < pre.length + [a].length - 1) := by
        simp only [List.length_cons, List.length_nil]; omega
      simp only [iterScan, hc, if_false, refScan, List.getLast?_nil, shift, if_true]
    | some z =>
      have hrne : rest ≠ [] := by intro e; subst e; simp at hr
      have hrl : 0 < rest.length := List.length_pos_iff.mpr hrne
      by_cases h2 : rest.length = 1
      · -- two points: no interior
        have hd : rest.dropLast = [] := by
          apply List.eq_nil_of_length_eq_zero; simp [h2]
        have hc : ¬ (pre.length + 1 < pre.length + (a :: rest).length - 1) := by
          simp only [List.length_cons]; omega
        simp only [iterScan, hc, if_false, refScan, hr, hd, scanFrom, shift, if_true]
      · have hc : pre.length + 1 < pre.length + (a :: rest).length - 1 := by
          simp only [List.length_cons]; omega
        have ha : (pre ++ (a :: rest) ++ post)[pre.length]? = some a :=
          getElem?_pre pre (a :: rest) post a (by simp)
        have hz : (pre ++ (a :: rest) ++ post)[pre.length + (a :: rest).length - 1]? = some z := by
          apply getElem?_last
          cases rest with
          | nil => exact absurd rfl hrne
          | cons r rs => simpa [List.getLast?_cons_cons] using hr
        simp only [iterScan, hc, if_true, ha, hz, slice_interior, refScan, hr]
        have hs := scanFrom_shift m a z pre.length rest.dropLast 1 m.zero 0 (by omega)
        have e0 : shift pre.length 0 = 0 := by simp [shift]
        rw [e0, Nat.add_comm 1 pre.length] at hs
        rw [hs]

theorem refScan_range (m : Metric P D) (seg : List P) :
    (refScan m seg).2 = 0 ∨ (1 ≤ (refScan m seg).2 ∧ (refScan m seg).2 + 2 ≤ seg.length) := by
  cases seg with
  | nil => left; rfl
  | cons a rest =>
    simp only [refScan]
    cases hr : rest.getLast? with
    | none => left; rfl
    | some z =>
      dsimp only
      rcases scanFrom_range m a z rest.dropLast 1 m.zero 0 with h | h
      · left; exact h
      · right
        simp only [List.length_dropLast, List.length_cons] at h ⊢
        omega

/-- What one stack entry `[b, b+n)` stands for.  `L` = the points the loop emits while that entry and
everything it pushes is worked off (`c` iterations); the reference on the same slice returns `L` followed
by the slice's last point. -/
structure Entry (m : Metric P D) (eps : D) (pts seg : List P) (b : Nat) (L : List P) (z : P) (c : Nat) : Prop where
  last : seg.getLast? = some z
  ref : ∀ f, seg.length ≤ f → refF m eps f seg = .ok (L ++ [z])
  cost : c + 1 ≤ 2 * seg.length
  loop : ∀ f st out, loopF m pts eps (f + c) ((b, b + seg.length) :: st) out = loopF m pts eps f st (out ++ L)
  head : L.head? = seg.head?
  sub : 2 ≤ seg.length → L.Sublist seg.dropLast
  one : seg.length = 1 → L = seg

theorem entry_leaf (m : Metric P D) (eps : D) (pre seg post : List P) {a z : P} (ha : seg.head? = some a)
    (hz : seg.getLast? = some z) (hsplit : ¬ (0 < (refScan m seg).2 && m.gt (refScan m seg).1 eps) = true) :
    Entry m eps (pre ++ seg ++ post) seg pre.length [a] z 1 := by
  have hne : seg ≠ [] := by rintro rfl; cases ha
  have hpos : 0 < seg.length := List.length_pos_iff.mpr hne
  refine ⟨hz, ?_, by omega, ?_, ha.symm, ?_, ?_⟩
  · intro f hf
    cases f with
    | zero => omega
    | succ f => simp [refF, hsplit, ha, hz]
  · intro f st out
    have hs' : ¬ (0 < shift pre.length (refScan m seg).2 && m.gt (refScan m seg).1 eps) = true := by
      rw [decide_eq_decide.mpr (shift_pos ..)]; exact hsplit
    simp only [loopF, iterScan_eq m pre seg post hne, hs', getElem?_pre pre seg post a ha]
    simp
  · intro h2
    match seg, ha with
    | [x], _ => simp at h2
    | x :: y :: ys, ha => cases ha; simp [List.dropLast]
  · intro h1
    match seg, ha with
    | [x], ha => cases ha; rfl
    | x :: y :: ys, _ => simp at h1

theorem split_bounds {n k : Nat} (hk1 : 1 ≤ k) (hk2 : k + 2 ≤ n) : k ≠ 0 ∧ k ≤ n ∧ ¬ n ≤ k ∧ 2 ≤ n - k :=
  ⟨Nat.ne_of_gt hk1, Nat.le_trans (Nat.le_add_right k 2) hk2, by omega, by omega⟩

/-- the fuel for `n` points, less one, is enough for both parts of a split -/
theorem split_fuel {n k f : Nat} (hk1 : 1 ≤ k) (hk2 : k + 2 ≤ n) (hf : n ≤ f + 1) : k ≤ f ∧ n - k ≤ f :=
  ⟨by omega, Nat.sub_le_of_le_add (Nat.le_trans hf (Nat.add_le_add_left hk1 f))⟩

/-- the iterations of the two parts and the one that splits stay within `2 n - 1` -/
theorem split_cost {n k c1 c2 : Nat} (hk2 : k + 2 ≤ n) (h1 : c1 + 1 ≤ 2 * k) (h2 : c2 + 1 ≤ 2 * (n - k)) :
    c1 + c2 + 1 + 1 ≤ 2 * n := by omega

/-- an entry the scan splits at `k`: the loop pushes `[k, e)` and `[b, k)` and works the second off first; the
reference recurses into the same two slices and drops the left result's last point -/
theorem entry_split (m : Metric P D) (eps : D) (pre seg post : List P) {k : Nat} (hk : (refScan m seg).2 = k)
    (hgt : m.gt (refScan m seg).1 eps = true) (hk1 : 1 ≤ k) (hk2 : k + 2 ≤ seg.length)
    {L1 L2 : List P} {z1 z : P} {c1 c2 : Nat}
    (E1 : Entry m eps (pre ++ seg ++ post) (seg.take k) pre.length L1 z1 c1)
    (E2 : Entry m eps (pre ++ seg ++ post) (seg.drop k) (pre.length + k) L2 z c2) :
    Entry m eps (pre ++ seg ++ post) seg pre.length (L1 ++ L2) z (c1 + c2 + 1) := by
  obtain ⟨hk0, hkn, hnk, h2⟩ := split_bounds hk1 hk2
  have hl1 : (seg.take k).length = k := List.length_take_of_le hkn
  have hl2 : (seg.drop k).length = seg.length - k := List.length_drop
  have hne : seg ≠ [] := by rintro rfl; simp at hk2
  have hne2 : seg.drop k ≠ [] := by intro e; rw [e] at hl2; rw [← hl2] at h2; cases h2
  have hsplit : (decide (0 < k) && m.gt (refScan m seg).1 eps) = true := by
    rw [hgt, Bool.and_true, decide_eq_true_eq]; exact hk1
  have hhead : L1.head? = seg.head? := by
    have := E1.head
    rwa [List.head?_take, if_neg hk0] at this
  refine ⟨?_, ?_, ?_, ?_, ?_, ?_, fun h => absurd (h ▸ hk2) (by omega)⟩
  · have := E2.last
    rwa [List.getLast?_drop, if_neg hnk] at this
  · intro f hf
    cases f with
    | zero => exact absurd (Nat.le_trans hk2 hf) (Nat.not_succ_le_zero _)
    | succ f =>
      have r1 := E1.ref f (by rw [hl1]; exact (split_fuel hk1 hk2 hf).1)
      have r2 := E2.ref f (by rw [hl2]; exact (split_fuel hk1 hk2 hf).2)
      simp only [refF, hsplit, if_true, hk, r1, r2]
      simp
  · exact split_cost hk2 (hl1 ▸ E1.cost) (hl2 ▸ E2.cost)
  · intro f st out
    have e1 : f + (c1 + c2 + 1) = (f + c2 + c1) + 1 := by
      rw [← Nat.add_assoc, ← Nat.add_assoc, Nat.add_right_comm f c1 c2]
    have hs' : (decide (0 < shift pre.length k) && m.gt (refScan m seg).1 eps) = true := by
      rw [decide_eq_decide.mpr (shift_pos ..)]; exact hsplit
    have hsh : shift pre.length k = pre.length + k := by
      unfold shift; rw [if_neg hk0, Nat.add_comm]
    have l1 := E1.loop (f + c2) ((pre.length + k, pre.length + seg.length) :: st) out
    have l2 := E2.loop f st (out ++ L1)
    rw [hl1] at l1
    rw [hl2, Nat.add_assoc, Nat.add_sub_cancel' hkn] at l2
    rw [e1]
    simp only [loopF, iterScan_eq m pre seg post hne, hk, hs', if_true]
    rw [hsh, l1, l2, List.append_assoc out]
  · rw [List.head?_append, hhead]
    cases seg with
    | nil => exact absurd rfl hne
    | cons x xs => rfl
  · intro _
    have s1 : L1.Sublist (seg.take k) := by
      by_cases hk1 : k = 1
      · rw [E1.one (hl1.trans hk1)]; exact List.Sublist.refl _
      · exact (E1.sub (by rw [hl1]; exact Nat.lt_of_le_of_ne ‹1 ≤ k› (Ne.symm hk1))).trans (List.dropLast_sublist _)
    have hd : seg.dropLast = seg.take k ++ (seg.drop k).dropLast := by
      rw [← List.dropLast_append_of_ne_nil hne2, List.take_append_drop]
    rw [hd]
    exact s1.append (E2.sub (by rw [hl2]; exact h2))

/-- **Stack invariant.** Every stack entry `[b, b+|seg|)` of the loop (with `points = pre ++ seg ++ post`,
`b = |pre|`) is worked off in at most `2·|seg| − 1` iterations, leaves the rest of the stack untouched, and
appends to the output exactly what the recursive reference returns for `seg`, minus its last point. -/
theorem core (m : Metric P D) (eps : D) :
    ∀ (n : Nat) (seg pre post : List P), seg.length = n → seg ≠ [] →
      ∃ (L : List P) (z : P) (c : Nat), Entry m eps (pre ++ seg ++ post) seg pre.length L z c := by
  intro n
  induction n using Nat.strongRecOn with
  | _ n ih =>
    intro seg pre post hn hne
    obtain ⟨a, ha⟩ : ∃ a, seg.head? = some a := by
      cases seg with
      | nil => exact absurd rfl hne
      | cons x xs => exact ⟨x, rfl⟩
    obtain ⟨z, hz⟩ : ∃ z, seg.getLast? = some z := by
      cases h : seg.getLast? with
      | none => exact absurd (List.getLast?_eq_none_iff.mp h) hne
      | some z => exact ⟨z, rfl⟩
    by_cases hsplit : (0 < (refScan m seg).2 && m.gt (refScan m seg).1 eps) = true
    · simp only [Bool.and_eq_true, decide_eq_true_eq] at hsplit
      obtain ⟨hk1, hk2⟩ : 1 ≤ (refScan m seg).2 ∧ (refScan m seg).2 + 2 ≤ seg.length := by
        rcases refScan_range m seg with h | h
        · omega
        · exact h
      generalize hk : (refScan m seg).2 = k at hk1 hk2
      subst hn
      obtain ⟨hk0, hkn, hnk, h2⟩ := split_bounds hk1 hk2
      have hl1 : (seg.take k).length = k := List.length_take_of_le hkn
      have hl2 : (seg.drop k).length = seg.length - k := List.length_drop
      obtain ⟨L1, z1, c1, E1⟩ := ih k (Nat.lt_of_not_le hnk) (seg.take k) pre (seg.drop k ++ post) hl1
        (by intro e; rw [e] at hl1; exact hk0 hl1.symm)
      obtain ⟨L2, z2, c2, E2⟩ := ih (seg.length - k) (Nat.sub_lt (Nat.lt_of_lt_of_le hk1 hkn) hk1) (seg.drop k)
        (pre ++ seg.take k) post hl2 (by intro e; rw [e] at hl2; rw [← hl2] at h2; cases h2)
      rw [show pre ++ seg.take k ++ (seg.drop k ++ post) = pre ++ seg ++ post by
        rw [List.append_assoc pre, ← List.append_assoc (seg.take k), List.take_append_drop, List.append_assoc]] at E1
      rw [show pre ++ seg.take k ++ seg.drop k ++ post = pre ++ seg ++ post by
        rw [List.append_assoc pre, List.take_append_drop], List.length_append, hl1] at E2
      exact ⟨_, _, _, entry_split m eps pre seg post hk hsplit.2 hk1 hk2 E1 E2⟩
    · exact ⟨_, _, _, entry_leaf m eps pre seg post ha hz hsplit⟩

theorem simplify_eq (m : Metric P D) {pts : List P} (eps : D) (h : 2 ≤ pts.length) :
    simplify m pts eps = douglasPeucker m pts eps := if_neg (Nat.not_lt.mpr h)

end B6.Lemmas.DouglasPeucker
