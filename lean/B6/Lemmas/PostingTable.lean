import B6.Model.Posting
import B6.Lemmas.Basic.Sorted
import B6.Lemmas.Basic.List
/-!
# Posting lists: the namespace table is an order isomorphism

For a table whose names are strictly increasing (`FillFromNamespaces` on distinct non-empty names) and has
at most 8192 entries (13 namespace bits), `Encode`/`Decode` are inverse, `CombineTypeAndNamespace` is
`type * 8192 + index`, and `b6.FeatureID.Less` on decoded ids is the lexicographic order `idLt` on
`(TypeAndNamespace, value)`, which is defined here with its order facts.
-/
namespace B6.Model.Posting

/-- names strictly increasing (so: distinct), at most 2^13 of them -/
def TableOK (t : Table) : Prop := t.names.Pairwise (· < ·) ∧ t.names.length ≤ 8192

/-- a `TypeAndNamespace` the table can decode: 3 type bits, namespace index inside the table -/
def TnOK (t : Table) (tn : Nat) : Prop := tn / 8192 < 8 ∧ tn % 8192 < t.names.length

/-- the `b6.FeatureID` of `(tn, value)` -/
def keyOf (t : Table) (id : Id) : Key := ⟨id.1 / 8192, t.names[id.1 % 8192]?.getD "", id.2⟩

theorem combine_eq {t e : Nat} (ht : t < 8) (he : e < 8192) : combine t e = t * 8192 + e := by
  unfold combine
  have h1 : t <<< 13 = t * 8192 := by rw [Nat.shiftLeft_eq]
  have h2 : (t <<< 13) % 65536 = t <<< 13 := by rw [h1]; omega
  have h3 : e % 65536 = e := by omega
  rw [h2, h3, ← Nat.shiftLeft_add_eq_or_of_lt (show e < 2 ^ 13 by omega), h1]

theorem splitTN_eq (tn : Nat) : splitTN tn = (tn / 8192, tn % 8192) := by
  unfold splitTN
  rw [Nat.shiftRight_eq_div_pow]

theorem combine_split {tn : Nat} (h : tn / 8192 < 8) : combine (tn / 8192) (tn % 8192) = tn := by
  rw [combine_eq h (Nat.mod_lt _ (by omega))]
  omega

theorem lastIdxAux_isLastIdx : B6.Lemmas.Basic.IsLastIdx id lastIdxAux := ⟨fun _ _ _ => rfl, fun _ _ _ _ _ => rfl⟩

theorem names_lt_iff {t : Table} (ht : TableOK t) {i j : Nat} (hi : i < t.names.length) (hj : j < t.names.length) :
    t.names[i] < t.names[j] ↔ i < j :=
  ht.1.getElem?_lt_iff (fun _ _ => String.lt_asymm) (List.getElem?_eq_getElem hi) (List.getElem?_eq_getElem hj)

theorem names_nodup {t : Table} (ht : TableOK t) : t.names.Nodup :=
  ht.1.nodup_of_irrefl String.lt_irrefl

theorem names_eq_iff {t : Table} (ht : TableOK t) {i j : Nat} (hi : i < t.names.length) (hj : j < t.names.length) :
    t.names[i] = t.names[j] ↔ i = j :=
  List.getElem_inj (names_nodup ht)

theorem encode_name {t : Table} (ht : TableOK t) {i : Nat} (hi : i < t.names.length) :
    t.encode t.names[i] = .ok i := by
  unfold Table.encode
  rw [lastIdxAux_isLastIdx.of_getElem? (names_nodup ht) (List.getElem?_eq_getElem hi) 0]
  have : (0 + i) % 65536 = i := by have := ht.2; omega
  simp only [id, this]

theorem keyOf_ns {t : Table} {tn : Nat} (h : TnOK t tn) (v : Nat) :
    (keyOf t (tn, v)).ns = t.names[tn % 8192]'h.2 := by
  unfold keyOf
  simp only
  rw [List.getElem?_eq_getElem h.2]; rfl

theorem decodeId_ok {t : Table} {id : Id} (h : TnOK t id.1) : t.decodeId id = .ok (keyOf t id) := by
  unfold Table.decodeId Table.decode keyOf
  rw [splitTN_eq]
  simp only
  rw [List.getElem?_eq_getElem h.2]
  rfl

theorem encode_keyOf {t : Table} (ht : TableOK t) {id : Id} (h : TnOK t id.1) :
    t.encode (keyOf t id).ns = .ok (id.1 % 8192) ∧ combine (keyOf t id).type (id.1 % 8192) = id.1 := by
  obtain ⟨tn, v⟩ := id
  refine ⟨?_, ?_⟩
  · rw [keyOf_ns h v]; exact encode_name ht h.2
  · exact combine_split h.1

theorem Key.less_iff (a b : Key) : a.less b = true ↔
    a.type < b.type ∨ (a.type = b.type ∧ (a.ns < b.ns ∨ (a.ns = b.ns ∧ a.value < b.value))) := by
  unfold Key.less
  by_cases h1 : a.type = b.type
  · by_cases h2 : a.ns = b.ns
    · simp only [h1, h2, if_true, decide_eq_true_iff, Nat.lt_irrefl, String.lt_irrefl, false_or, true_and]
    · simp only [h1, h2, if_true, if_false, decide_eq_true_iff, Nat.lt_irrefl, false_or, true_and, false_and,
        or_false]
  · simp only [h1, if_false, decide_eq_true_iff, false_and, or_false]

/-! ## the order on ids, and `b6.FeatureID.Less` on the decoded ids -/

/-- the lexicographic order on `(TypeAndNamespace, value)` -/
def idLt (a b : Id) : Prop := a.1 < b.1 ∨ (a.1 = b.1 ∧ a.2 < b.2)

instance (a b : Id) : Decidable (idLt a b) := by unfold idLt; infer_instance

theorem idLt_trans {a b c : Id} (h1 : idLt a b) (h2 : idLt b c) : idLt a c := by
  unfold idLt at *; omega

theorem not_idLt_of_fst_gt {a b : Id} (h : b.1 < a.1) : ¬ idLt a b :=
  fun h' => h'.elim (Nat.lt_asymm h) fun h'' => Nat.ne_of_gt h h''.1

theorem idLt.fst_le {a b : Id} (h : idLt a b) : a.1 ≤ b.1 :=
  h.elim Nat.le_of_lt fun h' => Nat.le_of_eq h'.1

theorem less_keyOf {t : Table} (ht : TableOK t) {a b : Id} (ha : TnOK t a.1) (hb : TnOK t b.1) :
    (keyOf t a).less (keyOf t b) = decide (idLt a b) := by
  obtain ⟨ta, va⟩ := a
  obtain ⟨tb, vb⟩ := b
  rw [Bool.eq_iff_iff, decide_eq_true_iff, Key.less_iff, keyOf_ns ha va, keyOf_ns hb vb,
    names_lt_iff ht ha.2 hb.2, names_eq_iff ht ha.2 hb.2]
  show ta / 8192 < tb / 8192 ∨ (ta / 8192 = tb / 8192 ∧ (ta % 8192 < tb % 8192 ∨ (ta % 8192 = tb % 8192 ∧ va < vb)))
    ↔ ta < tb ∨ (ta = tb ∧ va < vb)
  omega

theorem keyOf_inj {t : Table} (ht : TableOK t) {a b : Id} (ha : TnOK t a.1) (hb : TnOK t b.1) :
    keyOf t a = keyOf t b ↔ a = b := by
  refine ⟨fun h => ?_, fun h => by rw [h]⟩
  obtain ⟨ta, va⟩ := a
  obtain ⟨tb, vb⟩ := b
  have h1 : ta / 8192 = tb / 8192 := congrArg Key.type h
  have h2 := congrArg Key.ns h
  have h3 : va = vb := congrArg Key.value h
  rw [keyOf_ns ha va, keyOf_ns hb vb] at h2
  have h4 : ta % 8192 = tb % 8192 := (names_eq_iff ht ha.2 hb.2).1 h2
  have : ta = tb := by omega
  rw [this, h3]

/-- `id.Less(current) || id == current` (the test by which `Advance` stays put) on decoded ids: `current` is not below `id` -/
theorem less_or_eq_keyOf {t : Table} (ht : TableOK t) {a b : Id} (ha : TnOK t a.1) (hb : TnOK t b.1) :
    ((keyOf t a).less (keyOf t b) || decide (keyOf t a = keyOf t b)) = decide (¬ idLt b a) := by
  rw [less_keyOf ht ha hb, Bool.eq_iff_iff, Bool.or_eq_true, decide_eq_true_iff, decide_eq_true_iff,
    decide_eq_true_iff, keyOf_inj ht ha hb]
  obtain ⟨ta, va⟩ := a
  obtain ⟨tb, vb⟩ := b
  rw [Prod.mk.injEq]
  unfold idLt
  omega

theorem sortNames_isSort : B6.Lemmas.Basic.IsInsertSort (fun a b : String => a < b) insertSorted sortNames :=
  ⟨fun _ => rfl, fun _ _ _ => rfl, rfl, fun _ _ => rfl⟩

/-- the insertion sort orders by `≤` (`IsInsertSort.pairwise_of`); strictness comes from the names being distinct -/
theorem sortNames_spec (l : List String) (hnd : l.Nodup) :
    (sortNames l).Pairwise (· < ·) ∧ (∀ y, y ∈ sortNames l ↔ y ∈ l) ∧ (sortNames l).length = l.length := by
  have hperm := sortNames_isSort.perm l
  have hle : (sortNames l).Pairwise (· ≤ ·) :=
    sortNames_isSort.pairwise_of (S := (· ≤ ·)) (fun h => String.not_lt.1 (String.lt_asymm h))
      (fun h => String.not_lt.1 h) (fun h1 h2 => String.le_trans h1 h2) l
  refine ⟨(hle.and (hperm.nodup_iff.2 hnd)).imp fun ⟨h1, h2⟩ => ?_, fun y => hperm.mem_iff, hperm.length_eq⟩
  exact Decidable.byContradiction fun h3 => h2 (String.le_antisymm h1 (String.not_lt.1 h3))

theorem fillFromNamespaces_ok (nss : List String) (hnd : nss.Nodup) (hne : "" ∉ nss) (hlen : nss.length < 8192) :
    TableOK (fillFromNamespaces nss) ∧ (∀ y, y ∈ (fillFromNamespaces nss).names ↔ y = "" ∨ y ∈ nss) := by
  have hnd' : ("" :: nss).Nodup := List.nodup_cons.2 ⟨hne, hnd⟩
  obtain ⟨h1, h2, h3⟩ := sortNames_spec ("" :: nss) hnd'
  refine ⟨⟨h1, ?_⟩, ?_⟩
  · show (sortNames ("" :: nss)).length ≤ 8192
    rw [h3]; simp only [List.length_cons]; omega
  · intro y
    show y ∈ sortNames ("" :: nss) ↔ _
    rw [h2]; simp

end B6.Model.Posting
