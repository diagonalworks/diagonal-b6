import B6.Lemmas.Builtins
/-!
The reference interpreter (`Model/Interp`) as C21, C22 and C23 use it, in three parts and a few facts beside them.  (1) Its recursive clauses as
equations: `evalWith_call`, `evalArgs_cons` in `Except.bind` form (`fnEnv`: a symbol in function position is looked up
among the global functions only) and `applyFn_builtin/_closure/_part`; the inductions over the interpreter rest on them.
(2) Relations between outcomes that the interpreter carries from function application to evaluation and from one fuel
level to the next (`Carried`): one that holds of a value with itself and of a plain error with itself, the only leaves
there are, and goes through `bind`.  It need not be reflexive, so a property of the second outcome alone ("is not a
panic", `Lemmas/EvalGuards`) is one; `Settles x' x` (`x'` has the outcome of `x` unless that is "out of fuel") is another:
more fuel settles (`interp_mono`).  (3) `Refines`: an expression that settles another in every environment, a preorder
closed under argument contexts (`Refines.fill`), which lifts the value-preserving rewrite steps of `Simplify` from the
root of a program to any argument position outside lambda bodies; with it the static side of such a rewrite
(`SameStatics`: same well-formedness and parameter count, so that `interp` takes the same branch, `interp_refines`) and
the two steps that are refinements: `({-> b})` ↦ `b` (`beta0_*`) and a global function applied to literals ↦ the literal
it yields (`call_lits_*`, C22 `build_query_context`).  Beside the parts: `bind_error_left/right` ("is an error" goes
through `bind`; for `SimplifyFO3.illformed_error`) and `want_nonvar`, `lt_arity_of_lt_want` (what `Builtin.want` is
against `arity`: they decide the tests of `applyFn_builtin`).
-/
namespace B6.Lemmas.InterpFuel
open B6.Model

/-- a symbol in function position names a global function: no parameter is in scope for it -/
def fnEnv (env : Env) : Expr → Env
  | .sym _ => []
  | _ => env

theorem fnEnv_nil (f : Expr) : fnEnv [] f = [] := by cases f <;> rfl

theorem evalWith_call (app : Val → List Val → Res Val) (env : Env) (f : Expr) (args : List Expr) (p : Bool) :
    evalWith app env (.call f args p) =
      (evalArgs app env args).bind fun vs => (evalWith app (fnEnv env f) f).bind fun fv =>
        if fv.isCallable then app fv vs else .error .error := by
  rw [evalWith]
  cases evalArgs app env args with
  | error e => rfl
  | ok vs =>
    cases f with
    | sym s => simp only [fnEnv, evalWith, List.lookup, Except.bind]; cases Builtin.ofName s <;> rfl
    | lit l => cases l <;> rfl
    | lam ps b => rfl
    | call g as q => simp only [fnEnv, Except.bind]; cases evalWith app env (.call g as q) <;> rfl

theorem evalArgs_cons (app : Val → List Val → Res Val) (env : Env) (a : Expr) (as : List Expr) :
    evalArgs app env (a :: as) =
      (evalWith app env a).bind fun v => (evalArgs app env as).bind fun vs => .ok (v :: vs) := by
  rw [evalArgs]
  cases evalWith app env a with
  | error e => rfl
  | ok v => cases evalArgs app env as <;> rfl

theorem evalArgs_eq_mapM (app : Val → List Val → Res Val) (env : Env) :
    ∀ as : List Expr, evalArgs app env as = as.mapM (evalWith app env)
  | [] => rfl
  | a :: as => by rw [evalArgs_cons, List.mapM_cons, ← evalArgs_eq_mapM app env as]; rfl

theorem evalArgs_length {app : Val → List Val → Res Val} {env : Env} {as : List Expr} {vs : List Val}
    (h : evalArgs app env as = .ok vs) : vs.length = as.length :=
  Basic.mapEq_length ((Basic.mapM_ok_iff _ _ _).mp (evalArgs_eq_mapM app env as ▸ h))

/-- `x'` has the outcome of `x`, unless that is "out of fuel" (which says nothing about the program) -/
def Settles {α : Type} (x' x : Res α) : Prop := x ≠ .error .fuel → x' = x

theorem bind_mono {α β : Type} {x' x : Res α} {k' k : α → Res β} (hx : Settles x' x)
    (hk : ∀ a, Settles (k' a) (k a)) : Settles (x'.bind k') (x.bind k) := by
  intro h
  cases x with
  | error e => rw [hx fun e' => h (by rw [e']; rfl)]; rfl
  | ok a => rw [hx (by simp)]; exact hk a h

theorem bind_error_left {α β : Type} {x : Res α} {k : α → Res β} (h : ∃ e, x = .error e) : ∃ e, x.bind k = .error e := by
  obtain ⟨e, rfl⟩ := h
  exact ⟨e, rfl⟩

theorem bind_error_right {α β : Type} {x : Res α} {k : α → Res β} (h : ∀ a, ∃ e, k a = .error e) :
    ∃ e, x.bind k = .error e := by
  cases x with
  | error e => exact ⟨e, rfl⟩
  | ok a => exact h a

/-- `Q x' x`: `x'` is the outcome with the other `app` or with more fuel, `x` the outcome it is measured against.  To be
carried through the interpreter `Q` has to accept every value with itself and the plain error with itself (the outcomes
evaluation makes on its own; "out of fuel" and whatever else comes from `app` only) and to go through `bind`; `α` is
implicit in `Q` because outcomes of values and of argument lists both occur -/
structure Carried (Q : {α : Type} → Res α → Res α → Prop) : Prop where
  ok : ∀ {α : Type} (a : α), Q (.ok a) (.ok a)
  err : ∀ {α : Type}, Q (.error .error : Res α) (.error .error)
  bind : ∀ {α β : Type} {x' x : Res α} {k' k : α → Res β}, Q x' x → (∀ a, Q (k' a) (k a)) → Q (x'.bind k') (x.bind k)

theorem settles_carried : Carried @Settles := ⟨fun _ _ => rfl, fun _ => rfl, bind_mono⟩

section
variable {Q : {α : Type} → Res α → Res α → Prop}

theorem ite_carried {α : Type} {c : Prop} [Decidable c] {a' a b' b : Res α} (ha : Q a' a) (hb : Q b' b) :
    Q (if c then a' else b') (if c then a else b) := by
  split <;> assumption

mutual
  theorem evalWith_carried (hQ : Carried @Q) {app' app : Val → List Val → Res Val}
      (H : ∀ f args, Q (app' f args) (app f args)) : (e : Expr) → ∀ env, Q (evalWith app' env e) (evalWith app env e)
    | .sym s, env => by
      simp only [evalWith]
      split
      · exact hQ.ok _
      · split
        · exact hQ.ok _
        · exact hQ.err
    | .lit _, _ => hQ.ok _
    | .lam _ _, _ => hQ.ok _
    | .call f args p, env => by
      rw [evalWith_call, evalWith_call]
      exact hQ.bind (evalArgs_carried hQ H args env) fun vs =>
        hQ.bind (evalWith_carried hQ H f _) fun fv => ite_carried (H fv vs) hQ.err
  theorem evalArgs_carried (hQ : Carried @Q) {app' app : Val → List Val → Res Val}
      (H : ∀ f args, Q (app' f args) (app f args)) : (as : List Expr) → ∀ env, Q (evalArgs app' env as) (evalArgs app env as)
    | [], _ => hQ.ok _
    | a :: as, env => by
      rw [evalArgs_cons, evalArgs_cons]
      exact hQ.bind (evalWith_carried hQ H a env) fun _ => hQ.bind (evalArgs_carried hQ H as env) fun _ => hQ.ok _
end

end

theorem evalWith_mono {app app' : Val → List Val → Res Val}
    (H : ∀ f args, app f args ≠ .error .fuel → app' f args = app f args) :
    (e : Expr) → ∀ (env : Env), evalWith app env e ≠ .error .fuel → evalWith app' env e = evalWith app env e :=
  evalWith_carried settles_carried H

theorem evalArgs_mono {app app' : Val → List Val → Res Val}
    (H : ∀ f args, app f args ≠ .error .fuel → app' f args = app f args) :
    (as : List Expr) → ∀ (env : Env), evalArgs app env as ≠ .error .fuel → evalArgs app' env as = evalArgs app env as :=
  evalArgs_carried settles_carried H

theorem applyFn_builtin (fuel : Nat) (b : Builtin) (args : List Val) :
    applyFn (fuel + 1) (.builtin b) args =
      if args.length > b.want args.length then .error .error
      else if args.length == b.want args.length then
        match convertAll (b.paramsAt args.length) args with
        | .error e => .error e
        | .ok cs => match b.step cs with
          | .value v => .ok v
          | .fail => .error .error
          | .tail g xs => applyFn fuel g xs
      else .ok (.part (.builtin b) args []) := rfl

theorem applyFn_closure (fuel : Nat) (ps : List String) (body : Expr) (env : Env) (args : List Val) :
    applyFn (fuel + 1) (.closure ps body env) args =
      if args.length == ps.length then evalWith (applyFn fuel) (ps.zip args ++ env) body
      else if args.length < ps.length then .ok (.part (.closure ps body env) args [])
      else .error .error := rfl

theorem applyFn_part (fuel : Nat) (g : Val) (bs : List Val) (snap : List (Nat × Val)) (args : List Val) :
    applyFn (fuel + 1) (.part g bs snap) args =
      match g.arity with
      | none => .error .error
      | some m =>
        if args.length + bs.length == m then applyFn fuel g (args ++ bs)
        else if args.length + bs.length < m then .ok (.part (.part g bs snap) args [])
        else .error .error := rfl

theorem want_nonvar {b : Builtin} (h : b.variadic = none) (n : Nat) : b.want n = b.arity := by
  simp [Builtin.want, Builtin.arity, h]

theorem lt_arity_of_lt_want {b : Builtin} {n : Nat} (h : n < b.want n) : n < b.arity := by
  unfold Builtin.want at h
  unfold Builtin.arity
  cases hv : b.variadic with
  | none => simpa [hv] using h
  | some t =>
    simp only [hv] at h ⊢
    split at h <;> omega

/-- "out of fuel" has to be below every outcome: that is the step from no fuel to some -/
theorem applyFn_carried {Q : {α : Type} → Res α → Res α → Prop} (hQ : Carried @Q)
    (hfuel : ∀ {α : Type} (x' : Res α), Q x' (.error .fuel)) :
    ∀ (n : Nat) (f : Val) (args : List Val), Q (applyFn (n + 1) f args) (applyFn n f args)
  | 0, _, _ => hfuel _
  | n + 1, f, args => by
    have ih := applyFn_carried hQ hfuel n
    cases f with
    | builtin b =>
      rw [applyFn_builtin, applyFn_builtin]
      refine ite_carried hQ.err (ite_carried ?_ (hQ.ok _))
      cases hcs : convertAll (b.paramsAt args.length) args with
      | error e => cases Builtins.convertAll_err hcs; exact hQ.err
      | ok cs =>
        dsimp only
        cases b.step cs with
        | value v => exact hQ.ok _
        | fail => exact hQ.err
        | tail g xs => exact ih g xs
    | closure ps body env =>
      rw [applyFn_closure, applyFn_closure]
      exact ite_carried (evalWith_carried hQ ih body _) (ite_carried (hQ.ok _) hQ.err)
    | part g bs snap =>
      rw [applyFn_part, applyFn_part]
      cases g.arity with
      | none => exact hQ.err
      | some m => exact ite_carried (ih _ _) (ite_carried (hQ.ok _) hQ.err)
    | int _ | str _ | query _ | other _ _ | pair _ _ | lam _ _ => exact hQ.err

theorem applyFn_mono (fuel : Nat) (f : Val) (args : List Val) :
    applyFn fuel f args ≠ .error .fuel → applyFn (fuel + 1) f args = applyFn fuel f args :=
  applyFn_carried settles_carried (fun _ h => absurd rfl h) fuel f args

theorem applyFn_mono_add (n k : Nat) (f : Val) (args : List Val) :
    Settles (applyFn (n + k) f args) (applyFn n f args) := by
  intro h
  induction k with
  | zero => rfl
  | succ k ih => rw [← Nat.add_assoc, applyFn_mono (n + k) f args (by rw [ih]; exact h), ih]

/-- More fuel never changes an outcome that is not "out of fuel". -/
theorem interp_mono (fuel k : Nat) (e : Expr) (h : interp fuel e ≠ .error .fuel) :
    interp (fuel + k) e = interp fuel e := by
  unfold interp at h ⊢
  split
  · rename_i hw
    rw [if_pos hw] at h
    exact evalWith_mono (applyFn_mono_add fuel k) e [] h
  · rfl

def Refines (e' e : Expr) : Prop :=
  ∀ (fuel : Nat) (env : Env), Settles (evalWith (applyFn fuel) env e') (evalWith (applyFn fuel) env e)

def RefinesArgs (as' as : List Expr) : Prop :=
  ∀ (fuel : Nat) (env : Env), Settles (evalArgs (applyFn fuel) env as') (evalArgs (applyFn fuel) env as)

theorem Refines.refl (e : Expr) : Refines e e := fun _ _ _ => rfl

theorem Refines.trans {a b c : Expr} (h1 : Refines a b) (h2 : Refines b c) : Refines a c :=
  fun fuel env h => (h1 fuel env (by rw [h2 fuel env h]; exact h)).trans (h2 fuel env h)

theorem RefinesArgs.refl (as : List Expr) : RefinesArgs as as := fun _ _ _ => rfl

theorem RefinesArgs.cons {a' a : Expr} {as' as : List Expr} (h1 : Refines a' a) (h2 : RefinesArgs as' as) :
    RefinesArgs (a' :: as') (a :: as) := by
  intro fuel env h
  rw [evalArgs_cons] at h ⊢
  rw [evalArgs_cons]
  exact bind_mono (h1 fuel env) (fun v => bind_mono (h2 fuel env) fun _ _ => rfl) h

theorem Refines.call_args {as' as : List Expr} (f : Expr) (p p' : Bool) (h : RefinesArgs as' as) :
    Refines (.call f as' p') (.call f as p) := by
  intro fuel env hne
  rw [evalWith_call] at hne ⊢
  rw [evalWith_call]
  exact bind_mono (h fuel env) (fun _ _ => rfl) hne

/-- one-hole contexts through argument positions of calls -/
inductive ArgCtx where
  | hole
  | arg (f : Expr) (pre : List Expr) (c : ArgCtx) (post : List Expr) (p : Bool)

def ArgCtx.fill : ArgCtx → Expr → Expr
  | .hole, e => e
  | .arg f pre c post p, e => .call f (pre ++ c.fill e :: post) p

theorem RefinesArgs.mid {a' a : Expr} (pre post : List Expr) (h : Refines a' a) :
    RefinesArgs (pre ++ a' :: post) (pre ++ a :: post) := by
  induction pre with
  | nil => exact RefinesArgs.cons h (RefinesArgs.refl post)
  | cons x pre ih => exact RefinesArgs.cons (Refines.refl x) ih

theorem Refines.fill {e' e : Expr} (h : Refines e' e) : ∀ (c : ArgCtx), Refines (c.fill e') (c.fill e)
  | .hole => h
  | .arg f pre c post p => Refines.call_args f p p (RefinesArgs.mid pre post (Refines.fill h c))

theorem beta0_eval (fuel : Nat) (env : Env) (b : Expr) (p : Bool) :
    evalWith (applyFn (fuel + 1)) env (.call (.lam [] b) [] p) = evalWith (applyFn fuel) env b := rfl

theorem beta0_refines (b : Expr) (p : Bool) : Refines b (.call (.lam [] b) [] p) := by
  intro fuel env h
  cases fuel with
  | zero => exact absurd rfl h
  | succ k =>
    rw [beta0_eval] at h ⊢
    exact evalWith_mono (applyFn_mono k) b env h

theorem evalArgs_lits (app : Val → List Val → Res Val) (env : Env) :
    ∀ (ls : List Lit), evalArgs app env (ls.map Expr.lit) = .ok (ls.map Lit.toVal)
  | [] => rfl
  | l :: ls => by simp only [List.map, evalArgs, evalWith, evalArgs_lits app env ls]

theorem evalWith_call_lits {s : String} {b : Builtin} (hb : Builtin.ofName s = some b)
    (app : Val → List Val → Res Val) (env : Env) (ls : List Lit) (p : Bool) :
    evalWith app env (.call (.sym s) (ls.map Expr.lit) p) = app (.builtin b) (ls.map Lit.toVal) := by
  simp only [evalWith, evalArgs_lits, hb]

theorem call_lits_refines {s : String} {b : Builtin} (hb : Builtin.ofName s = some b) (ls : List Lit) (l : Lit)
    (p : Bool) (hv : ∀ k, applyFn (k + 1) (.builtin b) (ls.map Lit.toVal) = .ok l.toVal) :
    Refines (.lit l) (.call (.sym s) (ls.map Expr.lit) p) := by
  intro fuel env h
  rw [evalWith_call_lits hb] at h ⊢
  cases fuel with
  | zero => exact absurd rfl h
  | succ k => rw [hv k]; rfl

def SameStatics (e' e : Expr) : Prop := (∀ bound, wfAt bound e' = wfAt bound e) ∧ e'.numParams = e.numParams

theorem wfsAt_mid {a' a : Expr} (bound : List String) (h : wfAt bound a' = wfAt bound a) :
    ∀ (pre post : List Expr), wfsAt bound (pre ++ a' :: post) = wfsAt bound (pre ++ a :: post)
  | [], post => by simp [wfsAt, h]
  | x :: pre, post => by simp [wfsAt, wfsAt_mid bound h pre post]

theorem numParamss_mid {a' a : Expr} (h : a'.numParams = a.numParams) :
    ∀ (pre post : List Expr), Expr.numParamss (pre ++ a' :: post) = Expr.numParamss (pre ++ a :: post)
  | [], post => by simp [Expr.numParamss, h]
  | x :: pre, post => by simp [Expr.numParamss, numParamss_mid h pre post]

theorem SameStatics.fill {e' e : Expr} (h : SameStatics e' e) : ∀ (c : ArgCtx), SameStatics (c.fill e') (c.fill e)
  | .hole => h
  | .arg f pre c post p => by
    have ih := SameStatics.fill h c
    refine ⟨fun bound => ?_, ?_⟩
    · simp only [ArgCtx.fill, wfAt, wfsAt_mid bound (ih.1 bound) pre post]
    · simp only [ArgCtx.fill, Expr.numParams, numParamss_mid ih.2 pre post]

theorem interp_refines {e' e : Expr} (h : Refines e' e) (hs : SameStatics e' e) (fuel : Nat)
    (hne : interp fuel e ≠ .error .fuel) : interp fuel e' = interp fuel e := by
  have hw : wellFormed e' = wellFormed e := by simp [wellFormed, hs.1 [], hs.2]
  unfold interp at hne ⊢
  rw [hw]
  split
  · rename_i hwf
    simp only [hwf, if_true] at hne
    exact h fuel [] hne
  · rfl

theorem beta0_statics (b : Expr) (p : Bool) : SameStatics b (.call (.lam [] b) [] p) :=
  ⟨fun bound => by simp [wfAt, wfsAt], by simp [Expr.numParams, Expr.numParamss]⟩

theorem call_lits_statics {s : String} {b : Builtin} (hb : Builtin.ofName s = some b) (ls : List Lit) (l : Lit)
    (p : Bool) : SameStatics (.lit l) (.call (.sym s) (ls.map Expr.lit) p) := by
  have h : (∀ bound, wfsAt bound (ls.map Expr.lit) = true) ∧ Expr.numParamss (ls.map Expr.lit) = 0 := by
    induction ls with
    | nil => exact ⟨fun _ => rfl, rfl⟩
    | cons _ _ ih =>
      exact ⟨fun bound => by simp only [List.map, wfsAt, wfAt, ih.1, Bool.and_self],
        by simp only [List.map, Expr.numParamss, Expr.numParams, ih.2]⟩
  obtain ⟨h1, h2⟩ := h
  exact ⟨fun bound => by simp only [wfAt, h1, hb, Option.isSome_some, Bool.and_self],
    by simp only [Expr.numParams, h2]⟩

theorem call_lits_context {s : String} {b : Builtin} (hb : Builtin.ofName s = some b) (ls : List Lit) (l : Lit)
    (p : Bool) (hv : ∀ k, applyFn (k + 1) (.builtin b) (ls.map Lit.toVal) = .ok l.toVal) (c : ArgCtx) (fuel : Nat)
    (h : interp fuel (c.fill (.call (.sym s) (ls.map Expr.lit) p)) ≠ .error .fuel) :
    interp fuel (c.fill (.lit l)) = interp fuel (c.fill (.call (.sym s) (ls.map Expr.lit) p)) :=
  interp_refines ((call_lits_refines hb ls l p hv).fill c) ((call_lits_statics hb ls l p).fill c) fuel h

end B6.Lemmas.InterpFuel
