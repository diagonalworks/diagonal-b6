import B6.Lemmas.Search
/-!
# `union` refines the cursor over the union of its children's lists (C06)

Invariant (`Heap`): with `u` the current element of the spec cursor, every live child sits on a
value `≥ u` (`Live`), and every element `≥ u` of the union is still *pending* (at or after the cursor) in some live child
(`Pending`).
The proof never looks at the order of the live children, so it does not depend on the heap layout.
-/
namespace B6.Lemmas.Search
open B6.Spec.Cursor B6.Spec.SearchQuery B6.Model.Search

theorem splitMin_none {α : Type} (key : α → Nat) (l : List α) : splitMin key l = none ↔ l = [] := by
  fun_induction splitMin key l with
  | case1 => exact ⟨fun _ => rfl, fun _ => rfl⟩
  | case2 a l hs => exact ⟨nofun, nofun⟩
  | case3 a l pre m post hs hle ih => exact ⟨nofun, nofun⟩
  | case4 a l pre m post hs hle ih => exact ⟨nofun, nofun⟩

theorem splitMin_spec {α : Type} (key : α → Nat) (l : List α) : ∀ {pre : List α} {m : α} {post : List α},
    splitMin key l = some (pre, m, post) → l = pre ++ m :: post ∧ ∀ x ∈ l, key m ≤ key x := by
  intro pre m post h
  fun_induction splitMin key l generalizing pre m post with
  | case1 => cases h
  | case2 a l hs =>
    cases h
    rw [(splitMin_none key l).1 hs]
    exact ⟨rfl, fun x hx => by rw [List.mem_singleton.1 hx]; exact Nat.le_refl _⟩
  | case3 a l pre' m' post' hs hle ih =>
    cases h
    refine ⟨rfl, fun x hx => ?_⟩
    rcases List.mem_cons.1 hx with rfl | hx
    · exact Nat.le_refl _
    · exact Nat.le_trans hle ((ih hs).2 x hx)
  | case4 a l pre' m' post' hs hle ih =>
    cases h
    obtain ⟨ih1, ih2⟩ := ih hs
    refine ⟨by rw [ih1]; rfl, fun x hx => ?_⟩
    rcases List.mem_cons.1 hx with rfl | hx
    · exact Nat.le_of_lt (Nat.lt_of_not_le hle)
    · exact ih2 x hx

theorem splitMin_map {α β : Type} (f : α → β) (key : β → Nat) :
    ∀ l : List α, splitMin key (l.map f) =
      (splitMin (fun a => key (f a)) l).map (fun p => (p.1.map f, f p.2.1, p.2.2.map f))
  | [] => rfl
  | a :: l => by
    simp only [List.map_cons, splitMin]
    rw [splitMin_map f key l]
    cases splitMin (fun a => key (f a)) l with
    | none => simp
    | some p =>
      obtain ⟨pre, m, post⟩ := p
      simp only [Option.map_some]
      split <;> simp

/-! ## children paired with their spec cursors -/

/-- a live child as the proof sees it: its state `s`, the value `v` it is on (what the heap stores), and `c`, the spec
cursor it refines.  `c` is a ghost: the model never computes it. -/
structure Child (σ : Type) where
  s : σ
  v : Nat
  c : Cursor

variable {σ : Type}

def liveOf (ts : List (Child σ)) : List (σ × Nat) := ts.map (fun t => (t.s, t.v))

def Good (o : IterOps σ) (t : Child σ) : Prop := RefinesAt o t.s t.c ∧ t.c.cur = some t.v

theorem Good.at {o : IterOps σ} {t : Child σ} (h : Good o t) : At o t.s t.c.xs (some t.v) := ⟨t.c, h.1, rfl, h.2⟩

theorem liveOf_append (a b : List (Child σ)) : liveOf (a ++ b) = liveOf a ++ liveOf b := by
  simp [liveOf]

theorem splitMin_liveOf (ts : List (Child σ)) :
    splitMin (·.2) (liveOf ts) =
      (splitMin Child.v ts).map (fun p => (liveOf p.1, (p.2.1.s, p.2.1.v), liveOf p.2.2)) := by
  unfold liveOf
  rw [splitMin_map]

theorem liveOf_length (ts : List (Child σ)) : (liveOf ts).length = ts.length := by simp [liveOf]

def Live (o : IterOps σ) (M : List Nat) (u : Nat) (t : Child σ) : Prop :=
  Good o t ∧ u ≤ t.v ∧ ∀ x ∈ t.c.xs, x ∈ M

def Pending (ts : List (Child σ)) (S : List Nat) (u : Nat) : Prop :=
  ∀ x ∈ S, u ≤ x → ∃ t ∈ ts, x ∈ t.c.xs ∧ t.v ≤ x

theorem Live.mono {o : IterOps σ} {M : List Nat} {u u' : Nat} {t : Child σ} (h : u' ≤ u) (hl : Live o M u t) :
    Live o M u' t :=
  ⟨hl.1, Nat.le_trans h hl.2.1, hl.2.2⟩

theorem Pending.mono {ts : List (Child σ)} {S : List Nat} {u u' : Nat} (h : u ≤ u') (hp : Pending ts S u) :
    Pending ts S u' :=
  fun x hx hux => hp x hx (Nat.le_trans h hux)

def Heap (o : IterOps σ) (ts : List (Child σ)) (M : List Nat) (u : Nat) : Prop :=
  (∀ t ∈ ts, Live o M u t) ∧ Pending ts M u

theorem Heap.top {o : IterOps σ} {ts pre post : List (Child σ)} {m : Child σ} {M : List Nat} {u : Nat}
    (h : Heap o ts M u) (hs : splitMin Child.v ts = some (pre, m, post)) : LeastGE M u m.v ∧ Heap o ts M m.v := by
  obtain ⟨hts, hmin⟩ := splitMin_spec Child.v ts hs
  obtain ⟨hg, hum, hmM⟩ := h.1 m (by rw [hts]; simp)
  refine ⟨⟨hmM _ hg.at.mem, hum, fun y hy huy => ?_⟩, fun t ht => ⟨(h.1 t ht).1, hmin t ht, (h.1 t ht).2.2⟩,
    h.2.mono hum⟩
  obtain ⟨t, ht, _, hty⟩ := h.2 y hy huy
  exact Nat.le_trans (hmin t ht) hty

/-- the current element `u` of the union is pending, so the heap is not empty and its top is on `u` -/
theorem Heap.top_eq {o : IterOps σ} {ts : List (Child σ)} {M : List Nat} {u : Nat} (h : Heap o ts M u) (hu : u ∈ M) :
    ∃ pre m post, splitMin Child.v ts = some (pre, m, post) ∧ m.v = u := by
  cases hs : splitMin Child.v ts with
  | none =>
    obtain ⟨t, ht, _⟩ := h.2 u hu (Nat.le_refl _)
    rw [(splitMin_none _ _).1 hs] at ht
    cases ht
  | some p =>
    obtain ⟨pre, m, post⟩ := p
    exact ⟨pre, m, post, rfl, (h.top hs).1.unique ⟨hu, Nat.le_refl _, fun _ _ h => h⟩⟩

/-- what `union` keeps over the union `M`: before `start()` children that have not moved and cover `M`; afterwards
the heap at the current element -/
def UnionAt (o : IterOps σ) : UnionState σ → List Nat → Option Nat → Prop
  | .fresh its, M, cu => cu = none ∧ ∃ ps : List (σ × List Nat), its = ps.map (·.1) ∧
      (∀ p ∈ ps, At o p.1 p.2 none ∧ ∀ x ∈ p.2, x ∈ M) ∧ ∀ x ∈ M, ∃ p ∈ ps, x ∈ p.2
  | .live l, M, cu => ∃ ts u, l = liveOf ts ∧ cu = some u ∧ Heap o ts M u

/-- Generic invariant of `Union.loop`: `step` moves a child to its least element `≥ t₀`, `cond v` says
`v < t₀` (for values `≥ u`).  The loop raises the heap's threshold from `u` to `t₀` (the children are live at `u`,
what is `≥ t₀` is pending); the fuel has to exceed the number of children below `t₀`. -/
theorem loop_spec (o : IterOps σ) (cond : Nat → Bool) (step : σ → Res σ) (t₀ u : Nat) (M : List Nat)
    (hcond : ∀ v, u ≤ v → (cond v = true ↔ v < t₀))
    (hstep : ∀ t : Child σ, Good o t → u ≤ t.v → t.v < t₀ → Lands (At o) (step t.s) t.c.xs t₀) :
    ∀ (f : Nat) (ts : List (Child σ)), ts.countP (fun t => decide (t.v < t₀)) < f →
      (∀ t ∈ ts, Live o M u t) → Pending ts M t₀ →
      ∃ ts', Union.loop o cond step f (liveOf ts) = .ok (liveOf ts') ∧ Heap o ts' M t₀ := by
  intro f
  induction f with
  | zero => exact fun _ hf => absurd hf (Nat.not_lt_zero _)
  | succ f ih =>
    intro ts hf hlive hpend
    unfold Union.loop
    rw [splitMin_liveOf]
    cases hs : splitMin Child.v ts with
    | none =>
      have : ts = [] := (splitMin_none _ _).1 hs
      subst this
      exact ⟨[], rfl, ⟨fun _ h => (nomatch h), hpend⟩⟩
    | some p =>
      obtain ⟨pre, m, post⟩ := p
      obtain ⟨hts, hmin⟩ := splitMin_spec Child.v ts hs
      subst hts
      obtain ⟨hgood, hum, hmM⟩ := hlive m (by simp)
      simp only [Option.map_some]
      by_cases hc : cond m.v = true
      · have hlt : m.v < t₀ := (hcond m.v hum).1 hc
        rw [if_pos hc]
        -- the stepped top is replaced by `new`: the child on its next value, or nothing when it ran out
        have hrec : ∀ new : List (Child σ), (∀ t ∈ new, Live o M t₀ t) → Pending new m.c.xs t₀ →
            ∃ ts', Union.loop o cond step f (liveOf (pre ++ new ++ post)) = .ok (liveOf ts') ∧ Heap o ts' M t₀ := by
          intro new hnew hmoved
          have h0 : new.countP (fun t => decide (t.v < t₀)) = 0 :=
            List.countP_eq_zero.2 fun t ht => by simpa using (hnew t ht).2.1
          apply ih
          · simp only [List.countP_append, List.countP_cons, hlt, decide_true, ↓reduceIte, h0] at hf ⊢
            omega
          · intro t ht
            simp only [List.mem_append] at ht
            rcases ht with (ht | ht) | ht
            · exact hlive t (by simp [ht])
            · exact (hnew t ht).mono (Nat.le_of_lt (Nat.lt_of_le_of_lt hum hlt))
            · exact hlive t (by simp [ht])
          · intro x hx htx
            obtain ⟨t, ht, hxt, hvx⟩ := hpend x hx htx
            simp only [List.mem_append, List.mem_cons] at ht
            rcases ht with ht | rfl | ht
            · exact ⟨t, by simp [ht], hxt, hvx⟩
            · obtain ⟨t', ht', h1, h2⟩ := hmoved x hxt htx
              exact ⟨t', by simp [ht'], h1, h2⟩
            · exact ⟨t, by simp [ht], hxt, hvx⟩
        obtain ⟨s', ⟨hr, hall⟩ | ⟨x', hr, hx', c', hrc, hxs', hcx'⟩⟩ := hstep m hgood hum hlt
        · rw [hr]
          have := hrec [] (fun _ h => (nomatch h)) (fun x hx htx => absurd (hall x hx) (Nat.not_lt.2 htx))
          rw [List.append_nil, liveOf_append] at this
          exact this
        · rw [hr]
          simp only [At.value ⟨c', hrc, hxs', hcx'⟩]
          have := hrec [⟨s', x', c'⟩]
            (fun t ht => by
              rw [List.mem_singleton.1 ht]
              exact ⟨⟨hrc, hcx'⟩, hx'.2.1, fun x hx => hmM x (hxs' ▸ hx)⟩)
            (fun x hx htx => ⟨⟨s', x', c'⟩, by simp, by rw [hxs']; exact hx, hx'.2.2 x hx htx⟩)
          rw [liveOf_append, liveOf_append, List.append_assoc] at this
          exact this
      · rw [if_neg hc]
        have hge : t₀ ≤ m.v := Nat.le_of_not_lt fun h => hc ((hcond m.v hum).2 h)
        exact ⟨_, rfl, fun t ht => ⟨(hlive t ht).1, Nat.le_trans hge (hmin t ht), (hlive t ht).2.2⟩, hpend⟩

/-- once every live child is `≥ t₀`: "heap not empty" is what the cursor answers for the target `t₀` -/
theorem finish_lands {o : IterOps σ} {ts : List (Child σ)} {M : List Nat} {t₀ : Nat} (h : Heap o ts M t₀) :
    Lands (UnionAt o) (Union.finish (.ok (liveOf ts))) M t₀ := by
  refine ⟨.live (liveOf ts), ?_⟩
  cases hs : splitMin Child.v ts with
  | none =>
    have : ts = [] := (splitMin_none _ _).1 hs
    subst this
    refine Or.inl ⟨rfl, fun y hy => Nat.lt_of_not_le fun hty => ?_⟩
    obtain ⟨t, ht, _⟩ := h.2 y hy hty
    cases ht
  | some p =>
    obtain ⟨pre, m, post⟩ := p
    obtain ⟨hl, hh⟩ := h.top hs
    have : (liveOf ts).isEmpty = false := by
      rw [(splitMin_spec Child.v ts hs).1]; simp [liveOf]
    exact Or.inr ⟨m.v, by simp [Union.finish, this], hl, ts, m.v, rfl, rfl, hh⟩

theorem start_spec (o : IterOps σ) (M : List Nat) :
    ∀ ps : List (σ × List Nat), (∀ p ∈ ps, At o p.1 p.2 none ∧ ∀ x ∈ p.2, x ∈ M) →
      ∃ ts, Union.start o (ps.map (·.1)) = .ok (liveOf ts) ∧
        (∀ t ∈ ts, Live o M 0 t) ∧ ∀ p ∈ ps, Pending ts p.2 0 := by
  intro ps
  induction ps with
  | nil => exact fun _ => ⟨[], rfl, fun _ h => (nomatch h), fun _ h => (nomatch h)⟩
  | cons p ps ih =>
    intro h
    obtain ⟨⟨hat, hM⟩, hrest⟩ := List.forall_mem_cons.mp h
    obtain ⟨ts, ih1, ih2, ih3⟩ := ih hrest
    simp only [List.map_cons, Union.start]
    obtain ⟨s', ⟨hr, hall⟩ | ⟨x', hr, hx', c', hrc, hxs', hcx'⟩⟩ := hat.next
    · rw [hr]
      refine ⟨ts, ih1, ih2, fun q hq x hx => ?_⟩
      rcases List.mem_cons.1 hq with rfl | hq
      · exact absurd (hall x hx) (Nat.not_lt_zero _)
      · exact ih3 q hq x hx
    · rw [hr]
      simp only [At.value ⟨c', hrc, hxs', hcx'⟩, ih1]
      refine ⟨⟨s', x', c'⟩ :: ts, rfl, ?_, fun q hq x hx h0 => ?_⟩
      · intro t ht
        rcases List.mem_cons.1 ht with rfl | ht
        · exact ⟨⟨hrc, hcx'⟩, Nat.zero_le _, fun x hx => hM x (hxs' ▸ hx)⟩
        · exact ih2 t ht
      · rcases List.mem_cons.1 hq with rfl | hq
        · exact ⟨⟨s', x', c'⟩, by simp, by rw [hxs']; exact hx, hx'.2.2 x hx (Nat.zero_le _)⟩
        · obtain ⟨t, ht, h3, h4⟩ := ih3 q hq x hx h0
          exact ⟨t, List.mem_cons_of_mem _ ht, h3, h4⟩

theorem advanceLive_lands (o : IterOps σ) {ts : List (Child σ)} {M : List Nat} {u k : Nat} (hk : o.dom k)
    (h : Heap o ts M u) : Lands (UnionAt o) (Union.advanceLive o k (liveOf ts)) M (max k u) := by
  obtain ⟨ts', hl, hh⟩ := loop_spec o (· < k) (o.advance k) (max k u) u M
    (by intro v _; simp; omega)
    (by
      intro t htg _ hlt
      have := htg.at.advance hk
      rwa [show max k ((some t.v).getD 0) = max k u by simp only [Option.getD_some]; omega] at this)
    (ts.length + 1) ts (Nat.lt_succ_of_le List.countP_le_length)
    h.1 (h.2.mono (Nat.le_max_right k u))
  unfold Union.advanceLive
  rw [liveOf_length, hl]
  exact finish_lands hh

theorem union_lands (o : IterOps σ) : ∀ (st : UnionState σ) (M : List Nat) (cu : Option Nat), UnionAt o st M cu →
    (∀ u, cu = some u → u ∈ M) →
    Lands (UnionAt o) (Union.next o st) M (after cu) ∧
    ∀ k, o.dom k → Lands (UnionAt o) (Union.advance o k st) M (max k (cu.getD 0))
  | .fresh _, M, _, ⟨rfl, ps, rfl, hps, hcov⟩, _ => by
    obtain ⟨ts, hs, hlive, hpend⟩ := start_spec o M ps hps
    have hh : Heap o ts M 0 :=
      ⟨hlive, fun x hx h0 => let ⟨p, hp, hxp⟩ := hcov x hx; hpend p hp x hxp h0⟩
    simp only [Union.next, Union.advance, hs]
    refine ⟨finish_lands hh, fun k hk => ?_⟩
    simpa only [Option.getD_none] using advanceLive_lands o hk hh
  | .live _, M, _, ⟨ts, u, rfl, rfl, hh⟩, hmem => by
    refine ⟨?_, fun k hk => advanceLive_lands o hk hh⟩
    -- the heap top is on the current element `u`; `Next` steps every child that is on `u`
    obtain ⟨pre, m, post, hs, hmu⟩ := hh.top_eq (hmem u rfl)
    obtain ⟨ts', hl, hh'⟩ := loop_spec o (· == u) o.next (u + 1) u M
      (by intro v hv; simp; omega)
      (by
        intro t htg hut hlt
        have := htg.at.next
        rwa [show after (some t.v) = u + 1 by simp only [after]; omega] at this)
      (ts.length + 1) ts
      (Nat.lt_succ_of_le List.countP_le_length)
      hh.1 (hh.2.mono (Nat.le_succ u))
    simp only [Union.next, splitMin_liveOf, hs, Option.map_some, hmu, liveOf_length, hl]
    exact finish_lands hh'

theorem union_value {o : IterOps σ} {st : UnionState σ} {M : List Nat} {u : Nat} (h : UnionAt o st M (some u))
    (hu : u ∈ M) : Union.value st = some u := by
  cases st with
  | fresh its => exact absurd h.1 (by simp)
  | live l =>
    obtain ⟨ts, u', rfl, hu', hh⟩ := h
    cases hu'
    obtain ⟨pre, m, post, hs, hmu⟩ := hh.top_eq hu
    simp [Union.value, splitMin_liveOf, hs, hmu]

/-- The union theorem, with the children as a family: state `f a` refining the cursor of `g a`.  `union_refines`,
`union_refines_map` and `union_of_postings` are instances. -/
theorem union_refines_fam {α : Type} (o : IterOps σ) (l : List α) (f : α → σ) (g : α → List Nat) (ys : List Nat)
    (hch : ∀ a ∈ l, Refines o (f a) (g a)) (hys : StrictSorted ys) (hmem : ∀ x, x ∈ ys ↔ ∃ a ∈ l, x ∈ g a) :
    Refines (Union.ops o) (.fresh (l.map f)) ys :=
  refinesAt_of_lands (V := UnionAt o) (fun _ _ _ hu hV => union_value hV hu)
    (fun st M cu _ hm hV => union_lands o st M cu hV hm)
    hys ⟨rfl, l.map fun a => (f a, g a), by rw [List.map_map]; rfl,
      List.forall_mem_map.2 fun a ha => ⟨At.of_refines (hch a ha), fun x hx => (hmem x).2 ⟨a, ha, hx⟩⟩,
      fun x hx => by
        obtain ⟨a, ha, hxa⟩ := (hmem x).1 hx
        exact ⟨_, List.mem_map.2 ⟨a, ha, rfl⟩, hxa⟩⟩

theorem union_refines (o : IterOps σ) (ps : List (σ × List Nat)) (ys : List Nat)
    (hch : ∀ p ∈ ps, Refines o p.1 p.2) (hys : StrictSorted ys)
    (hmem : ∀ x, x ∈ ys ↔ ∃ p ∈ ps, x ∈ p.2) :
    Refines (Union.ops o) (.fresh (ps.map (·.1))) ys :=
  union_refines_fam o ps (·.1) (·.2) ys hch hys hmem

end B6.Lemmas.Search
