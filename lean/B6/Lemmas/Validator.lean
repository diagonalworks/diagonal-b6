import B6.Lemmas.Validate
/-!
C37, about the structure `Validator` of `Model/Validate.lean` (`feed`, `checkArea`, `drainQueue`, `run`; NOT about
`Model/Validator.lean`, the arrival-order model of C36, whose lemmas are in `Lemmas/ValidatorPerm.lean`): what one
`feed` does (`feed_path`, `feed_area`, `drainStep_cases`) and the invariant `PathsOK` / `Emitted` it keeps, so that
everything the validator emits is valid (`run_inv`, `run_emitted`).
-/
namespace B6.Lemmas.Validator
open B6.Model.Validate B6.Lemmas.Validate

theorem state_set (v : Validator) (id id' : Id) (s : VState) :
    (v.set id s).state id' = if id' = id then some s else v.state id' := by
  have L := (Basic.isLookup_find? (Prod.fst : Id × VState → Id)).map Prod.snd
  have h1 := L.cons (id, s) (v.paths.filter fun p => decide (p.1 ≠ id)) id'
  have h2 := L.filter_ne (p := fun p => decide (p.1 ≠ id)) (k := id) (fun _ => decide_eq_true_iff) v.paths id'
  dsimp only at h1 h2
  refine h1.trans ?_
  rw [h2]
  by_cases h : id' = id
  · rw [if_pos h.symm, if_pos h]
  · rw [if_neg (Ne.symm h), if_neg h, if_neg h]; rfl

/-- one step of `validateArea`'s loop -/
def checkStep (acc : Validator × VState) (pid : Id) : Validator × VState :=
  match acc.1.state pid with
  | some s =>
    if s = .invalid || s = .validNotLoop then (acc.1, .invalid)
    else if s = .unknown && acc.2 = .valid then (acc.1, .unknown)
    else (acc.1, acc.2)
  | none => (acc.1.set pid .unknown, if acc.2 = .valid then .unknown else acc.2)

theorem checkArea_eq (v : Validator) (polys : List (List Id)) :
    v.checkArea polys = polys.flatten.foldl checkStep (v, .valid) := by
  unfold Validator.checkArea
  congr 1

/-- `v'` knows the same paths to be valid loops as `v`, over the same points -/
structure SameValid (v' v : Validator) : Prop where
  state : ∀ id, v'.state id = some .valid ↔ v.state id = some .valid
  points : v'.points = v.points

theorem SameValid.refl (v : Validator) : SameValid v v := ⟨fun _ => Iff.rfl, rfl⟩

theorem SameValid.trans {a b c : Validator} (h1 : SameValid a b) (h2 : SameValid b c) : SameValid a c :=
  ⟨fun id => (h1.state id).trans (h2.state id), h1.points.trans h2.points⟩

theorem checkStep_spec (acc : Validator × VState) (pid : Id) :
    SameValid (checkStep acc pid).1 acc.1 ∧ (checkStep acc pid).1.queue = acc.1.queue ∧
    ((checkStep acc pid).2 = .valid → acc.2 = .valid ∧ acc.1.state pid = some .valid) := by
  fun_cases checkStep acc pid with
  | case1 s hs hb => exact ⟨.refl _, rfl, nofun⟩
  | case2 s hs hb hu => exact ⟨.refl _, rfl, nofun⟩
  | case3 s hs hb hu =>  -- `s` is none of invalid, validNotLoop, unknown: it is valid
    exact ⟨.refl _, rfl, fun h => ⟨h, by cases s <;> simp_all⟩⟩
  | case4 hs =>
    refine ⟨⟨fun id => ?_, rfl⟩, rfl, fun h => ?_⟩
    · simp only [state_set]
      by_cases h : id = pid
      · subst h; simp [hs]
      · simp [h]
    · split at h
      · cases h
      · rename_i hne; exact absurd h hne

theorem checkFold_spec : ∀ (ids : List Id) (acc : Validator × VState),
    SameValid (ids.foldl checkStep acc).1 acc.1 ∧ (ids.foldl checkStep acc).1.queue = acc.1.queue ∧
    ((ids.foldl checkStep acc).2 = .valid → acc.2 = .valid ∧ ∀ pid ∈ ids, acc.1.state pid = some .valid) := by
  intro ids
  induction ids with
  | nil => intro acc; exact ⟨.refl _, rfl, fun h => ⟨h, by intro p hp; cases hp⟩⟩
  | cons a ids ih =>
    intro acc
    simp only [List.foldl_cons]
    obtain ⟨h1, h3, h4⟩ := ih (checkStep acc a)
    obtain ⟨s1, s3, s4⟩ := checkStep_spec acc a
    refine ⟨h1.trans s1, h3.trans s3, ?_⟩
    intro h
    obtain ⟨h5, h6⟩ := h4 h
    obtain ⟨h7, h8⟩ := s4 h5
    refine ⟨h7, ?_⟩
    intro pid hp
    rcases List.mem_cons.mp hp with rfl | hp
    · exact h8
    · exact (s1.state pid).mp (h6 pid hp)

theorem checkArea_spec (v : Validator) (polys : List (List Id)) :
    SameValid (v.checkArea polys).1 v ∧ (v.checkArea polys).1.queue = v.queue ∧
    ((v.checkArea polys).2 = .valid → ∀ pid ∈ polys.flatten, v.state pid = some .valid) := by
  rw [checkArea_eq]
  obtain ⟨h1, h3, h4⟩ := checkFold_spec polys.flatten (v, .valid)
  exact ⟨h1, h3, fun h => (h4 h).2⟩

/-- an emitted area: all its paths are known to be valid loops -/
def AreaReady (v : Validator) (a : Feat) : Prop :=
  ∃ polys, a.geo = .area polys ∧ ∀ pid ∈ polys.flatten, v.state pid = some .valid

theorem drainStep_cases (acc : Validator × List Feat × List Feat) (a : Feat) :
    drainStep acc a = acc ∨ ∃ polys, a.geo = .area polys ∧ (drainStep acc a).1 = (acc.1.checkArea polys).1 ∧
      (((acc.1.checkArea polys).2 = .valid ∧ (drainStep acc a).2 = (acc.2.1, acc.2.2 ++ [a])) ∨
        (drainStep acc a).2 = (acc.2.1 ++ [a], acc.2.2) ∨ (drainStep acc a).2 = acc.2) := by
  fun_cases drainStep acc a with
  | case1 polys hg hv => exact .inr ⟨polys, hg, rfl, .inl ⟨hv, rfl⟩⟩
  | case2 polys hg hv hu => exact .inr ⟨polys, hg, rfl, .inr (.inl rfl)⟩
  | case3 polys hg hv hu => exact .inr ⟨polys, hg, rfl, .inr (.inr rfl)⟩
  | case4 => exact .inl rfl

theorem drainStep_spec (acc : Validator × List Feat × List Feat) (a : Feat) :
    SameValid (drainStep acc a).1 acc.1 ∧
    (∀ x ∈ (drainStep acc a).2.2, x ∈ acc.2.2 ∨ AreaReady acc.1 x) := by
  rcases drainStep_cases acc a with e | ⟨polys, hg, e1, e2⟩
  · rw [e]; exact ⟨.refl _, fun x hx => Or.inl hx⟩
  · obtain ⟨c1, _, c4⟩ := checkArea_spec acc.1 polys
    rw [e1]
    refine ⟨c1, fun x hx => ?_⟩
    rcases e2 with ⟨hv, e⟩ | e | e <;> rw [e] at hx
    · rcases List.mem_append.mp hx with hx | hx
      · exact Or.inl hx
      · rw [List.mem_singleton.mp hx]; exact Or.inr ⟨polys, hg, c4 hv⟩
    · exact Or.inl hx
    · exact Or.inl hx

theorem areaReady_congr {v v' : Validator} (h : SameValid v' v) {a : Feat} (ha : AreaReady v' a) : AreaReady v a := by
  obtain ⟨polys, h1, h2⟩ := ha
  exact ⟨polys, h1, fun pid hp => (h.state pid).mp (h2 pid hp)⟩

theorem drainFold_spec : ∀ (q : List Feat) (acc : Validator × List Feat × List Feat),
    SameValid (q.foldl drainStep acc).1 acc.1 ∧
    (∀ x ∈ (q.foldl drainStep acc).2.2, x ∈ acc.2.2 ∨ AreaReady acc.1 x) := by
  intro q acc
  refine q.foldlRecOn (motive := fun b => SameValid b.1 acc.1 ∧ ∀ x ∈ b.2.2, x ∈ acc.2.2 ∨ AreaReady acc.1 x) drainStep
    ⟨.refl _, fun _ hx => .inl hx⟩ fun b ⟨h1, h3⟩ a _ => ?_
  obtain ⟨s1, s3⟩ := drainStep_spec b a
  exact ⟨s1.trans h1, fun x hx => (s3 x hx).elim (h3 x) fun h => .inr (areaReady_congr h1 h)⟩

theorem drainQueue_spec (v : Validator) :
    SameValid v.drainQueue.1 v ∧ ∀ x ∈ v.drainQueue.2, AreaReady v x := by
  unfold Validator.drainQueue
  obtain ⟨h1, h3⟩ := drainFold_spec v.queue (v, [], [])
  refine ⟨⟨h1.state, h1.points⟩, ?_⟩
  intro x hx
  rcases h3 x hx with h | h
  · cases h
  · exact h

/-- `E` holds a version of path `pid` that is a closed loop -/
def LoopIn (pts : World) (E : List Feat) (pid : Id) : Prop :=
  ∃ refs, (⟨pid, .path refs⟩ : Feat) ∈ E ∧ isLoop pts refs = true

theorem LoopIn.mono {pts : World} {E E' : List Feat} {pid : Id} (h : LoopIn pts E pid) (hsub : ∀ x ∈ E, x ∈ E') :
    LoopIn pts E' pid :=
  let ⟨r, h1, h2⟩ := h
  ⟨r, hsub _ h1, h2⟩

/-- the paths the validator believes to be valid loops have been emitted as such -/
def PathsOK (pts : World) (v : Validator) (E : List Feat) : Prop :=
  ∀ id, v.state id = some .valid → LoopIn pts E id

/-- what the property demands of the emitted features -/
def Emitted (O : Oracle) (pts : World) (E : List Feat) : Prop :=
  (∀ i refs, (⟨i, .path refs⟩ : Feat) ∈ E → valid O pts ⟨i, .path refs⟩ = true) ∧
  (∀ i polys, (⟨i, .area polys⟩ : Feat) ∈ E → ∀ pid ∈ polys.flatten, LoopIn pts E pid)

theorem pathsOK_congr {v v' : Validator} (h : SameValid v' v) {pts : World} {E : List Feat} (hp : PathsOK pts v E) :
    PathsOK pts v' E :=
  fun id hid => hp id ((h.state id).mp hid)

theorem pathsOK_mono {pts : World} {v : Validator} {E E' : List Feat} (hp : PathsOK pts v E)
    (hsub : ∀ x ∈ E, x ∈ E') : PathsOK pts v E' :=
  fun id hid => (hp id hid).mono hsub

theorem emitted_area {pts : World} {v : Validator} {E : List Feat} (hp : PathsOK pts v E) {i : Id}
    {polys : List (List Id)} (ha : AreaReady v ⟨i, .area polys⟩) : ∀ pid ∈ polys.flatten, LoopIn pts E pid := by
  obtain ⟨_, h1, h2⟩ := ha
  cases h1
  exact fun pid hpid => hp pid (h2 pid hpid)

theorem emitted_append {O : Oracle} {pts : World} {E out : List Feat} (he : Emitted O pts E)
    (hp : ∀ i refs, (⟨i, .path refs⟩ : Feat) ∈ out → valid O pts ⟨i, .path refs⟩ = true)
    (ha : ∀ i polys, (⟨i, .area polys⟩ : Feat) ∈ out → ∀ pid ∈ polys.flatten, LoopIn pts (E ++ out) pid) :
    Emitted O pts (E ++ out) := by
  constructor
  · intro i refs hm
    rcases List.mem_append.mp hm with hm | hm
    · exact he.1 i refs hm
    · exact hp i refs hm
  · intro i polys hm pid hpid
    rcases List.mem_append.mp hm with hm | hm
    · exact (he.2 i polys hm pid hpid).mono fun _ => List.mem_append_left _
    · exact ha i polys hm pid hpid

/-- `st`: the state recorded for the path; `own`: the at most one version of it that is emitted -/
theorem feed_path (O : Oracle) (v : Validator) (fi : Id) (refs : List Id) :
    ∃ st own, (own = [] ∨ ∃ r, own = [(⟨fi, .path r⟩ : Feat)]) ∧
      (featContract O v.points ⟨fi, .path refs⟩ → (∀ g ∈ own, valid O v.points g = true) ∧
        (st = .valid → LoopIn v.points own fi)) ∧
      v.feed O ⟨fi, .path refs⟩ =
        if (v.state fi).isSome = true then ((v.set fi st).drainQueue.1, own ++ (v.set fi st).drainQueue.2)
        else (v.set fi st, own) := by
  have hst : ∀ r, (if isLoop v.points r = true then VState.valid else VState.validNotLoop) = .valid →
      LoopIn v.points [(⟨fi, .path r⟩ : Feat)] fi := by
    intro r h
    by_cases hl : isLoop v.points r = true
    · exact ⟨r, List.mem_singleton.mpr rfl, hl⟩
    · rw [if_neg hl] at h; cases h
  simp only [Validator.feed]
  cases hvp : validatePath O v.points refs with
  | invalid => exact ⟨.invalid, [], Or.inl rfl, fun _ => ⟨nofun, nofun⟩, rfl⟩
  | ok =>
    refine ⟨_, [⟨fi, .path refs⟩], Or.inr ⟨refs, rfl⟩, fun _ => ⟨fun g hg => ?_, hst refs⟩, rfl⟩
    rw [List.mem_singleton.mp hg]
    exact validatePath_ok hvp
  | clockwise =>
    refine ⟨_, [⟨fi, .path refs.reverse⟩], Or.inr ⟨_, rfl⟩, fun hc => ⟨fun g hg => ?_, hst refs.reverse⟩, rfl⟩
    rw [List.mem_singleton.mp hg]
    obtain ⟨slots, hs, h1, h2⟩ := hc refs rfl hvp
    exact validatePath_clockwise hvp hs h1 h2

theorem feed_area (O : Oracle) (v : Validator) (fi : Id) (polys : List (List Id)) :
    ((v.checkArea polys).2 = .valid ∧
        v.feed O ⟨fi, .area polys⟩ = ((v.checkArea polys).1, [⟨fi, .area polys⟩])) ∨
      v.feed O ⟨fi, .area polys⟩ =
        ({ (v.checkArea polys).1 with queue := (v.checkArea polys).1.queue ++ [⟨fi, .area polys⟩] }, []) ∨
      v.feed O ⟨fi, .area polys⟩ = ((v.checkArea polys).1, []) := by
  simp only [Validator.feed]
  split
  · rename_i hv; exact Or.inl ⟨hv, rfl⟩
  · split
    · exact Or.inr (Or.inl rfl)
    · exact Or.inr (Or.inr rfl)

theorem set_inv {O : Oracle} {pts : World} {v : Validator} {E own : List Feat} {fi : Id} {st : VState}
    (hp : PathsOK pts v E) (he : Emitted O pts E) (hown : own = [] ∨ ∃ r, own = [(⟨fi, .path r⟩ : Feat)])
    (hv : ∀ g ∈ own, valid O pts g = true) (hst : st = .valid → LoopIn pts own fi) :
    PathsOK pts (v.set fi st) (E ++ own) ∧ Emitted O pts (E ++ own) := by
  refine ⟨?_, emitted_append he (fun i r hm => hv _ hm) ?_⟩
  · intro id hid
    rw [state_set] at hid
    by_cases h : id = fi
    · subst h
      simp only [↓reduceIte, Option.some.injEq] at hid
      exact (hst hid).mono fun _ => List.mem_append_right _
    · simp only [h, ↓reduceIte] at hid
      exact (hp id hid).mono fun _ => List.mem_append_left _
  · intro i polys hm
    rcases hown with rfl | ⟨r, rfl⟩
    · cases hm
    · cases List.mem_singleton.mp hm

theorem drain_inv {O : Oracle} {pts : World} {v : Validator} {E : List Feat}
    (hp : PathsOK pts v E) (he : Emitted O pts E) :
    PathsOK pts v.drainQueue.1 (E ++ v.drainQueue.2) ∧ Emitted O pts (E ++ v.drainQueue.2) := by
  obtain ⟨d1, d3⟩ := drainQueue_spec v
  refine ⟨pathsOK_mono (pathsOK_congr d1 hp) (fun x hx => List.mem_append_left _ hx), emitted_append he ?_ ?_⟩
  · intro i r hm
    obtain ⟨_, h1, _⟩ := d3 _ hm
    cases h1
  · intro i polys hm pid hpid
    exact (emitted_area hp (d3 _ hm) pid hpid).mono fun _ => List.mem_append_left _

theorem feed_inv (O : Oracle) (pts : World) (v : Validator) (E : List Feat) (f : Feat)
    (hpts : v.points = pts) (hp : PathsOK pts v E) (he : Emitted O pts E) (hc : featContract O pts f) :
    (v.feed O f).1.points = pts ∧ PathsOK pts (v.feed O f).1 (E ++ (v.feed O f).2) ∧
    Emitted O pts (E ++ (v.feed O f).2) := by
  have hmono : PathsOK pts v (E ++ (v.feed O f).2) := pathsOK_mono hp (fun x hx => List.mem_append_left _ hx)
  obtain ⟨fi, fg⟩ := f
  cases fg with
  | point l =>
    exact ⟨hpts, hmono, emitted_append he (fun i r hm => by simp [Validator.feed] at hm)
      (fun i p hm => by simp [Validator.feed] at hm)⟩
  | other l =>
    exact ⟨hpts, hmono, emitted_append he (fun i r hm => by simp [Validator.feed] at hm)
      (fun i p hm => by simp [Validator.feed] at hm)⟩
  | area polys =>
    obtain ⟨c1, _, c4⟩ := checkArea_spec v polys
    have hp1 : PathsOK pts (v.checkArea polys).1 E := pathsOK_congr c1 hp
    rcases feed_area O v fi polys with ⟨hv, e⟩ | e | e <;> rw [e]
    · refine ⟨c1.points.trans hpts, pathsOK_mono hp1 (fun x hx => List.mem_append_left _ hx),
        emitted_append he (fun i r hm => by simp at hm) ?_⟩
      intro i polys' hm pid hpid
      cases List.mem_singleton.mp hm
      exact (hp pid (c4 hv pid hpid)).mono fun _ => List.mem_append_left _
    · rw [List.append_nil]; exact ⟨c1.points.trans hpts, fun id hid => hp1 id hid, he⟩
    · rw [List.append_nil]; exact ⟨c1.points.trans hpts, hp1, he⟩
  | path refs =>
    obtain ⟨st, own, hown, hfacts, hr⟩ := feed_path O v fi refs
    rw [hpts] at hfacts
    obtain ⟨hv, hst⟩ := hfacts hc
    obtain ⟨s1, s2⟩ := set_inv (v := v) hp he hown hv hst
    rw [hr]
    split
    · obtain ⟨d1, d2⟩ := drain_inv s1 s2
      rw [← List.append_assoc]
      exact ⟨(drainQueue_spec _).1.points.trans hpts, d1, d2⟩
    · exact ⟨hpts, s1, s2⟩

theorem run_inv (O : Oracle) (pts : World) : ∀ (src : List Feat) (v : Validator) (E : List Feat),
    v.points = pts → PathsOK pts v E → Emitted O pts E → (∀ f ∈ src, featContract O pts f) →
    Emitted O pts (E ++ (Validator.run O v src).2) := by
  intro src
  induction src with
  | nil => intro v E _ _ he _; simpa [Validator.run] using he
  | cons f fs ih =>
    intro v E hpts hp he hc
    obtain ⟨h1, h2, h3⟩ := feed_inv O pts v E f hpts hp he (hc f List.mem_cons_self)
    have := ih (v.feed O f).1 (E ++ (v.feed O f).2) h1 h2 h3 (fun g hg => hc g (List.mem_cons_of_mem _ hg))
    simp only [Validator.run]
    rw [← List.append_assoc]
    exact this

theorem run_emitted (O : Oracle) (pts : World) (src : List Feat) (hc : ∀ f ∈ src, featContract O pts f) :
    Emitted O pts (Validator.run O ⟨pts, [], []⟩ src).2 := by
  have := run_inv O pts src ⟨pts, [], []⟩ [] rfl (fun _ hid => nomatch hid) ⟨nofun, nofun⟩ hc
  rwa [List.nil_append] at this

end B6.Lemmas.Validator
