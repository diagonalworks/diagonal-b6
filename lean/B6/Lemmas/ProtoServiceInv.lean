import B6.Lemmas.ProtoService
/-!
The simulation invariant of the lock-protocol model (C40): the worlds a caller can see are those of the
reference run over the ghost log, up to worlds that were created but whose creator has not taken effect yet.
`Inv` = `LogInv` (what the ghost log records) + `Sim` (heap and map against the reference run); both assume `WeakInv`.
-/
namespace B6.Lemmas.ProtoService
open B6.Model.Proto B6.Model.Proto.Service
open B6.Lemmas.Basic (set_split map_set_eq forall_getElem?_set)

/-! ## two facts about lists (nothing of the model in them) -/

theorem map_filter_eq_flatMap {α β : Type} (p : α → Bool) (f : α → β) (l : List α) :
    (l.filter p).map f = l.flatMap fun x => if p x then [f x] else [] := by
  induction l with
  | nil => rfl
  | cons x rest ih => rw [List.flatMap_cons, ← ih, List.filter_cons]; cases p x <;> rfl

theorem flatMap_add_perm {α β : Type} (f g : α → List β) (l : List α) :
    (l.flatMap fun x => f x ++ g x).Perm (l.flatMap f ++ l.flatMap g) := by
  induction l with
  | nil => exact .refl _
  | cons x rest ih =>
    simp only [List.flatMap_cons, List.append_assoc]
    exact ((ih.append_left (g x)).trans (List.perm_append_comm_assoc ..)).append_left (f x)

/-- a change has computed its writes and not applied them yet -/
def pastEval (pc : Pc) : Bool := pc == Pc.upRUnlock || pc == Pc.wlock || pc == Pc.apply
/-- … or is about to compute them: the object it holds is not written by it yet -/
def preApply (pc : Pc) : Bool := pc == Pc.eval || pastEval pc

/-- what a client's private knowledge is worth. Before it has taken effect, the object it holds is the one
mapped to its change's world (`live`) and the change it computed is what the object's present content gives
(`snap`); a change that a `delete` made take effect before its `apply` holds an object no longer mapped (`dead`) -/
structure ClientOk (s : State) (c : Client) : Prop where
  live : ∀ o, c.obj = some o → c.logged = false → ∃ wid rs, c.req = .change wid rs ∧ mfind s.map wid = some o
  snap : ∀ o wid rs w, c.obj = some o → c.logged = false → c.req = .change wid rs → pastEval c.pc = true →
    s.heap[o]? = some w → c.change = evalRules w rs
  dead : ∀ o, c.obj = some o → c.logged = true → preApply c.pc = true → (∃ wid rs, c.req = .change wid rs) →
    ∀ wid, mfind s.map wid ≠ some o

/-- some client that has not taken effect yet holds world object `o` -/
def Pending (cs : List Client) (o : Nat) : Prop :=
  ∃ (j : Nat) (c : Client), cs[j]? = some c ∧ c.obj = some o ∧ c.logged = false

/-- world `wid` as callers see it, against the reference view `A`: the mapped object holds `A`'s world, or `A` has
none yet and the object is a fresh copy of the base held by a client that has not taken effect -/
def Rel (s : State) (A : View) (wid : Nat) : Prop :=
  match mfind s.map wid with
  | some o => (∃ w, s.heap[o]? = some w ∧ vfind A wid = some w) ∨
      (vfind A wid = none ∧ s.heap[o]? = some s.base ∧ Pending s.clients o)
  | none => vfind A wid = none

theorem rel_some {s : State} {A : View} {wid o : Nat} (h : mfind s.map wid = some o) :
    Rel s A wid ↔ (∃ w, s.heap[o]? = some w ∧ vfind A wid = some w) ∨
      (vfind A wid = none ∧ s.heap[o]? = some s.base ∧ Pending s.clients o) := by
  unfold Rel; rw [h]

theorem rel_none {s : State} {A : View} {wid : Nat} (h : mfind s.map wid = none) :
    Rel s A wid ↔ vfind A wid = none := by
  unfold Rel; rw [h]

def logOf (c : Client) : List Req := if c.logged then [c.req] else []

def loggedReqs (cs : List Client) : List Req := cs.flatMap logOf

structure LogInv (base : World) (reqs : List Req) (s : State) : Prop where
  hbase : s.base = base
  hreqs : s.clients.map (·.req) = reqs
  perm : s.log.Perm (loggedReqs s.clients)

structure Sim (base : World) (v0 : View) (s : State) : Prop where
  cl : ∀ (j : Nat) (c : Client), s.clients[j]? = some c → ClientOk s c
  /-- two world IDs never share an object: a write or a delete concerns one world only -/
  inj : ∀ w1 w2 o, mfind s.map w1 = some o → mfind s.map w2 = some o → w1 = w2
  rel : ∀ wid, Rel s (serialRun base v0 s.log) wid

structure Inv (base : World) (v0 : View) (reqs : List Req) (s : State) : Prop
    extends LogInv base reqs s, Sim base v0 s

theorem perm_same {l : List Req} {cs : List Client} {i : Nat} {c c' : Client} (h : l.Perm (loggedReqs cs))
    (hc : cs[i]? = some c) (hl : c'.logged = c.logged) (hr : c'.req = c.req) : l.Perm (loggedReqs (cs.set i c')) := by
  obtain ⟨a, b, rfl, e⟩ := set_split c' hc
  simpa only [e, loggedReqs, List.flatMap_append, List.flatMap_cons, logOf, hl, hr] using h

theorem perm_logged {l : List Req} {cs : List Client} {i : Nat} {c c' : Client} (h : l.Perm (loggedReqs cs))
    (hc : cs[i]? = some c) (hl : c.logged = false) (hr : c'.req = c.req) (hl' : c'.logged = true) :
    (l ++ [c.req]).Perm (loggedReqs (cs.set i c')) := by
  obtain ⟨a, b, rfl, e⟩ := set_split c' hc
  simp only [e, loggedReqs, List.flatMap_append, List.flatMap_cons, logOf, hl, hl', hr, ↓reduceIte,
    Bool.false_eq_true, List.nil_append, List.singleton_append] at h ⊢
  exact ((h.append_right _).trans (List.perm_append_singleton ..)).trans List.perm_middle.symm

theorem loggedReqs_flush (cs : List Client) (o : Nat) :
    (loggedReqs (flushHolders cs o)).Perm (loggedReqs cs ++ doomed cs o) := by
  rw [loggedReqs, loggedReqs, doomed, map_filter_eq_flatMap, flushHolders_eq, List.flatMap_map]
  refine .trans (.of_eq (congrArg (List.flatMap · cs) (funext fun c => ?_))) (flatMap_add_perm _ _ cs)
  unfold flushElem logOf
  by_cases h : c.obj = some o ∧ c.logged = false
  · simp [h]
  · simp [h]

theorem doomed_mem {cs : List Client} {o : Nat} {r : Req} (h : r ∈ doomed cs o) :
    ∃ c ∈ cs, c.obj = some o ∧ c.logged = false ∧ c.req = r := by
  simpa only [doomed, List.mem_map, List.mem_filter, decide_eq_true_eq, and_assoc] using h

/-- the equations `e1 e2 e3` are `rfl` at every use: they let `t` be the record update the step shows -/
theorem logInv_same {base : World} {reqs : List Req} {s t : State} {i : Nat} {c c' : Client} (h : LogInv base reqs s)
    (hc : s.clients[i]? = some c) (e1 : t.base = s.base) (e2 : t.clients = s.clients) (e3 : t.log = s.log)
    (hr : c'.req = c.req) (hl : c'.logged = c.logged) : LogInv base reqs (setClient t i c') :=
  ⟨e1.trans h.hbase, by rw [setClient, e2]; exact (map_set_eq hc hr).trans h.hreqs,
    by rw [setClient, e2, e3]; exact perm_same h.perm hc hl hr⟩

theorem logInv_logged {base : World} {reqs : List Req} {s t : State} {i : Nat} {c c' : Client} (h : LogInv base reqs s)
    (hc : s.clients[i]? = some c) (e1 : t.base = s.base) (e2 : t.clients = s.clients) (e3 : t.log = s.log ++ [c.req])
    (hr : c'.req = c.req) (hl : c.logged = false) (hl' : c'.logged = true) : LogInv base reqs (setClient t i c') :=
  ⟨e1.trans h.hbase, by rw [setClient, e2]; exact (map_set_eq hc hr).trans h.hreqs,
    by rw [setClient, e2, e3]; exact perm_logged h.perm hc hl hr hl'⟩

/-- a step logs the moving client's request exactly when it sets its `logged` flag (a `delete` also logs and flags
the holders of the world it removes) -/
theorem logInv_step {base : World} {reqs : List Req} {pref : Bool} {s s' : State} (hw : WeakInv s)
    (h : LogInv base reqs s) (hs : s' ∈ step pref s) : LogInv base reqs s' := by
  obtain ⟨i, c, hc, hm⟩ := mem_step.mp hs
  have hph := hw.ph i c hc
  cases hm with
  | findQuery hpc _ _ | createQuery hpc _ _ =>
    exact logInv_logged h hc rfl rfl rfl rfl (phase_start hph (.inl hpc)).2 rfl
  | deleteAbsent hpc _ _ | list hpc _ =>
    exact logInv_logged h hc rfl rfl rfl rfl (phase_start hph (.inr hpc)).2 rfl
  | apply hpc _ _ =>
    cases hlg : c.logged
    · exact logInv_logged h hc rfl rfl rfl rfl hlg rfl
    · exact logInv_same h hc rfl rfl rfl rfl hlg.symm
  | @delete wid o hpc hreq ho =>
    obtain ⟨hnone, hunl⟩ := phase_start hph (.inr hpc)
    have hfi := flush_getElem?_of_none o hc hnone
    refine ⟨h.hbase, ?_, ?_⟩
    · refine Eq.trans (map_set_eq hfi rfl) ?_
      rw [flushHolders_eq, List.map_map, ← h.hreqs]
      exact List.map_congr_left fun x _ => flushElem_req o x
    · exact perm_logged (((h.perm.append_right _).trans (loggedReqs_flush s.clients o).symm)) hfi hunl rfl rfl
  | _ => exact logInv_same h hc rfl rfl rfl rfl rfl

theorem ClientOk.congr {s s' : State} {c : Client} (hh : s'.heap = s.heap) (hm : s'.map = s.map)
    (h : ClientOk s c) : ClientOk s' c :=
  ⟨by rw [hm]; exact h.live, by rw [hh]; exact h.snap, by rw [hm]; exact h.dead⟩

theorem ClientOk.grow {s s' : State} {c : Client} (b : World) (wid : Nat)
    (hh : s'.heap = s.heap ++ [b]) (hm : s'.map = s.map ++ [(wid, s.heap.length)])
    (hb : ∀ o, c.obj = some o → o < s.heap.length) (h : ClientOk s c) : ClientOk s' c := by
  refine ⟨?_, ?_, ?_⟩
  · intro o ho hl
    obtain ⟨w, rs, hr, hmf⟩ := h.live o ho hl
    exact ⟨w, rs, hr, hm ▸ mfind_append_eq_some.mpr (Or.inl hmf)⟩
  · intro o wid' rs w ho hl hr hp hw
    rw [hh, List.getElem?_append_left (hb o ho)] at hw
    exact h.snap o wid' rs w ho hl hr hp hw
  · intro o ho hl hp hr wid' hmf
    rcases mfind_append_eq_some.mp (hm ▸ hmf) with hx | ⟨_, _, e⟩
    · exact h.dead o ho hl hp hr wid' hx
    · exact absurd (e ▸ hb o ho) (Nat.lt_irrefl _)

/-- a client that has taken effect is fine in any state, unless it is a change before its `apply` that still holds an
object -/
theorem ClientOk.of_logged {s : State} {c : Client} (hl : c.logged = true)
    (hd : preApply c.pc = true → (∃ wid rs, c.req = .change wid rs) → c.obj = none) : ClientOk s c :=
  ⟨fun _ _ h => (nomatch hl.symm.trans h), fun _ _ _ _ _ h => (nomatch hl.symm.trans h),
    fun _ ho _ hp hr => (nomatch (hd hp hr).symm.trans ho)⟩

theorem ClientOk.of_fetched {s : State} {c : Client} {o wid : Nat} {rs : List Rule} (ho : c.obj = some o)
    (hl : c.logged = false) (hreq : c.req = .change wid rs) (hm : mfind s.map wid = some o)
    (hp : pastEval c.pc = false) : ClientOk s c :=
  ⟨fun _ ho' _ => ⟨wid, rs, hreq, Option.some.inj (ho.symm.trans ho') ▸ hm⟩,
    fun _ _ _ _ _ _ _ h => (nomatch hp.symm.trans h), fun _ _ h => (nomatch hl.symm.trans h)⟩

/-- a write to object `o` is not noticed by a client whose snapshot is of another object -/
theorem ClientOk.set_heap {s s' : State} {c : Client} {o : Nat} {w' : World} (h : ClientOk s c)
    (hm : s'.map = s.map) (hh : s'.heap = s.heap.set o w')
    (hne : ∀ oj, c.obj = some oj → c.logged = false → pastEval c.pc = true → oj ≠ o) : ClientOk s' c :=
  ⟨hm ▸ h.live, fun oj wid rs w hoj hl hr hp hw => h.snap oj wid rs w hoj hl hr hp
      (by rwa [hh, List.getElem?_set_ne (Ne.symm (hne oj hoj hl hp))] at hw), hm ▸ h.dead⟩

/-- client `i` moves: an object stays vouched for unless `i` was its voucher and no longer is -/
theorem Pending.set {cs : List Client} {i o : Nat} {c c' : Client} (h : Pending cs o) (hc : cs[i]? = some c)
    (hi : c.obj = some o → c.logged = false → c'.obj = some o ∧ c'.logged = false) : Pending (cs.set i c') o := by
  obtain ⟨j, cj, hj, hjo, hjl⟩ := h
  by_cases e : j = i
  · subst e
    cases Option.some.inj (hc.symm.trans hj)
    exact ⟨j, c', getElem?_set_self' hc, hi hjo hjl⟩
  · exact ⟨j, cj, by rw [List.getElem?_set_ne (Ne.symm e)]; exact hj, hjo, hjl⟩

theorem Pending.flush {cs : List Client} {o o' : Nat} (h : Pending cs o') (hne : o' ≠ o) :
    Pending (flushHolders cs o) o' := by
  obtain ⟨j, cj, hj, hjo, hjl⟩ := h
  refine ⟨j, cj, ?_, hjo, hjl⟩
  rw [flush_getElem? o hj, flushElem, if_neg fun x => hne (Option.some.inj (hjo.symm.trans x.1))]

/-- `Rel` for a world the step does not concern: same object, same content, same reference entry, and the
object (if the reference has no such world yet) is still vouched for -/
theorem rel_keep {s s' : State} {A A' : View} {wid : Nat}
    (hm : mfind s'.map wid = mfind s.map wid) (hA : vfind A' wid = vfind A wid) (hb : s'.base = s.base)
    (hh : ∀ o, mfind s.map wid = some o → s'.heap[o]? = s.heap[o]?)
    (hw : ∀ o, mfind s.map wid = some o → Pending s.clients o → Pending s'.clients o)
    (h : Rel s A wid) : Rel s' A' wid := by
  cases ho : mfind s.map wid with
  | none => rw [rel_none (hm.trans ho), hA]; exact (rel_none ho).mp h
  | some o =>
    rw [rel_some (hm.trans ho), hA, hb, hh o ho]
    exact ((rel_some ho).mp h).imp_right fun ⟨ha, hb, hp⟩ => ⟨ha, hb, hw o ho hp⟩

section
variable {base : World} {v0 : View} {reqs : List Req} {s : State} {i : Nat} {c : Client}

/-- a step that only moves client `i` within its own program -/
theorem sim_local (hinv : Inv base v0 reqs s)
    (hc : s.clients[i]? = some c) (c' : Client)
    (hreq : c'.req = c.req) (hobj : c'.obj = c.obj) (hlog : c'.logged = c.logged)
    (hsnap : ∀ o wid rs w, c'.obj = some o → c'.logged = false → c'.req = .change wid rs →
      pastEval c'.pc = true → s.heap[o]? = some w → c'.change = evalRules w rs)
    (hpre : preApply c'.pc = true → preApply c.pc = true)
    (s' : State) (h1 : s'.base = s.base) (h2 : s'.heap = s.heap) (h3 : s'.map = s.map) (h4 : s'.log = s.log)
    (h5 : s'.clients = s.clients.set i c') : Sim base v0 s' := by
  have hci := hinv.cl i c hc
  refine ⟨?_, by rw [h3]; exact hinv.inj, ?_⟩
  · rw [h5]
    refine forall_getElem?_set ⟨?_, ?_, ?_⟩ fun j cj _ hj => (hinv.cl j cj hj).congr h2 h3
    · rw [h3, hobj, hlog, hreq]; exact hci.live
    · rw [h2]; exact hsnap
    · rw [h3, hobj, hlog, hreq]; intro o ho hl hp; exact hci.dead o ho hl (hpre hp)
  · intro wid
    rw [h4]
    exact rel_keep (by rw [h3]) rfl h1 (fun _ _ => by rw [h2])
      (fun o _ hp => h5 ▸ hp.set hc fun ho hl => ⟨hobj ▸ ho, hlog ▸ hl⟩) (hinv.rel wid)

theorem sim_find_query_some (hwi : WeakInv s) (hinv : Inv base v0 reqs s)
    (hc : s.clients[i]? = some c) (hpc : c.pc = Pc.find) {wid o : Nat}
    (hreq : c.req = .query wid) (hm : mfind s.map wid = some o) :
    Sim base v0 (setClient { s with log := s.log ++ [c.req] } i { c with pc := .eval, obj := some o, logged := true }) := by
  obtain ⟨hnone, -⟩ := phase_start (hwi.ph i c hc) (.inl hpc)
  refine ⟨?_, hinv.inj, ?_⟩
  · exact forall_getElem?_set (.of_logged rfl fun _ ⟨_, _, h⟩ => nomatch hreq.symm.trans h) fun j cj _ hj =>
      ClientOk.congr (s := s) rfl rfl (hinv.cl j cj hj)
  · intro wid'
    simp only [setClient]
    rw [serialRun_snoc]
    by_cases e : wid' = wid
    · subst e
      -- `by exact`: the state is read off the goal first; `hm` speaks of `s.map`, which is the new state's map only up to unfolding
      refine (rel_some (by exact hm)).mpr ?_
      rw [hreq, serialStep_query]
      rcases (rel_some hm).mp (hinv.rel wid') with ⟨w, hw, ha⟩ | ⟨ha, hb, _⟩
      · exact Or.inl ⟨w, hw, by rw [ha, Option.getD_some]⟩
      · exact Or.inl ⟨s.base, hb, by rw [ha, Option.getD_none, hinv.hbase]⟩
    · refine rel_keep (s := s) rfl ?_ rfl (fun _ _ => rfl) ?_ (hinv.rel wid')
      · rw [hreq]; exact serialStep_other rfl e
      · exact fun o' _ hp => hp.set hc (by simp [hnone])

theorem sim_find_change_some (hwi : WeakInv s) (hinv : Inv base v0 reqs s)
    (hc : s.clients[i]? = some c) (hpc : c.pc = Pc.find) {wid o : Nat} {rs : List Rule}
    (hreq : c.req = .change wid rs) (hm : mfind s.map wid = some o) :
    Sim base v0 (setClient s i { c with pc := .eval, obj := some o }) := by
  obtain ⟨hnone, hunl⟩ := phase_start (hwi.ph i c hc) (.inl hpc)
  refine ⟨?_, hinv.inj, ?_⟩
  · exact forall_getElem?_set (.of_fetched rfl hunl hreq hm rfl) fun j cj _ hj =>
      ClientOk.congr (s := s) rfl rfl (hinv.cl j cj hj)
  · intro wid'
    simp only [setClient]
    refine rel_keep (s := s) rfl rfl rfl (fun _ _ => rfl) ?_ (hinv.rel wid')
    exact fun o' _ hp => hp.set hc (by simp [hnone])

theorem inj_grow (hwi : WeakInv s) (hinv : Inv base v0 reqs s) (wid : Nat) :
    ∀ w1 w2 o, mfind (s.map ++ [(wid, s.heap.length)]) w1 = some o →
      mfind (s.map ++ [(wid, s.heap.length)]) w2 = some o → w1 = w2 := by
  intro w1 w2 o h1 h2
  rcases mfind_append_eq_some.mp h1 with h1 | ⟨_, e1, l1⟩ <;> rcases mfind_append_eq_some.mp h2 with h2 | ⟨_, e2, l2⟩
  · exact hinv.inj w1 w2 o h1 h2
  · exact absurd (l2 ▸ hwi.mb w1 o h1) (Nat.lt_irrefl _)
  · exact absurd (l1 ▸ hwi.mb w2 o h2) (Nat.lt_irrefl _)
  · exact e1.symm.trans e2

theorem rel_grow_other {s s' : State} (hw' : WeakInv s) {A A' : View} {wid wid' : Nat} (hne : wid' ≠ wid) (b : World)
    (hb : s'.base = s.base) (hh : s'.heap = s.heap ++ [b]) (hm : s'.map = s.map ++ [(wid, s.heap.length)])
    (hA : vfind A' wid' = vfind A wid')
    (hw : ∀ o, Pending s.clients o → Pending s'.clients o)
    (h : Rel s A wid') : Rel s' A' wid' := by
  apply rel_keep (s := s) ?_ hA hb ?_ ?_ h
  · rw [hm, mfind_append, if_neg (fun e => hne e.symm)]
    cases mfind s.map wid' <;> rfl
  · intro o ho
    rw [hh, List.getElem?_append_left (hw'.mb _ _ ho)]
  · exact fun o _ => hw o

theorem sim_find_query_none (hwi : WeakInv s) (hinv : Inv base v0 reqs s)
    (hc : s.clients[i]? = some c) (hpc : c.pc = Pc.find) {wid : Nat}
    (hreq : c.req = .query wid) (hm : mfind s.map wid = none) :
    Sim base v0 (setClient { s with heap := s.heap ++ [s.base], map := s.map ++ [(wid, s.heap.length)],
                                         log := s.log ++ [c.req] }
      i { c with pc := .eval, obj := some s.heap.length, logged := true }) := by
  obtain ⟨hnone, -⟩ := phase_start (hwi.ph i c hc) (.inl hpc)
  refine ⟨?_, inj_grow hwi hinv wid, ?_⟩
  · exact forall_getElem?_set (.of_logged rfl fun _ ⟨_, _, h⟩ => nomatch hreq.symm.trans h) fun j cj _ hj =>
      ClientOk.grow (s := s) s.base wid rfl rfl (hwi.ob j cj · hj) (hinv.cl j cj hj)
  · intro wid'
    simp only [setClient]
    rw [serialRun_snoc]
    by_cases e : wid' = wid
    · subst e
      refine (rel_some (o := s.heap.length) (by simp [mfind_append, hm])).mpr ?_
      rw [hreq, serialStep_query, (rel_none hm).mp (hinv.rel wid')]
      exact Or.inl ⟨s.base, List.getElem?_concat_length .., by rw [Option.getD_none, hinv.hbase]⟩
    · refine rel_grow_other hwi e s.base rfl rfl rfl ?_ ?_ (hinv.rel wid')
      · rw [hreq]; exact serialStep_other rfl e
      · exact fun o' hp => hp.set hc (by simp [hnone])

theorem sim_find_change_none (hwi : WeakInv s) (hinv : Inv base v0 reqs s)
    (hc : s.clients[i]? = some c) (hpc : c.pc = Pc.find) {wid : Nat} {rs : List Rule}
    (hreq : c.req = .change wid rs) (hm : mfind s.map wid = none) :
    Sim base v0 (setClient { s with heap := s.heap ++ [s.base], map := s.map ++ [(wid, s.heap.length)] }
      i { c with pc := .eval, obj := some s.heap.length }) := by
  obtain ⟨hnone, hunl⟩ := phase_start (hwi.ph i c hc) (.inl hpc)
  refine ⟨?_, inj_grow hwi hinv wid, ?_⟩
  · exact forall_getElem?_set (.of_fetched rfl hunl hreq (by simp [setClient, mfind_append, hm]) rfl) fun j cj _ hj =>
      ClientOk.grow (s := s) s.base wid rfl rfl (hwi.ob j cj · hj) (hinv.cl j cj hj)
  · intro wid'
    simp only [setClient]
    by_cases e : wid' = wid
    · subst e
      exact (rel_some (o := s.heap.length) (by simp [mfind_append, hm])).mpr (Or.inr
        ⟨(rel_none hm).mp (hinv.rel wid'), List.getElem?_concat_length .., i, _, getElem?_set_self' hc, rfl, hunl⟩)
    · refine rel_grow_other hwi e s.base rfl rfl rfl rfl ?_ (hinv.rel wid')
      exact fun o' hp => hp.set hc (by simp [hnone])

/-- `apply`: the change computed earlier is written into the world object fetched earlier -/
theorem sim_apply (hcf : conflictFree reqs = true) {s : State}
    (hwi : WeakInv s) (hinv : Inv base v0 reqs s) (hc : s.clients[i]? = some c) (hpc : c.pc = Pc.apply)
    {o : Nat} {w : World} (ho : c.obj = some o) (hw : s.heap[o]? = some w) :
    Sim base v0 (setClient { s with heap := s.heap.set o (applyWrites w c.change),
                                         log := if c.logged then s.log else s.log ++ [c.req] }
      i { c with pc := .wunlock, logged := true }) := by
  have hci := hinv.cl i c hc
  obtain ⟨wid, rs, hreq⟩ := phase_apply_req (hwi.ph i c hc) hpc
  have hob : o < s.heap.length := hwi.ob i c o hc ho
  cases hlg : c.logged
  · -- the change takes effect now
    obtain ⟨wid', rs', hreq', hmap⟩ := hci.live o ho hlg
    cases hreq.symm.trans hreq'
    have hsn : c.change = evalRules w rs := hci.snap o wid rs w ho hlg hreq (by simp [pastEval, hpc]) hw
    refine ⟨?_, hinv.inj, ?_⟩
    · refine forall_getElem?_set (.of_logged rfl fun h => nomatch h) fun j cj hji hj => ?_
      · have hcj := hinv.cl j cj hj
        by_cases hsame : cj.obj = some o ∧ cj.logged = false
        · -- another client that has not taken effect holds `o` too: its request is a change of the same world, and as
          -- the two do not conflict its guards read nothing this change writes, so its snapshot stays valid
          obtain ⟨hoj, hlj⟩ := hsame
          obtain ⟨w2, r2, hr2, hm2⟩ := hcj.live o hoj hlj
          obtain rfl : w2 = wid := hinv.inj _ _ _ hm2 hmap
          have hnc : conflicts (.change w2 r2) (.change w2 rs) = false := by
            apply conflictFree_get reqs hcf j i _ _ hji
            · rw [← hinv.hreqs, List.getElem?_map, hj]; simp [hr2]
            · rw [← hinv.hreqs, List.getElem?_map, hc]; simp [hreq]
          refine ⟨hcj.live, ?_, hcj.dead⟩
          intro oj widj rsj w' hoj' _ hrj hpj hwj
          cases Option.some.inj (hoj.symm.trans hoj')
          cases hr2.symm.trans hrj
          cases Option.some.inj ((List.getElem?_set_self hob).symm.trans hwj)
          rw [hsn, evalRules_stable hnc]
          exact hcj.snap o w2 r2 w hoj hlj hr2 hpj hw
        · exact hcj.set_heap rfl rfl fun oj hoj hlj _ e => hsame ⟨e ▸ hoj, hlj⟩
    · intro wid'
      simp only [setClient, Bool.false_eq_true, ↓reduceIte]
      rw [serialRun_snoc]
      by_cases e : wid' = wid
      · subst e
        refine (rel_some (by exact hmap)).mpr ?_
        show (∃ w', (s.heap.set o (applyWrites w c.change))[o]? = some w' ∧ _) ∨ _
        rw [List.getElem?_set_self hob, hreq, serialStep_change]
        rcases (rel_some hmap).mp (hinv.rel wid') with ⟨w1, hw1, ha⟩ | ⟨ha, hb, _⟩
        · rw [hw] at hw1; simp at hw1; subst hw1
          exact Or.inl ⟨_, rfl, by rw [ha, Option.getD_some, hsn]⟩
        · rw [hw] at hb; simp at hb
          exact Or.inl ⟨_, rfl, by rw [ha, Option.getD_none, hsn, hb, hinv.hbase]⟩
      · refine rel_keep (s := s) rfl ?_ rfl ?_ ?_ (hinv.rel wid')
        · rw [hreq]; exact serialStep_other rfl e
        · exact fun o' ho' => List.getElem?_set_ne fun (x : o = o') => e (hinv.inj _ _ _ (x ▸ ho') hmap)
        · intro o' ho' hp
          exact hp.set hc fun h _ => absurd (hinv.inj _ _ _ ho' (Option.some.inj (ho.symm.trans h) ▸ hmap)) e
  · -- the world object was deleted in the meantime: the writes land on the orphan
    have hdead := hci.dead o ho hlg (by simp [preApply, pastEval, hpc]) ⟨wid, rs, hreq⟩
    refine ⟨?_, hinv.inj, ?_⟩
    · refine forall_getElem?_set (.of_logged rfl fun h => nomatch h) fun j cj hji hj => ?_
      · have hcj := hinv.cl j cj hj
        refine hcj.set_heap rfl rfl fun oj hoj hlj _ e => ?_
        obtain ⟨w2, _, _, hm2⟩ := hcj.live oj hoj hlj
        exact hdead w2 (e ▸ hm2)
    · intro wid'
      simp only [setClient, ↓reduceIte]
      refine rel_keep (s := s) rfl rfl rfl ?_ ?_ (hinv.rel wid')
      · exact fun o' ho' => List.getElem?_set_ne fun (x : o = o') => hdead wid' (x ▸ ho')
      · exact fun o' _ hp => hp.set hc fun _ h => by rw [hlg] at h; cases h

/-- `delete`/`list` that leave map and heap alone (the world does not exist / list-worlds): the request is
logged, the reference view does not change for any world -/
theorem sim_mapop_noop (hwi : WeakInv s) (hinv : Inv base v0 reqs s)
    (hc : s.clients[i]? = some c) (hpc : c.pc = Pc.mapop)
    (hkind : c.req = .list ∨ ∃ wid, c.req = .delete wid ∧ mfind s.map wid = none) :
    Sim base v0 (setClient { s with log := s.log ++ [c.req] } i { c with pc := .done, logged := true }) := by
  obtain ⟨hnone, -⟩ := phase_start (hwi.ph i c hc) (.inr hpc)
  refine ⟨?_, hinv.inj, ?_⟩
  · exact forall_getElem?_set (.of_logged rfl fun h => nomatch h) fun j cj _ hj =>
      ClientOk.congr (s := s) rfl rfl (hinv.cl j cj hj)
  · intro wid'
    simp only [setClient]
    rw [serialRun_snoc]
    refine rel_keep (s := s) rfl ?_ rfl (fun _ _ => rfl) ?_ (hinv.rel wid')
    · rcases hkind with h | ⟨wid, h, hm⟩
      · rw [h]; rfl
      · rw [h, serialStep_delete]
        by_cases e : wid' = wid
        · subst e
          simp [(rel_none hm).mp (hinv.rel wid')]
        · simp [e]
    · exact fun o' _ hp => hp.set hc (by simp [hnone])

/-- `delete` of an existing world: the map entry goes, the object stays as an orphan, and the requests that
still hold it take effect (without any visible effect) just before the deletion -/
theorem sim_delete_some (hwi : WeakInv s) (hinv : Inv base v0 reqs s)
    (hc : s.clients[i]? = some c) (hpc : c.pc = Pc.mapop) {wid o : Nat}
    (hreq : c.req = .delete wid) (hm : mfind s.map wid = some o) :
    Sim base v0 (setClient { s with map := merase s.map wid, clients := flushHolders s.clients o,
                                         log := s.log ++ doomed s.clients o ++ [c.req] }
      i { c with pc := .done, logged := true }) := by
  obtain ⟨hnone, -⟩ := phase_start (hwi.ph i c hc) (.inr hpc)
  have hfi := flush_getElem?_of_none o hc hnone
  refine ⟨?_, ?_, ?_⟩
  · refine forall_getElem?_set (.of_logged rfl fun h => nomatch h) fun j cj _ hj => ?_
    · obtain ⟨c0, hc0, rfl⟩ := exists_of_flush_getElem? hj
      have h0 := hinv.cl j c0 hc0
      unfold flushElem
      split
      · -- flushed
        rename_i hfl
        refine ⟨?_, ?_, ?_⟩
        · intro o' _ hl; simp at hl
        · intro o' w rs _ _ hl; simp at hl
        · -- the object it holds was mapped to `wid` only
          intro o' ho' _ _ _ w' hw'
          obtain ⟨hne, hw'⟩ := mfind_erase_eq_some.mp hw'
          cases Option.some.inj (hfl.1.symm.trans ho')
          exact hne (hinv.inj _ _ _ hw' hm)
      · -- not a holder
        rename_i hnf
        refine ⟨?_, h0.snap, ?_⟩
        · intro o' ho' hl
          obtain ⟨w2, r2, hr2, hm2⟩ := h0.live o' ho' hl
          refine ⟨w2, r2, hr2, mfind_erase_eq_some.mpr ⟨fun e => ?_, hm2⟩⟩
          cases Option.some.inj (hm.symm.trans (e ▸ hm2))
          exact hnf ⟨ho', hl⟩
        · exact fun o' ho' hl hp hr w' hw' => h0.dead o' ho' hl hp hr w' (mfind_erase_eq_some.mp hw').2
  · exact fun w1 w2 o' h1 h2 =>
      hinv.inj w1 w2 o' (mfind_erase_eq_some.mp h1).2 (mfind_erase_eq_some.mp h2).2
  · intro wid'
    simp only [setClient]
    have hdoomed : ∀ r ∈ doomed s.clients o, widOf r = some wid := by
      intro r hr
      obtain ⟨cd, hcd, hdo, hdl, hdr⟩ := doomed_mem hr
      obtain ⟨jd, hjd⟩ := List.getElem?_of_mem hcd
      obtain ⟨w2, r2, hr2, hm2⟩ := (hinv.cl jd cd hjd).live o hdo hdl
      rw [← hdr, hr2]
      simp [widOf]
      exact hinv.inj _ _ _ hm2 hm
    have hA : vfind (serialRun base v0 (s.log ++ doomed s.clients o ++ [c.req])) wid' =
        if wid' = wid then none else vfind (serialRun base v0 s.log) wid' := by
      rw [List.append_assoc, serialRun_append, hreq]
      exact serialRun_doomed base _ _ wid wid' hdoomed
    by_cases e : wid' = wid
    · subst e
      refine (rel_none (by simp [mfind_erase])).mpr ?_
      rw [hA]; simp
    · refine rel_keep (s := s) (by simp [mfind_erase, e]) (by rw [hA]; simp [e]) rfl (fun _ _ => rfl) ?_ (hinv.rel wid')
      intro o' ho' hp
      exact (hp.flush fun x => e (hinv.inj _ _ _ (x ▸ ho') hm)).set hfi (by simp [hnone])

theorem inv_step (hcf : conflictFree reqs = true) (pref : Bool)
    (s s' : State) (hwi : WeakInv s) (hinv : Inv base v0 reqs s) (hs : s' ∈ step pref s) : Inv base v0 reqs s' := by
  refine ⟨logInv_step hwi hinv.toLogInv hs, ?_⟩
  obtain ⟨i, c, hc, hm⟩ := mem_step.mp hs
  have hci := hinv.cl i c hc
  -- a lock step: only the program counter moves, from one side of `eval … apply` to the same side
  have lock : ∀ pc' (t : State), t.clients = s.clients → t.base = s.base → t.heap = s.heap →
      t.map = s.map → t.log = s.log → pastEval pc' = pastEval c.pc → preApply pc' = preApply c.pc →
      Sim base v0 (setClient t i { c with pc := pc' }) := by
    intro pc' t e5 e1 e2 e3 e4 h1 h2
    refine sim_local hinv hc { c with pc := pc' } rfl rfl rfl ?_ (fun h => h2 ▸ h) _ e1 e2 e3 e4
      (congrArg (List.set · i _) e5)
    intro o wid rs w ho hl hr hpe hw
    exact hci.snap o wid rs w ho hl hr (h1 ▸ hpe) hw
  cases hm with
  | rlock hpc _ | wlock hpc _ | rlock2 hpc _ | upRUnlock hpc | wunlock hpc | finalRUnlock hpc =>
    exact lock _ _ rfl rfl rfl rfl rfl (by rw [hpc]; rfl) (by rw [hpc]; rfl)
  | findQuery hpc hreq ho => exact sim_find_query_some hwi hinv hc hpc hreq ho
  | createQuery hpc hreq ho => exact sim_find_query_none hwi hinv hc hpc hreq ho
  | findChange hpc hreq ho => exact sim_find_change_some hwi hinv hc hpc hreq ho
  | createChange hpc hreq ho => exact sim_find_change_none hwi hinv hc hpc hreq ho
  | evalQuery hpc hreq =>
    refine sim_local hinv hc { c with pc := .finalRUnlock } rfl rfl rfl ?_ ?_ _ rfl rfl rfl rfl rfl
    · intro o wid rs w _ _ _ hp; cases hp
    · intro hp; cases hp
  | evalChange hpc hreq ho hw =>
    refine sim_local hinv hc { c with pc := .upRUnlock, change := evalRules _ _ } rfl rfl rfl ?_ ?_ _ rfl rfl rfl rfl rfl
    · intro o' wid' rs' w' ho' _ hr' _ hw'
      cases ho.symm.trans ho'
      cases hreq.symm.trans hr'
      cases hw.symm.trans hw'
      rfl
    · intro _; rw [hpc]; rfl
  | apply hpc ho hw => exact sim_apply hcf hwi hinv hc hpc ho hw
  | delete hpc hreq ho => exact sim_delete_some hwi hinv hc hpc hreq ho
  | deleteAbsent hpc hreq ho => exact sim_mapop_noop hwi hinv hc hpc (Or.inr ⟨_, hreq, ho⟩)
  | list hpc hreq => exact sim_mapop_noop hwi hinv hc hpc (Or.inl hreq)

theorem inv_init (base : World) (v0 : View) (reqs : List Req) : Inv base v0 reqs (init base v0 reqs) := by
  refine ⟨⟨rfl, ?_, ?_⟩, ⟨?_, initMap_inj v0 0, ?_⟩⟩
  · simp [init, Function.comp_def]
  · have : loggedReqs (init base v0 reqs).clients = [] := by
      refine List.flatMap_eq_nil_iff.mpr fun c hc => ?_
      obtain ⟨r, rfl⟩ := init_clients hc
      rfl
    rw [this]; exact List.Perm.refl _
  · intro j c hj
    obtain ⟨r, rfl⟩ := init_clients (List.mem_of_getElem? hj)
    exact ⟨nofun, nofun, nofun⟩
  · intro wid
    cases ho : mfind (initMap v0 0) wid with
    | none => exact (rel_none (by exact ho)).mpr (initMap_none ho)
    | some o =>
      obtain ⟨_, w, hw, hv⟩ := initMap_some ho
      refine (rel_some (by exact ho)).mpr (Or.inl ⟨w, ?_, hv⟩)
      show (v0.map (·.2))[o]? = some w
      rw [List.getElem?_map, ← Nat.sub_zero o, hw]; rfl

theorem reachable_inv {pref : Bool} (hcf : conflictFree reqs = true) (h : Reachable (step pref) (init base v0 reqs) s) :
    Inv base v0 reqs s :=
  Reachable.invariant' (Inv base v0 reqs) (inv_init base v0 reqs)
    (fun s s' hr => inv_step hcf pref s s' (reachable_weakInv hr)) s h

theorem inv_serial (hinv : Inv base v0 reqs s)
    (hl : ∀ c ∈ s.clients, c.logged = true) :
    s.log.Perm reqs ∧ ∀ wid, lookupWorld s wid = vfind (serialRun base v0 s.log) wid := by
  constructor
  · have hf : loggedReqs s.clients = s.clients.map (·.req) := by
      rw [loggedReqs, List.map_eq_flatMap, List.flatMap_def, List.flatMap_def,
        List.map_congr_left fun c hc => show logOf c = [c.req] by rw [logOf, hl c hc]; rfl]
    have := hinv.perm
    rwa [hf, hinv.hreqs] at this
  · intro wid
    unfold lookupWorld
    split
    · next o ho =>
      rcases (rel_some ho).mp (hinv.rel wid) with ⟨w, hw, ha⟩ | ⟨_, _, j, c, hj, _, hu⟩
      · rw [hw, ha]
      · rw [hl c (List.mem_of_getElem? hj)] at hu; cases hu
    · next ho => exact ((rel_none ho).mp (hinv.rel wid)).symm

end

end B6.Lemmas.ProtoService
