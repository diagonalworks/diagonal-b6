import B6.Model.Proto.Pbf
import B6.Lemmas.ProtoMeasure
/-! `ReadPBFWithOptions` after the repair (Model/Proto/Pbf.lean, pbf.go). While nothing is cancelled, workers gone + done-blobs
queued = done-blobs sent (`Inv.cnt`); a data blob that reaches a worker late was in the channel when `readBlobs` saw the
cancellation (`Inv.cap`). -/
namespace B6.Model.Proto.Pbf
open B6.Model.Proto

theorem mem_step {c : Cfg} {s s' : St} : s' ∈ step c s ↔ s.ret = none ∧
    ( s' ∈ readerStep c s
    ∨ (s.rd = R.finished ∧ allExited s ∧ s' = { s with ret := some s.oerr })
    ∨ (∃ i w, s.ws[i]? = some w ∧ s' ∈ workerStep c s i w)) := by
  unfold step
  cases hr : s.ret with
  | some r => simp only [Option.isSome_some, ↓reduceIte, List.not_mem_nil, reduceCtorEq, false_and]
  | none =>
    simp only [Option.isSome_none, Bool.false_eq_true, ↓reduceIte, List.mem_append, mem_forWorkers, mem_guard, true_and,
      or_assoc, and_assoc]

theorem mem_readerStep {c : Cfg} {s s' : St} (h : s' ∈ readerStep c s) :
    (s.rd = R.reading ∧ s.next < c.n ∧ s.queue.length < c.g ∧
        s' = { s with queue := s.queue ++ [Msg.data s.next], next := s.next + 1 })
    ∨ (s.rd = R.reading ∧ s.next < c.n ∧ s.cancelled = true ∧ s' = { s with rd := R.sending 0, stopped := true })
    ∨ (s.rd = R.reading ∧ ¬ s.next < c.n ∧ s' = { s with rd := R.sending 0 })
    ∨ (∃ j, s.rd = R.sending j ∧ j < c.g ∧ s.queue.length < c.g ∧
        s' = { s with queue := s.queue ++ [Msg.done], rd := R.sending (j + 1) })
    ∨ (∃ j, s.rd = R.sending j ∧ j < c.g ∧ s.cancelled = true ∧ s' = { s with rd := R.sending (j + 1) })
    ∨ (∃ j, s.rd = R.sending j ∧ ¬ j < c.g ∧ s' = { s with rd := R.finished }) := by
  revert h
  fun_cases readerStep c s with
  | case1 hrd hn =>   -- reading, blobs left
    intro h
    rcases List.mem_append.mp h with h | h
    · exact .inl ⟨hrd, hn, mem_guard.mp h⟩
    · exact .inr (.inl ⟨hrd, hn, mem_guard.mp h⟩)
  | case2 hrd hn => exact fun h => .inr (.inr (.inl ⟨hrd, hn, List.mem_singleton.mp h⟩))   -- reading, EOF
  | case3 j hrd hj =>   -- sending the `j`-th done
    intro h
    rcases List.mem_append.mp h with h | h
    · exact .inr (.inr (.inr (.inl ⟨j, hrd, hj, mem_guard.mp h⟩)))
    · exact .inr (.inr (.inr (.inr (.inl ⟨j, hrd, hj, mem_guard.mp h⟩))))
  | case4 j hrd hj => exact fun h => .inr (.inr (.inr (.inr (.inr ⟨j, hrd, hj, List.mem_singleton.mp h⟩))))   -- all done-blobs sent
  | case5 => nofun   -- finished

theorem mem_workerStep {c : Cfg} {s s' : St} {i : Nat} {w : W} (h : s' ∈ workerStep c s i w) :
    (w = W.idle ∧ s.cancelled = true ∧ s' = { s with ws := s.ws.set i W.exited })
    ∨ (w = W.idle ∧ ∃ k q, s.queue = Msg.data k :: q ∧
        s' = { s with queue := q, ws := s.ws.set i (if c.size k = 0 then W.idle else W.busy k 0),
                      late := if s.stopped then s.late + 1 else s.late })
    ∨ (w = W.idle ∧ ∃ q, s.queue = Msg.done :: q ∧ s' = { s with queue := q, ws := s.ws.set i W.exited })
    ∨ (∃ k j, w = W.busy k j ∧ c.fails k j = true ∧
        s' = { s with ws := s.ws.set i W.failing, failed := true, calls := s.calls + 1 })
    ∨ (∃ k j x, w = W.busy k j ∧ c.fails k j = false ∧ (x = W.busy k (j + 1) ∧ j + 1 < c.size k ∨ x = W.idle) ∧
        s' = { s with ws := s.ws.set i x, calls := s.calls + 1 })
    ∨ (w = W.failing ∧ s' = { s with ws := s.ws.set i W.exited, oerr := true, cancelled := true }) := by
  cases w with
  | idle =>
    rcases List.mem_append.mp h with h | h
    · exact .inl ⟨rfl, mem_guard.mp h⟩
    · revert h
      fun_cases recv c s i with
      | case1 k q hq => exact fun h => .inr (.inl ⟨rfl, k, q, hq, List.mem_singleton.mp h⟩)
      | case2 q hq => exact fun h => .inr (.inr (.inl ⟨rfl, q, hq, List.mem_singleton.mp h⟩))
      | case3 => nofun
  | busy k j =>
    rcases mem_ite.mp h with ⟨hf, h⟩ | ⟨hf, h⟩
    · exact .inr (.inr (.inr (.inl ⟨k, j, rfl, hf, List.mem_singleton.mp h⟩)))
    · rcases mem_ite.mp h with ⟨hj, h⟩ | ⟨_, h⟩
      · exact .inr (.inr (.inr (.inr (.inl
          ⟨k, j, _, rfl, Bool.eq_false_iff.mpr hf, .inl ⟨rfl, hj⟩, List.mem_singleton.mp h⟩))))
      · exact .inr (.inr (.inr (.inr (.inl
          ⟨k, j, _, rfl, Bool.eq_false_iff.mpr hf, .inr rfl, List.mem_singleton.mp h⟩))))
  | failing => exact .inr (.inr (.inr (.inr (.inr ⟨rfl, List.mem_singleton.mp h⟩))))
  | exited => cases h

theorem workerStep_eq_nil {c : Cfg} {s : St} {i : Nat} {w : W} :
    workerStep c s i w = [] ↔ w = W.exited ∨ (w = W.idle ∧ s.cancelled = false ∧ s.queue = []) := by
  cases w with
  | idle =>
    have hrecv : recv c s i = [] ↔ s.queue = [] := by
      unfold recv
      cases s.queue with
      | nil => exact iff_of_true rfl rfl
      | cons m q => cases m <;> exact iff_of_false (List.cons_ne_nil _ _) (List.cons_ne_nil _ _)
    exact List.append_eq_nil_iff.trans (by rw [guard_eq_nil, hrecv]; simp)
  | busy k j =>
    exact iff_of_false (ite_ne_nil (List.cons_ne_nil _ _) (ite_ne_nil (List.cons_ne_nil _ _) (List.cons_ne_nil _ _)))
      (by simp)
  | failing => exact iff_of_false (List.cons_ne_nil _ _) (by simp)
  | exited => exact iff_of_true rfl (.inl rfl)

theorem readerStep_eq_nil {c : Cfg} {s : St} :
    readerStep c s = [] ↔ s.rd = R.finished ∨
      (¬ s.queue.length < c.g ∧ s.cancelled = false ∧
        (s.rd = R.reading ∧ s.next < c.n ∨ ∃ j, s.rd = R.sending j ∧ j < c.g)) := by
  fun_cases readerStep c s with
  | case1 hrd hn => rw [List.append_eq_nil_iff, guard_eq_nil, guard_eq_nil]; simp [hrd, hn]   -- reading, blobs left
  | case2 hrd hn => exact iff_of_false (List.cons_ne_nil _ _) (by simp [hrd, hn])   -- reading, EOF
  | case3 j hrd hj => rw [List.append_eq_nil_iff, guard_eq_nil, guard_eq_nil]; simp [hrd, hj]   -- sending the `j`-th done
  | case4 j hrd hj => exact iff_of_false (List.cons_ne_nil _ _) (by simp [hrd, hj])   -- all done-blobs sent
  | case5 hrd => exact iff_of_true rfl (.inl hrd)   -- finished

theorem step_eq_nil {c : Cfg} {s : St} (hr : s.ret = none) : step c s = [] ↔
    (s.rd = R.finished ∨ (¬ s.queue.length < c.g ∧ s.cancelled = false ∧
        (s.rd = R.reading ∧ s.next < c.n ∨ ∃ j, s.rd = R.sending j ∧ j < c.g))) ∧
    ¬ (s.rd = R.finished ∧ allExited s) ∧
    ∀ (i : Nat) (w : W), s.ws[i]? = some w → w = W.exited ∨ (w = W.idle ∧ s.cancelled = false ∧ s.queue = []) := by
  simp only [step, hr, Option.isSome_none, Bool.false_eq_true, ↓reduceIte, List.append_eq_nil_iff, guard_eq_nil,
    forWorkers_eq_nil, workerStep_eq_nil, readerStep_eq_nil, and_assoc]

def isDone : Msg → Bool
  | .done => true
  | .data _ => false

def isData : Msg → Bool
  | .done => false
  | .data _ => true

def isExited : W → Bool
  | .exited => true
  | _ => false

@[simp] theorem isExited_idle : isExited W.idle = false := rfl
@[simp] theorem isExited_busy (k j : Nat) : isExited (W.busy k j) = false := rfl
@[simp] theorem isExited_failing : isExited W.failing = false := rfl
@[simp] theorem isExited_exited : isExited W.exited = true := rfl
@[simp] theorem isDone_done : isDone Msg.done = true := rfl
@[simp] theorem isDone_data (k : Nat) : isDone (Msg.data k) = false := rfl
@[simp] theorem isData_done : isData Msg.done = false := rfl
@[simp] theorem isData_data (k : Nat) : isData (Msg.data k) = true := rfl

theorem isExited_iff {w : W} : isExited w = true ↔ w = W.exited := by
  cases w <;> simp

/-- done-blobs the reader has put into the channel, as long as nothing was cancelled -/
def doneSent (c : Cfg) : R → Nat
  | .reading => 0
  | .sending j => j
  | .finished => c.g

structure Inv (c : Cfg) (s : St) : Prop where
  len : s.ws.length = c.g
  err : s.failed = true → s.oerr = true ∨ ∃ i : Nat, s.ws[i]? = some W.failing
  ret : ∀ r, s.ret = some r → r = s.oerr ∧ allExited s
  /-- the reader offers at most one done-blob per worker -/
  rdle : ∀ j, s.rd = R.sending j → j ≤ c.g
  /-- without a cancellation, a worker leaves exactly when it takes a done-blob -/
  cnt : s.cancelled = false → s.ws.countP isExited + s.queue.countP isDone = doneSent c s.rd
  qlen : s.queue.length ≤ c.g
  /-- promptness: once `readBlobs` has returned through the Done arm (`stop`) no data blob enters the channel, so a data blob
  that reaches a worker late was in the channel at that moment; `late` grows only as a data blob leaves the queue -/
  cap : s.late + s.queue.countP isData ≤ c.g
  late0 : s.stopped = false → s.late = 0
  stop : s.stopped = true → s.rd ≠ R.reading

theorem inv_init (c : Cfg) : Inv c (init c) :=
  ⟨List.length_replicate, nofun, nofun, nofun, fun _ => by simp [init, doneSent, List.countP_replicate],
    Nat.zero_le _, Nat.zero_le _, fun _ => rfl, nofun⟩

theorem Inv.workers {c : Cfg} {s : St} (I : Inv c s) : Workers W.failing W.exited c.g s.ws s.failed s.oerr s.ret :=
  ⟨I.len, I.err, I.ret⟩

theorem inv_step {c : Cfg} {s s' : St} (I : Inv c s) (h : s' ∈ step c s) : Inv c s' := by
  obtain ⟨hr, h⟩ := mem_step.mp h
  rcases h with h | ⟨hfin, ha, rfl⟩ | ⟨i, w, hw, h⟩
  · rcases mem_readerStep h with ⟨hrd, hn, hq, rfl⟩ | ⟨hrd, hn, hc, rfl⟩ | ⟨hrd, hn, rfl⟩ |
      ⟨j, hrd, hj, hq, rfl⟩ | ⟨j, hrd, hj, hc, rfl⟩ | ⟨j, hrd, hj, rfl⟩
    · -- a data blob is sent
      have hl0 : s.late = 0 := I.late0 (Bool.eq_false_iff.mpr fun hs => I.stop hs hrd)
      exact { I with
        cnt := by
          simpa only [List.countP_append, List.countP_singleton, isDone_data, Bool.false_eq_true, ↓reduceIte,
            Nat.add_zero] using I.cnt
        qlen := by simp only [List.length_append, List.length_cons, List.length_nil]; omega
        cap := by
          have := List.countP_le_length (p := isData) (l := s.queue)
          simp only [List.countP_append, List.countP_singleton, isData_data, ↓reduceIte]; omega }
    · -- readBlobs returns through the Done arm
      exact { I with rdle := fun j e => R.sending.inj e ▸ Nat.zero_le _, cnt := (fun h2 => nomatch hc ▸ h2),
                     late0 := nofun, stop := nofun }
    · -- EOF
      exact { I with rdle := fun j e => R.sending.inj e ▸ Nat.zero_le _,
                     cnt := fun hc => (I.cnt hc).trans (by rw [hrd]; rfl), stop := nofun }
    · -- a done-blob is sent
      exact { I with
        rdle := fun j' e => R.sending.inj e ▸ hj
        cnt := by
          intro hc; have := I.cnt hc; rw [hrd] at this
          simp only [List.countP_append, List.countP_singleton, isDone_done, ↓reduceIte, doneSent] at this ⊢; omega
        qlen := by simp only [List.length_append, List.length_cons, List.length_nil]; omega
        cap := by
          simpa only [List.countP_append, List.countP_singleton, isData_done, Bool.false_eq_true, ↓reduceIte,
            Nat.add_zero] using I.cap
        stop := nofun }
    · -- a done-blob is skipped after the cancellation
      exact { I with rdle := fun j' e => R.sending.inj e ▸ hj, cnt := (fun h2 => nomatch hc ▸ h2), stop := nofun }
    · -- the reader is done
      refine { I with rdle := nofun, cnt := ?_, stop := nofun }
      intro hc; have := I.cnt hc; rw [hrd] at this
      have := I.rdle j hrd
      simp only [doneSent] at *; omega
  · -- return
    exact { I with ret := fun r e => ⟨(Option.some.inj e).symm, ha⟩ }
  · have cnt : ∀ x, isExited w = false →
        (s.ws.set i x).countP isExited = s.ws.countP isExited + if isExited x = true then 1 else 0 := by
      intro x h1; have := countP_set_of_getElem? (p := isExited) (x := x) hw
      rw [h1] at this; exact this
    rcases mem_workerStep h with ⟨rfl, hcan, rfl⟩ | ⟨rfl, k, q, hq, rfl⟩ | ⟨rfl, q, hq, rfl⟩ |
      ⟨k, j, rfl, hf, rfl⟩ | ⟨k, j, x, rfl, hf, hx, rfl⟩ | ⟨rfl, rfl⟩
    · -- idle worker leaves through ctx.Done()
      exact { I.workers.move hr hw nofun, I with cnt := (fun h2 => nomatch hcan ▸ h2) }
    · -- idle worker takes a data blob
      have hx : isExited (if c.size k = 0 then W.idle else W.busy k 0) = false := by split <;> rfl
      have hqlen := I.qlen; have hcap := I.cap
      rw [hq] at hqlen hcap
      refine { I.workers.move hr hw nofun, I with
        cnt := ?_, qlen := Nat.le_of_succ_le hqlen, cap := ?_, late0 := ?_ }
      · intro hc; have := I.cnt hc
        rw [hq] at this
        show (s.ws.set i _).countP isExited + _ = _
        rw [cnt _ rfl, hx]; exact this
      · show (if s.stopped = true then s.late + 1 else s.late) + q.countP isData ≤ c.g
        rw [List.countP_cons_of_pos rfl] at hcap
        split <;> omega
      · intro hs
        show (if s.stopped = true then s.late + 1 else s.late) = 0
        rw [if_neg (by rw [hs]; nofun)]; exact I.late0 hs
    · -- idle worker takes a done-blob and leaves
      have hqlen := I.qlen; have hcap := I.cap
      rw [hq] at hqlen hcap
      refine { I.workers.move hr hw nofun, I with cnt := ?_, qlen := Nat.le_of_succ_le hqlen, cap := hcap }
      intro hc; have := I.cnt hc
      rw [hq, List.countP_cons_of_pos rfl] at this
      show (s.ws.set i _).countP isExited + _ = _
      rw [cnt _ rfl]; simp only [isExited_exited, ↓reduceIte]; omega
    · -- the callback fails
      exact { I.workers.fail hr hw, I with cnt := fun hc => (congrArg (· + _) (cnt _ rfl)).trans (I.cnt hc) }
    · -- the callback succeeds
      have hx' : isExited x = false := by rcases hx with ⟨rfl, _⟩ | rfl <;> rfl
      refine { I.workers.move hr hw nofun, I with cnt := ?_ }
      intro hc
      show (s.ws.set i _).countP isExited + _ = _
      rw [cnt _ rfl, hx']; exact I.cnt hc
    · -- the failing worker records the error, cancels and returns
      exact { I.workers.record hr i, I with cnt := nofun }

theorem inv_reachable {c : Cfg} {s : St} (h : Reachable (step c) (init c) s) : Inv c s :=
  Reachable.invariant (Inv c) (inv_init c) (fun _ _ I hm => inv_step I hm) s h

def wweight (c : Cfg) : W → Nat
  | .idle => 1
  | .busy k j => (c.size k - j) + 2
  | .failing => 1
  | .exited => 0

def mweight (c : Cfg) : Msg → Nat
  | .data k => c.size k + 3
  | .done => 2

def rweight (c : Cfg) : R → Nat
  | .reading => 3 * c.g + 2
  | .sending j => 3 * (c.g - j) + 1
  | .finished => 0

/-- `size k + 4` per blob not yet read, `size k + 3` / 2 per data / done blob in the channel, the callbacks left (+2)
per busy worker, 1 per worker that has not left, 3 per done-blob the reader still has to offer, 1 for the return -/
def measure (c : Cfg) (s : St) : Nat :=
  pending (fun k => c.size k + 4) c.n s.next + (s.queue.map (mweight c)).sum + (s.ws.map (wweight c)).sum
    + rweight c s.rd + flag s.ret.isSome

theorem rweight_reading (c : Cfg) : rweight c (R.sending 0) + 1 = rweight c R.reading := rfl

theorem rweight_sending {c : Cfg} {j : Nat} (hj : j < c.g) :
    rweight c (R.sending (j + 1)) + 3 = rweight c (R.sending j) := by
  simp only [rweight]; omega

theorem measure_step {c : Cfg} {s s' : St} (h : s' ∈ step c s) : measure c s' < measure c s := by
  obtain ⟨hr, h⟩ := mem_step.mp h
  rcases h with h | ⟨hfin, ha, rfl⟩ | ⟨i, w, hw, h⟩
  · -- the reader's weight drops, or a blob not yet read becomes a lighter one in the channel
    have key : ∀ t : St, t.ws = s.ws → t.ret = s.ret →
        pending (fun k => c.size k + 4) c.n t.next + (t.queue.map (mweight c)).sum + rweight c t.rd <
          pending (fun k => c.size k + 4) c.n s.next + (s.queue.map (mweight c)).sum + rweight c s.rd →
        measure c t < measure c s := by
      intro t e1 e2 hlt
      rw [measure, measure, e1, e2, Nat.add_right_comm _ _ (rweight c t.rd), Nat.add_right_comm _ _ (rweight c s.rd)]
      exact add_flag (Nat.add_lt_add_right hlt _)
    have sum_snoc : ∀ m, ((s.queue ++ [m]).map (mweight c)).sum = (s.queue.map (mweight c)).sum + mweight c m := by
      intro m; rw [List.map_append, List.sum_append, List.map_cons, List.map_nil, List.sum_cons, List.sum_nil, Nat.add_zero]
    rcases mem_readerStep h with ⟨hrd, hn, hq, rfl⟩ | ⟨hrd, hn, hc, rfl⟩ | ⟨hrd, hn, rfl⟩ |
      ⟨j, hrd, hj, hq, rfl⟩ | ⟨j, hrd, hj, hc, rfl⟩ | ⟨j, hrd, hj, rfl⟩
    · -- a data blob is sent: `size + 4` not yet read becomes `size + 3` in the channel
      refine key _ rfl rfl (Nat.add_lt_add_right ?_ _)
      dsimp only
      rw [sum_snoc, pending_succ _ hn]
      simp only [mweight]; omega
    · -- readBlobs returns through the Done arm
      exact key _ rfl rfl (Nat.add_lt_add_left (by rw [hrd, ← rweight_reading]; exact Nat.lt_succ_self _) _)
    · -- EOF
      exact key _ rfl rfl (Nat.add_lt_add_left (by rw [hrd, ← rweight_reading]; exact Nat.lt_succ_self _) _)
    · -- a done-blob is sent: 3 of the reader's weight become 2 in the channel
      refine key _ rfl rfl ?_
      dsimp only
      rw [sum_snoc, hrd, ← rweight_sending hj]
      simp only [mweight]; omega
    · -- a done-blob is skipped after the cancellation
      exact key _ rfl rfl (Nat.add_lt_add_left (by rw [hrd, ← rweight_sending hj]; exact Nat.lt_add_of_pos_right (by decide)) _)
    · -- the reader is done
      exact key _ rfl rfl (Nat.add_lt_add_left (by rw [hrd]; exact Nat.succ_pos _) _)
  · -- return
    exact Nat.add_lt_add_left (flag_lt (congrArg Option.isSome hr)) _
  · -- a worker's step changes nothing else the measure looks at, except that it may take a blob
    have key : ∀ (t : St) (x : W), t.ws = s.ws.set i x → t.next = s.next → t.rd = s.rd → t.ret = s.ret →
        (t.queue.map (mweight c)).sum + wweight c x < (s.queue.map (mweight c)).sum + wweight c w →
        measure c t < measure c s := by
      intro t x e1 e2 e3 e4 hx
      have := sum_map_set (wweight c) x hw
      rw [measure, measure, e1, e2, e3, e4]
      refine add_flag (Nat.add_lt_add_right ?_ _)
      omega
    rcases mem_workerStep h with ⟨rfl, hcan, rfl⟩ | ⟨rfl, k, q, hq, rfl⟩ | ⟨rfl, q, hq, rfl⟩ |
      ⟨k, j, rfl, hf, rfl⟩ | ⟨k, j, x, rfl, hf, hx, rfl⟩ | ⟨rfl, rfl⟩
    · -- leaves through ctx.Done()
      exact key _ _ rfl rfl rfl rfl (Nat.lt_succ_self _)
    · -- takes a data blob: `size + 3` in the channel, the worker goes from 1 to at most `size + 2`
      refine key _ _ rfl rfl rfl rfl ?_
      rw [hq, List.map_cons, List.sum_cons]
      have : wweight c (if c.size k = 0 then W.idle else W.busy k 0) ≤ c.size k + 2 := by split <;> simp [wweight]
      have h1 : wweight c W.idle = 1 := rfl
      simp only [mweight]; omega
    · -- takes a done-blob and leaves
      refine key _ _ rfl rfl rfl rfl ?_
      rw [hq, List.map_cons, List.sum_cons]
      simp only [mweight, wweight]; omega
    · -- the callback fails
      exact key _ _ rfl rfl rfl rfl (Nat.add_lt_add_left (Nat.lt_add_left _ (Nat.lt_succ_self 1)) _)
    · -- the callback succeeds
      refine key _ x rfl rfl rfl rfl (Nat.add_lt_add_left ?_ _)
      rcases hx with ⟨rfl, hj⟩ | rfl
      · simp only [wweight]; omega
      · exact Nat.lt_add_left _ (Nat.lt_succ_self 1)
    · -- records the error, cancels and leaves
      exact key _ _ rfl rfl rfl rfl (Nat.lt_succ_self _)

end B6.Model.Proto.Pbf
