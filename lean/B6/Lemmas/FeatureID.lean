import B6.Model.FeatureID
import B6.Lemmas.Basic.Sorted
import B6.Lemmas.Basic.List
/-! Facts about the feature-ID model behind C31. What is printed is read back because each boundary can be found again:
the separator (`/`, the end of the digits) does not occur on one side of it, a bit field stays below its `2 ^ k`. -/
namespace B6.Lemmas.FeatureID
open B6.Model.FeatureID

theorem digitsLE_fuel : ∀ (f g n : Nat), n < f → n < g → digitsLE f n = digitsLE g n := by
  intro f g n hf hg
  fun_induction digitsLE f n generalizing g with
  | case1 => omega
  | case2 f n ih =>
    cases g with
    | zero => omega
    | succ g =>
      simp only [digitsLE]
      split
      · rfl
      · rw [ih g (by omega) (by omega)]

theorem dec_lt10 (n : Nat) (h : n < 10) : dec n = [48 + n] := by
  have h0 : n / 10 = 0 := by omega
  have hm : n % 10 = n := by omega
  simp [dec, digitsLE, h0, hm]

theorem dec_step (n : Nat) (h : 10 ≤ n) : dec n = dec (n / 10) ++ [48 + n % 10] := by
  have h0 : ¬ n / 10 = 0 := by omega
  have e : digitsLE (n + 1) n = (n % 10) :: digitsLE n (n / 10) := by
    simp only [digitsLE, h0, ↓reduceIte]
  unfold dec
  rw [e, digitsLE_fuel n (n / 10 + 1) (n / 10) (by omega) (by omega)]
  simp

def stepDigit (v c : Nat) : Option Nat :=
  if isDigit c then (if v * 10 + (c - 48) ≥ 2 ^ 64 then none else some (v * 10 + (c - 48))) else none

theorem parseDigits_snoc (s : Bytes) (c a : Nat) :
    parseDigits (s ++ [c]) a = (parseDigits s a).bind (fun v => stepDigit v c) := by
  induction s generalizing a with
  | nil =>
    simp only [List.nil_append, parseDigits, stepDigit, Option.bind]
  | cons x xs ih =>
    simp only [List.cons_append, parseDigits]
    split
    · split
      · rfl
      · exact ih _
    · rfl

theorem stepDigit_digit (v d : Nat) (hd : d < 10) (hv : v * 10 + d < 2 ^ 64) :
    stepDigit v (48 + d) = some (v * 10 + d) := by
  have h1 : isDigit (48 + d) = true := by simp [isDigit]; omega
  have h2 : ¬ v * 10 + d ≥ 2 ^ 64 := by omega
  simp only [stepDigit, h1, ↓reduceIte, Nat.add_sub_cancel_left, h2]

theorem parseDigits_dec : ∀ (n : Nat), n < 2 ^ 64 → parseDigits (dec n) 0 = some n := by
  intro n
  induction n using Nat.strongRecOn with
  | _ n ih =>
    intro hn
    by_cases h : n < 10
    · rw [dec_lt10 n h, ← List.nil_append [48 + n], parseDigits_snoc]
      exact (stepDigit_digit 0 n h (by omega)).trans (by rw [Nat.zero_mul, Nat.zero_add])
    · rw [dec_step n (by omega), parseDigits_snoc, ih (n / 10) (by omega) (by omega)]
      exact (stepDigit_digit (n / 10) (n % 10) (by omega) (by omega)).trans (congrArg some (by omega))

theorem dec_ne_nil (n : Nat) : dec n ≠ [] := by
  by_cases h : n < 10
  · rw [dec_lt10 n h]; simp
  · rw [dec_step n (by omega)]; simp

theorem parseUint_dec (n : Nat) (h : n < 2 ^ 64) : parseUint (dec n) = some n := by
  simp [parseUint, dec_ne_nil, parseDigits_dec n h]

theorem dec_digits : ∀ (n : Nat), ∀ c ∈ dec n, 48 ≤ c ∧ c ≤ 57 := by
  intro n
  induction n using Nat.strongRecOn with
  | _ n ih =>
    intro c hc
    by_cases h : n < 10
    · rw [dec_lt10 n h] at hc
      simp at hc; omega
    · rw [dec_step n (by omega)] at hc
      simp only [List.mem_append, List.mem_cons, List.not_mem_nil, or_false] at hc
      rcases hc with hc | hc
      · exact ih (n / 10) (by omega) c hc
      · omega

theorem dec_length_le : ∀ (k n : Nat), n < 10 ^ (k + 1) → (dec n).length ≤ k + 1 := by
  intro k
  induction k with
  | zero => intro n h; rw [dec_lt10 n (by simpa using h)]; simp
  | succ k ih =>
    intro n h
    by_cases h10 : n < 10
    · rw [dec_lt10 n h10]; simp
    · rw [dec_step n (by omega)]
      have : n / 10 < 10 ^ (k + 1) := by
        rw [Nat.pow_succ] at h; omega
      have := ih (n / 10) this
      simp; omega

theorem atoi_digits (s : Bytes) (u : Nat) (hs : ∀ c ∈ s, 48 ≤ c ∧ c ≤ 57)
    (hp : parseUint s = some u) (hu : u < 2 ^ 63) : atoi s = some (u : Int) := by
  cases s with
  | nil => simp [parseUint] at hp
  | cons c rest =>
    have hc := hs c (by simp)
    have h1 : ¬ c = 43 := by omega
    have h2 : ¬ c = 45 := by omega
    have h3 : ¬ u ≥ 2 ^ 63 := by omega
    simp only [atoi, h1, h2, or_self, ↓reduceIte, hp, h3]

theorem atoi_dec (n : Nat) (h : n < 2 ^ 63) : atoi (dec n) = some (n : Int) :=
  atoi_digits _ _ (dec_digits n) (parseUint_dec n (by omega)) h

theorem slash_not_mem_dec (n : Nat) : 47 ∉ dec n := by
  intro h
  have := dec_digits n 47 h
  omega

/-! splitting at a separator that one side does not hold (`Index`, `LastIndex`, `Split`) -/

theorem indexOf_append_not_mem (c : Nat) (l r : Bytes) (h : c ∉ l) :
    indexOf c (l ++ c :: r) = some l.length := by
  induction l with
  | nil => simp [indexOf]
  | cons x xs ih =>
    have hx : x ≠ c := by intro e; apply h; simp [e]
    have hxs : c ∉ xs := by intro e; apply h; simp [e]
    simp [indexOf, hx, ih hxs]

theorem lastIndexOf_append_not_mem (c : Nat) (l r : Bytes) (h : c ∉ r) :
    lastIndexOf c (l ++ c :: r) = some l.length := by
  have e : (l ++ c :: r).reverse = r.reverse ++ c :: l.reverse := by simp
  have h' : c ∉ r.reverse := by simpa using h
  simp only [lastIndexOf, e, indexOf_append_not_mem c _ _ h', Option.map, List.length_append,
    List.length_cons, List.length_reverse]
  congr 1; omega

theorem splitSlash_no_slash (r : Bytes) (h : 47 ∉ r) : splitSlash r = [r] := by
  induction r with
  | nil => rfl
  | cons c cs ih =>
    have hc : ¬ c = 47 := by intro e; apply h; simp [e]
    have hcs : 47 ∉ cs := by intro e; apply h; simp [e]
    simp [splitSlash, hc, ih hcs]

theorem splitSlash_append (l r : Bytes) (h : 47 ∉ l) :
    splitSlash (l ++ 47 :: r) = l :: splitSlash r := by
  induction l with
  | nil => simp [splitSlash]
  | cons c cs ih =>
    have hc : ¬ c = 47 := by intro e; apply h; simp [e]
    have hcs : 47 ∉ cs := by intro e; apply h; simp [e]
    simp [splitSlash, hc, ih hcs]

theorem name_no_slash (t : FType) : 47 ∉ t.name := by cases t <;> decide

theorem stripSlash_name (t : FType) (rest : Bytes) : stripSlash (t.name ++ rest) = t.name ++ rest := by
  cases t <;> rfl

theorem ftypeFromString_name (t : FType) : ftypeFromString t.name = t := by cases t <;> decide

theorem fromString_idString (f : FeatureID) (hv : f.value < 2 ^ 64) (ht : f.type ≠ .invalid) :
    fromString (idString f) = f := by
  obtain ⟨t, ns, v⟩ := f
  simp only at hv ht
  have hi : indexOf 47 (t.name ++ 47 :: (ns ++ 47 :: dec v)) = some t.name.length :=
    indexOf_append_not_mem 47 _ _ (name_no_slash t)
  have es : t.name ++ 47 :: (ns ++ 47 :: dec v) = (t.name ++ 47 :: ns) ++ 47 :: dec v := by simp
  have hj : lastIndexOf 47 (t.name ++ 47 :: (ns ++ 47 :: dec v)) = some (t.name.length + 1 + ns.length) := by
    rw [es, lastIndexOf_append_not_mem 47 _ _ (slash_not_mem_dec v)]
    simp; omega
  have hne : ¬ t.name.length = t.name.length + 1 + ns.length := by omega
  have htake : (t.name ++ 47 :: (ns ++ 47 :: dec v)).take t.name.length = t.name :=
    List.take_left' rfl
  have hdrop : (t.name ++ 47 :: (ns ++ 47 :: dec v)).drop (t.name.length + 1 + ns.length + 1) = dec v := by
    have : t.name ++ 47 :: (ns ++ 47 :: dec v) = (t.name ++ 47 :: ns ++ [47]) ++ dec v := by simp
    rw [this]; apply List.drop_left'; simp; omega
  have hmid : ((t.name ++ 47 :: (ns ++ 47 :: dec v)).take (t.name.length + 1 + ns.length)).drop
      (t.name.length + 1) = ns := by
    rw [es, List.take_left' (by simp; omega)]
    have : t.name ++ 47 :: ns = (t.name ++ [47]) ++ ns := by simp
    rw [this]; apply List.drop_left'; simp
  simp only [fromString, idString, stripSlash_name, hi, hj, hne, ↓reduceIte, htake,
    ftypeFromString_name, ht, hdrop, parseUint_dec v hv, hmid]

/-! `lexLt` is the order core Lean puts on `List Nat`, `lexLe` its `≤` (`¬ b < a`); what is needed of them is in core. -/

theorem lexLt_iff : ∀ {a b : Bytes}, lexLt a b = true ↔ a < b
  | [], [] => by simp [lexLt]
  | [], _ :: _ => by simp [lexLt]
  | _ :: _, [] => by simp [lexLt]
  | x :: xs, y :: ys => by
    rw [lexLt, List.cons_lt_cons_iff, ← lexLt_iff (a := xs)]
    by_cases h1 : x < y
    · simp [h1]
    · by_cases h2 : x = y <;> simp [h1, h2]

theorem lexLe_iff {a b : Bytes} : lexLe a b = true ↔ a ≤ b := by
  rw [lexLe, Bool.not_eq_true', ← Bool.not_eq_true, lexLt_iff, List.not_lt]

theorem lexLt_trichotomy (a b : Bytes) : lexLt a b = true ∨ a = b ∨ lexLt b a = true := by
  simp only [lexLt_iff]
  by_cases h1 : a < b
  · exact Or.inl h1
  · by_cases h2 : b < a
    · exact Or.inr (Or.inr h2)
    · exact Or.inr (Or.inl (List.le_antisymm h2 h1))

theorem toNat_inj (s t : FType) (h : s.toNat = t.toNat) : s = t := by
  cases s <;> cases t <;> first | rfl | exact absurd h (by decide)

/-- `Less` is the lexicographic product of the orders on type number, namespace and value -/
theorem less_iff (a b : FeatureID) : less a b = true ↔
    a.type.toNat < b.type.toNat ∨ a.type = b.type ∧ (a.ns < b.ns ∨ a.ns = b.ns ∧ a.value < b.value) := by
  unfold less
  by_cases ht : a.type = b.type
  · by_cases hn : a.ns = b.ns
    · simp [ht, hn, List.lt_irrefl]
    · simp [ht, hn, lexLt_iff]
  · have : a.type.toNat ≠ b.type.toNat := fun h => ht (toNat_inj _ _ h)
    simp [ht]

theorem less_irrefl (a : FeatureID) : less a a = false := by
  simp [less]

theorem less_trans (a b c : FeatureID) (hab : less a b = true) (hbc : less b c = true) : less a c = true := by
  rw [less_iff] at *
  exact Basic.lex_trans (lt := fun s t : FType => s.toNat < t.toNat) Nat.lt_trans
    (Basic.lex_trans (lt := (· < ·)) List.lt_trans Nat.lt_trans) hab hbc

theorem less_trichotomy (a b : FeatureID) : less a b = true ∨ a = b ∨ less b a = true := by
  have e : a = b ↔ a.type = b.type ∧ a.ns = b.ns ∧ a.value = b.value := by
    cases a; cases b; simp
  simp only [less_iff, e]
  exact Basic.lex_total (lt := fun s t : FType => s.toNat < t.toNat)
    (fun s t => (Nat.lt_trichotomy s.toNat t.toNat).imp_right (Or.imp_left (toNat_inj s t)))
    (Basic.lex_total (lt := (· < ·)) (fun x y : Bytes => by simpa only [lexLt_iff] using lexLt_trichotomy x y)
      (Nat.lt_trichotomy a.value b.value))

/-! bit fields: a `k`-bit value `lo` packed below `hi` -/

theorem shl_or (hi lo k : Nat) (h : lo < 2 ^ k) : hi <<< k ||| lo = hi * 2 ^ k + lo := by
  rw [← Nat.shiftLeft_add_eq_or_of_lt h, Nat.shiftLeft_eq]

theorem and_mask (hi lo k : Nat) (h : lo < 2 ^ k) : (hi * 2 ^ k + lo) &&& (2 ^ k - 1) = lo := by
  rw [Nat.and_two_pow_sub_one_eq_mod, Nat.mul_comm, Nat.mul_add_mod, Nat.mod_eq_of_lt h]

theorem shr_field (hi lo k : Nat) (h : lo < 2 ^ k) : (hi * 2 ^ k + lo) >>> k = hi := by
  rw [Nat.shiftRight_eq_div_pow, Nat.mul_comm, Nat.mul_add_div (Nat.two_pow_pos k), Nat.div_eq_of_lt h,
    Nat.add_zero]

theorem shl_mod (x k : Nat) (h : x * 2 ^ k < 2 ^ 64) : (x <<< k) % 2 ^ 64 = x * 2 ^ k := by
  rw [Nat.shiftLeft_eq, Nat.mod_eq_of_lt h]

/-! casts of the `Int` arithmetic of `FeatureIDFromUKONSCode` back to `Nat` -/

theorem toNat_emod (a m : Nat) (hm : a < m) : ((a : Int) % (m : Int)).toNat = a := by
  rw [Int.ofNat_mod_ofNat, Int.toNat_natCast, Nat.mod_eq_of_lt hm]

theorem toNat_sub_emod (a b m : Nat) (hb : b ≤ a) (hm : a - b < m) : (((a : Int) - b) % m).toNat = a - b := by
  rw [← Int.natCast_sub hb]; exact toNat_emod _ _ hm

def Sorted (l : List Bytes) : Prop := List.Pairwise (fun a b => lexLe a b = true) l

theorem sortNs_isSort : Basic.IsInsertSort (fun a b => lexLe a b = true) insertNs sortNs :=
  ⟨fun _ => rfl, fun _ _ _ => rfl, rfl, fun _ _ => rfl⟩

theorem sorted_sortNs (l : List Bytes) : Sorted (sortNs l) :=
  sortNs_isSort.pairwise (fun h => lexLe_iff.2 ((List.le_total _ _).resolve_left fun h' => h (lexLe_iff.2 h')))
    (fun h1 h2 => lexLe_iff.2 (List.le_trans (lexLe_iff.1 h1) (lexLe_iff.1 h2))) l

theorem mem_sortNs (y : Bytes) (l : List Bytes) : y ∈ sortNs l ↔ y ∈ l := sortNs_isSort.mem

theorem length_sortNs (l : List Bytes) : (sortNs l).length = l.length := sortNs_isSort.length_eq l

theorem encodeFrom_isLastIdx : Basic.IsLastIdx (· % 65536) encodeFrom := ⟨fun _ _ _ => rfl, fun _ _ _ _ _ => rfl⟩

theorem encode_spec (tbl : List Bytes) (ns : Bytes) (e : Nat) (hlen : tbl.length ≤ 65536)
    (h : encode tbl ns = some e) : tbl[e]? = some ns := by
  rcases encodeFrom_isLastIdx.spec ns tbl 0 none e h with h' | ⟨k, hk, he⟩
  · simp at h'
  · have hk' : k < tbl.length := Basic.lt_length_of_getElem? hk
    have : e = k := by omega
    rw [this]; exact hk

theorem sorted_index_lt_iff {tbl : List Bytes} (hs : Sorted tbl) {i j : Nat} {a b : Bytes}
    (hi : tbl[i]? = some a) (hj : tbl[j]? = some b) (hne : a ≠ b) : lexLt a b = true ↔ i < j :=
  ⟨fun hab => hs.lt_of_not_rel hi hj (fun h => by rw [lexLe, hab] at h; cases h) hne, fun hij =>
    lexLt_iff.2 ((List.le_iff_lt_or_eq.mp (lexLe_iff.1 (hs.rel_of_getElem? hi hj hij))).resolve_right hne)⟩

theorem typeShift (t : FType) : (t.toNat <<< 13) % 65536 = t.toNat <<< 13 := by
  cases t <;> decide

theorem combine_eq (t : FType) (e : Nat) (he : e < 8192) : combine t e = t.toNat * 8192 + e := by
  rw [combine, typeShift, Nat.mod_eq_of_lt (Nat.lt_trans he (by decide))]
  exact shl_or _ e 13 he

theorem keyLess_iff (a b : Nat × Nat) : keyLess a b = true ↔ a.1 < b.1 ∨ a.1 = b.1 ∧ a.2 < b.2 := by
  unfold keyLess
  split <;> simp only [decide_eq_true_iff] <;> omega

/-- a byte of a normalised postcode: `0`–`9` or `A`–`Z` -/
def pcChar (c : Nat) : Prop := (48 ≤ c ∧ c ≤ 57) ∨ (65 ≤ c ∧ c ≤ 90)

/-- a normalised GB postcode (upper case, no spaces): 5–7 characters of `[0-9A-Z]` -/
def ValidPostcode (p : Bytes) : Prop := 5 ≤ p.length ∧ p.length ≤ 7 ∧ ∀ c ∈ p, pcChar c

def elemVal (c : Nat) : Nat := if c ≤ 57 then c - 48 else c - 55

theorem pcElem_of_pcChar (c : Nat) (h : pcChar c) : pcElem c = some (elemVal c) ∧ elemVal c < 36 := by
  unfold pcChar at h
  unfold pcElem elemVal
  by_cases h1 : 48 ≤ c ∧ c ≤ 57
  · have h2 : c ≤ 57 := h1.2
    rw [if_pos h1, if_pos h2]; exact ⟨rfl, by omega⟩
  · have h3 : 65 ≤ c ∧ c ≤ 90 := by omega
    have h2 : ¬ c ≤ 57 := by omega
    rw [if_neg h1, if_pos h3, if_neg h2]; exact ⟨by congr 1; omega, by omega⟩

theorem toUpper_cons_ascii (c : Nat) (rest : Bytes) (h : c < 128) :
    toUpper (c :: rest) = (if 97 ≤ c ∧ c ≤ 122 then c - 32 else c) :: toUpper rest := by
  generalize hl : c :: rest = l
  fun_cases toUpper l with
  | case1 | case2 => cases hl; omega  -- `ı`, `ſ`: first byte from 128 on
  | case3 => cases hl; rfl
  | case4 => cases hl

theorem toUpper_valid (p : Bytes) (h : ∀ c ∈ p, pcChar c) : toUpper p = p := by
  induction p with
  | nil => simp [toUpper]
  | cons c cs ih =>
    obtain ⟨hc, hcs⟩ := List.forall_mem_cons.mp h
    unfold pcChar at hc
    rw [toUpper_cons_ascii c cs (by omega), ih hcs]
    have : ¬ (97 ≤ c ∧ c ≤ 122) := by omega
    simp [this]

theorem toUpper_toLower_valid (p : Bytes) (h : ∀ c ∈ p, pcChar c) : toUpper (toLower p) = p := by
  induction p with
  | nil => simp [toLower, toUpper]
  | cons c cs ih =>
    obtain ⟨hc, hcs⟩ := List.forall_mem_cons.mp h
    unfold pcChar at hc
    have ih' := ih hcs
    simp only [toLower, List.map_cons] at ih' ⊢
    by_cases hu : 65 ≤ c ∧ c ≤ 90
    · simp only [hu, and_self, ↓reduceIte]
      rw [toUpper_cons_ascii _ _ (by omega), ih']
      have : 97 ≤ c + 32 ∧ c + 32 ≤ 122 := by omega
      simp [this]
    · simp only [hu, ↓reduceIte]
      rw [toUpper_cons_ascii _ _ (by omega), ih']
      have : ¬ (97 ≤ c ∧ c ≤ 122) := by omega
      simp [this]

theorem filter_space_of_ne {p : Bytes} (h : ∀ c ∈ p, c ≠ 32) : p.filter (· ≠ 32) = p :=
  List.filter_eq_self.mpr fun c hc => by simpa using h c hc

theorem filter_space_valid (p : Bytes) (h : ∀ c ∈ p, pcChar c) : p.filter (· ≠ 32) = p :=
  filter_space_of_ne fun c hc => by have := h c hc; unfold pcChar at this; omega

theorem toLower_pcChar (p : Bytes) (h : ∀ c ∈ p, pcChar c) : ∀ c ∈ toLower p, c ≠ 32 := by
  intro c hc
  simp only [toLower, List.mem_map] at hc
  obtain ⟨d, hd, rfl⟩ := hc
  have := h d hd
  unfold pcChar at this
  split <;> omega

/-- the packed elements of a postcode, most significant first -/
def pcVal (p : Bytes) (id : Nat) : Nat := p.foldl (fun a c => a * 64 + elemVal c) id

theorem pcFold_spec : ∀ (cs : Bytes) (first : Bool) (id k : Nat),
    (∀ c ∈ cs, pcChar c) → id < 64 ^ k → k + cs.length ≤ 7 → (first = true → id = 0) →
    pcFold cs first id = some (pcVal cs id) ∧ pcVal cs id < 64 ^ (k + cs.length) := by
  intro cs
  induction cs with
  | nil => intro first id k _ hid _ _; exact ⟨rfl, by simpa [pcVal] using hid⟩
  | cons c cs ih =>
    intro first id k hv hid hk hfirst
    have hc := pcElem_of_pcChar c (hv c (by simp))
    have hcs : ∀ d ∈ cs, pcChar d := fun d hd => hv d (by simp [hd])
    simp only [List.length_cons] at hk
    have hpow : 64 ^ k ≤ 64 ^ 6 := Nat.pow_le_pow_right (by decide) (by omega)
    have hstep : (if first = true then id else (id <<< 6) % 2 ^ 64) ||| elemVal c
        = id * 64 + elemVal c := by
      by_cases hf : first = true
      · simp [hf, hfirst hf]
      · rw [if_neg hf, shl_mod id 6 (by omega), ← shl_or id _ 6 (by omega), Nat.shiftLeft_eq]
    have hnext : id * 64 + elemVal c < 64 ^ (k + 1) := by
      rw [Nat.pow_succ]; omega
    have := ih false (id * 64 + elemVal c) (k + 1) hcs hnext (by omega) (by simp)
    simp only [pcFold, hc.1, hstep]
    refine ⟨this.1, ?_⟩
    have e : k + 1 + cs.length = k + (cs.length + 1) := by omega
    rw [e] at this
    exact this.2

theorem pcUnfold_step (c : Nat) (hc : pcChar c) (n v : Nat) (acc : Bytes) :
    pcUnfold (n + 1) (v * 64 + elemVal c) acc = pcUnfold n v (c :: acc) := by
  have he := (pcElem_of_pcChar c hc).2
  have hand : (v * 64 + elemVal c) &&& 63 = elemVal c := and_mask _ _ 6 (by omega)
  have hshr : (v * 64 + elemVal c) >>> 6 = v := shr_field _ _ 6 (by omega)
  simp only [pcUnfold, hand, hshr]
  unfold pcChar at hc
  unfold elemVal at he ⊢
  by_cases h57 : c ≤ 57
  · rw [if_pos h57, if_pos (by omega), show 48 + (c - 48) = c by omega]
  · rw [if_neg h57, if_neg (by omega), if_pos (by omega), show 65 + (c - 55 - 10) = c by omega]

theorem pcUnfold_spec : ∀ (q : Bytes) (id m : Nat) (acc : Bytes), (∀ c ∈ q.reverse, pcChar c) →
    pcUnfold (q.length + m) (pcVal q.reverse id) acc = pcUnfold m id (q.reverse ++ acc) := by
  intro q
  induction q with
  | nil => intro id m acc _; simp [pcVal]
  | cons c q ih =>
    intro id m acc hv
    have hval : pcVal (c :: q).reverse id = pcVal q.reverse id * 64 + elemVal c := by
      simp [pcVal, List.foldl_append]
    rw [show (c :: q).length + m = (q.length + m) + 1 by simp; omega, hval,
      pcUnfold_step c (hv c (by simp)), ih id m (c :: acc) fun d hd => hv d (by simp at hd ⊢; simp [hd])]
    simp

theorem pointID_valid (p : Bytes) (h : ValidPostcode p) :
    pointIDFromGBPostcode p = ⟨.point, nsGBCodePoint, pcVal p 0 * 4 + (p.length - 5)⟩ ∧
    pcVal p 0 < 64 ^ 7 := by
  obtain ⟨h5, h7, hv⟩ := h
  have hf := pcFold_spec p true 0 0 hv (by simp) (by omega) (fun _ => rfl)
  have hlt : pcVal p 0 < 64 ^ 7 := by
    have h2 : 64 ^ (0 + p.length) ≤ 64 ^ 7 := Nat.pow_le_pow_right (by decide) (by omega)
    omega
  have hl : ¬ (p.length < 5 ∨ p.length > 7) := by omega
  refine ⟨?_, hlt⟩
  simp only [pointIDFromGBPostcode, filter_space_valid p hv, toUpper_valid p hv, hl, ↓reduceIte, hf.1]
  congr 1
  rw [shl_mod _ 2 (by omega), ← shl_or _ _ 2 (by omega), Nat.shiftLeft_eq]

theorem pointID_lower (p : Bytes) (h : ValidPostcode p) :
    pointIDFromGBPostcode (toLower p) = pointIDFromGBPostcode p := by
  obtain ⟨h5, h7, hv⟩ := h
  simp only [pointIDFromGBPostcode, filter_space_of_ne (toLower_pcChar p hv), toUpper_toLower_valid p hv,
    filter_space_valid p hv, toUpper_valid p hv]

theorem postcode_of_pointID (p : Bytes) (h : ValidPostcode p) :
    postcodeFromPointID (pointIDFromGBPostcode p) = some p := by
  have ⟨hid, hlt⟩ := pointID_valid p h
  obtain ⟨h5, h7, hv⟩ := h
  rw [hid]
  have hand : (pcVal p 0 * 4 + (p.length - 5)) &&& 3 = p.length - 5 := and_mask _ _ 2 (by omega)
  have hshr : (pcVal p 0 * 4 + (p.length - 5)) >>> 2 = pcVal p 0 := shr_field _ _ 2 (by omega)
  simp only [postcodeFromPointID, ne_eq, not_true_eq_false, ↓reduceIte, hand, hshr]
  have hlen : 5 + (p.length - 5) = p.reverse.length + 0 := by simp; omega
  have := pcUnfold_spec p.reverse 0 0 [] (by simpa using hv)
  rw [List.reverse_reverse] at this
  rw [hlen, this]
  simp [pcUnfold]

theorem pad8_length (n : Nat) (h : n < 100000000) : (pad8 n).length = 8 := by
  have := dec_length_le 7 n (by simpa using h)
  simp [pad8]; omega

theorem pad8_digits (n : Nat) : ∀ c ∈ pad8 n, 48 ≤ c ∧ c ≤ 57 := by
  intro c hc
  simp only [pad8, List.mem_append, List.mem_replicate] at hc
  rcases hc with hc | hc
  · omega
  · exact dec_digits n c hc

theorem parseDigits_zeros (z : Nat) (s : Bytes) :
    parseDigits (List.replicate z 48 ++ s) 0 = parseDigits s 0 := by
  induction z with
  | zero => simp
  | succ z ih => simp [List.replicate_succ, parseDigits, isDigit, ih]

theorem parseUint_pad8 (n : Nat) (h : n < 100000000) : parseUint (pad8 n) = some n := by
  have hl := pad8_length n h
  have hne : pad8 n ≠ [] := by intro e; rw [e] at hl; simp at hl
  simp only [parseUint, hne, ↓reduceIte]
  simp only [pad8, parseDigits_zeros]
  exact parseDigits_dec n (by omega)

theorem atoi_pad8 (n : Nat) (h : n < 100000000) : atoi (pad8 n) = some (n : Int) :=
  atoi_digits _ _ (pad8_digits n) (parseUint_pad8 n h) (by omega)

/-- letter, year and number of an ONS code as the shell prints them -/
def ValidONS (letter year n : Nat) : Prop :=
  letter < 128 ∧ letter ≠ 47 ∧ 1900 ≤ year ∧ year ≤ 2155 ∧ n < 100000000

def onsValue (letter year n : Nat) : Nat := letter * 2 ^ 40 + (year - 1900) * 2 ^ 32 + n

theorem onsValue_eq (letter year n : Nat) :
    onsValue letter year n = (letter * 2 ^ 8 + (year - 1900)) * 2 ^ 32 + n := by
  rw [onsValue, Nat.add_mul, Nat.mul_assoc, ← Nat.pow_add]

theorem onsID_eq (letter year n : Nat) (h : ValidONS letter year n) (t : FType) :
    featureIDFromUKONSCode (letter :: pad8 n) (year : Int) t = ⟨t, nsUKONS, onsValue letter year n⟩ := by
  obtain ⟨hl, _, hy1, hy2, hn⟩ := h
  have hlen : ¬ (letter :: pad8 n).length ≠ 9 := by simp [pad8_length n hn]
  simp only [featureIDFromUKONSCode, hlen, ↓reduceIte, atoi_pad8 n hn]
  congr 1
  have e1 : letter % 256 = letter := Nat.mod_eq_of_lt (by omega)
  have e2 : (((year : Int) - 1900) % 256).toNat = year - 1900 := toNat_sub_emod year 1900 256 hy1 (by omega)
  have e3 : ((n : Int) % (2 ^ 64 : Int)).toNat = n := toNat_emod n (2 ^ 64) (by omega)
  rw [e1, e2, e3, onsValue_eq, Nat.shiftLeft_add letter 8 32, ← Nat.shiftLeft_or_distrib,
    shl_or letter _ 8 (by omega), shl_or _ n 32 (by omega)]

theorem ons_decode (letter year n : Nat) (h : ValidONS letter year n) (t : FType) :
    ukONSCodeFromFeatureID ⟨t, nsUKONS, onsValue letter year n⟩ = some (letter :: pad8 n, year) := by
  obtain ⟨hl, _, hy1, hy2, hn⟩ := h
  have hy : year - 1900 < 2 ^ 8 := by omega
  have e1 : onsValue letter year n >>> 32 = letter * 2 ^ 8 + (year - 1900) := by
    rw [onsValue_eq]; exact shr_field _ _ 32 (by omega)
  have e2 : onsValue letter year n >>> 40 = letter := by
    rw [Nat.shiftRight_add _ 32 8, e1]; exact shr_field _ _ 8 hy
  have e3 : onsValue letter year n &&& 4294967295 = n := by
    rw [onsValue_eq]; exact and_mask _ _ 32 (by omega)
  have e4 : (letter * 2 ^ 8 + (year - 1900)) &&& 255 = year - 1900 := and_mask _ _ 8 hy
  have e5 : letter &&& 255 = letter := by
    rw [Nat.and_two_pow_sub_one_eq_mod letter 8]; exact Nat.mod_eq_of_lt (by omega)
  have e6 : year - 1900 + 1900 = year := by omega
  simp only [ukONSCodeFromFeatureID, ne_eq, not_true_eq_false, ↓reduceIte, e1, e2, e3, e4, e5, e6, runeString, hl,
    List.cons_append, List.nil_append]

end B6.Lemmas.FeatureID
