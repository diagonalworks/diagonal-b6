import B6.Model.Shell
import B6.Lemmas.FeatureID
import B6.Props.C31
import B6.Lemmas.ShellSpans
/-! The text layer of C20: the model lexer reads back what the model printer's spacing rule writes
(`lex (render toks)`), token by token, with the spans of the printed texts. -/
namespace B6.Lemmas.ShellLex
open B6.Model.Shell B6.Model.FeatureID
open B6.Lemmas.FeatureID (dec_ne_nil dec_digits parseUint_dec atoi_dec)
open B6.Props.C31 (findByID_mem toToken_pre alias_roundtrip)

/-- the bytes the printer puts after a token: a space, a closing bracket, a comma or `=` -/
def isStop (c : Nat) : Bool := c == 32 || c == 41 || c == 125 || c == 93 || c == 44 || c == 61

theorem isStop_cases {c : Nat} (h : isStop c = true) : c = 32 ∨ c = 41 ∨ c = 125 ∨ c = 93 ∨ c = 44 ∨ c = 61 := by
  simpa only [isStop, Bool.or_eq_true, beq_iff_eq, or_assoc] using h

def Stops (rest : Bytes) : Prop := rest = [] ∨ ∃ c r, rest = c :: r ∧ isStop c = true

theorem spanWhile_append (p : Nat → Bool) (a rest : Bytes) (ha : ∀ c ∈ a, p c = true)
    (hr : rest = [] ∨ ∃ c r, rest = c :: r ∧ p c = false) : spanWhile p (a ++ rest) = (a, rest) := by
  induction a with
  | nil =>
    rcases hr with rfl | ⟨c, r, rfl, hc⟩
    · rfl
    · simp [spanWhile, hc]
  | cons x xs ih =>
    have hx := ha x (by simp)
    have := ih (fun c hc => ha c (by simp [hc]))
    simp [spanWhile, hx, this]

theorem stops_not {p : Nat → Bool} {rest : Bytes} (h : Stops rest) (hp : ∀ c, isStop c = true → p c = false) :
    rest = [] ∨ ∃ c r, rest = c :: r ∧ p c = false :=
  h.imp_right fun ⟨c, r, e, hc⟩ => ⟨c, r, e, hp c hc⟩

/-- what follows a stop is not the non-ASCII byte `lexNumericLiteral` looks out for after a number -/
theorem stops_head (rest : Bytes) (h : Stops rest) : rest.head?.any (· ≥ 128) = false := by
  rcases h with rfl | ⟨c, r, rfl, hc⟩
  · rfl
  · rcases isStop_cases hc with rfl | rfl | rfl | rfl | rfl | rfl <;> rfl

theorem digit_facts (c : Nat) (h : isDigitB c = true) :
    isSpace c = false ∧ (c == 45) = false ∧ isPunct c = false ∧ (c == 34) = false ∧ (c == 47) = false ∧
    (c == 35) = false ∧ (c == 64) = false ∧ (c == 46) = false := by
  simp only [isDigitB, Bool.and_eq_true, decide_eq_true_eq] at h
  simp only [isSpace, isPunct, Bool.or_eq_false_iff, Bool.and_eq_false_iff, beq_eq_false_iff_ne, ne_eq,
    decide_eq_false_iff_not]
  omega

theorem scan_body : ∀ (body : Bytes) (dec : Bool) (rest : Bytes),
    (∀ c ∈ body, isDigitB c = true ∨ c = 46) →
    (body.filter (· == 46)).length + (if dec then 1 else 0) ≤ 1 → Stops rest →
    scanNumber (body ++ rest) false dec
      = some (body, dec || decide ((body.filter (· == 46)).length = 1), rest)
  | [], dec, rest, _, _, hs => by
    rcases hs with rfl | ⟨c, r, rfl, hc⟩
    · simp [scanNumber]
    · rcases isStop_cases hc with rfl | rfl | rfl | rfl | rfl | rfl <;> cases dec <;> rfl
  | c :: cs, dec, rest, hb, hd, hs => by
    obtain ⟨hc, hcs⟩ := List.forall_mem_cons.mp hb
    rcases hc with hc | rfl
    · obtain ⟨_, h45, _, _, _, _, _, h46⟩ := digit_facts c hc
      have hf : (List.filter (· == 46) (c :: cs)) = List.filter (· == 46) cs := by simp [List.filter, h46]
      rw [hf] at hd ⊢
      have ih := scan_body cs dec rest hcs hd hs
      simp only [List.cons_append, scanNumber, h45, h46, hc, ih, Bool.false_eq_true, ↓reduceIte, Option.map_some]
    · have hf : (List.filter (· == 46) (46 :: cs)).length = (List.filter (· == 46) cs).length + 1 := by
        simp [List.filter]
      rw [hf] at hd
      have hdec : dec = false := by cases dec <;> simp_all
      subst hdec
      have hz : (List.filter (· == 46) cs).length = 0 := by
        simp only [Bool.false_eq_true, ↓reduceIte] at hd; omega
      have ih := scan_body cs true rest hcs (by simp [hz]) hs
      simp [scanNumber, ih, hz]

theorem quoteBody_plain : ∀ (s : Bytes),
    (s.all fun c => (32 ≤ c && c ≤ 126 && c ≠ 34 && c ≠ 92) || c ≥ 128) = true → quoteBody s = s
  | [], _ => rfl
  | c :: cs, h => by
    simp only [List.all_cons, Bool.and_eq_true] at h
    have hc := h.1
    simp only [Bool.or_eq_true, Bool.and_eq_true, decide_eq_true_eq, ne_eq] at hc
    -- `%q` escapes the quote, the backslash, the control characters and DEL: none of them is `c`
    have f : ∀ k, k < 32 ∨ k = 34 ∨ k = 92 ∨ k = 127 → (c == k) = false := fun k hk => by
      simp only [beq_eq_false_iff_ne, ne_eq]; omega
    have f32 : decide (c < 32) = false := by simp only [decide_eq_false_iff_not]; omega
    simp only [quoteBody, f 34 (by decide), f 92 (by decide), f 7 (by decide), f 8 (by decide), f 12 (by decide),
      f 10 (by decide), f 13 (by decide), f 9 (by decide), f 11 (by decide), f 127 (by decide), f32,
      Bool.or_self, Bool.false_eq_true, ↓reduceIte, List.cons_append, List.nil_append,
      quoteBody_plain cs h.2]

/-- what `lexFuel` does with the text of `t` followed by `rest`: the token costs one unit of fuel, whatever its
length (which is why any fuel beyond the length of the text is enough, `lex_render_len`) -/
def LexesAs (t : Tok) (rest : Bytes) : Prop :=
  ∀ F pos, lexFuel (F + 1) (t.text ++ rest) pos
    = consTok t pos t.text.length (lexFuel F rest (pos + t.text.length))

/-! ### the clauses of the lexer's dispatch on the first byte, each as an equation

No earlier clause takes the byte; what the clause does is then read off `lexFuel`. -/

theorem string_branch (cs : Bytes) (F pos : Nat) :
    lexFuel (F + 1) (34 :: cs) pos =
      let (body, after) := spanWhile (· ≠ 34) cs
      match after with
      | [] => .err
      | _ :: after' => consTok (.str body) pos (body.length + 2) (lexFuel F after' (pos + (body.length + 2))) :=
  rfl

theorem id_branch (cs : Bytes) (F pos : Nat) :
    lexFuel (F + 1) (47 :: cs) pos =
      let (body, after, unknown) := spanID (47 :: cs).length (47 :: cs)
      if unknown then .unsupported else
      match parseToken body with
      | some (f, false) => consTok (.id f) pos body.length (lexFuel F after (pos + body.length))
      | _ => .err :=
  rfl

theorem tagKey_branch (c : Nat) (hc : c = 35 ∨ c = 64) (cs : Bytes) (F pos : Nat) :
    lexFuel (F + 1) (c :: cs) pos =
      let (body, after) := spanWhile isSymbolRune cs
      consTok (.tagKey (c :: body)) pos (body.length + 1) (lexFuel F after (pos + (body.length + 1))) := by
  rcases hc with rfl | rfl <;> rfl

theorem lex_arrow (rest : Bytes) : LexesAs .arrow rest := by
  intro F pos
  simp [Tok.text, lexFuel, isSpace]

theorem punct_facts (c : Nat) (h : isPunct c = true) : isSpace c = false ∧ (c == 45) = false := by
  simp only [isPunct, Bool.or_eq_true, beq_iff_eq] at h
  simp only [isSpace, Bool.or_eq_false_iff, Bool.and_eq_false_iff, beq_eq_false_iff_ne, ne_eq,
    decide_eq_false_iff_not]
  omega

theorem lex_punct (c : Nat) (h : isPunct c = true) (rest : Bytes) : LexesAs (.p c) rest := by
  intro F pos
  obtain ⟨f1, f2⟩ := punct_facts c h
  simp only [Tok.text, List.cons_append, List.nil_append, lexFuel, f1, f2, h, Bool.false_eq_true, ↓reduceIte,
    Bool.false_and, List.length_singleton]

theorem lex_str (s : Bytes) (h : (Tok.str s).lexable = true) (rest : Bytes) : LexesAs (.str s) rest := by
  intro F pos
  simp only [Tok.lexable] at h
  have hq := quoteBody_plain s h
  have hsp : spanWhile (· ≠ 34) (s ++ 34 :: rest) = (s, 34 :: rest) := by
    apply spanWhile_append
    · intro c hc
      have := List.all_eq_true.mp h c hc
      simp only [Bool.or_eq_true, Bool.and_eq_true, decide_eq_true_eq, ne_eq] at this
      exact decide_eq_true (by omega)
    · exact Or.inr ⟨34, rest, rfl, rfl⟩
  simp only [Tok.text, hq, List.cons_append, List.nil_append, List.append_assoc, string_branch, hsp,
    List.length_cons, List.length_append, List.length_nil]

theorem letter_facts (c : Nat) (h : isLetter c = true) :
    isSpace c = false ∧ (c == 45) = false ∧ isPunct c = false ∧ (c == 34) = false ∧ (c == 47) = false ∧
    (c == 35) = false ∧ (c == 64) = false ∧ isDigitB c = false ∧ (c == 46) = false := by
  simp only [isLetter, Bool.or_eq_true, Bool.and_eq_true, decide_eq_true_eq] at h
  simp only [isSpace, isPunct, isDigitB, Bool.or_eq_false_iff, Bool.and_eq_false_iff,
    beq_eq_false_iff_ne, ne_eq, decide_eq_false_iff_not]
  omega

theorem letter_symbolRune (c : Nat) (h : isLetter c = true) : isSymbolRune c = true := by
  simp only [isSymbolRune, show ((97 ≤ c && c ≤ 122) || (65 ≤ c && c ≤ 90)) = true from h, Bool.true_or]

theorem symbol_branch (c : Nat) (hc : isLetter c = true) (cs : Bytes) (F pos : Nat) :
    lexFuel (F + 1) (c :: cs) pos =
      let (body, after) := spanWhile isSymbolRune (c :: cs)
      consTok (.sym body) pos body.length (lexFuel F after (pos + body.length)) := by
  obtain ⟨f1, f2, f3, f4, f5, f6, f7, f8, f9⟩ := letter_facts c hc
  simp only [lexFuel, f1, f2, f3, f4, f5, f6, f7, f8, f9, hc, Bool.false_and, Bool.or_self, Bool.false_eq_true,
    ↓reduceIte]

theorem stop_not_symbolRune (c : Nat) (h : isStop c = true) : isSymbolRune c = false := by
  rcases isStop_cases h with rfl | rfl | rfl | rfl | rfl | rfl <;> rfl

theorem stop_facts_id : isIDByte 32 = false ∧ isIDByte 41 = false ∧ isIDByte 125 = false ∧
    isIDByte 93 = false ∧ isIDByte 44 = false ∧ isIDByte 61 = false := by decide

theorem lex_sym (s : Bytes) (h : (Tok.sym s).lexable = true) (rest : Bytes) (hs : Stops rest) :
    LexesAs (.sym s) rest := by
  intro F pos
  cases s with
  | nil => simp [Tok.lexable] at h
  | cons c r =>
    simp only [Tok.lexable, Bool.and_eq_true] at h
    have hall : ∀ x ∈ c :: r, isSymbolRune x = true := by
      intro x hx
      simp only [List.mem_cons] at hx
      rcases hx with rfl | hx
      · exact letter_symbolRune x h.1
      · exact List.all_eq_true.mp h.2 x hx
    have hsp := spanWhile_append isSymbolRune (c :: r) rest hall (stops_not hs stop_not_symbolRune)
    simp only [List.cons_append] at hsp
    simp only [Tok.text, List.cons_append, symbol_branch c h.1, hsp]

theorem lex_tagKey (s : Bytes) (h : (Tok.tagKey s).lexable = true) (rest : Bytes) (hs : Stops rest) :
    LexesAs (.tagKey s) rest := by
  intro F pos
  cases s with
  | nil => simp [Tok.lexable] at h
  | cons c body =>
    simp only [Tok.lexable, Bool.and_eq_true, Bool.or_eq_true, beq_iff_eq] at h
    have hsp := spanWhile_append isSymbolRune body rest (fun x hx => List.all_eq_true.mp h.2 x hx)
      (stops_not hs stop_not_symbolRune)
    simp only [Tok.text, List.cons_append, tagKey_branch c h.1, hsp, List.length_cons]

/-- the result of the numeric branch of `lexFuel`, given what `scanNumber` found -/
def numberResult (F pos : Nat) (scan : Option (Bytes × Bool × Bytes)) : LR :=
  match scan with
  | none => .err
  | some (text, dec, after) =>
    if after.head?.any (· ≥ 128) && !((decodeRune after).any fun (r, _) => isSpaceRune r) then .err else
    if dec then (if floatTextOK text then consTok (.float text) pos text.length (lexFuel F after (pos + text.length)) else .err)
    else match atoi text with
      | some i => consTok (.int i) pos text.length (lexFuel F after (pos + text.length))
      | none => .err

theorem number_branch (c : Nat) (cs : Bytes)
    (hc : isDigitB c = true ∨ c = 46 ∨ (c = 45 ∧ cs.head? ≠ some 62)) (F pos : Nat) :
    lexFuel (F + 1) (c :: cs) pos = numberResult F pos (scanNumber (c :: cs) true false) := by
  have key : isSpace c = false ∧ (c == 45 && cs.head? == some 62) = false ∧ isPunct c = false ∧
      (c == 34) = false ∧ (c == 47) = false ∧ (c == 35 || c == 64) = false ∧
      (isDigitB c || c == 45 || c == 46) = true := by
    rcases hc with hc | rfl | ⟨rfl, h62⟩
    · obtain ⟨f1, f2, f3, f4, f5, f6, f7, f8⟩ := digit_facts c hc
      simp only [f1, f2, f3, f4, f5, f6, f7, hc, Bool.false_and, Bool.or_self, Bool.true_or, and_self]
    · exact ⟨rfl, rfl, rfl, rfl, rfl, rfl, rfl⟩
    · exact ⟨rfl, by simpa using h62, rfl, rfl, rfl, rfl, rfl⟩
  obtain ⟨f1, f2, f3, f4, f5, f6, f7⟩ := key
  simp only [lexFuel, numberResult, f1, f2, f3, f4, f5, f6, f7, Bool.false_eq_true, ↓reduceIte]
  cases scanNumber (c :: cs) true false with
  | none => rfl
  | some y => obtain ⟨t, d, a⟩ := y; rfl

theorem scan_text (neg : Bool) (body rest : Bytes) (hne : body ≠ [])
    (hb : ∀ c ∈ body, isDigitB c = true ∨ c = 46) (hd : (body.filter (· == 46)).length ≤ 1) (hs : Stops rest) :
    scanNumber ((if neg then [45] else []) ++ body ++ rest) true false
      = some ((if neg then [45] else []) ++ body, decide ((body.filter (· == 46)).length = 1), rest) := by
  have hbody := scan_body body false rest hb (by simpa using hd) hs
  cases neg with
  | true =>
    simp [scanNumber, hbody]
  | false =>
    cases body with
    | nil => exact absurd rfl hne
    | cons c cs =>
      have hc := hb c (by simp)
      have h45 : (c == 45) = false := by
        rcases hc with hc | rfl
        · exact (digit_facts c hc).2.1
        · rfl
      have : scanNumber (c :: (cs ++ rest)) true false = scanNumber (c :: (cs ++ rest)) false false := by
        simp [scanNumber, h45]
      simp only [Bool.false_eq_true, ↓reduceIte, List.nil_append, List.cons_append, this]
      simpa using hbody

theorem dec_no_dot (n : Nat) : ((dec n).filter (· == 46)).length = 0 := by
  simp only [List.length_eq_zero_iff, List.filter_eq_nil_iff]
  intro c hc
  have := dec_digits n c hc
  simp; omega

theorem atoi_neg_dec (n : Nat) (h : n ≤ 2 ^ 63) (hn : 0 < n) : atoi (45 :: dec n) = some (-(n : Int)) := by
  have hp := parseUint_dec n (by omega)
  have h3 : ¬ n > 2 ^ 63 := by omega
  simp [atoi, hp, h3]

theorem lex_number (neg : Bool) (body rest : Bytes) (hne : body ≠ [])
    (hb : ∀ c ∈ body, isDigitB c = true ∨ c = 46) (hd : (body.filter (· == 46)).length ≤ 1) (hs : Stops rest)
    (F pos : Nat) :
    lexFuel (F + 1) ((if neg then [45] else []) ++ body ++ rest) pos =
      numberResult F pos
        (some ((if neg then [45] else []) ++ body, decide ((body.filter (· == 46)).length = 1), rest)) := by
  rw [← scan_text neg body rest hne hb hd hs]
  obtain ⟨c, cs, rfl⟩ := List.exists_cons_of_ne_nil hne
  have hc := hb c (List.mem_cons_self ..)
  cases neg with
  | true =>
    -- the byte after the minus is a digit or a dot, not the `>` of `->`
    have h62 : (c :: (cs ++ rest)).head? ≠ some 62 := fun e => by
      cases e; rcases hc with hc | hc
      · cases hc
      · cases hc
    exact number_branch 45 _ (Or.inr (Or.inr ⟨rfl, h62⟩)) F pos
  | false => exact number_branch c _ (hc.elim Or.inl fun h => Or.inr (Or.inl h)) F pos

theorem lex_int (i : Int) (h : (Tok.int i).lexable = true) (rest : Bytes) (hs : Stops rest) :
    LexesAs (.int i) rest := by
  intro F pos
  simp only [Tok.lexable, Bool.and_eq_true, decide_eq_true_eq] at h
  have htext : (Tok.int i).text = (if decide (i < 0) = true then [45] else []) ++ dec i.natAbs := by
    simp only [Tok.text, digitsOf, decide_eq_true_eq]; split <;> rfl
  have hat : atoi (Tok.int i).text = some i := by
    rw [htext]
    by_cases hneg : i < 0
    · simp only [hneg, decide_true, ↓reduceIte, List.cons_append, List.nil_append,
        atoi_neg_dec i.natAbs (by omega) (by omega)]
      congr 1; omega
    · simp only [hneg, decide_false, Bool.false_eq_true, ↓reduceIte, List.nil_append, atoi_dec i.natAbs (by omega)]
      congr 1; omega
  rw [htext] at hat ⊢
  rw [lex_number _ _ rest (dec_ne_nil _)
    (fun c hc => .inl (by have := dec_digits _ c hc; simp [isDigitB]; omega)) (by rw [dec_no_dot]; omega) hs]
  simp only [numberResult, stops_head rest hs, dec_no_dot, hat]
  simp

theorem floatShape_cases (t : Bytes) (h : floatShape t = true) :
    ∃ (neg : Bool) (body : Bytes), t = (if neg then [45] else []) ++ body ∧ body ≠ [] ∧ (∀ x ∈ body, isDigitB x = true ∨ x = 46) ∧
      (body.filter (· == 46)).length = 1 ∧ floatTextOK t = true := by
  simp only [floatShape, Bool.and_eq_true] at h
  obtain ⟨⟨hany, hall⟩, hdots⟩ := h
  refine ⟨t.head? == some 45, if t.head? == some 45 then t.drop 1 else t, ?_, ?_, ?_, beq_iff_eq.mp hdots, ?_⟩
  · cases t with
    | nil => rfl
    | cons c cs =>
      by_cases hc : c = 45
      · subst hc; rfl
      · have : (c == 45) = false := by simpa using hc
        simp only [List.head?_cons, Option.some_beq_some, this, Bool.false_eq_true, ↓reduceIte, List.nil_append]
  · intro e; rw [e] at hany; cases hany
  · intro x hx
    simpa using List.all_eq_true.mp hall x hx
  · simp only [floatTextOK, Bool.and_eq_true]; exact ⟨hany, hall⟩

theorem lex_float (t : Bytes) (h : (Tok.float t).lexable = true) (rest : Bytes) (hs : Stops rest) :
    LexesAs (.float t) rest := by
  intro F pos
  obtain ⟨neg, body, ht, hne, hb, hdots, hok⟩ := floatShape_cases t h
  have hlex := lex_number neg body rest hne hb (by omega) hs F pos
  rw [← ht] at hlex
  simp only [Tok.text, hlex, numberResult, stops_head rest hs, hdots, decide_true, hok, Bool.false_eq_true, ↓reduceIte,
    Bool.false_and]

theorem aliases_pre_slash : ∀ a ∈ aliases, a.pre.head? = some 47 := by decide

theorem unparse_head (f : FeatureID) : ∃ r, unparse f true = 47 :: r := by
  fun_cases unparse f true with
  | case1 _ a hfind tok =>  -- the alias token is printed
    obtain ⟨hmem, hns⟩ := findByID_mem f aliases a hfind
    obtain ⟨rest, hrest⟩ := toToken_pre a f hns hmem
    have h47 := aliases_pre_slash a hmem
    simp only [tok, hrest]
    cases hp : a.pre with
    | nil => rw [hp] at h47; cases h47
    | cons x xs => rw [hp] at h47; cases h47; exact ⟨_, rfl⟩
  | case2 | case3 | case4 => exact ⟨_, rfl⟩

theorem idByte_ascii (c : Nat) (h : isIDByte c = true) : c < 128 := by
  simp only [isIDByte, isLetter, isDigitB, Bool.or_eq_true, Bool.and_eq_true, decide_eq_true_eq, beq_iff_eq] at h
  omega

theorem spanID_stop (rest : Bytes) (hs : Stops rest) (F : Nat) : spanID F rest = ([], rest, false) := by
  have hs' : rest = [] ∨ ∃ c r, rest = c :: r ∧ c < 128 ∧ isIDByte c = false := by
    rcases hs with rfl | ⟨c, r, rfl, hc⟩
    · exact Or.inl rfl
    · refine Or.inr ⟨c, r, rfl, ?_⟩
      rcases isStop_cases hc with rfl | rfl | rfl | rfl | rfl | rfl <;> exact ⟨by omega, by decide⟩
  rcases hs' with rfl | ⟨c, r, rfl, hlt, hf⟩
  · cases F <;> rfl
  · cases F with
    | zero => rfl
    | succ F =>
      -- by definitional unfolding: Lean needs about ten seconds to derive the equation that `unfold spanID` asks for
      show (if c < 128 then _ else _) = _
      simp only [hlt, hf, ↓reduceIte, Bool.false_eq_true]

/-- on ASCII the rune scan of `lexFeatureIDLiteral` is the byte scan -/
theorem spanID_ascii (a rest : Bytes) (ha : ∀ c ∈ a, isIDByte c = true) (hs : Stops rest) :
    ∀ (F : Nat), a.length + rest.length ≤ F → spanID F (a ++ rest) = (a, rest, false) := by
  induction a with
  | nil => intro F _; exact spanID_stop rest hs F
  | cons c cs ih =>
    intro F hF
    cases F with
    | zero => simp at hF
    | succ F =>
      have hc := ha c (by simp)
      have ih' := ih (fun x hx => ha x (by simp [hx])) F (by simp at hF; omega)
      have hlt := idByte_ascii c hc
      show spanID (F + 1) (c :: (cs ++ rest)) = (c :: cs, rest, false)
      show (if c < 128 then _ else _) = _
      simp only [hlt, hc, ↓reduceIte, ih']

theorem lex_id (f : FeatureID) (h : (Tok.id f).lexable = true) (rest : Bytes) (hs : Stops rest) :
    LexesAs (.id f) rest := by
  intro F pos
  simp only [Tok.lexable, Bool.and_eq_true, decide_eq_true_eq] at h
  obtain ⟨⟨hvalid, hv⟩, hall⟩ := h
  obtain ⟨r, hu⟩ := unparse_head f
  have hsp := spanID_ascii (unparse f true) rest
    (fun x hx => List.all_eq_true.mp hall x hx) hs ((unparse f true) ++ rest).length (by simp)
  have hparse := alias_roundtrip f hv hvalid true
  simp only [Tok.text]
  rw [hu] at hsp hparse ⊢
  simp only [List.cons_append] at hsp ⊢
  simp only [id_branch, hsp, hparse, Bool.false_eq_true, ↓reduceIte]

/-- the separator the printer's spacing rule puts between two tokens -/
def sep (t u : Tok) : Bytes := if opens t || closes u || isEq t || isEq u then [] else [32]

theorem render_cons2 (t u : Tok) (rest : List Tok) :
    render (t :: u :: rest) = t.text ++ sep t u ++ render (u :: rest) := rfl

theorem render_head (u : Tok) (rest : List Tok) : ∃ tl, render (u :: rest) = u.text ++ tl := by
  cases rest with
  | nil => exact ⟨[], by simp [render]⟩
  | cons v vs => exact ⟨sep u v ++ render (v :: vs), by rw [render_cons2, List.append_assoc]⟩

/-- where the printed tokens sit in the printed text -/
def place : List Tok → Nat → List PTok
  | [], _ => []
  | [t], pos => [⟨t, pos, pos + t.text.length⟩]
  | t :: u :: rest, pos =>
    ⟨t, pos, pos + t.text.length⟩ :: place (u :: rest) (pos + t.text.length + (sep t u).length)

def isPunctTok : Tok → Bool
  | .p _ => true
  | .arrow => true
  | _ => false

theorem lexesAs_of (t : Tok) (h : t.lexable = true) (rest : Bytes) (hs : isPunctTok t = false → Stops rest) :
    LexesAs t rest := by
  cases t with
  | sym s => exact lex_sym s h rest (hs rfl)
  | str s => exact lex_str s h rest
  | int i => exact lex_int i h rest (hs rfl)
  | float x => exact lex_float x h rest (hs rfl)
  | id f => exact lex_id f h rest (hs rfl)
  | tagKey s => exact lex_tagKey s h rest (hs rfl)
  | arrow => exact lex_arrow rest
  | p c => exact lex_punct c h rest

theorem stops_after (t u : Tok) (tl : Bytes) (hb : isPunctTok t = false) :
    Stops (sep t u ++ (u.text ++ tl)) := by
  unfold sep
  by_cases hc : (opens t || closes u || isEq t || isEq u) = true
  · simp only [hc, ↓reduceIte, List.nil_append]
    have hp : ∀ c, (t == Tok.p c) = false := fun c => by cases t <;> first | rfl | cases hb
    simp only [opens, isEq, hp, Bool.false_or, Bool.or_false, Bool.or_eq_true, closes,
      beq_iff_eq] at hc
    rcases hc with (((rfl | rfl) | rfl) | rfl) | rfl <;> exact Or.inr ⟨_, _, rfl, rfl⟩
  · simp only [hc, Bool.false_eq_true, ↓reduceIte]
    exact Or.inr ⟨32, _, rfl, rfl⟩

theorem lex_space (F : Nat) (rest : Bytes) (pos : Nat) :
    lexFuel (F + 1) (32 :: rest) pos = lexFuel F rest (pos + 1) := by
  simp [lexFuel, isSpace]

theorem lex_spaces : ∀ (sp : Bytes), (∀ c ∈ sp, c = 32) → ∀ (F : Nat) (rest : Bytes) (pos : Nat),
    lexFuel (F + sp.length) (sp ++ rest) pos = lexFuel F rest (pos + sp.length)
  | [], _, _, _, _ => rfl
  | c :: sp, h, F, rest, pos => by
    cases h c (List.mem_cons_self ..)
    rw [List.length_cons, ← Nat.add_assoc, List.cons_append, lex_space,
      lex_spaces sp (fun x hx => h x (List.mem_cons_of_mem _ hx)), Nat.add_assoc, Nat.add_comm 1]

theorem sep_spaces (t u : Tok) : ∀ c ∈ sep t u, c = 32 := by
  unfold sep; split <;> simp

theorem text_pos (t : Tok) (h : t.lexable = true) : 0 < t.text.length := by
  cases t with
  | sym s => cases s <;> simp_all [Tok.lexable, Tok.text]
  | str s => simp [Tok.text]
  | int i =>
    have := List.length_pos_iff.mpr (dec_ne_nil i.natAbs)
    simp only [Tok.text, digitsOf]
    split <;> simp <;> omega
  | float x => cases x <;> simp_all [Tok.lexable, Tok.text, floatShape]
  | id f => obtain ⟨r, hr⟩ := unparse_head f; simp [Tok.text, hr]
  | tagKey s => cases s <;> simp_all [Tok.lexable, Tok.text]
  | arrow => simp [Tok.text]
  | p c => simp [Tok.text]

/-- any fuel beyond the length of the text will do: every token is at least one byte long -/
theorem lex_render_len : ∀ (ts : List Tok), (∀ t ∈ ts, t.lexable = true) → ∀ F pos, (render ts).length < F →
    lexFuel F (render ts) pos = .ok (place ts pos)
  | [], _, F, pos, hF => by
    obtain ⟨F, rfl⟩ : ∃ F', F = F' + 1 := ⟨F - 1, by omega⟩
    rfl
  | [t], h, F, pos, hF => by
    have ht := h t (by simp)
    have := text_pos t ht
    simp only [render] at hF
    obtain ⟨F, rfl⟩ : ∃ F', F = F' + 1 + 1 := ⟨F - 2, by omega⟩
    have hl := lexesAs_of t ht [] (fun _ => Or.inl rfl) (F + 1) pos
    simp only [List.append_nil] at hl
    simp only [render, place, hl]
    rfl
  | t :: u :: rest, h, F, pos, hF => by
    have ht := h t (by simp)
    have := text_pos t ht
    have ih := lex_render_len (u :: rest) (fun x hx => h x (by simp [hx]))
    obtain ⟨tl, htl⟩ := render_head u rest
    rw [render_cons2, List.append_assoc] at hF ⊢
    have hlex := lexesAs_of t ht (sep t u ++ render (u :: rest)) fun hb => htl ▸ stops_after t u tl hb
    simp only [List.length_append] at hF
    obtain ⟨F, rfl⟩ : ∃ F', F = F' + (sep t u).length + 1 := ⟨F - (sep t u).length - 1, by omega⟩
    rw [hlex, lex_spaces _ (sep_spaces t u), ih F _ (by omega)]
    simp [place, consTok, Nat.add_assoc]

/-- **The lexer reads back what the printer writes**: for tokens that are each lexable, the text produced by the
spacing rule lexes to exactly those tokens, at the places where their texts were written. (The closed form, with
`place`; `B6.Props.C20.lex_render` says the same through what `place` has: the tokens, their order, their texts.) -/
theorem lex_render (ts : List Tok) (h : ∀ t ∈ ts, t.lexable = true) : lex (render ts) = .ok (place ts 0) :=
  lex_render_len ts h _ 0 (Nat.lt_succ_self _)

theorem toks_place : ∀ (ts : List Tok) (pos : Nat), (place ts pos).map (·.tok) = ts
  | [], _ => rfl
  | [t], _ => rfl
  | t :: u :: rest, pos => by simp [place, toks_place (u :: rest)]

theorem sorted_place : ∀ (ts : List Tok) (pos lo : Nat), lo ≤ pos → B6.Lemmas.ShellSpans.Sorted lo (place ts pos)
  | [], _, _, _ => trivial
  | [t], pos, lo, h => ⟨h, by simp, trivial⟩
  | t :: u :: rest, pos, lo, h =>
    ⟨h, by simp, sorted_place (u :: rest) _ _ (by simp)⟩

/-- every placed token's span holds exactly that token's text -/
theorem slices_place : ∀ (ts : List Tok) (pos : Nat), ∀ pt ∈ place ts pos,
    pos ≤ pt.b ∧ pt.e = pt.b + pt.tok.text.length ∧
      ((render ts).drop (pt.b - pos)).take (pt.e - pt.b) = pt.tok.text
  | [], _, pt, h => by simp [place] at h
  | [t], pos, pt, h => by
    simp only [place, List.mem_singleton] at h
    subst h
    simp [render]
  | t :: u :: rest, pos, pt, h => by
    simp only [place, List.mem_cons] at h
    rcases h with rfl | h
    · simp only [Nat.le_refl, Nat.sub_self, List.drop_zero, true_and]
      rw [render_cons2, List.append_assoc]
      simp
    · obtain ⟨h1, h2, h3⟩ := slices_place (u :: rest) _ pt h
      refine ⟨by omega, h2, ?_⟩
      rw [render_cons2]
      have e : pt.b - pos = (t.text ++ sep t u).length + (pt.b - (pos + t.text.length + (sep t u).length)) := by
        simp only [List.length_append]; omega
      rw [e, List.drop_append]
      simp only [Nat.add_sub_cancel_left, List.drop_eq_nil_of_le (Nat.le_add_right _ _), List.nil_append]
      exact h3

end B6.Lemmas.ShellLex
