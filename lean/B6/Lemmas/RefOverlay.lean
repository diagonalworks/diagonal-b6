import B6.Lemmas.RefDfs
import B6.Lemmas.Basic.Dedup
/-!
C15, the QUERIES of both worlds against `ReachPlus` (their updates are in `RefWorld.lean`): `FindReferences` of the
basic world (`basicFind_spec`) and of `MutableOverlayWorld` (`collect_spec`, `overlay_find_spec`), and how chains of
references split over the two layers (`base_reach_merged`, `merged_shape`; also used by C16).
-/
namespace B6.Lemmas.RefOverlay
open B6.Model.RefIndex B6.Spec.Referrers B6.Lemmas.RefIndex B6.Lemmas.RefDfs

/-! ## feature lists and chains of references -/

theorem hasFeature_iff (fs : List Feature) (id : Id) : hasFeature fs id = true ↔ ∃ f ∈ fs, f.id = id := by
  unfold hasFeature findFeature
  rw [List.find?_isSome]
  simp

theorem refers_has {fs : List Feature} {t s : Id} (h : Refers fs t s) : hasFeature fs s = true := by
  obtain ⟨f, hf, hid, _⟩ := h
  exact (hasFeature_iff fs s).mpr ⟨f, hf, hid⟩

theorem reach_first {fs : List Feature} {a c : Id} (h : ReachPlus fs a c) : ∃ t, Refers fs a t := by
  induction h with
  | direct h => exact ⟨_, h⟩
  | step _ _ ih => exact ih

theorem reach_last {fs : List Feature} {a c : Id} (h : ReachPlus fs a c) : ∃ t, Refers fs t c := by
  cases h with
  | direct h => exact ⟨_, h⟩
  | step _ h => exact ⟨_, h⟩

theorem reach_has {fs : List Feature} {id s : Id} (h : ReachPlus fs id s) : hasFeature fs s = true :=
  let ⟨_, ht⟩ := reach_last h
  refers_has ht

theorem reach_mono {fs fs' : List Feature} (hsub : ∀ f ∈ fs, f ∈ fs') {id s : Id} (h : ReachPlus fs id s) :
    ReachPlus fs' id s := by
  induction h with
  | direct h => obtain ⟨f, hf, h1, h2⟩ := h; exact .direct ⟨f, hsub f hf, h1, h2⟩
  | step _ h ih => obtain ⟨f, hf, h1, h2⟩ := h; exact .step ih ⟨f, hsub f hf, h1, h2⟩

theorem reach_congr {fs fs' : List Feature} (h : ∀ g, g ∈ fs ↔ g ∈ fs') (id s : Id) :
    ReachPlus fs id s ↔ ReachPlus fs' id s :=
  ⟨reach_mono fun g hg => (h g).mp hg, reach_mono fun g hg => (h g).mpr hg⟩

theorem reach_trans {fs : List Feature} {a b c : Id} (h1 : ReachPlus fs a b) (h2 : ReachPlus fs b c) :
    ReachPlus fs a c := by
  induction h2 with
  | direct h => exact .step h1 h
  | step _ h ih => exact .step ih h

theorem dedup_spec (l : List Id) : (dedup l).Nodup ∧ ∀ x, x ∈ dedup l ↔ x ∈ l :=
  Basic.dedup_keepLast (c := fun x xs => x ∈ dedup xs) (fun x _ h => h x) rfl (fun _ _ => rfl) l

/-! ## the basic world -/

theorem basicFind_spec {ix : Index} {fs : List Feature} (hi : Inv ix fs) (id : Id) (typed : List Nat) :
    ∃ L, basicFind fs ix id typed = some L ∧ L.Nodup ∧
      ∀ s, s ∈ L ↔ (ReachPlus fs id s ∧ typeOk typed s = true) := by
  obtain ⟨L0, h0, hL0⟩ := findReferences_spec ix id typed
  refine ⟨dedup (L0.filter (hasFeature fs)), by simp [basicFind, h0], (dedup_spec _).1, ?_⟩
  intro s
  rw [(dedup_spec _).2, List.mem_filter, hL0 s, reachE_iff_reachPlus hi]
  constructor
  · rintro ⟨h, _⟩; exact h
  · intro h; exact ⟨h, reach_has h.1⟩

/-! ## the overlay -/

/-- what `FindReferences` of the bare index returns (it always answers) -/
def found (ix : Index) (id : Id) (typed : List Nat) : List Id := (findReferences ix id typed).getD []

theorem findReferences_eq (ix : Index) (id : Id) (typed : List Nat) :
    findReferences ix id typed = some (found ix id typed) := by
  obtain ⟨L, h, _⟩ := findReferences_spec ix id typed
  rw [found, h]; rfl

theorem mem_found (ix : Index) (id : Id) (typed : List Nat) (s : Id) :
    s ∈ found ix id typed ↔ ReachE ix id s ∧ typeOk typed s = true := by
  obtain ⟨L, h, hm⟩ := findReferences_spec ix id typed
  rw [found, h]; exact hm s

theorem fold_collect (ix : Index) (typed : List Nat) : ∀ (bs : List Id) (acc : List Id),
    bs.foldl (collectStep ix typed) (some acc) = some (acc ++ bs.flatMap fun b => b :: found ix b typed) := by
  intro bs
  induction bs with
  | nil => intro acc; simp
  | cons b bs ih =>
    intro acc
    simp only [List.foldl_cons, collectStep, findReferences_eq]
    rw [ih, List.flatMap_cons, List.append_assoc]

/-- the copy discipline of `MutableOverlayWorld.AddFeature`: a base feature that references an ID
living in the overlay has itself been copied into the overlay. -/
def UpClosed (o : Overlay) : Prop :=
  ∀ y ∈ o.base, hasFeature o.feats y.id = false → ∀ t ∈ y.refs, hasFeature o.feats t = false

theorem mem_merged (o : Overlay) (g : Feature) :
    g ∈ o.merged ↔ (g ∈ o.feats ∨ (g ∈ o.base ∧ hasFeature o.feats g.id = false)) := by
  simp [Overlay.merged, List.mem_append, List.mem_filter]

theorem base_reach_merged {o : Overlay} (hup : UpClosed o) {id s : Id} (h : ReachPlus o.base id s)
    (hs : hasFeature o.feats s = false) : ReachPlus o.merged id s := by
  induction h with
  | direct h =>
    obtain ⟨y, hy, h1, h2⟩ := h
    exact .direct ⟨y, (mem_merged o y).mpr (Or.inr ⟨hy, by rw [h1]; exact hs⟩), h1, h2⟩
  | step _ h ih =>
    obtain ⟨y, hy, h1, h2⟩ := h
    have hy' : hasFeature o.feats y.id = false := by rw [h1]; exact hs
    exact .step (ih (hup y hy hy' _ h2)) ⟨y, (mem_merged o y).mpr (Or.inr ⟨hy, hy'⟩), h1, h2⟩

def Shape (o : Overlay) (id s : Id) : Prop :=
  (hasFeature o.feats s = false ∧ ReachPlus o.base id s) ∨
  (hasFeature o.feats s = true ∧
    (ReachPlus o.feats id s ∨ ∃ b, hasFeature o.feats b = false ∧ ReachPlus o.base id b ∧ ReachPlus o.feats b s))

theorem merged_shape {o : Overlay} (hup : UpClosed o) {id s : Id} (h : ReachPlus o.merged id s) : Shape o id s := by
  induction h with
  | direct h =>
    obtain ⟨y, hy, h1, h2⟩ := h
    rcases (mem_merged o y).mp hy with hy | ⟨hy, hsh⟩
    · exact Or.inr ⟨(hasFeature_iff _ _).mpr ⟨y, hy, h1⟩, Or.inl (.direct ⟨y, hy, h1, h2⟩)⟩
    · exact Or.inl ⟨by rw [← h1]; exact hsh, .direct ⟨y, hy, h1, h2⟩⟩
  | @step t s _ h ih =>
    obtain ⟨y, hy, h1, h2⟩ := h
    rcases (mem_merged o y).mp hy with hy | ⟨hy, hsh⟩
    · have hs : hasFeature o.feats s = true := (hasFeature_iff _ _).mpr ⟨y, hy, h1⟩
      have hedge : Refers o.feats t s := ⟨y, hy, h1, h2⟩
      rcases ih with ⟨ht, hb⟩ | ⟨_, hr | ⟨b, hb1, hb2, hb3⟩⟩
      · exact Or.inr ⟨hs, Or.inr ⟨t, ht, hb, .direct hedge⟩⟩
      · exact Or.inr ⟨hs, Or.inl (.step hr hedge)⟩
      · exact Or.inr ⟨hs, Or.inr ⟨b, hb1, hb2, .step hb3 hedge⟩⟩
    · have ht : hasFeature o.feats t = false := hup y hy hsh t h2
      rcases ih with ⟨_, hb⟩ | ⟨ht', _⟩
      · exact Or.inl ⟨by rw [← h1]; exact hsh, .step hb ⟨y, hy, h1, h2⟩⟩
      · rw [ht] at ht'; cases ht'

theorem collect_spec (o : Overlay) (id : Id) (typed : List Nat) :
    ∃ C, o.collect id typed = some C ∧ ∀ s, s ∈ C ↔
      ((∃ b, (ReachPlus o.base id b ∧ hasFeature o.feats b = false) ∧
          (s = b ∨ (ReachE o.ix b s ∧ typeOk typed s = true))) ∨
        (ReachE o.ix id s ∧ typeOk typed s = true)) := by
  obtain ⟨B, hB, _, hBm⟩ := basicFind_spec (Inv_fill o.base) id []
  refine ⟨_, by simp only [Overlay.collect, baseFind, hB, fold_collect, findReferences_eq]; rfl, fun s => ?_⟩
  simp only [List.nil_append, List.mem_append, List.mem_flatMap, List.mem_cons, List.mem_filter, hBm, mem_found,
    typeOk, List.isEmpty_nil, Bool.true_or, and_true, Bool.not_eq_true']

theorem find_terminates (o : Overlay) (id : Id) (typed : List Nat) :
    ∃ L, o.find id typed = some L ∧ L.Nodup := by
  obtain ⟨C, hC, _⟩ := collect_spec o id typed
  exact ⟨dedup ((C.filter o.has).filter (typeOk typed)), by simp only [Overlay.find, hC], (dedup_spec _).1⟩

theorem overlay_find_spec (o : Overlay) (hi : Inv o.ix o.feats) (hup : UpClosed o) (id : Id) (typed : List Nat) :
    ∃ L, o.find id typed = some L ∧ L.Nodup ∧
      ∀ s, s ∈ L ↔ (ReachPlus o.merged id s ∧ typeOk typed s = true) := by
  obtain ⟨C, hC, hCm⟩ := collect_spec o id typed
  refine ⟨dedup ((C.filter o.has).filter (typeOk typed)), by simp only [Overlay.find, hC], (dedup_spec _).1, fun s => ?_⟩
  have hfeats_sub : ∀ f ∈ o.feats, f ∈ o.merged := fun f hf => (mem_merged o f).mpr (Or.inl hf)
  rw [(dedup_spec _).2, List.mem_filter, List.mem_filter, hCm s]
  constructor
  · rintro ⟨⟨hc, _⟩, hty⟩
    refine ⟨?_, hty⟩
    rcases hc with ⟨b, ⟨hbr, hbs⟩, h⟩ | h
    · have hbm := base_reach_merged hup hbr hbs
      rcases h with h | ⟨h, _⟩
      · subst h; exact hbm
      · exact reach_trans hbm (reach_mono hfeats_sub ((reachE_iff_reachPlus hi b s).mp h))
    · exact reach_mono hfeats_sub ((reachE_iff_reachPlus hi id s).mp h.1)
  · rintro ⟨hr, hty⟩
    have hhas : o.has s = true := by
      rcases (hasFeature_iff _ _).mp (reach_has hr) with ⟨g, hg, hgid⟩
      rcases (mem_merged o g).mp hg with hg | ⟨hg, _⟩
      · simp [Overlay.has, (hasFeature_iff o.feats s).mpr ⟨g, hg, hgid⟩]
      · simp [Overlay.has, (hasFeature_iff o.base s).mpr ⟨g, hg, hgid⟩]
    refine ⟨⟨?_, hhas⟩, hty⟩
    rcases merged_shape hup hr with ⟨hs, hb⟩ | ⟨_, hrf | ⟨b, hb1, hb2, hb3⟩⟩
    · exact Or.inl ⟨s, ⟨hb, hs⟩, Or.inl rfl⟩
    · exact Or.inr ⟨(reachE_iff_reachPlus hi id s).mpr hrf, hty⟩
    · exact Or.inl ⟨b, ⟨hb2, hb1⟩, Or.inr ⟨(reachE_iff_reachPlus hi b s).mpr hb3, hty⟩⟩

end B6.Lemmas.RefOverlay
