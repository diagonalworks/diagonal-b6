import B6.Lemmas.OverlayMerge
import B6.Lemmas.RefOverlay
import B6.Lemmas.Basic.AssocList
import B6.Lemmas.Basic.Sorted
import B6.Lemmas.Basic.List
/-!
C16, the layered world of Model/OverlayWorld.lean against its shadowed feature set `OW.merged`: the order on IDs and the
sortedness of `merge`, lookups in a filtered layer, and the by-ID union of the two layers' reference answers
(`findRefsUnion`), exact for layers that do not interleave along reference chains. How chains of the shadowed feature
set split over the layers is C15's `RefOverlay.base_reach_merged` / `merged_shape`, read through `skel` (the same layered
world as `B6.Model.RefIndex.Overlay`).
-/
namespace B6.Lemmas.OverlayWorld
open B6.Model.OverlayWorld B6.Lemmas.OverlayMerge B6.Spec.Referrers

theorem idLt_iff (a b : Id) : idLt a b = true ↔ (a.1 < b.1 ∨ (a.1 = b.1 ∧ a.2 < b.2)) := by
  simp [idLt]

theorem idLt_trans {a b c : Id} (h1 : idLt a b = true) (h2 : idLt b c = true) : idLt a c = true := by
  rw [idLt_iff] at *
  exact Basic.lex_trans (lt := (· < ·)) Nat.lt_trans Nat.lt_trans h1 h2

theorem idLt_irrefl (a : Id) : idLt a a = false := by
  cases h : idLt a a with
  | false => rfl
  | true => rw [idLt_iff] at h; omega

theorem idLt_total {a b : Id} (h : ¬ idLt a b = true) (hne : a ≠ b) : idLt b a = true := by
  rw [idLt_iff] at *
  have : ¬ (a.1 = b.1 ∧ a.2 = b.2) := fun e => hne (Prod.ext e.1 e.2)
  omega

def SortedIds {β : Type} (l : List (Id × β)) : Prop := (l.map (·.1)).Pairwise (fun a b => idLt a b = true)

variable {α : Type}

theorem mem_merge (L1 L2 : List (Id × α)) (e : Id × α × Bool) :
    e ∈ merge L1 L2 ↔ ((∃ x ∈ L1, e = (x.1, x.2, true)) ∨ (∃ y ∈ L2, e = (y.1, y.2, false))) := by
  rw [(merge_perm L1 L2).mem_iff, List.mem_append, List.mem_map, List.mem_map]
  simp only [eq_comm]

theorem mem_merge_ids (L1 L2 : List (Id × α)) (i : Id) :
    i ∈ (merge L1 L2).map (·.1) ↔ i ∈ L1.map (·.1) ∨ i ∈ L2.map (·.1) := by
  rw [((merge_perm L1 L2).map _).mem_iff, List.map_append, List.mem_append, List.map_map, List.map_map]
  rfl

theorem merge_sorted (L1 L2 : List (Id × α)) (h1 : SortedIds L1) (h2 : SortedIds L2)
    (hd : ∀ x ∈ L1, ∀ y ∈ L2, x.1 ≠ y.1) : SortedIds (merge L1 L2) := by
  fun_induction merge L1 L2 with
  | case1 ys => rw [SortedIds, List.map_map]; exact h2
  | case2 x xs => rw [SortedIds, List.map_map]; exact h1
  | case3 x xs y ys hlt ih =>
    have h1' := List.pairwise_cons.1 h1
    have h2' := List.pairwise_cons.1 h2
    refine List.pairwise_cons.2 ⟨fun i hi => ?_,
      ih h1'.2 h2 fun a ha b hb => hd a (List.mem_cons_of_mem _ ha) b hb⟩
    rcases (mem_merge_ids _ _ i).1 hi with h | h
    · exact h1'.1 i h
    · rcases List.mem_cons.1 h with rfl | h
      · exact hlt
      · exact idLt_trans hlt (h2'.1 i h)
  | case4 x xs y ys hlt ih =>
    have h1' := List.pairwise_cons.1 h1
    have h2' := List.pairwise_cons.1 h2
    have hyx : idLt y.1 x.1 = true := idLt_total hlt (hd x List.mem_cons_self y List.mem_cons_self)
    refine List.pairwise_cons.2 ⟨fun i hi => ?_,
      ih h1 h2'.2 fun a ha b hb => hd a ha b (List.mem_cons_of_mem _ hb)⟩
    rcases (mem_merge_ids _ _ i).1 hi with h | h
    · rcases List.mem_cons.1 h with rfl | h
      · exact hyx
      · exact idLt_trans hyx (h1'.1 i h)
    · exact h2'.1 i h

theorem sorted_filter {β : Type} (l : List (Id × β)) (p : Id × β → Bool) (h : SortedIds l) : SortedIds (l.filter p) := by
  unfold SortedIds at *
  exact List.Pairwise.sublist (List.Sublist.map _ List.filter_sublist) h

theorem sorted_nodup {β : Type} (l : List (Id × β)) (h : SortedIds l) : (l.map (·.1)).Nodup :=
  List.Pairwise.nodup_of_irrefl (lt := fun a b => idLt a b = true)
    (fun a => by rw [idLt_irrefl]; exact Bool.false_ne_true) h

theorem find_filter (l : Layer) (q : Feat → Bool) (id : Id) (h : ∀ f ∈ l, f.id = id → q f = true) :
    Layer.find (l.filter q) id = Layer.find l id := by
  unfold Layer.find
  rw [List.find?_filter]
  -- the filter only removes entries the lookup would skip
  refine Basic.find?_congr_mem fun f hf => ?_
  by_cases e : f.id = id
  · simp [h f hf e, e]
  · simp [e]

theorem find_none_filter (l : Layer) (q : Feat → Bool) (id : Id) (h : ∀ f ∈ l, f.id = id → q f = false) :
    Layer.find (l.filter q) id = none := by
  simp only [Layer.find, List.find?_eq_none, List.mem_filter, decide_eq_true_eq]
  rintro f ⟨hf, hq⟩ e
  rw [h f hf e] at hq; cases hq

theorem find_some {l : Layer} {id : Id} {f : Feat} (h : l.find id = some f) : f ∈ l ∧ f.id = id := by
  obtain ⟨_, he, hk, rfl⟩ := (Basic.isLookup_find? (fun g : Feat => g.id)).exists_mem_of_eq_some h
  exact ⟨he, hk⟩

theorem find_of_mem {l : Layer} (hu : (l.map (·.id)).Nodup) {f : Feat} (hf : f ∈ l) : l.find f.id = some f :=
  (Basic.isLookup_find? (fun g : Feat => g.id)).of_mem hu hf

theorem has_iff (l : Layer) (id : Id) : l.has id = true ↔ ∃ f ∈ l, f.id = id := by
  simp [Layer.has, Layer.find, List.find?_isSome]

theorem each_nodup (w : OW) (ho : (w.overlay.map (·.id)).Nodup) (hb : (w.base.map (·.id)).Nodup) :
    (w.each.map (·.id)).Nodup := by
  refine List.pairwise_map.2 (List.pairwise_append.2 ⟨List.pairwise_map.1 ho,
    (List.pairwise_map.1 hb).sublist List.filter_sublist, fun f hf g hg e => ?_⟩)
  have hsh := (List.mem_filter.mp hg).2
  rw [(has_iff _ _).mpr ⟨f, hf, e⟩] at hsh
  cases hsh

theorem mem_each (w : OW) (f : Feat) :
    f ∈ w.each ↔ (f ∈ w.overlay ∨ (f ∈ w.base ∧ w.overlay.has f.id = false)) := by
  simp [OW.each, List.mem_append, List.mem_filter]

/-- the reference skeleton of a layer (what the C15 specification speaks about) -/
abbrev rl (l : Layer) : List B6.Model.RefIndex.Feature := l.map Feat.toRef

theorem refers_rl (l : Layer) (t s : Id) : Refers (rl l) t s ↔ ∃ f ∈ l, f.id = s ∧ t ∈ f.refs := by
  simp only [Refers, rl, List.mem_map]
  constructor
  · rintro ⟨g, ⟨f, hf, rfl⟩, h1, h2⟩; exact ⟨f, hf, h1, h2⟩
  · rintro ⟨f, hf, h1, h2⟩; exact ⟨f.toRef, ⟨f, hf, rfl⟩, h1, h2⟩

theorem reach_last {l : Layer} {id s : Id} (h : ReachPlus (rl l) id s) : ∃ f ∈ l, f.id = s ∧ f.refs ≠ [] := by
  obtain ⟨_, ht⟩ := RefOverlay.reach_last h
  obtain ⟨f, hf, h1, h2⟩ := (refers_rl l _ _).mp ht
  exact ⟨f, hf, h1, List.ne_nil_of_mem h2⟩

theorem reach_find {l : Layer} {id s : Id} (h : ReachPlus (rl l) id s) : ∃ f, l.find s = some f := by
  obtain ⟨g, hg, hgid, _⟩ := reach_last h
  have : l.has s = true := (has_iff _ _).mpr ⟨g, hg, hgid⟩
  exact Option.isSome_iff_exists.mp this

theorem reach_mono_layer {l l' : Layer} (hsub : ∀ f ∈ l, f ∈ l') {id s : Id} (h : ReachPlus (rl l) id s) :
    ReachPlus (rl l') id s :=
  RefOverlay.reach_mono (List.forall_mem_map.2 fun f hf => List.mem_map_of_mem (hsub f hf)) h

theorem mem_findRefs {l : Layer} {id : Id} {typed : List Nat} {R : List Feat} (h : l.findRefs id typed = some R)
    (f : Feat) : f ∈ R ↔ (l.find f.id = some f ∧ ReachPlus (rl l) id f.id ∧ typeOk typed f.id = true) := by
  revert h
  fun_cases Layer.findRefs l id typed with
  | case2 => nofun
  | case1 rs hr =>
    rintro ⟨⟩
    have hspec := referrers_spec _ _ _ hr
    simp only [List.mem_filterMap]
    constructor
    · rintro ⟨s, hs, he⟩
      by_cases ht : typeOk typed s = true
      · simp only [ht, ↓reduceIte] at he
        have := (find_some he).2
        subst this
        exact ⟨he, (hspec _).mp hs, ht⟩
      · simp [ht] at he
    · rintro ⟨h1, h2, h3⟩
      exact ⟨f.id, (hspec _).mpr h2, by simp [h3, h1]⟩

theorem findRefs_sub {l : Layer} {id : Id} {typed : List Nat} {R : List Feat} (h : l.findRefs id typed = some R)
    {f : Feat} (hf : f ∈ R) : f ∈ l :=
  (find_some ((mem_findRefs h f).mp hf).1).1

theorem mem_findRefs_of_direct {l : Layer} (hu : (l.map (·.id)).Nodup) {x : Id} {R : List Feat}
    (h : l.findRefs x [] = some R) {f : Feat} (hf : f ∈ l) (hx : x ∈ f.refs) : f ∈ R :=
  (mem_findRefs h f).mpr ⟨find_of_mem hu hf, .direct ((refers_rl _ _ _).mpr ⟨f, hf, rfl, hx⟩), by simp [typeOk]⟩

/-- the step of `byIdUnion`: `byIdUnion xs = xs.foldl unionStep []` by `rfl` -/
def unionStep (acc : List Feat) (f : Feat) : List Feat :=
  if acc.any (fun g => decide (g.id = f.id)) then acc.map (fun g => if g.id = f.id then f else g) else acc ++ [f]

theorem unionStep_sub (acc : List Feat) (f g : Feat) (h : g ∈ unionStep acc f) : g ∈ acc ∨ g = f := by
  revert h
  fun_cases unionStep acc f with
  | case1 =>
    intro h
    obtain ⟨a, ha, he⟩ := List.mem_map.mp h
    split at he
    · exact Or.inr he.symm
    · exact Or.inl (he ▸ ha)
  | case2 => exact fun h => (List.mem_append.mp h).imp_right fun h => by simpa using h

theorem unionStep_ids (acc : List Feat) (f : Feat) (i : Id) :
    i ∈ (unionStep acc f).map (·.id) ↔ i ∈ acc.map (·.id) ∨ i = f.id := by
  fun_cases unionStep acc f with
  | case1 hany =>
    -- replacing keeps the IDs, and `f.id` is among them
    obtain ⟨g, hg, e⟩ := List.any_eq_true.1 hany
    have hf : f.id ∈ acc.map (·.id) := List.mem_map.2 ⟨g, hg, of_decide_eq_true e⟩
    have hmap : (acc.map fun g => if g.id = f.id then f else g).map (·.id) = acc.map (·.id) := by
      rw [List.map_map]
      refine List.map_congr_left fun g _ => ?_
      show (if g.id = f.id then f else g).id = g.id
      split
      · rename_i h; exact h.symm
      · rfl
    rw [hmap, or_iff_left_of_imp (fun (e : i = f.id) => e ▸ hf)]
  | case2 => rw [List.map_append, List.mem_append, List.map_singleton, List.mem_singleton]

theorem byIdUnion_sub (xs : List Feat) (g : Feat) (h : g ∈ byIdUnion xs) : g ∈ xs :=
  xs.foldlRecOn (motive := fun b => ∀ g ∈ b, g ∈ xs) unionStep (b := []) (fun _ h => nomatch h)
    (fun b hb a ha g hg => (unionStep_sub b a g hg).elim (hb g) (· ▸ ha)) g h

theorem fold_union_ids (xs acc : List Feat) (i : Id) :
    i ∈ (xs.foldl unionStep acc).map (·.id) ↔ i ∈ acc.map (·.id) ∨ i ∈ xs.map (·.id) := by
  induction xs generalizing acc with
  | nil => rw [List.map_nil, List.mem_nil_iff, or_false, List.foldl_nil]
  | cons x xs ih => rw [List.foldl_cons, ih, unionStep_ids, List.map_cons, List.mem_cons, or_assoc]

theorem byIdUnion_ids (xs : List Feat) (i : Id) : (∃ g ∈ byIdUnion xs, g.id = i) ↔ ∃ g ∈ xs, g.id = i := by
  have := fold_union_ids xs [] i
  rw [List.map_nil, List.mem_nil_iff, false_or, List.mem_map, List.mem_map] at this
  exact this

theorem independent_down {w : OW} (h : w.independent = true) :
    ∀ y ∈ w.base, w.overlay.has y.id = false → ∀ t ∈ y.refs, w.overlay.has t = false := by
  simp only [OW.independent, Bool.and_eq_true, List.all_eq_true, Bool.or_eq_true, Bool.not_eq_true'] at h
  intro y hy hsh t ht
  rcases h.1 y hy with h1 | h1
  · rw [hsh] at h1; cases h1
  · exact h1 t ht

theorem independent_up {w : OW} (h : w.independent = true) :
    ∀ z ∈ w.overlay, ∀ t ∈ z.refs, w.overlay.has t = true ∨ ∀ y ∈ w.base, y.id = t → y.refs = [] := by
  simp only [OW.independent, Bool.and_eq_true, List.all_eq_true, Bool.or_eq_true, decide_eq_true_eq,
    List.isEmpty_iff] at h
  intro z hz t ht
  rcases h.2 z hz t ht with h1 | h1
  · exact Or.inl h1
  · refine Or.inr ?_
    intro y hy e
    rcases h1 y hy with h2 | h2
    · exact absurd e h2
    · exact h2

/-- the layered world as C15 sees it (`B6.Model.RefIndex.Overlay`): the reference skeletons of the two layers;
the overlay's index plays no part here -/
def skel (w : OW) : B6.Model.RefIndex.Overlay := ⟨rl w.base, rl w.overlay, []⟩

theorem hasFeature_rl (l : Layer) (id : Id) : B6.Model.RefIndex.hasFeature (rl l) id = l.has id := by
  rw [B6.Model.RefIndex.hasFeature, B6.Model.RefIndex.findFeature, rl, List.find?_map, Option.isSome_map]; rfl

theorem rl_merged (w : OW) : rl w.merged = (skel w).merged := by
  simp only [rl, OW.merged, OW.each, B6.Model.RefIndex.Overlay.merged, skel, List.map_append, List.filter_map,
    hasFeature_rl]
  rfl

theorem upClosed_skel {w : OW} (h : w.independent = true) : RefOverlay.UpClosed (skel w) := by
  intro y hy hsh t ht
  obtain ⟨y0, hy0, rfl⟩ := List.mem_map.1 hy
  rw [skel, hasFeature_rl] at hsh ⊢
  exact independent_down h y0 hy0 hsh t ht

theorem base_reach_merged {w : OW} (hind : w.independent = true) {id s : Id} (h : ReachPlus (rl w.base) id s)
    (hs : w.overlay.has s = false) : ReachPlus (rl w.merged) id s :=
  rl_merged w ▸ RefOverlay.base_reach_merged (upClosed_skel hind) h ((hasFeature_rl _ _).trans hs)

theorem merged_shape {w : OW} (hind : w.independent = true) {id s : Id} (h : ReachPlus (rl w.merged) id s) :
    (w.overlay.has s = false ∧ ReachPlus (rl w.base) id s) ∨ (w.overlay.has s = true ∧ ReachPlus (rl w.overlay) id s) := by
  rw [rl_merged] at h
  have hsh := RefOverlay.merged_shape (upClosed_skel hind) h
  simp only [RefOverlay.Shape, skel, hasFeature_rl] at hsh
  rcases hsh with h1 | ⟨hs, hr | ⟨b, hb1, hb2, hb3⟩⟩
  · exact .inl h1
  · exact .inr ⟨hs, hr⟩
  · -- a chain that climbs from a surviving base feature `b` into the overlay: an overlay feature references `b`,
    -- and `b` itself references something; the second half of `OW.independent` excludes that
    obtain ⟨t, ht⟩ := RefOverlay.reach_first hb3
    obtain ⟨z, hz, _, hbz⟩ := (refers_rl _ _ _).1 ht
    obtain ⟨g, hg, hgid, hne⟩ := reach_last hb2
    rcases independent_up hind z hz b hbz with hup | hup
    · rw [hb1] at hup; cases hup
    · exact absurd (hup g hg hgid) hne

/-- For layers that do not interleave along reference chains (`OW.independent`), the by-ID union (after the repair)
returns exactly the referrers within the shadowed feature set, of the requested types, and every returned feature is
the current version. (`B6.Props.C16.union_refs_partial` is this statement; `B6.Props.C16.union_refs` is about the
closure `findRefs`.) -/
theorem union_refs (w : OW) (hind : w.independent = true) (id : Id) (typed : List Nat) (R : List Feat)
    (h : w.findRefsUnion id typed = some R) :
    (∀ s, (∃ f ∈ R, f.id = s) ↔ (ReachPlus (rl w.merged) id s ∧ typeOk typed s = true)) ∧
    (∀ f ∈ R, f ∈ w.merged) := by
  revert h
  fun_cases OW.findRefsUnion w id typed with
  | case2 => nofun
  | case1 B O ho hb =>
    rintro ⟨⟩
    have hB := mem_findRefs hb
    have hO := mem_findRefs ho
    have hov_sub : ∀ f ∈ w.overlay, f ∈ w.merged := fun f hf => (mem_each w f).mpr (Or.inl hf)
    constructor
    · intro s
      rw [byIdUnion_ids]
      constructor
      · rintro ⟨f, hf, rfl⟩
        rcases List.mem_append.mp hf with hf | hf
        · obtain ⟨hfB, hsh⟩ := List.mem_filter.mp hf
          obtain ⟨_, hr, ht⟩ := (hB f).mp hfB
          exact ⟨base_reach_merged hind hr (by simpa using hsh), ht⟩
        · obtain ⟨_, hr, ht⟩ := (hO f).mp hf
          exact ⟨reach_mono_layer hov_sub hr, ht⟩
      · rintro ⟨hr, ht⟩
        rcases merged_shape hind hr with ⟨hs, hbr⟩ | ⟨_, hor⟩
        · obtain ⟨f, hf⟩ := reach_find hbr
          have hfid := (find_some hf).2
          refine ⟨f, List.mem_append_left _ (List.mem_filter.mpr ⟨(hB f).mpr ?_, ?_⟩), hfid⟩
          · rw [hfid]; exact ⟨hf, hbr, ht⟩
          · simp [hfid, hs]
        · obtain ⟨f, hf⟩ := reach_find hor
          have hfid := (find_some hf).2
          refine ⟨f, List.mem_append_right _ ((hO f).mpr ?_), hfid⟩
          rw [hfid]; exact ⟨hf, hor, ht⟩
    · intro f hf
      rcases List.mem_append.mp (byIdUnion_sub _ f hf) with hf | hf
      · obtain ⟨hfB, hsh⟩ := List.mem_filter.mp hf
        exact (mem_each w f).mpr (Or.inr ⟨findRefs_sub hb hfB, by simpa using hsh⟩)
      · exact hov_sub f (findRefs_sub ho hf)

end B6.Lemmas.OverlayWorld
