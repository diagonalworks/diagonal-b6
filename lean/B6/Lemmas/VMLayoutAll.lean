import B6.Lemmas.VMLayout
/-!
C21: the layout of the compiled instruction array, from one `compileExpr` (`Lemmas/VMLayout`) to the whole program:
with enough fuel the targets-queue loop fails exactly on ill-formed or oversized queues, and its segments place the
queued targets (`compileQueue_spec`); the array is the segments end to end, so `layoutOK_all : ∀ e, VM.layoutOK e = true`.
The namespace is that of `Lemmas/VMLayout`, `B6.Lemmas.VMLayout`.
-/
namespace B6.Lemmas.VMLayout
open B6.Model B6.Model.VM B6.Lemmas.VM

/-! ### errors of the compiler are `error`s; well-formed expressions that fit compile -/

theorem compileArgs_err : (as : List Expr) → ∀ (frame : Frame) (st : CState) (err : Fail),
      compileArgs frame as st = .error err → err = .error := by
  intro as frame st err h
  have := compileArgs_spec as frame st
  rw [h] at this
  exact this.1

theorem compileArgs_ok : (as : List Expr) → ∀ (frame : Frame) (st : CState),
      wfsAt (names frame) as = true → st.numArgs + Expr.numParamss as ≤ maxArgs →
      ∃ r, compileArgs frame as st = .ok r := by
  intro as frame st hw hn
  have := compileArgs_spec as frame st
  cases h : compileArgs frame as st with
  | ok r => exact ⟨r, rfl⟩
  | error err => rw [h] at this; exact absurd ⟨hw, hn⟩ this.2

/-! ### the targets queue -/

/-- segment `i` of `segs` (target number `P + i`) sits, resolved, at its entry point -/
def SegRes (code : List Instr) (entries : List Nat) (P : Nat) (segs : List Segment) : Prop :=
  ∀ i seg, segs[i]? = some seg → ∃ pc tl, entries[P + i]? = some pc ∧
    code.drop pc = seg.2.map (resolveI entries) ++ tl

theorem all_stores_lamFree (rs : List Nat) : (rs.map Instr.store).all isLamFree = true := by
  induction rs <;> simp_all [isLamFree]

/-- with fuel for every lambda still to come, the queue loop fails only with `error`, and exactly when a queued body is
ill-formed or the registers run out; on success the segments are what `Placed` needs -/
def QSpec (st : CState) (P : Nat) : Res (List Segment) → Prop
  | .ok segs => st.queue.length ≤ segs.length ∧
      (∀ seg ∈ segs, ∀ i ∈ seg.2, lamRef 0 (P + segs.length) i) ∧
      st.queue.all wfT = true ∧ st.numArgs + sumParams st.queue ≤ maxArgs ∧
      (∀ code entries, SegRes code entries P segs → Placed code entries P st.queue)
  | .error err => err = .error ∧ ¬ (st.queue.all wfT = true ∧ st.numArgs + sumParams st.queue ≤ maxArgs)

theorem compileQueue_spec : ∀ (fuel : Nat) (st : CState) (P : Nat), st.nTargets = P + st.queue.length →
    st.numArgs ≤ maxArgs → sumLams st.queue < fuel → QSpec st P (compileQueue fuel st)
  | 0, st, P, _, _, hf => by omega
  | fuel + 1, st, P, hi, hn, hf => by
    simp only [compileQueue]
    cases hq : st.queue with
    | nil => simp [QSpec, hq, sumParams, hn, Placed]
    | cons t rest =>
      rw [hq] at hf
      simp only [sumLams] at hf
      dsimp only
      have hsp := compileExpr_spec t.body t.frame { st with queue := rest }
      cases hc : compileExpr t.frame t.body { st with queue := rest } with
      | error e =>
        rw [hc] at hsp
        refine ⟨hsp.1, fun ⟨hw, hn'⟩ => hsp.2 ?_⟩
        simp only [hq, List.all_cons, Bool.and_eq_true, sumParams] at hw hn'
        exact ⟨hw.1, by simp only; omega⟩
      | ok r =>
        obtain ⟨is, st'⟩ := r
        rw [hc] at hsp
        obtain ⟨new, g, m⟩ := hsp
        have gq : st'.queue = rest ++ new := g.queue
        have gn : st'.nTargets = st.nTargets + new.length := g.nT
        have gA : st'.numArgs + sumParams new = st.numArgs + t.body.numParams := g.nA
        have gL := g.nL
        have hi' : st'.nTargets = P + 1 + st'.queue.length := by
          rw [gn, gq, hi, hq]; simp only [List.length_cons, List.length_append]; omega
        have ih := compileQueue_spec fuel st' (P + 1) hi' (g.le hn) (by rw [gq, sumLams_append]; omega)
        have gw : wfT t = new.all wfT := g.wfEq
        dsimp only
        cases hr : compileQueue fuel st' with
        | error e =>
          rw [hr] at ih
          refine ⟨ih.1, fun ⟨hw, hn'⟩ => ih.2 ?_⟩
          simp only [hq, List.all_cons, Bool.and_eq_true, sumParams] at hw hn'
          rw [gq, List.all_append, sumParams_append, ← gw, hw.1, hw.2]
          exact ⟨rfl, by omega⟩
        | ok segs' =>
          rw [hr] at ih
          obtain ⟨a', b', c', d', e'⟩ := ih
          rw [gq] at a' c' d' e'
          simp only [List.length_append] at a'
          simp only [List.all_append, Bool.and_eq_true] at c'
          rw [sumParams_append] at d'
          dsimp only [QSpec]
          rw [hq]
          refine ⟨by simp only [List.length_cons]; omega, ?_, ?_, ?_, ?_⟩
          · intro seg hseg i hi2
            rcases List.mem_cons.mp hseg with rfl | hseg
            · refine lamRef_wrap (all_stores_lamFree _) rfl (fun j hj => lamRef_mono (Nat.zero_le _) ?_ (g.idx j hj)) i hi2
              rw [hi', gq]; simp only [List.length_cons, List.length_append]; omega
            · exact lamRef_mono (Nat.le_refl _) (by simp only [List.length_cons]; omega) (b' seg hseg i hi2)
          · simp only [List.all_cons, Bool.and_eq_true]
            refine ⟨?_, c'.1⟩
            rw [gw]; exact c'.2
          · simp only [sumParams]; omega
          · intro code entries hseg j t' hj
            have hseg' : SegRes code entries (P + 1) segs' := by
              intro i seg hs
              have := hseg (i + 1) seg hs
              rwa [Nat.add_comm i 1, ← Nat.add_assoc] at this
            have hyp := e' code entries hseg'
            cases j with
            | zero =>
              simp only [List.getElem?_cons_zero, Option.some.injEq] at hj
              subst hj
              obtain ⟨pc, tl, hpc, hdrop⟩ := hseg 0 _ rfl
              have hyp2 : Placed code entries st.nTargets new := by
                have := hyp.right
                rw [hi, hq]
                simpa [Nat.add_assoc, Nat.add_comm 1 rest.length] using this
              refine ⟨pc, hpc, _, tl, ?_, m code entries ([Instr.discard, Instr.ret] ++ tl) hyp2⟩
              rw [hdrop, List.map_append, List.map_append, map_resolveI_lamFree _ _ (all_stores_lamFree _)]
              simp only [List.append_assoc]
              rfl
            | succ j =>
              simp only [List.getElem?_cons_succ] at hj
              have := hyp.left j t' hj
              simpa [Nat.add_assoc, Nat.add_comm 1 j] using this

/-! ### the whole array -/

theorem entryPoints_length : ∀ (pc : Nat) (segs : List Segment), (entryPoints pc segs).length = segs.length
  | _, [] => rfl
  | pc, (_, is) :: segs => by simp [entryPoints, entryPoints_length (pc + is.length) segs]

theorem mem_flatten {i : Instr} : ∀ {segs : List Segment}, i ∈ flatten segs ↔ ∃ seg ∈ segs, i ∈ seg.2
  | [] => by simp [flatten]
  | (k, is) :: segs => by simp [flatten, mem_flatten (segs := segs)]

theorem flatten_drop : ∀ (segs : List Segment) (pre : List Instr), pre.length > 0 →
    ∀ (i : Nat) (seg : Segment), segs[i]? = some seg →
      ∃ pc tl, (entryPoints pre.length segs)[i]? = some pc ∧ (pre ++ flatten segs).drop pc = seg.2 ++ tl
  | [], _, _, i, seg, h => by simp at h
  | (k, is) :: segs, pre, hp, i, seg, h => by
    have hne : (pre.length == 0) = false := by
      cases pre with
      | nil => simp at hp
      | cons _ _ => simp
    cases i with
    | zero =>
      cases h
      exact ⟨pre.length, flatten segs, by simp [entryPoints, hne], by simp [flatten]⟩
    | succ i =>
      obtain ⟨pc, tl, e1, e2⟩ := flatten_drop segs (pre ++ is) (by simp only [List.length_append]; omega) i seg h
      exact ⟨pc, tl, by simpa [entryPoints, hne, List.length_append] using e1, by simpa [flatten, List.append_assoc] using e2⟩

theorem not_wellFormed {e : Expr} (h : ¬ (wfAt [] e = true ∧ e.numParams ≤ maxArgs)) : wellFormed e = false := by
  rw [← Bool.not_eq_true]
  simpa [wellFormed] using h

theorem layoutOK_all (e : Expr) : layoutOK e = true := by
  have hnames : names ([] : Frame) = [] := rfl
  unfold layoutOK compile compileSegments
  have hsp := compileExpr_spec e [] {}
  cases hc : compileExpr [] e {} with
  | error err =>
    rw [hc] at hsp
    cases hsp.1
    rw [not_wellFormed fun h => hsp.2 ⟨h.1, by simpa using h.2⟩]
    rfl
  | ok r =>
    obtain ⟨is0, st0⟩ := r
    rw [hc] at hsp
    obtain ⟨new0, g0, m0⟩ := hsp
    have gq : st0.queue = new0 := by simpa using g0.queue
    have gn : st0.nTargets = 1 + new0.length := by simpa using g0.nT
    have gA : st0.numArgs + sumParams new0 = e.numParams := by simpa using g0.nA
    have gL : sumLams new0 = e.numLambdas := g0.nL
    have gW : wfAt [] e = new0.all wfT := by have := g0.wfEq; rwa [hnames] at this
    have gle : st0.numArgs ≤ maxArgs := g0.le (by simp [maxArgs])
    have hinv : st0.nTargets = 1 + st0.queue.length := by rw [gn, gq]
    have hqs := compileQueue_spec (e.numLambdas + 1) st0 1 hinv gle (by rw [gq, gL]; omega)
    simp only []
    cases hq : compileQueue (e.numLambdas + 1) st0 with
    | error err =>
      rw [hq] at hqs
      obtain ⟨h1, h2⟩ := hqs
      subst h1
      rw [not_wellFormed fun h => h2 (gq ▸ ⟨gW ▸ h.1, by omega⟩)]
      rfl
    | ok segs =>
      rw [hq] at hqs
      obtain ⟨qa, qb, qc, qd, qe⟩ := hqs
      simp only []
      rw [gq] at qa qc qd qe
      have hen : entryPoints 0 ((0, [Instr.pushVal (.int 0)] ++ is0 ++ [Instr.ret]) :: segs) =
          1 :: entryPoints ([Instr.pushVal (.int 0)] ++ is0 ++ [Instr.ret]).length segs := by
        simp [entryPoints]
      generalize hEn : entryPoints 0 ((0, [Instr.pushVal (.int 0)] ++ is0 ++ [Instr.ret]) :: segs) = entries at hen ⊢
      have hlen : entries.length = 1 + segs.length := by
        rw [hen]; simp [entryPoints_length]; omega
      have hbound : ∀ i ∈ flatten ((0, [Instr.pushVal (.int 0)] ++ is0 ++ [Instr.ret]) :: segs),
          lamRef 0 entries.length i := by
        intro i hi
        rw [hlen]
        rcases List.mem_append.mp hi with hi | hi
        · exact lamRef_wrap rfl rfl (fun j hj => lamRef_mono (Nat.zero_le _) (by rw [gn]; omega) (g0.idx j hj)) i hi
        · obtain ⟨seg, hs, hj⟩ := mem_flatten.mp hi
          exact qb seg hs i hj
      rw [resolveAll_eq_map entries _ hbound]
      simp only []
      have hwf : wellFormed e = true := by
        simp only [wellFormed, Bool.and_eq_true, decide_eq_true_eq]
        exact ⟨by rw [gW]; exact qc, by omega⟩
      rw [hwf, Bool.true_and]
      simp only [flatten]
      have hseg : SegRes (([Instr.pushVal (.int 0)] ++ is0 ++ [Instr.ret] ++ flatten segs).map (resolveI entries))
          entries 1 segs := by
        intro i seg hs
        obtain ⟨pc, tl, e1, e2⟩ := flatten_drop segs ([Instr.pushVal (.int 0)] ++ is0 ++ [Instr.ret]) (by simp) i seg hs
        refine ⟨pc, tl.map (resolveI entries), ?_, by rw [← List.map_drop, e2, List.map_append]⟩
        rw [hen, Nat.add_comm 1 i, List.getElem?_cons_succ]
        exact e1
      have hm := m0 _ entries ([Instr.ret] ++ (flatten segs).map (resolveI entries)) (qe _ entries hseg)
      simp only [matchMain, List.map_append, List.map_cons, resolveI, List.cons_append, List.nil_append,
        List.append_assoc] at hm ⊢
      rw [hm]

end B6.Lemmas.VMLayout
