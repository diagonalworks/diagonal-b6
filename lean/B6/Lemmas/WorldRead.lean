import B6.Model.WorldRead
import B6.Lemmas.Basic.Dedup
import B6.Lemmas.Basic.Sorted
/-!
Facts about the functions of `Model/WorldRead` that hold of every world (C02): what each returns, as a membership
statement; the referrers closure `expand` round by round, up to `expand_congr` (two step functions that agree on a closed
class of ids give the same closure).  The invariants and the equivalences of the two worlds are in Props/C02.
-/
namespace B6.Lemmas.WorldRead
open B6.Model.WorldRead

theorem dedup_spec (l : List Id) : (dedup l).Nodup ∧ ∀ y, y ∈ dedup l ↔ y ∈ l :=
  Basic.dedup_keepLast (c := fun x xs => (dedup xs).contains x = true)
    (fun x _ h => List.contains_iff_mem.trans (h x)) rfl (fun _ _ => rfl) l

theorem mem_dedup (l : List Id) (y : Id) : y ∈ dedup l ↔ y ∈ l := (dedup_spec l).2 y

abbrev round (d : Id → List Id) (seen frontier : List Id) : List Id :=
  dedup ((frontier.flatMap d).filter fun y => !seen.contains y)

theorem expand_succ (d : Id → List Id) (n : Nat) (seen frontier : List Id) :
    expand d (n + 1) seen frontier =
      if (round d seen frontier).isEmpty then seen
      else expand d n (seen ++ round d seen frontier) (round d seen frontier) := rfl

theorem mem_round (d : Id → List Id) (seen frontier : List Id) (y : Id) :
    y ∈ round d seen frontier ↔ (∃ z ∈ frontier, y ∈ d z) ∧ y ∉ seen := by
  simp only [round, mem_dedup, List.mem_filter, List.mem_flatMap, Bool.not_eq_true', List.contains_eq_mem,
    decide_eq_false_iff_not]

theorem seen_subset_expand (d : Id → List Id) (fuel : Nat) : ∀ (seen frontier : List Id) (y : Id),
    y ∈ seen → y ∈ expand d fuel seen frontier := by
  intro seen frontier y h
  fun_induction expand d fuel seen frontier with
  | case1 seen _ => exact h
  | case2 fuel seen frontier new hemp => exact h
  | case3 fuel seen frontier new hne ih => exact ih (List.mem_append_left _ h)

theorem expand_sound (d : Id → List Id) (fuel : Nat) : ∀ (seen frontier : List Id) (y : Id),
    y ∈ expand d fuel seen frontier →
    y ∈ seen ∨ ∃ z, (z ∈ frontier ∨ z ∈ expand d fuel seen frontier) ∧ y ∈ d z := by
  intro seen frontier y h
  fun_induction expand d fuel seen frontier with
  | case1 seen _ => exact Or.inl h
  | case2 fuel seen frontier new hemp => exact Or.inl h
  | case3 fuel seen frontier new hne ih =>
    rcases ih h with hm | ⟨z, hz, hyz⟩
    · rcases List.mem_append.1 hm with hs | hn
      · exact Or.inl hs
      · obtain ⟨⟨z, hz, hyz⟩, _⟩ := (mem_round d seen frontier y).1 hn
        exact Or.inr ⟨z, Or.inl hz, hyz⟩
    · exact Or.inr ⟨z, Or.inr (hz.elim (fun hz => seen_subset_expand d fuel _ _ z (List.mem_append_right _ hz)) id), hyz⟩

theorem closure_sound (w : World) (x y : Id) (h : y ∈ closure w x) :
    ∃ z, (z = x ∨ z ∈ closure w x) ∧ y ∈ directReferrers w z := by
  rcases expand_sound (directReferrers w) _ [] [x] y h with h0 | ⟨z, hz, hyz⟩
  · cases h0
  · exact ⟨z, hz.imp_left List.mem_singleton.1, hyz⟩

theorem expand_frontier (d : Id → List Id) (n : Nat) (seen frontier : List Id) {z y : Id} (hz : z ∈ frontier)
    (hy : y ∈ d z) : y ∈ expand d (n + 1) seen frontier := by
  have hnew : y ∈ seen ∨ y ∈ round d seen frontier :=
    (Classical.em (y ∈ seen)).imp_right fun h => (mem_round d seen frontier y).2 ⟨⟨z, hz, hy⟩, h⟩
  rw [expand_succ]
  split
  · rename_i he
    rw [List.isEmpty_iff.1 he] at hnew
    exact hnew.resolve_right (List.not_mem_nil)
  · exact seen_subset_expand d n _ _ y (List.mem_append.2 hnew)

theorem direct_subset_closure (w : World) (x y : Id) (h : y ∈ directReferrers w x) : y ∈ closure w x :=
  expand_frontier _ _ [] [x] (List.mem_singleton.2 rfl) h

theorem direct2_subset_closure (w : World) (x z y : Id) (hz : z ∈ directReferrers w x) (hy : y ∈ directReferrers w z)
    (hfuel : 1 ≤ (allIds w).length) : y ∈ closure w x := by
  unfold closure
  obtain ⟨n, hn⟩ : ∃ n, (allIds w).length = n + 1 := ⟨(allIds w).length - 1, by omega⟩
  -- the first round puts `z` on the frontier of the second
  have hz1 : z ∈ round (directReferrers w) [] [x] :=
    (mem_round _ _ _ z).2 ⟨⟨x, List.mem_singleton.2 rfl, hz⟩, List.not_mem_nil⟩
  rw [hn, expand_succ, if_neg fun he => List.not_mem_nil (List.isEmpty_iff.1 he ▸ hz1)]
  exact expand_frontier _ _ _ _ hz1 hy

theorem allIds_pos_of_path (w : World) (q : Path) (hq : q ∈ w.paths) : 1 ≤ (allIds w).length := by
  have : q.id ∈ allIds w := by
    simp only [allIds, List.mem_append, List.mem_map]
    exact Or.inl (Or.inl (Or.inr ⟨q, hq, rfl⟩))
  cases h : allIds w with
  | nil => rw [h] at this; simp at this
  | cons a t => simp

/-- Two "direct referrers" functions that agree as sets on a class `P` of ids which the first one never leaves give
the same closure (as a set) from a frontier inside `P`. -/
theorem expand_congr (d1 d2 : Id → List Id) (P : Id → Prop)
    (hclosed : ∀ z, P z → ∀ y ∈ d1 z, P y) (heq : ∀ z, P z → ∀ y, y ∈ d1 z ↔ y ∈ d2 z) (fuel : Nat) :
    ∀ (s1 s2 f1 f2 : List Id), (∀ z ∈ f1, P z) → (∀ y, y ∈ s1 ↔ y ∈ s2) → (∀ y, y ∈ f1 ↔ y ∈ f2) →
    ∀ y, y ∈ expand d1 fuel s1 f1 ↔ y ∈ expand d2 fuel s2 f2 := by
  induction fuel with
  | zero => exact fun _ _ _ _ _ hs _ y => hs y
  | succ n ih =>
    intro s1 s2 f1 f2 hP hs hf y
    have hnew : ∀ y, y ∈ round d1 s1 f1 ↔ y ∈ round d2 s2 f2 := fun y => by
      rw [mem_round, mem_round, hs y]
      exact and_congr_left fun _ => ⟨fun ⟨z, hz, hy⟩ => ⟨z, (hf z).1 hz, (heq z (hP z hz) y).1 hy⟩,
        fun ⟨z, hz, hy⟩ => ⟨z, (hf z).2 hz, (heq z (hP z ((hf z).2 hz)) y).2 hy⟩⟩
    have hPnew : ∀ z ∈ round d1 s1 f1, P z := fun z hz =>
      let ⟨⟨z0, hz0, hzz⟩, _⟩ := (mem_round d1 s1 f1 z).1 hz
      hclosed z0 (hP z0 hz0) z hzz
    have hemp : (round d1 s1 f1).isEmpty = (round d2 s2 f2).isEmpty := by
      rw [Bool.eq_iff_iff, List.isEmpty_iff, List.isEmpty_iff, List.eq_nil_iff_forall_not_mem,
        List.eq_nil_iff_forall_not_mem]
      exact forall_congr' fun y => not_congr (hnew y)
    rw [expand_succ, expand_succ, ← hemp]
    split
    · exact hs y
    · exact ih _ _ _ _ hPnew (fun y => by rw [List.mem_append, List.mem_append, hs y, hnew y]) hnew y

theorem mem_directReferrers (w : World) (z y : Id) :
    y ∈ directReferrers w z ↔
      (∃ q ∈ w.paths, q.refs.contains z = true ∧ q.id = y) ∨
      (∃ a ∈ w.areas, (a.polys.any fun ids => ids.contains z) = true ∧ a.id = y) ∨
      (∃ r ∈ w.relations, (r.members.any fun m => m.1 = z) = true ∧ r.id = y) := by
  simp only [directReferrers, List.mem_append, List.mem_map, List.mem_filter, or_assoc, and_assoc]

theorem mem_pointPaths (w : World) (x y : Id) :
    y ∈ pointPaths w x ↔ ∃ q ∈ w.srcPaths, x ∈ visits q ∧ q.id = y := by
  simp only [pointPaths, List.mem_flatMap, List.mem_filterMap]
  constructor
  · rintro ⟨q, hq, r, hr, hry⟩
    by_cases h : r = x
    · subst h; simp at hry; exact ⟨q, hq, hr, hry⟩
    · simp [h] at hry
  · rintro ⟨q, hq, hx, rfl⟩
    exact ⟨q, hq, x, hx, by simp⟩

theorem mem_pathExists (w : World) (y : Id) : pathExists w y = true ↔ ∃ q ∈ w.paths, q.id = y := by
  simp [pathExists, List.any_eq_true]

theorem mem_relsDirectC (w : World) (x y : Id) :
    y ∈ relsDirectC w x ↔ hasRecord w x = true ∧ ∃ r ∈ w.relations, (r.members.any fun m => m.1 = x) = true ∧ r.id = y := by
  unfold relsDirectC
  by_cases h : hasRecord w x = true
  · simp only [h, Bool.not_true, Bool.false_eq_true, ite_false, mem_dedup, List.mem_map, List.mem_filter, true_and,
      and_assoc]
  · rw [if_pos (by simpa using h)]
    exact ⟨fun h' => (nomatch h'), fun h' => absurd h'.1 h⟩

theorem mem_areasC (w : World) (x y : Id) :
    y ∈ areasC w x ↔ x.t = .point ∧ hasFeature w x = true ∧
      (∃ pid, pid ∈ pointPaths w x ∧ pathExists w pid = true ∧
        ∃ a ∈ w.srcAreas, (a.polys.any fun ids => ids.contains pid) = true ∧ a.id = y) ∧
      (w.areas.any (·.id = y)) = true := by
  unfold areasC
  by_cases h1 : x.t = .point
  · by_cases h2 : hasFeature w x = true
    · simp only [h1, h2, ne_eq, not_true_eq_false, decide_false, Bool.not_true, Bool.or_self, Bool.false_eq_true,
        ite_false, List.mem_filter, mem_dedup, List.mem_flatMap, List.mem_map, true_and, and_assoc]
    · have hc : (decide (x.t ≠ .point) || !hasFeature w x) = true := by
        rw [Bool.or_eq_true]; right; simpa using h2
      rw [if_pos hc]
      exact ⟨fun h => (nomatch h), fun h => absurd h.2.1 h2⟩
  · have hc : (decide (x.t ≠ .point) || !hasFeature w x) = true := by
      rw [Bool.or_eq_true]; left; exact decide_eq_true h1
    rw [if_pos hc]
    exact ⟨fun h => (nomatch h), fun h => absurd h.1 h1⟩

theorem mem_areasOfPathC (w : World) (z y : Id) :
    y ∈ areasOfPathC w z ↔ pathExists w z = true ∧
      (∃ a ∈ w.srcAreas, (a.polys.any fun ids => ids.contains z) = true ∧ a.id = y) ∧ (w.areas.any (·.id = y)) = true := by
  unfold areasOfPathC
  by_cases h : pathExists w z = true
  · simp only [h, Bool.not_true, Bool.false_eq_true, ite_false, List.mem_filter, mem_dedup, List.mem_map, true_and,
      and_assoc]
  · rw [if_pos (by simpa using h)]
    exact ⟨fun h' => (nomatch h'), fun h' => absurd h'.1 h⟩

theorem mem_finalRefs (p : Path) (z : Id) : z ∈ finalRefs p ↔ z ∈ p.refs := by
  unfold finalRefs; split <;> simp

theorem mem_build_paths (src : Source) (q' : Path) :
    q' ∈ (build src).paths ↔ ∃ q ∈ srcPaths src, pathValid (srcPoints src) q = true ∧ q' = { q with refs := finalRefs q } := by
  simp only [build, List.mem_map, List.mem_filter, and_assoc, eq_comm]

/-! ## the two scan loops of `traverse` / `fillPathSegments` -/

theorem upFrom_succ (p : Nat → Bool) (i k : Nat) : upFrom p i (k + 1) = if p i = true then some i else upFrom p (i + 1) k := rfl
theorem downFrom_succ (p : Nat → Bool) (i k : Nat) :
    downFrom p i (k + 1) = if p (i - 1) = true then some (i - 1) else downFrom p (i - 1) k := rfl

theorem upFrom_ge (p : Nat → Bool) (k : Nat) : ∀ (i j : Nat), upFrom p i k = some j → i ≤ j := by
  intro i j h
  fun_induction upFrom p i k with
  | case1 i => cases h
  | case2 i k hp => cases h; exact Nat.le_refl _
  | case3 i k hp ih => exact Nat.le_trans (Nat.le_succ i) (ih h)

theorem downFrom_le (p : Nat → Bool) (k : Nat) : ∀ (i j : Nat), downFrom p i k = some j → j ≤ i - 1 := by
  intro i j h
  fun_induction downFrom p i k with
  | case1 i => cases h
  | case2 i k hp => cases h; exact Nat.le_refl _
  | case3 i k hp ih => exact Nat.le_trans (ih h) (Nat.sub_le _ _)

theorem upFrom_last (P Q : Nat → Bool) (k : Nat) : ∀ (s : Nat), (∀ j, s ≤ j → j < s + k → P j = Q j) → P (s + k) = true →
    upFrom P s (k + 1) = some ((upFrom Q s k).getD (s + k)) := by
  intro s hpq hl
  fun_induction upFrom Q s k with
  | case1 s => simp only [Nat.add_zero] at hl; simp [upFrom, hl]
  | case2 s k hq =>
    rw [upFrom_succ, hpq s (Nat.le_refl _) (Nat.lt_add_of_pos_right (Nat.succ_pos k)), if_pos hq]; rfl
  | case3 s k hq ih =>
    rw [upFrom_succ, hpq s (Nat.le_refl _) (Nat.lt_add_of_pos_right (Nat.succ_pos k)), if_neg hq,
      ih (fun j h1 h2 => hpq j (by omega) (by omega)) (by rw [show s + 1 + k = s + (k + 1) by omega]; exact hl),
      show s + 1 + k = s + (k + 1) by omega]

theorem downFrom_last (P Q : Nat → Bool) (k : Nat) : (∀ j, 1 ≤ j → j < k + 1 → P j = Q j) → P 0 = true →
    downFrom P (k + 1) (k + 1) = some ((downFrom Q (k + 1) k).getD 0) := by
  induction k with
  | zero => intro _ h0; simp [downFrom, h0]
  | succ k ih =>
    intro hpq h0
    have h1 : P (k + 1) = Q (k + 1) := hpq (k + 1) (Nat.succ_pos k) (Nat.lt_succ_self _)
    show (if P (k + 1) = true then some (k + 1) else downFrom P (k + 1) (k + 1)) =
      some ((if Q (k + 1) = true then some (k + 1) else downFrom Q (k + 1) k).getD 0)
    rw [h1]
    by_cases hq : Q (k + 1) = true
    · rw [if_pos hq, if_pos hq]; rfl
    · rw [if_neg hq, if_neg hq]
      exact ih (fun j a b => hpq j a (Nat.lt_succ_of_lt b)) h0

/-- the forward loop of `traverse` over the `k` points strictly between the origin and the last point, which also
stops at the last point, finds what `fillPathSegments` calls `next` -/
theorem up_ends (node : Nat → Bool) (n idx k : Nat) (hk : n = idx + 1 + k + 1) :
    upFrom (fun i => i = 0 || i + 1 = n || node i) (idx + 1) (k + 1) =
      some ((upFrom node (idx + 1) k).getD (idx + 1 + k)) ∧ idx + 1 ≤ (upFrom node (idx + 1) k).getD (idx + 1 + k) := by
  constructor
  · exact upFrom_last _ node k (idx + 1)
      (fun j h1 h2 => by
        have e1 : decide (j = 0) = false := decide_eq_false (by omega)
        have e2 : decide (j + 1 = n) = false := decide_eq_false (by omega)
        simp only [e1, e2, Bool.false_or])
      (by simp only [decide_eq_true hk.symm, Bool.or_true, Bool.true_or])
  · cases hu : upFrom node (idx + 1) k with
    | none => exact Nat.le_add_right _ _
    | some j => exact upFrom_ge node _ _ _ hu

/-- the backward loop of `traverse`, which also stops at the first point, finds what `fillPathSegments` calls
`previous` -/
theorem down_ends (node : Nat → Bool) (n idx : Nat) (h : idx < n) :
    downFrom (fun i => i = 0 || i + 1 = n || node i) idx idx =
      if (downFrom node idx (idx - 1)).getD 0 ≠ idx then some ((downFrom node idx (idx - 1)).getD 0) else none := by
  cases idx with
  | zero => rfl
  | succ k =>
    have hlt : (downFrom node (k + 1) k).getD 0 < k + 1 := by
      cases hd : downFrom node (k + 1) k with
      | none => exact Nat.succ_pos k
      | some j => exact Nat.lt_succ_of_le (downFrom_le node _ _ _ hd)
    rw [downFrom_last _ node k
        (fun j h1 h2 => by
          have e1 : decide (j = 0) = false := decide_eq_false (by omega)
          have e2 : decide (j + 1 = n) = false := decide_eq_false (by omega)
          simp only [e1, e2, Bool.false_or])
        (by simp only [decide_true, Bool.true_or]),
      Nat.add_sub_cancel, if_pos (by omega)]

theorem lastIndexOf_lt (refs : List Id) (x : Id) (i : Nat) (h : lastIndexOf refs x = some i) : i < refs.length :=
  List.foldlRecOn (List.range refs.length) _ (motive := fun acc => ∀ a, acc = some a → a < refs.length)
    (fun _ h => by cases h)
    (fun acc hacc j hj a ha => by
      split at ha
      · cases ha; exact List.mem_range.1 hj
      · exact hacc a ha) i h

theorem mem_dropLast_of_closed (refs : List Id) (hc : closedRefs refs = true) (hl : 2 ≤ refs.length) (z : Id) :
    z ∈ refs.dropLast ↔ z ∈ refs := by
  constructor
  · exact fun h => List.dropLast_subset refs h
  · intro hz
    match refs, hl with
    | a :: b :: t, _ =>
      have hne : (a :: b :: t) ≠ [] := by simp
      have hsplit := List.dropLast_concat_getLast hne
      rw [← hsplit, List.mem_append] at hz
      cases hz with
      | inl hz => exact hz
      | inr hz =>
        simp only [List.mem_singleton] at hz
        -- z is the last element, which equals the head, which survives dropLast
        have hlast : (a :: b :: t).getLast? = some ((a :: b :: t).getLast hne) := List.getLast?_eq_some_getLast hne
        simp only [closedRefs, List.head?_cons, hlast, decide_eq_true_eq] at hc
        rw [hz, ← hc]
        simp [List.dropLast]

/-! ## lookup in the blocks of one type; the order of `EachFeature` -/

theorem find?_map_rec {α} (l : List α) (c : α → Rec) (key : α → Id) (hk : ∀ a, (c a).id = key a) (x : Id) :
    (l.map c).find? (fun r => decide (r.id = x)) = (l.find? (fun a => decide (key a = x))).map c := by
  induction l with
  | nil => rfl
  | cons a t ih =>
    simp only [List.map_cons, List.find?_cons, hk]
    by_cases h : key a = x <;> simp [h, ih]

theorem find?_none_of_type {α} (l : List α) (key : α → Id) (x : Id) (h : ∀ a ∈ l, (key a).t ≠ x.t) :
    l.find? (fun a => decide (key a = x)) = none := by
  rw [List.find?_eq_none]
  intro a ha
  simp only [decide_eq_true_eq]
  intro e
  exact h a ha (by rw [e])

theorem sortIds_isSort : Basic.IsInsertSort (fun a b : Id => a.lt b = true) insertSorted sortIds :=
  ⟨fun _ => rfl, fun _ _ _ => rfl, rfl, fun _ _ => rfl⟩

theorem flatMap_perm_congr {α β} (l : List α) (f g : α → List β) (h : ∀ a ∈ l, (f a).Perm (g a)) :
    (l.flatMap f).Perm (l.flatMap g) := by
  induction l with
  | nil => exact List.Perm.refl _
  | cons a t ih =>
    simp only [List.flatMap_cons]
    exact List.Perm.append (h a (by simp)) (ih (fun b hb => h b (by simp [hb])))

theorem flatMap_insert_one (a : Id) (g : Nat → List Id) (b0 : Nat) : ∀ n : Nat,
    ((List.range n).flatMap fun b => if b0 = b then a :: g b else g b).Perm
      ((if b0 < n then [a] else []) ++ (List.range n).flatMap g) := by
  intro n
  induction n with
  | zero => simp
  | succ n ih =>
    simp only [List.range_succ, List.flatMap_append, List.flatMap_cons, List.flatMap_nil, List.append_nil]
    by_cases h1 : b0 = n
    · subst h1
      have hlt : ¬ b0 < b0 := Nat.lt_irrefl _
      simp only [hlt, ite_false, List.nil_append, ite_true, Nat.lt_succ_self] at ih ⊢
      exact (List.Perm.append_right _ ih).trans List.perm_middle
    · by_cases h2 : b0 < n
      · have h3 : b0 < n + 1 := Nat.lt_succ_of_lt h2
        simp only [h2, ite_true, h1, ite_false, h3] at ih ⊢
        have := List.Perm.append_right (g n) ih
        simpa [List.append_assoc] using this
      · have h3 : ¬ b0 < n + 1 := by omega
        simp only [h2, ite_false, h1, h3, List.nil_append] at ih ⊢
        exact List.Perm.append_right _ ih

theorem bucket_perm (nb : Nat) (hnb : 0 < nb) (l : List Id) :
    ((List.range nb).flatMap fun b => l.filter fun x => x.v % nb = b).Perm l := by
  induction l with
  | nil => simp
  | cons a t ih =>
    have hf : (fun b => (a :: t).filter fun x => decide (x.v % nb = b)) =
        (fun b => if a.v % nb = b then a :: (t.filter fun x => decide (x.v % nb = b)) else (t.filter fun x => decide (x.v % nb = b))) := by
      funext b
      by_cases h : a.v % nb = b <;> simp [h]
    rw [hf]
    have := flatMap_insert_one a (fun b => t.filter fun x => decide (x.v % nb = b)) (a.v % nb) nb
    have hlt : a.v % nb < nb := Nat.mod_lt _ hnb
    simp only [hlt, ite_true] at this
    exact this.trans (List.Perm.cons a ih)

theorem blockOrder_perm (nb : Nat) (hnb : 0 < nb) (l : List Id) : (blockOrder nb l).Perm l := by
  unfold blockOrder
  exact (flatMap_perm_congr _ _ _ (fun b _ => sortIds_isSort.perm _)).trans (bucket_perm nb hnb l)

end B6.Lemmas.WorldRead
