import B6.Model.Mutable
import B6.Lemmas.Basic.AssocList
/-!
Association maps (`B6.Model.Mutable.AMap`, the Go maps of the overlay models of C12–C14 and C18).  `get` is a lookup by
key (`isLookup`), so what holds of every such lookup is an instance of `B6.Lemmas.Basic.IsLookup.*`; `get_upsert` and
`get_overlay` are about any function with the defining equations of `tagSet` resp. `applyMods`, of which both models
have their own.
-/
namespace B6.Model.Mutable.AMap
open B6.Lemmas.Basic
variable {α : Type} {β : Type} [DecidableEq α]

theorem isLookup : IsLookup (Prod.fst : α × β → α) Prod.snd get := ⟨fun _ => rfl, fun _ _ _ => rfl⟩

@[simp] theorem get_nil (k : α) : get ([] : List (α × β)) k = none := rfl

theorem get_cons (k' : α) (v : β) (r : List (α × β)) (k : α) :
    get ((k', v) :: r) k = if k' = k then some v else get r k := rfl

theorem get_erase (m : List (α × β)) (k k' : α) :
    get (erase m k) k' = if k' = k then none else get m k' :=
  isLookup.filter_ne (fun _ => decide_eq_true_iff) m k'

theorem get_set (m : List (α × β)) (k : α) (v : β) (k' : α) :
    get (set m k v) k' = if k' = k then some v else get m k' := by
  unfold set
  rw [get_cons, get_erase]
  by_cases h : k = k'
  · subst h; simp
  · simp [h, Ne.symm h]

theorem get_set_self (m : List (α × β)) (k : α) (v : β) : get (set m k v) k = some v := by
  simp [get_set]

theorem contains_eq (m : List (α × β)) (k : α) : contains m k = (get m k).isSome := rfl

theorem get_none_of_not_mem {m : List (α × β)} {k : α} (h : k ∉ keys m) : get m k = none :=
  isLookup.eq_none_iff.mpr fun _ he hk => h (hk ▸ List.mem_map_of_mem he)

theorem mem_keys_iff (m : List (α × β)) (k : α) : k ∈ keys m ↔ (get m k).isSome = true := by
  constructor
  · intro hk
    obtain ⟨e, he, rfl⟩ := List.mem_map.1 hk
    cases hg : get m e.1 with
    | some _ => rfl
    | none => exact absurd rfl (isLookup.eq_none_iff.1 hg e he)
  · intro hs
    exact Decidable.byContradiction fun hn => by rw [get_none_of_not_mem hn] at hs; cases hs

theorem get_some_mem {m : List (α × β)} {k : α} {v : β} (h : get m k = some v) : (k, v) ∈ m := by
  obtain ⟨⟨_, _⟩, he, rfl, rfl⟩ := isLookup.exists_mem_of_eq_some h; exact he

theorem forall_set {P : α → β → Prop} {m : List (α × β)} {k : α} {v : β}
    (hm : ∀ i g, get m i = some g → P i g) (hv : P k v) : ∀ i g, get (set m k v) i = some g → P i g := by
  intro i g hg
  rw [get_set] at hg
  split at hg
  next h => cases hg; rw [h]; exact hv
  next => exact hm i g hg

theorem get_append (a b : List (α × β)) (k : α) : get (a ++ b) k = (get a k).or (get b k) :=
  isLookup.append a b k

/-- a `filterMap` that decides key by key (whether the binding of `k` is kept does not depend on its value) -/
theorem get_filterMap {γ : Type} (g : α → β → Option γ) (k : α) (hg : ∀ v v', g k v = none → g k v' = none)
    (l : List (α × β)) :
    get (l.filterMap fun e => (g e.1 e.2).map (e.1, ·)) k = (get l k).bind (g k) := by
  induction l with
  | nil => rfl
  | cons e r ih =>
    obtain ⟨a, v⟩ := e
    rw [List.filterMap_cons, get_cons]
    by_cases hak : a = k
    · subst hak
      rw [if_pos rfl, Option.bind_some]
      cases hv : g a v with
      | none =>
        rw [Option.map_none, ih]
        cases get r a with
        | none => rfl
        | some v' => exact hg v v' hv
      | some w => rw [Option.map_some, get_cons, if_pos rfl]
    · rw [if_neg hak, ← ih]
      cases g a v with
      | none => rfl
      | some w => rw [Option.map_some, get_cons, if_neg hak]

/-- `Tags.ModifyOrAddTag` for any value type: `up` overwrites the first binding of the key, else appends one -/
theorem get_upsert (up : List (α × β) → α × β → List (α × β)) (up_nil : ∀ t, up [] t = [t])
    (up_cons : ∀ k v r t, up ((k, v) :: r) t = if k = t.1 then (k, t.2) :: r else (k, v) :: up r t)
    (ts : List (α × β)) (t : α × β) (k : α) : get (up ts t) k = if k = t.1 then some t.2 else get ts k :=
  isLookup.upsert (put := up) (upd := fun a e => (a.1, e.2)) up_nil (fun a r e => up_cons a.1 a.2 r e)
    (fun _ _ h => ⟨h, rfl⟩) ts t k

/-- `modifyTags` for any value and modification type: the originals mapped or dropped by `ex`, then the
modifications `nw` keeps because their key is new (`modExisting`, `modNew` in the model). Read by key it is `look`
(`modifyTag`, the model's `modLookup`): the recorded modification if there is one, else the original. -/
theorem get_overlay {μ : Type} (look : Option μ → Option β → Option β) (hnone : ∀ o, look none o = o)
    (hsome : ∀ m o o', look (some m) o = look (some m) o') (mods : List (α × μ)) (orig : List (α × β))
    (ex : α × β → Option (α × β)) (nw : α × μ → Option (α × β))
    (hex : ∀ t, ex t = (look (get mods t.1) (some t.2)).map (t.1, ·))
    (hnw : ∀ e, nw e = (if (get orig e.1).isNone then look (get mods e.1) none else none).map (e.1, ·))
    (k : α) : get (orig.filterMap ex ++ mods.filterMap nw) k = look (get mods k) (get orig k) := by
  rw [get_append, funext hex, funext hnw, get_filterMap (fun k v => look (get mods k) (some v)) k ?drop,
    get_filterMap (fun k _ => if (get orig k).isNone then look (get mods k) none else none) k (fun _ _ h => h)]
  case drop =>
    intro v v' h
    cases hm : get mods k with
    | none => rw [hm, hnone] at h; cases h
    | some m => rw [hm] at h; rw [← h]; exact hsome m _ _
  cases hm : get mods k with
  | none => cases get orig k <;> simp [hnone]
  | some m =>
    cases ho : get orig k with
    | none => simp
    | some v => simp [hsome m (some v) none]

theorem keys_erase (m : List (α × β)) (k : α) :
    keys (erase m k) = (keys m).filter (fun x => decide (x ≠ k)) :=
  keys_filter_ne (fun _ => decide_eq_true_iff) m

theorem nodup_erase (m : List (α × β)) (k : α) (h : (keys m).Nodup) : (keys (erase m k)).Nodup :=
  nodup_map_filter _ h

theorem nodup_set (m : List (α × β)) (k : α) (v : β) (h : (keys m).Nodup) :
    (keys (set m k v)).Nodup := by
  show (k :: keys (erase m k)).Nodup
  rw [List.nodup_cons]
  refine ⟨?_, nodup_erase m k h⟩
  rw [keys_erase]
  simp

theorem mem_erase {m : List (α × β)} {k : α} {e : α × β} (h : e ∈ erase m k) : e ∈ m :=
  (List.mem_filter.mp h).1

end B6.Model.Mutable.AMap
