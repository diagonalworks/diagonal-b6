import B6.Model.OsmRings
/-!
Lemmas about the ring stitching model (`B6/Model/OsmRings.lean`) for `B6/Props/C29.lean`: one induction principle per
loop of `groupWaysIntoLoops` (`follow_induct`, `group_induct`), every result an invariant fed to them; that disjoint
cycles give closed loops is a parity count of way-ends per node along the walk of the inner loop (`Walk`).
-/
namespace B6.Lemmas.OsmRings
open B6.Model.Pbf (Fail)
open B6.Model.OsmRings

theorem forall_mem_concat {α : Type} {p : α → Prop} {l : List α} {a : α} (hl : ∀ x ∈ l, p x) (ha : p a) :
    ∀ x ∈ l ++ [a], p x :=
  List.forall_mem_append.mpr ⟨hl, List.forall_mem_singleton.mpr ha⟩

theorem incident_spec {ws : List Way} {ms : List Int64} {v x : Int64} (h : x ∈ incident ws ms v) :
    x ∈ ms ∧ ∃ a b, (findWay ws x).bind ends = some (a, b) ∧ (a = v ∨ b = v) := by
  unfold incident at h
  obtain ⟨id, hid, hx⟩ := List.mem_flatMap.mp h
  split at hx
  · next a b he =>
    simp only [List.mem_append, List.mem_ite_nil_right, List.mem_singleton] at hx
    obtain ⟨hv, rfl⟩ | ⟨hv, rfl⟩ := hx
    · exact ⟨hid, a, b, he, .inl hv⟩
    · exact ⟨hid, a, b, he, .inr hv⟩
  · cases hx

theorem follow_induct {ws : List Way} {ms : List Int64} {loop' seen' : List Int64}
    (M : (seen loop : List Int64) → (cur joint : Int64) → Prop)
    (stop : ∀ seen loop cur joint next, next ∈ incident ws ms joint → next ≠ cur → next ∈ seen →
      loop' = loop ++ [cur] → seen' = seen → M seen loop cur joint)
    (step : ∀ seen loop cur joint next a b, next ∈ incident ws ms joint → next ≠ cur → next ∉ seen →
      (findWay ws next).bind ends = some (a, b) →
      M (next :: seen) (loop ++ [cur]) next (if joint = a then b else a) → M seen loop cur joint) :
    ∀ fuel seen loop cur joint, follow ws ms fuel seen loop cur joint = .ok (loop', seen') → M seen loop cur joint := by
  intro fuel seen loop cur joint h
  fun_induction follow ws ms fuel seen loop cur joint with
  | case1 => cases h
  | case2 => cases h
  | case3 => cases h
  | case4 _ seen loop cur joint _ next hnext a b he hs =>
    obtain ⟨h1, h2⟩ := Prod.mk.inj (Except.ok.inj h)
    exact stop _ _ _ _ next (List.mem_of_find?_eq_some hnext) (by simpa using List.find?_some hnext) (by simpa using hs)
      h1.symm h2.symm
  | case5 _ seen loop cur joint _ next hnext a b he _ hs ih =>
    exact step _ _ _ _ next a b (List.mem_of_find?_eq_some hnext) (by simpa using List.find?_some hnext) (by simpa using hs)
      he (ih h)

theorem follow_spec {ws : List Way} {ms : List Int64} {fuel : Nat} {seen loop : List Int64} {cur joint : Int64}
    {loop' seen' : List Int64} (h : follow ws ms fuel seen loop cur joint = .ok (loop', seen')) :
    ∃ new, loop' = loop ++ cur :: new ∧ seen' = new.reverse ++ seen ∧ new.Nodup ∧
      (∀ x ∈ new, x ∉ seen) ∧ (∀ x ∈ new, x ∈ ms) := by
  refine follow_induct (fun seen loop cur _ => ∃ new, loop' = loop ++ cur :: new ∧ seen' = new.reverse ++ seen ∧
    new.Nodup ∧ (∀ x ∈ new, x ∉ seen) ∧ (∀ x ∈ new, x ∈ ms)) ?_ ?_ fuel seen loop cur joint h
  · intro seen loop cur _ _ _ _ _ h1 h2
    exact ⟨[], h1, h2, List.nodup_nil, by simp, by simp⟩
  · intro seen loop cur _ next _ _ hin _ hns _ ⟨new, h1, h2, h3, h4, h5⟩
    refine ⟨next :: new, by simp [h1], by simp [h2],
      List.nodup_cons.mpr ⟨fun hin => h4 next hin (by simp), h3⟩, ?_, ?_⟩
    · intro x hx
      rcases List.mem_cons.mp hx with rfl | hx
      · exact hns
      · exact fun hs => h4 x hx (by simp [hs])
    · exact List.forall_mem_cons.mpr ⟨(incident_spec hin).1, h5⟩

theorem group_induct {ws : List Way} {ms : List Int64} (I : List Int64 → List (List Int64) → Prop)
    (self : ∀ id seen loops a, id ∈ ms → id ∉ seen → (findWay ws id).bind ends = some (a, a) → I seen loops →
      I (id :: seen) (loops ++ [[id]]))
    (run : ∀ id seen loops a b loop seen', id ∈ ms → id ∉ seen → (findWay ws id).bind ends = some (a, b) → a ≠ b →
      follow ws ms (ms.length + 1) (id :: seen) [] id b = .ok (loop, seen') → I seen loops → I seen' (loops ++ [loop]))
    {todo seen : List Int64} {loops res : List (List Int64)} (h : group ws ms todo seen loops = .ok res)
    (htodo : ∀ x ∈ todo, x ∈ ms) (hI : I seen loops) :
    ∃ seen', I seen' res ∧ (∀ x ∈ todo, x ∈ seen') ∧ (∀ x ∈ seen, x ∈ seen') := by
  fun_induction group ws ms todo seen loops with
  | case1 seen loops => exact ⟨seen, Except.ok.inj h ▸ hI, nofun, fun _ hx => hx⟩
  | case2 id rest seen loops hs ih =>
    -- whatever the round does, `id` is seen after it
    obtain ⟨seen', h1, h2, h3⟩ := ih h (fun x hx => htodo x (List.mem_cons_of_mem _ hx)) hI
    exact ⟨seen', h1, List.forall_mem_cons.mpr ⟨h3 _ (by simpa using hs), h2⟩, h3⟩
  | case3 => cases h
  | case4 id rest seen loops hs a he ih =>
    obtain ⟨seen', h1, h2, h3⟩ := ih h (fun x hx => htodo x (List.mem_cons_of_mem _ hx))
      (self id seen loops a (htodo id List.mem_cons_self) (by simpa using hs) he hI)
    exact ⟨seen', h1, List.forall_mem_cons.mpr ⟨h3 _ List.mem_cons_self, h2⟩, fun x hx => h3 x (List.mem_cons_of_mem _ hx)⟩
  | case5 => cases h
  | case6 id rest seen loops hs a b he hab loop seen₁ hf ih =>
    obtain ⟨new, -, e, -⟩ := follow_spec hf
    obtain ⟨seen', h1, h2, h3⟩ := ih h (fun x hx => htodo x (List.mem_cons_of_mem _ hx))
      (run id seen loops a b loop seen₁ (htodo id List.mem_cons_self) (by simpa using hs) he hab hf hI)
    exact ⟨seen', h1, List.forall_mem_cons.mpr ⟨h3 _ (by simp [e]), h2⟩, fun x hx => h3 x (by simp [e, hx])⟩

/-- the loops so far use exactly the ways seen, each once, and none is empty -/
def Uses (ms seen : List Int64) (loops : List (List Int64)) : Prop :=
  loops.flatten.Nodup ∧ (∀ x, x ∈ loops.flatten ↔ x ∈ seen) ∧ (∀ x ∈ seen, x ∈ ms) ∧ ∀ l ∈ loops, l ≠ []

theorem uses_add {ms seen : List Int64} {loops : List (List Int64)} (hI : Uses ms seen loops) (id : Int64)
    (new : List Int64) (hnd : (id :: new).Nodup) (hnew : ∀ x ∈ id :: new, x ∉ seen ∧ x ∈ ms) :
    Uses ms (new.reverse ++ id :: seen) (loops ++ [id :: new]) := by
  obtain ⟨h1, h2, h3, h4⟩ := hI
  simp only [Uses, List.flatten_append, List.flatten_cons, List.flatten_nil, List.append_nil, List.mem_append,
    List.mem_reverse]
  refine ⟨List.nodup_append.mpr ⟨h1, hnd, fun x hx y hy hxy => (hnew y hy).1 (hxy ▸ (h2 x).mp hx)⟩, ?_, ?_,
    fun l hl => forall_mem_concat h4 (a := id :: new) (by simp) l (List.mem_append.mpr hl)⟩
  · intro x
    rw [h2 x, List.mem_cons, List.mem_cons]
    constructor
    · rintro (h | h | h) <;> simp [h]
    · rintro (h | h | h) <;> simp [h]
  · rintro x (hx | hx)
    · exact (hnew x (by simp [hx])).2
    · rcases List.mem_cons.mp hx with rfl | hx
      · exact (hnew x (by simp)).2
      · exact h3 x hx

theorem group_spec {ws : List Way} {ms : List Int64} {res : List (List Int64)} (h : group ws ms ms [] [] = .ok res) :
    res.flatten.Nodup ∧ (∀ x, x ∈ res.flatten ↔ x ∈ ms) ∧ ∀ l ∈ res, l ≠ [] := by
  obtain ⟨seen', ⟨h1, h2, h3, h4⟩, h5, -⟩ := group_induct (Uses ms)
    (fun id seen loops a hm hs _ hI => uses_add hI id [] (by simp) (by simp [hm, hs]))
    (fun id seen loops a b loop seen' hm hs _ _ hf hI => by
      obtain ⟨new, rfl, rfl, n1, n2, n3⟩ := follow_spec hf
      refine uses_add hI id new (List.nodup_cons.mpr ⟨fun hin => n2 id hin (by simp), n1⟩) ?_
      exact List.forall_mem_cons.mpr ⟨⟨hs, hm⟩, fun x hx => ⟨fun h => n2 x hx (by simp [h]), n3 x hx⟩⟩)
    h (fun _ hx => hx) ⟨by simp, by simp, by simp, by simp⟩
  exact ⟨h1, fun x => ⟨fun hx => h3 x ((h2 x).mp hx), fun hx => (h2 x).mpr (h5 x hx)⟩, h4⟩

/-! ### every loop is a chain -/

theorem thread_append (ws : List Way) (j : Int64) (l1 l2 : List Int64) :
    thread ws j (l1 ++ l2) = (thread ws j l1).bind fun j' => thread ws j' l2 := by
  fun_induction thread ws j l1 with
  | case1 j => rfl
  | case2 j id rest he => simp [thread, he]
  | case3 id rest a b he ih => simp only [← ih, List.cons_append, thread, he, ↓reduceIte]
  | case4 id rest a b he h ih => simp only [← ih, List.cons_append, thread, he, h, ↓reduceIte]
  | case5 j id rest a b he h1 h2 => simp [thread, he, h1, h2]

theorem closedFrom_eq_thread (ws : List Way) (start j : Int64) (l : List Int64) :
    closedFrom ws start j l = (thread ws j l == some start) := by
  fun_induction closedFrom ws start j l with
  | case1 j => simp [thread]
  | case2 j id rest he => simp [thread, he]
  | case3 id rest a b he ih => simp only [ih, thread, he, ↓reduceIte]
  | case4 id rest a b he h ih => simp only [ih, thread, he, h, ↓reduceIte]
  | case5 j id rest a b he h1 h2 => simp [thread, he, h1, h2]

theorem thread_snoc {ws : List Way} {j0 joint next a b : Int64} {l : List Int64} (h : thread ws j0 l = some joint)
    (he : (findWay ws next).bind ends = some (a, b)) (hab : a = joint ∨ b = joint) :
    thread ws j0 (l ++ [next]) = some (if joint = a then b else a) := by
  rw [thread_append, h]
  simp only [Option.bind_some, thread, he]
  by_cases hj : a = joint
  · simp [hj]
  · have hb : b = joint := hab.resolve_left hj
    simp [hj, Ne.symm hj, hb]

theorem follow_thread {ws : List Way} {ms : List Int64} {fuel : Nat} {seen loop : List Int64} {cur joint j0 : Int64}
    {loop' seen' : List Int64} (h : follow ws ms fuel seen loop cur joint = .ok (loop', seen'))
    (ht : thread ws j0 (loop ++ [cur]) = some joint) : ∃ j, thread ws j0 loop' = some j := by
  refine follow_induct (fun _ loop cur joint => thread ws j0 (loop ++ [cur]) = some joint →
    ∃ j, thread ws j0 loop' = some j) ?_ ?_ fuel seen loop cur joint h ht
  · intro _ loop cur joint _ _ _ _ h1 _ ht
    exact ⟨joint, h1 ▸ ht⟩
  · intro _ loop cur joint next a b hin _ _ he ih ht
    obtain ⟨_, a', b', he', hab⟩ := incident_spec hin
    cases he.symm.trans he'
    exact ih (thread_snoc ht he hab)

theorem group_chain {ws : List Way} {ms : List Int64} {res : List (List Int64)}
    (h : group ws ms ms [] [] = .ok res) : ∀ l ∈ res, isChain ws l = true := by
  obtain ⟨_, h1, -⟩ := group_induct (fun _ loops => ∀ l ∈ loops, isChain ws l = true)
    (fun id _ _ a _ _ he hl => forall_mem_concat hl (by simp [isChain, he, thread]))
    (fun id _ _ a b loop _ _ _ he _ hf hl => by
      obtain ⟨new, h1, -⟩ := follow_spec hf
      obtain ⟨j, hj⟩ := follow_thread (j0 := a) hf (by simp [thread, he])
      rw [List.nil_append] at h1
      subst h1
      exact forall_mem_concat hl (by simp [isChain, he, hj]))
    h (fun _ hx => hx) (by simp)
  exact h1

theorem sum_erase {α : Type} [DecidableEq α] (f : α → Nat) {m : List α} {x : α} (h : x ∈ m) :
    (m.map f).sum = f x + ((m.erase x).map f).sum :=
  ((List.perm_cons_erase h).map f).sum_nat

theorem sum_le_of_nodup {α : Type} [DecidableEq α] (f : α → Nat) :
    ∀ (xs m : List α), xs.Nodup → (∀ x ∈ xs, x ∈ m) → (xs.map f).sum ≤ (m.map f).sum
  | [], _, _, _ => by simp
  | x :: xs, m, hnd, hsub => by
    have hx : x ∈ m := hsub x (by simp)
    have hnd' := List.nodup_cons.mp hnd
    have := sum_le_of_nodup f xs (m.erase x) hnd'.2 (by
      intro y hy
      have hne : y ≠ x := fun e => hnd'.1 (e ▸ hy)
      exact (List.mem_erase_of_ne hne).mpr (hsub y (by simp [hy])))
    rw [sum_erase f hx]
    simp only [List.map_cons, List.sum_cons]
    omega

/-- the number of ends (0, 1 or 2) way `id` has at node `v` -/
def endsAt (ws : List Way) (id v : Int64) : Nat :=
  match (findWay ws id).bind ends with
  | some (a, b) => (if a = v then 1 else 0) + (if b = v then 1 else 0)
  | none => 0

/-- the way-ends at `v` of the ways in `S` (all member way-ends for `S = ms`) -/
def total (ws : List Way) (S : List Int64) (v : Int64) : Nat := (S.map (endsAt ws · v)).sum

theorem endsAt_of_ends {ws : List Way} {id a b : Int64} (h : (findWay ws id).bind ends = some (a, b)) (v : Int64) :
    endsAt ws id v = (if a = v then 1 else 0) + (if b = v then 1 else 0) := by
  simp [endsAt, h]

theorem incident_length (ws : List Way) (ms : List Int64) (v : Int64) :
    (incident ws ms v).length = total ws ms v := by
  unfold incident total
  rw [List.length_flatMap]
  congr 1
  apply List.map_congr_left
  intro id _
  cases h : (findWay ws id).bind ends with
  | none => simp [endsAt, h]
  | some p =>
    obtain ⟨a, b⟩ := p
    simp only [endsAt, h, List.length_append]
    by_cases ha : a = v <;> by_cases hb : b = v <;> simp [ha, hb]

theorem endsAt_pos_of_incident {ws : List Way} {ms : List Int64} {v x : Int64} (h : x ∈ incident ws ms v) :
    1 ≤ endsAt ws x v := by
  obtain ⟨_, a, b, he, hab⟩ := incident_spec h
  rw [endsAt_of_ends he]
  rcases hab with h' | h' <;> simp [h'] <;> omega

def SeenOK (ms seen : List Int64) : Prop := seen.Nodup ∧ ∀ x ∈ seen, x ∈ ms

theorem seenOK_append {ms seen new : List Int64} (h : SeenOK ms seen) (hnd : new.Nodup) (hns : ∀ x ∈ new, x ∉ seen)
    (hms : ∀ x ∈ new, x ∈ ms) : SeenOK ms (new.reverse ++ seen) :=
  ⟨List.nodup_append.mpr ⟨(List.reverse_perm new).nodup_iff.mpr hnd, h.1,
      fun x hx _ hy hxy => hns x (List.mem_reverse.mp hx) (hxy ▸ hy)⟩,
    List.forall_mem_append.mpr ⟨fun x hx => hms x (List.mem_reverse.mp hx), h.2⟩⟩

theorem seenOK_cons {ms seen : List Int64} {x : Int64} (h : SeenOK ms seen) (hx : x ∉ seen) (hm : x ∈ ms) :
    SeenOK ms (x :: seen) :=
  ⟨List.nodup_cons.mpr ⟨hx, h.1⟩, List.forall_mem_cons.mpr ⟨hm, h.2⟩⟩

theorem total_le_total (ws : List Way) {ms S : List Int64} (v : Int64) (h : SeenOK ms S) :
    total ws S v ≤ total ws ms v :=
  sum_le_of_nodup _ _ _ h.1 h.2

theorem total_cons (ws : List Way) (S : List Int64) (z v : Int64) : total ws (z :: S) v = total ws S v + endsAt ws z v := by
  simp [total, Nat.add_comm]

theorem two_le_total (ws : List Way) (ms : List Int64) (v x y : Int64) (hxy : x ≠ y)
    (hx : x ∈ ms) (hy : y ∈ ms) : endsAt ws x v + endsAt ws y v ≤ total ws ms v := by
  have := total_le_total ws (ms := ms) v (S := [x, y]) ⟨by simp [hxy], by simp [hx, hy]⟩
  rwa [total_cons, total_cons, total, List.map_nil, List.sum_nil, Nat.zero_add, Nat.add_comm] at this

theorem three_le_total (ws : List Way) (ms : List Int64) (v x y z : Int64) (hxy : x ≠ y) (hxz : x ≠ z) (hyz : y ≠ z)
    (hx : x ∈ ms) (hy : y ∈ ms) (hz : z ∈ ms) : endsAt ws x v + endsAt ws y v + endsAt ws z v ≤ total ws ms v := by
  have := total_le_total ws (ms := ms) v (S := [x, y, z]) ⟨by simp [hxy, hxz, hyz], by simp [hx, hy, hz]⟩
  rw [total_cons, total_cons, total_cons, total, List.map_nil, List.sum_nil, Nat.zero_add] at this
  omega

/-- the ways form node-disjoint cycles: every end node of a member way carries exactly two member way-ends -/
def Cyc (ws : List Way) (ms : List Int64) : Prop :=
  ∀ id ∈ ms, ∀ a b, (findWay ws id).bind ends = some (a, b) → total ws ms a = 2 ∧ total ws ms b = 2

theorem total_of_end {ws : List Way} {ms : List Int64} (H : Cyc ws ms) {id v : Int64} (hm : id ∈ ms)
    (he : 1 ≤ endsAt ws id v) : total ws ms v = 2 := by
  cases hec : (findWay ws id).bind ends with
  | none => simp [endsAt, hec] at he
  | some pq =>
    obtain ⟨p, q⟩ := pq
    have := H id hm p q hec
    rw [endsAt_of_ends hec] at he
    by_cases hp : p = v
    · exact hp ▸ this.1
    · by_cases hq : q = v
      · exact hq ▸ this.2
      · simp [hp, hq] at he

theorem endsAt_open {ws : List Way} {id a b : Int64} (he : (findWay ws id).bind ends = some (a, b)) (hab : a ≠ b) :
    endsAt ws id a = 1 ∧ endsAt ws id b = 1 ∧ ∀ v, v ≠ a → v ≠ b → endsAt ws id v = 0 := by
  simp only [endsAt_of_ends he]
  exact ⟨by simp [Ne.symm hab], by simp [hab], fun v h1 h2 => by simp [Ne.symm h1, Ne.symm h2]⟩

theorem endsAt_other_end {ws : List Way} {id a b joint : Int64} (he : (findWay ws id).bind ends = some (a, b))
    (hab : a = joint ∨ b = joint) (h1 : endsAt ws id joint = 1) :
    (if joint = a then b else a) ≠ joint ∧ endsAt ws id (if joint = a then b else a) = 1 ∧
      ∀ v, v ≠ joint → v ≠ (if joint = a then b else a) → endsAt ws id v = 0 := by
  have hne : a ≠ b := by
    rintro rfl
    rw [endsAt_of_ends he] at h1
    rcases hab with h | h <;> simp [h] at h1
  obtain ⟨ha, hb, h0⟩ := endsAt_open he hne
  by_cases hj : joint = a
  · subst hj; rw [if_pos rfl]; exact ⟨Ne.symm hne, hb, h0⟩
  · have hb' : b = joint := hab.resolve_left (Ne.symm hj)
    subst hb'; rw [if_neg hj]; exact ⟨hne, ha, fun v h1 h2 => h0 v h2 h1⟩

/-- The state of the walk of the inner loop.  `s` is the way the loop started with, entered at `a0`; `cur` is the current way,
left through `joint`.  **Parity:** at every node the ways seen have 0 or 2 way-ends, except 1 at `a0` and at the joint
while these differ. -/
structure Walk (ws : List Way) (ms : List Int64) (s a0 : Int64) (seen loop : List Int64) (cur joint : Int64) : Prop where
  seenOK : SeenOK ms seen
  start : s ∈ seen
  cur_seen : cur ∈ seen
  cur_mem : cur ∈ ms
  at_joint : 1 ≤ endsAt ws cur joint
  chain : thread ws a0 (loop ++ [cur]) = some joint
  first : cur = s → joint ≠ a0
  even : ∀ v, v ≠ a0 → v ≠ joint → total ws seen v = 0 ∨ total ws seen v = 2
  odd : a0 ≠ joint → total ws seen a0 = 1 ∧ total ws seen joint = 1
  back : a0 = joint → total ws seen a0 = 2

def ClosedInv (ws : List Way) (ms : List Int64) (s a0 : Int64) (loop' seen' seen loop : List Int64)
    (cur joint : Int64) : Prop :=
  Walk ws ms s a0 seen loop cur joint →
    thread ws a0 loop' = some a0 ∧ ∀ v, total ws seen' v = 0 ∨ total ws seen' v = 2

theorem follow_closed {ws : List Way} {ms : List Int64} (H : Cyc ws ms) {s a0 b0 : Int64}
    (hs : (findWay ws s).bind ends = some (a0, b0)) (hsm : s ∈ ms) {loop' seen' : List Int64} (fuel : Nat)
    (seen loop : List Int64) (cur joint : Int64) (h : follow ws ms fuel seen loop cur joint = .ok (loop', seen')) :
    ClosedInv ws ms s a0 loop' seen' seen loop cur joint := by
  have hes : 1 ≤ endsAt ws s a0 := by rw [endsAt_of_ends hs]; simp
  -- at `a0` the first other way is `s`; elsewhere it is unseen
  have other {seen loop : List Int64} {cur joint next : Int64} (W : Walk ws ms s a0 seen loop cur joint)
      (hin : next ∈ incident ws ms joint) (hnc : next ≠ cur) : if a0 = joint then next = s else next ∉ seen := by
    have hnm := (incident_spec hin).1
    have hne := endsAt_pos_of_incident hin
    have hce := W.at_joint
    have htot := total_of_end H W.cur_mem hce
    split
    · next hj =>
      subst hj
      apply Classical.byContradiction
      intro hns
      have := three_le_total ws ms a0 cur s next (fun e' => W.first e' rfl) (Ne.symm hnc) (Ne.symm hns) W.cur_mem hsm hnm
      omega
    · next hj =>
      intro hin'
      have := two_le_total ws seen joint cur next (Ne.symm hnc) W.cur_seen hin'
      have := (W.odd hj).2
      omega
  refine follow_induct (ClosedInv ws ms s a0 loop' seen') ?_ ?_ fuel seen loop cur joint h
  · -- the loop stops: the chain is back at its first node
    intro seen loop cur joint next hin hnc hseen h1 h2 W
    have := other W hin hnc
    split at this
    · next hj =>
      subst hj h1 h2
      refine ⟨W.chain, fun v => ?_⟩
      by_cases hv : v = a0
      · exact hv ▸ Or.inr (W.back rfl)
      · exact W.even v hv hv
    · exact absurd hseen this
  · -- the loop goes on through `next`, which has one end at the joint and the other at a node with no way-end so far
    intro seen loop cur joint next a b hin hnc hnS he ih W
    have := other W hin hnc
    split at this
    · exact absurd (this ▸ W.start) hnS
    · next hj =>
      obtain ⟨ho1, ho2⟩ := W.odd hj
      have hpar := W.even
      obtain ⟨hnm, a', b', he', hab⟩ := incident_spec hin
      cases he.symm.trans he'
      have hne := endsAt_pos_of_incident hin
      have hce := W.at_joint
      have htot := total_of_end H W.cur_mem hce
      have h2 := two_le_total ws ms joint cur next (Ne.symm hnc) W.cur_mem hnm
      obtain ⟨hjj, henj', hen0⟩ := endsAt_other_end he hab (by omega)
      have hthread := thread_snoc W.chain he hab
      generalize (if joint = a then b else a) = joint' at *
      have hsc := total_cons ws seen next
      have hok' := seenOK_cons W.seenOK hnS hnm
      have htot' := total_of_end H hnm (Nat.le_of_eq henj'.symm)
      have hle := total_le_total ws joint' hok'
      rw [hsc joint', henj', htot'] at hle
      refine ih
        { seenOK := hok', start := List.mem_cons_of_mem _ W.start, cur_seen := List.mem_cons_self, cur_mem := hnm,
          at_joint := Nat.le_of_eq henj'.symm, chain := hthread, first := fun e' => absurd (e' ▸ W.start) hnS,
          even := ?_, odd := ?_, back := ?_ }
      · intro v hv1 hv2
        rw [hsc v]
        by_cases hvj : v = joint
        · subst hvj; right; omega
        · rw [hen0 v hvj hv2]
          exact hpar v hv1 hvj
      · intro hne'
        have hpj := hpar joint' (Ne.symm hne') hjj
        have : total ws seen joint' = 0 := by omega
        exact ⟨by rw [hsc a0, hen0 a0 hj hne', ho1], by rw [hsc joint', this, henj']⟩
      · intro heq
        rw [hsc a0, heq, henj', ← heq, ho1]

theorem cyc_of_disjointCycles {ws : List Way} {ms : List Int64} (h : disjointCycles ws ms = true) : Cyc ws ms := by
  simp only [disjointCycles, Bool.and_eq_true, decide_eq_true_eq, List.all_eq_true] at h
  obtain ⟨_, hdeg⟩ := h
  intro id hid a b he
  have := hdeg id hid
  rw [he] at this
  simp only [Bool.and_eq_true, beq_iff_eq] at this
  rw [← incident_length, ← incident_length]
  exact this

/-- invariant of the outer loop: between two runs of the inner loop the ways seen have 0 or 2 way-ends at every node -/
theorem group_closed {ws : List Way} {ms : List Int64} (H : Cyc ws ms) {res : List (List Int64)}
    (h : group ws ms ms [] [] = .ok res) : ∀ l ∈ res, isClosedRing ws l = true := by
  refine Exists.elim (group_induct
    (fun seen loops => SeenOK ms seen ∧ (∀ v, total ws seen v = 0 ∨ total ws seen v = 2) ∧
      ∀ l ∈ loops, isClosedRing ws l = true)
    ?_ ?_ h (fun _ hx => hx) ⟨⟨List.nodup_nil, by simp⟩, fun v => Or.inl rfl, by simp⟩) fun _ h1 => h1.1.2.2
  · -- a closed way has both its way-ends at one node
    intro id seen loops a hidm hnS he ⟨hok, hpar, hl⟩
    have hok' := seenOK_cons hok hnS hidm
    refine ⟨hok', fun v => ?_, forall_mem_concat hl (by simp [isClosedRing, he, closedFrom])⟩
    have hsc := total_cons ws seen id v
    rw [endsAt_of_ends he] at hsc
    by_cases hv : a = v
    · have hle := total_le_total ws v hok'
      have := total_of_end H (v := v) hidm (by rw [endsAt_of_ends he]; simp [hv])
      simp only [hv, if_true] at hsc
      right; omega
    · simpa [hsc, hv] using hpar v
  · intro id seen loops a b loop seen' hidm hnS he hab hf ⟨hok, hpar, hl⟩
    have hok' := seenOK_cons hok hnS hidm
    have hsc := total_cons ws seen id
    obtain ⟨hea, heb, he0⟩ := endsAt_open he hab
    have hlea := total_le_total ws a hok'
    have hleb := total_le_total ws b hok'
    rw [hsc a, hea, total_of_end H hidm (Nat.le_of_eq hea.symm)] at hlea
    rw [hsc b, heb, total_of_end H hidm (Nat.le_of_eq heb.symm)] at hleb
    have hcl := follow_closed H he hidm (ms.length + 1) (id :: seen) [] id b hf
      { seenOK := hok', start := List.mem_cons_self, cur_seen := List.mem_cons_self, cur_mem := hidm,
        at_joint := Nat.le_of_eq heb.symm, chain := by simp [thread, he], first := fun _ => Ne.symm hab,
        even := fun v h1 h2 => by rw [hsc v, he0 v h1 h2]; exact hpar v,
        odd := fun _ => by
          have ha := hpar a
          have hb := hpar b
          exact ⟨by rw [hsc a, hea]; omega, by rw [hsc b, heb]; omega⟩,
        back := fun e' => absurd e' hab }
    obtain ⟨new, h1, rfl, n1, n2, n3⟩ := follow_spec hf
    refine ⟨seenOK_append hok' n1 n2 n3, hcl.2, forall_mem_concat hl ?_⟩
    have := hcl.1
    simp only [List.nil_append] at h1
    subst h1
    simp [isClosedRing, he, closedFrom_eq_thread, this]

theorem group_of_rings {ws : List Way} {ms : List Int64} {loops : List (List Int64)} (h : rings ws ms = .ok loops) :
    checkMembers ws ms = .ok () ∧ group ws ms ms [] [] = .ok loops := by
  unfold rings at h
  split at h
  · cases h
  · exact ⟨‹_›, h⟩

end B6.Lemmas.OsmRings
