import B6.Model.FeatureSearch
import B6.Lemmas.SearchCompile
/-!
# Tag queries compile to the set they denote (C03) — lemmas

`IndexInv fs ix`: the index holds, for every token, exactly the IDs of the features of `fs` that carry the token
(`tokensFor`).  For queries over searchable tags (`QueryOK`) the search-level query `lower q` denotes exactly the
IDs of the searchable features satisfying `denote q` (`lower_spec`).
-/
namespace B6.Lemmas.TagQuery
open B6.Spec.Cursor B6.Spec.SearchQuery B6.Spec.TagQuery B6.Model.Search B6.Model.FeatureSearch
open B6.Lemmas.Search

/-- a tag key: no `=` after the sigil, and not `@*` (whose token would be the all-token) -/
def KeyOK : Token → Prop
  | '#' :: k => '=' ∉ k
  | '@' :: k => '=' ∉ k ∧ k ≠ ['*']
  | _ => True

instance : DecidablePred KeyOK := fun k => by unfold KeyOK; split <;> infer_instance

def FeatureOK (f : Feature) : Prop :=
  f.ns < nsBound ∧ f.val < valBound ∧ (f.tags.map (·.1)).Nodup ∧ ∀ t ∈ f.tags, KeyOK t.1

mutual
/-- queries over searchable tags: `tagged` on `#` keys (the clause the known finding `tagged-at-key` negates),
`keyed` on `#` or `@` keys, `typed` on the five feature types that exist in a world -/
def QueryOK : Query → Prop
  | .all => True
  | .empty => True
  | .tagged k _ => (∃ k', k = '#' :: k') ∧ KeyOK k
  | .keyed k => ((∃ k', k = '#' :: k') ∨ (∃ k', k = '@' :: k')) ∧ KeyOK k
  | .typed t q => (t < 4 ∨ t = 5) ∧ QueryOK q
  | .and qs => QueryOKList qs
  | .or qs => QueryOKList qs
def QueryOKList : List Query → Prop
  | [] => True
  | q :: qs => QueryOK q ∧ QueryOKList qs
end

theorem okList_iff : ∀ qs : List Query, QueryOKList qs ↔ ∀ q ∈ qs, QueryOK q
  | [] => by simp [QueryOKList]
  | q :: qs => by simp [QueryOKList, okList_iff qs]

def IndexInv (fs : List Feature) (ix : Index) : Prop :=
  ix.Valid ∧ ∀ t x, x ∈ ix.get t ↔ ∃ f ∈ fs, f.id = x ∧ t ∈ tokensFor f

theorem prefix_key_inj (a b s : Token) (ha : '=' ∉ a) (hb : '=' ∉ b)
    (h : (a ++ ['=']).isPrefixOf (b ++ '=' :: s) = true) : a = b := by
  obtain ⟨r, hr⟩ := List.isPrefixOf_iff_prefix.1 h
  exact (Basic.append_cons_inj_of_not_mem ha hb (by rw [← hr, List.append_assoc]; rfl)).1

theorem tokenForTag_eq_some (tag : Token × Token) (t : Token) :
    tokenForTag tag = some t ↔
      (∃ k', tag.1 = '#' :: k' ∧ t = k' ++ '=' :: tag.2) ∨ (∃ k', tag.1 = '@' :: k' ∧ t = k') := by
  fun_cases tokenForTag tag with
  | case1 k hk =>
    simp only [Option.some.injEq, hk, List.cons.injEq, true_and, exists_eq_left', Char.reduceEq, false_and,
      exists_false, or_false]
    exact eq_comm
  | case2 k hk =>
    simp only [Option.some.injEq, hk, List.cons.injEq, Char.reduceEq, false_and, exists_false, true_and,
      exists_eq_left', false_or]
    exact eq_comm
  | case3 h1 h2 =>
    simp only [reduceCtorEq, false_iff, not_or, not_exists, not_and]
    exact ⟨fun k' hk => absurd hk (h1 k'), fun k' hk => absurd hk (h2 k')⟩

theorem mem_tag_tokens (tags : List (Token × Token)) (t : Token) : (∃ tag ∈ tags, tokenForTag tag = some t) ↔
    (∃ k' v, ('#' :: k', v) ∈ tags ∧ t = k' ++ '=' :: v) ∨ (∃ k' v, ('@' :: k', v) ∈ tags ∧ t = k') := by
  constructor
  · rintro ⟨⟨k, v⟩, htag, ht⟩
    rcases (tokenForTag_eq_some (k, v) t).1 ht with ⟨k', h1, h2⟩ | ⟨k', h1, h2⟩
    · exact Or.inl ⟨k', v, (show k = '#' :: k' from h1) ▸ htag, h2⟩
    · exact Or.inr ⟨k', v, (show k = '@' :: k' from h1) ▸ htag, h2⟩
  · rintro (⟨k', v, h, rfl⟩ | ⟨k', v, h, rfl⟩)
    · exact ⟨_, h, (tokenForTag_eq_some _ _).2 (Or.inl ⟨_, rfl, rfl⟩)⟩
    · exact ⟨_, h, (tokenForTag_eq_some _ _).2 (Or.inr ⟨_, rfl, rfl⟩)⟩

theorem mem_tokensFor (f : Feature) (t : Token) :
    t ∈ tokensFor f ↔ searchable f = true ∧ (t = allToken ∨
      (∃ k' v, ('#' :: k', v) ∈ f.tags ∧ t = k' ++ '=' :: v) ∨ (∃ k' v, ('@' :: k', v) ∈ f.tags ∧ t = k')) := by
  rw [← mem_tag_tokens]
  unfold tokensFor searchable
  by_cases h : (f.typ == 0 && f.tags.length == 1) = true
  · simp [h]
  · have h' : (f.typ == 0 && f.tags.length == 1) = false := by simpa using h
    simp only [h', Bool.false_eq_true, ↓reduceIte, List.mem_cons, List.mem_filterMap, Bool.not_false, true_and]

theorem get_eq_some_iff (f : Feature) (hn : (f.tags.map (·.1)).Nodup) (k v : Token) :
    f.get k = some v ↔ (k, v) ∈ f.tags :=
  have L : Basic.IsLookup (Prod.fst : Token × Token → Token) Prod.snd
      (fun l k => (l.find? (fun t => t.1 == k)).map (·.2)) := (Basic.isLookup_find?_beq Prod.fst).map Prod.snd
  ⟨fun h => by obtain ⟨⟨_, _⟩, he, rfl, rfl⟩ := L.exists_mem_of_eq_some h; exact he, fun h => L.of_mem hn h⟩

theorem get_isSome_iff (f : Feature) (hn : (f.tags.map (·.1)).Nodup) (k : Token) :
    (f.get k).isSome = true ↔ ∃ v, (k, v) ∈ f.tags := by
  constructor
  · intro h
    obtain ⟨v, hv⟩ := Option.isSome_iff_exists.1 h
    exact ⟨v, (get_eq_some_iff f hn k v).1 hv⟩
  · rintro ⟨v, hv⟩
    rw [(get_eq_some_iff f hn k v).2 hv]; rfl

/-- `=` separates key and value, and neither `*` nor the token of an `@` tag contains one -/
theorem tagged_token (f : Feature) (hf : FeatureOK f) (k' v : Token) (hk : '=' ∉ k') :
    (k' ++ '=' :: v) ∈ tokensFor f ↔ searchable f = true ∧ f.get ('#' :: k') = some v := by
  obtain ⟨_, _, hn, hkeys⟩ := hf
  have heq : '=' ∈ k' ++ '=' :: v := List.mem_append_right _ List.mem_cons_self
  rw [mem_tokensFor, get_eq_some_iff f hn]
  refine and_congr_right fun _ => ⟨?_, fun h => Or.inr (Or.inl ⟨k', v, h, rfl⟩)⟩
  rintro (h | ⟨k2, v2, htag, h2⟩ | ⟨k2, v2, htag, h2⟩)
  · rw [h] at heq; simp [allToken] at heq
  · have hok : '=' ∉ k2 := hkeys _ htag
    obtain ⟨rfl, rfl⟩ := Basic.append_cons_inj_of_not_mem hk hok h2
    exact htag
  · exact absurd (h2 ▸ heq) (hkeys _ htag).1

theorem keyed_hash_token (f : Feature) (hf : FeatureOK f) (k' : Token) (hk : '=' ∉ k') :
    (∃ t, (k' ++ ['=']).isPrefixOf t = true ∧ t ∈ tokensFor f) ↔
      searchable f = true ∧ (f.get ('#' :: k')).isSome = true := by
  obtain ⟨_, _, hn, hkeys⟩ := hf
  rw [get_isSome_iff f hn]
  constructor
  · rintro ⟨t, hp, ht⟩
    have heq : '=' ∈ t := (List.isPrefixOf_iff_prefix.1 hp).subset (List.mem_append_right _ List.mem_cons_self)
    obtain ⟨hs, h | ⟨k2, v2, htag, h2⟩ | ⟨k2, v2, htag, h2⟩⟩ := (mem_tokensFor f t).1 ht
    · rw [h] at heq; simp [allToken] at heq
    · have hok : '=' ∉ k2 := hkeys _ htag
      rw [h2] at hp
      exact ⟨hs, v2, prefix_key_inj k' k2 v2 hk hok hp ▸ htag⟩
    · exact absurd (h2 ▸ heq) (hkeys _ htag).1
  · rintro ⟨hs, v, hv⟩
    exact ⟨k' ++ '=' :: v, List.isPrefixOf_iff_prefix.2 ⟨v, by simp⟩,
      (mem_tokensFor f _).2 ⟨hs, Or.inr (Or.inl ⟨k', v, hv, rfl⟩)⟩⟩

/-- the token of an `@k` tag contains no `=`, and `@*` is excluded -/
theorem keyed_at_token (f : Feature) (hf : FeatureOK f) (k' : Token) (hk : '=' ∉ k') (hstar : k' ≠ ['*']) :
    k' ∈ tokensFor f ↔ searchable f = true ∧ (f.get ('@' :: k')).isSome = true := by
  obtain ⟨_, _, hn, _⟩ := hf
  rw [mem_tokensFor, get_isSome_iff f hn]
  refine and_congr_right fun _ => ⟨?_, fun ⟨v, hv⟩ => Or.inr (Or.inr ⟨k', v, hv, rfl⟩)⟩
  rintro (h | ⟨k2, v2, _, h2⟩ | ⟨k2, v2, htag, h2⟩)
  · exact absurd h hstar
  · exact absurd (h2 ▸ List.mem_append_right k2 List.mem_cons_self) hk
  · exact ⟨v2, h2 ▸ htag⟩

/-- tokens are distinct along a valid index, so an entry is what its token looks up -/
theorem get_of_mem (ix : Index) (hv : ix.Valid) (e : Token × List Nat) (he : e ∈ ix.lists) :
    ix.get e.1 = e.2 := by
  rcases lookup_cases ix e.1 with ⟨_, _, hne⟩ | ⟨e', he', hk, _, hg⟩
  · exact absurd rfl (hne e he)
  · rw [hg, Basic.eq_of_nodup_map Prod.fst (hv.1.nodup_of_irrefl fun a => List.lt_irrefl a) he' he hk]

theorem mem_get_iff (ix : Index) (hv : ix.Valid) (t : Token) (x : Nat) :
    x ∈ ix.get t ↔ ∃ e ∈ ix.lists, e.1 = t ∧ x ∈ e.2 := by
  constructor
  · intro h
    rcases lookup_cases ix t with ⟨_, hg, _⟩ | ⟨e, he, ht, _, hg⟩
    · rw [hg] at h; cases h
    · exact ⟨e, he, ht, hg ▸ h⟩
  · rintro ⟨e, he, rfl, hx⟩
    rw [get_of_mem ix hv e he]; exact hx

/-- a feature id is the key of C08's posting lists: `TypeAndNamespace = typ * nsBound + ns` -/
theorem key_eq_keyNat (typ ns v : Nat) : key typ ns v = B6.Model.Posting.keyNat (typ * nsBound + ns, v) := rfl

theorem key_div {typ ns v : Nat} (hv : v < valBound) : key typ ns v / 2 ^ 64 = typ * nsBound + ns := by
  rw [key_eq_keyNat]
  exact congrArg Prod.fst (unkey_keyNat (id := (typ * nsBound + ns, v)) hv)

theorem key_range {t typ ns v : Nat} (hns : ns < nsBound) (hv : v < valBound) :
    (typeBegin t ≤ key typ ns v ∧ key typ ns v < typeBegin (t + 1)) ↔ typ = t := by
  simp only [typeBegin, key, nsBound, valBound, Nat.reducePow] at *
  omega

theorem denoteAll_iff : ∀ (qs : List Query) (f : Feature), denoteAll qs f = true ↔ ∀ q ∈ qs, denote q f = true
  | [], f => by simp [denoteAll]
  | q :: qs, f => by simp [denoteAll, denoteAll_iff qs f]

theorem denoteAny_iff : ∀ (qs : List Query) (f : Feature), denoteAny qs f = true ↔ ∃ q ∈ qs, denote q f = true
  | [], f => by simp [denoteAny]
  | q :: qs, f => by simp [denoteAny, denoteAny_iff qs f]

def Sel (fs : List Feature) (q : Query) (x : Nat) : Prop :=
  ∃ f ∈ fs, f.id = x ∧ searchable f = true ∧ denote q f = true

theorem mem_expected (fs : List Feature) (q : Query) (x : Nat) : x ∈ expected fs q ↔ Sel fs q x := by
  unfold expected Sel
  rw [mem_sortDedup, List.mem_map]
  constructor
  · rintro ⟨f, hf, hx⟩
    obtain ⟨hf1, hf2⟩ := List.mem_filter.1 hf
    rw [Bool.and_eq_true] at hf2
    exact ⟨f, hf1, hx, hf2.1, hf2.2⟩
  · rintro ⟨f, hf, hx, hs, hd⟩
    exact ⟨f, List.mem_filter.2 ⟨hf, by rw [hs, hd]; rfl⟩, hx⟩

theorem expected_perm (fs fs' : List Feature) (hp : fs.Perm fs') (q : Query) : expected fs q = expected fs' q :=
  StrictSorted.ext (sortDedup_sorted _) (sortDedup_sorted _) fun x => by
    rw [mem_expected, mem_expected]
    exact exists_congr fun f => and_congr_left fun _ => hp.mem_iff

theorem exists_id_congr {fs : List Feature} {x : Nat} {P Q : Feature → Prop} (h : ∀ f ∈ fs, P f ↔ Q f) :
    (∃ f ∈ fs, f.id = x ∧ P f) ↔ ∃ f ∈ fs, f.id = x ∧ Q f :=
  exists_congr fun f => and_congr_right fun hf => and_congr_right fun _ => h f hf

section main
variable (fs : List Feature) (ix : Index) (K : Nat → Prop)

theorem lowerList_spec : ∀ (qs : List Query),
    (∀ q ∈ qs, ∃ sq, lower q = some sq ∧ sq.WF ∧ sq.KeysIn K ∧ ∀ x, x ∈ sq.denote ix ↔ Sel fs q x) →
    ∃ sqs, lowerList qs = some sqs ∧ SQuery.WFList sqs ∧ SQuery.KeysInList K sqs ∧ (sqs = [] ↔ qs = []) ∧
      (∀ x, (∃ l ∈ SQuery.denoteList ix sqs, x ∈ l) ↔ ∃ q ∈ qs, Sel fs q x) ∧
      (∀ x, (∀ l ∈ SQuery.denoteList ix sqs, x ∈ l) ↔ ∀ q ∈ qs, Sel fs q x)
  | [], _ => ⟨[], by simp [lowerList], by simp [SQuery.WFList], by simp [SQuery.KeysInList], by simp,
      by simp [SQuery.denoteList], by simp [SQuery.denoteList]⟩
  | q :: qs, h => by
    obtain ⟨sq, h1, h2, hk2, h3⟩ := h q (by simp)
    obtain ⟨sqs, e1, e2, ek2, _, e4, e5⟩ := lowerList_spec qs (fun q' hq' => h q' (List.mem_cons_of_mem _ hq'))
    refine ⟨sq :: sqs, by simp [lowerList, h1, e1], by simp [SQuery.WFList, h2, e2],
      by simp [SQuery.KeysInList, hk2, ek2], by simp, ?_, ?_⟩
    · intro x
      simp only [SQuery.denoteList, List.mem_cons, exists_eq_or_imp, h3 x, e4 x]
    · intro x
      simp only [SQuery.denoteList, List.mem_cons, forall_eq_or_imp, h3 x, e5 x]

theorem lower_spec (hinv : IndexInv fs ix) (hfs : ∀ f ∈ fs, FeatureOK f) (hid : (fs.map Feature.id).Nodup)
    (hK : ∀ t, (t < 4 ∨ t = 5) → K (typeBegin t)) (q : Query) (hq : QueryOK q) :
    ∃ sq, lower q = some sq ∧ sq.WF ∧ sq.KeysIn K ∧ ∀ x, x ∈ sq.denote ix ↔ Sel fs q x := by
  have hall : ∀ x, x ∈ ix.get allToken ↔ ∃ f ∈ fs, f.id = x ∧ searchable f = true := fun x =>
    (hinv.2 _ x).trans (exists_id_congr fun f _ => by rw [mem_tokensFor]; exact and_iff_left (Or.inl rfl))
  -- on a bound for `sizeOf q`: `and` / `or` recurse through their lists
  obtain ⟨n, hn⟩ : ∃ n, sizeOf q < n := ⟨_, Nat.lt_succ_self _⟩
  induction n generalizing q with
  | zero => exact absurd hn (Nat.not_lt_zero _)
  | succ n ih =>
    cases q with
    | all =>
      refine ⟨.all allToken, rfl, trivial, trivial, fun x => ?_⟩
      simp only [SQuery.denote, hall, Sel, denote, and_true]
    | empty =>
      exact ⟨.empty, rfl, trivial, trivial, fun x => by simp [SQuery.denote, Sel, denote]⟩
    | tagged k v =>
      simp only [QueryOK] at hq
      obtain ⟨⟨k', rfl⟩, hk⟩ := hq
      refine ⟨.all (k' ++ '=' :: v), rfl, trivial, trivial, fun x => ?_⟩
      simp only [SQuery.denote, hinv.2, Sel, denote]
      refine exists_id_congr fun f hf => ?_
      rw [tagged_token f (hfs f hf) k' v hk]
      exact and_congr_right fun _ => beq_iff_eq.symm
    | keyed k =>
      simp only [QueryOK] at hq
      obtain ⟨hsig, hk⟩ := hq
      rcases hsig with ⟨k', rfl⟩ | ⟨k', rfl⟩
      · refine ⟨.tokenPrefix (k' ++ ['=']), rfl, trivial, trivial, fun x => ?_⟩
        simp only [SQuery.denote, mem_sortDedup, List.mem_flatten, List.mem_map, List.mem_filter, Sel, denote]
        constructor
        · rintro ⟨l, ⟨e, ⟨he, hp⟩, rfl⟩, hx⟩
          have hget : x ∈ ix.get e.1 := (mem_get_iff ix hinv.1 e.1 x).2 ⟨e, he, rfl, hx⟩
          obtain ⟨f, hf, hfx, ht⟩ := (hinv.2 e.1 x).1 hget
          obtain ⟨h1, h2⟩ := (keyed_hash_token f (hfs f hf) k' hk).1 ⟨e.1, hp, ht⟩
          exact ⟨f, hf, hfx, h1, h2⟩
        · rintro ⟨f, hf, hfx, hs, hd⟩
          obtain ⟨t, hp, ht⟩ := (keyed_hash_token f (hfs f hf) k' hk).2 ⟨hs, hd⟩
          have hget : x ∈ ix.get t := (hinv.2 t x).2 ⟨f, hf, hfx, ht⟩
          obtain ⟨e, he, rfl, hx⟩ := (mem_get_iff ix hinv.1 t x).1 hget
          exact ⟨e.2, ⟨e, ⟨he, hp⟩, rfl⟩, hx⟩
      · refine ⟨.all k', rfl, trivial, trivial, fun x => ?_⟩
        simp only [SQuery.denote, hinv.2, Sel, denote]
        exact exists_id_congr fun f hf => keyed_at_token f (hfs f hf) k' hk.1 hk.2
    | typed t q =>
      simp only [QueryOK] at hq
      obtain ⟨ht, hq⟩ := hq
      obtain ⟨sq, h1, h2, hk2, h3⟩ := ih q hq (by simp only [Query.typed.sizeOf_spec] at hn; omega)
      have htb : (decide (t < 4) || t == 5) = true := by
        rcases ht with h | h
        · simp [h]
        · simp [h]
      refine ⟨.keyRange (typeBegin t) (typeBegin (t + 1)) sq, by simp [lower, htb, h1], h2,
        by simp only [SQuery.KeysIn]; exact ⟨hK t ht, hk2⟩, fun x => ?_⟩
      simp only [SQuery.denote, mem_rangeList, h3 x, Sel, denote, Bool.and_eq_true, beq_iff_eq]
      constructor
      · rintro ⟨⟨f, hf, hx, hs, hd⟩, hb, he⟩
        have hok := hfs f hf
        have : f.typ = t := (key_range hok.1 hok.2.1).1 (by rw [← hx] at hb he; exact ⟨hb, he⟩)
        exact ⟨f, hf, hx, hs, this, hd⟩
      · rintro ⟨f, hf, hx, hs, htyp, hd⟩
        have hok := hfs f hf
        have := (key_range (t := t) hok.1 hok.2.1).2 htyp
        rw [← hx]
        exact ⟨⟨f, hf, rfl, hs, hd⟩, this⟩
    | and qs =>
      simp only [QueryOK] at hq
      rw [okList_iff] at hq
      obtain ⟨sqs, e1, e2, ek, e3, _, e5⟩ := lowerList_spec fs ix K qs (fun q hq' =>
        ih q (hq q hq') (by have := List.sizeOf_lt_of_mem hq'; simp only [Query.and.sizeOf_spec] at hn; omega))
      cases qs with
      | nil =>
        refine ⟨.all allToken, rfl, trivial, trivial, fun x => ?_⟩
        simp only [SQuery.denote, hall, Sel, denote, denoteAll, and_true]
      | cons q0 qs0 =>
        have hne : sqs ≠ [] := by intro h; have := e3.1 h; simp at this
        refine ⟨.inter sqs, by simp [lower, e1], ⟨hne, e2⟩, ek, fun x => ?_⟩
        obtain ⟨sq0, sqs0, rfl⟩ := List.exists_cons_of_ne_nil hne
        rw [SQuery.denote, SQuery.denoteList, mem_interLists, ← SQuery.denoteList, e5 x]
        simp only [Sel, denote, denoteAll_iff]
        constructor
        · intro h
          -- the ids are distinct: the features found for the single conjuncts are one and the same
          obtain ⟨f, hf, hx, hsf, _⟩ := h q0 (by simp)
          refine ⟨f, hf, hx, hsf, fun q hq' => ?_⟩
          obtain ⟨g, hg, hgx, _, hd⟩ := h q hq'
          have : g = f := Basic.eq_of_nodup_map Feature.id hid hg hf (by rw [hgx, hx])
          rw [← this]; exact hd
        · rintro ⟨f, hf, hx, hsf, hall⟩ q hq'
          exact ⟨f, hf, hx, hsf, hall q hq'⟩
    | or qs =>
      simp only [QueryOK] at hq
      rw [okList_iff] at hq
      obtain ⟨sqs, e1, e2, ek, _, e4, _⟩ := lowerList_spec fs ix K qs (fun q hq' =>
        ih q (hq q hq') (by have := List.sizeOf_lt_of_mem hq'; simp only [Query.or.sizeOf_spec] at hn; omega))
      refine ⟨.union sqs, by simp [lower, e1], e2, ek, fun x => ?_⟩
      simp only [SQuery.denote, mem_sortDedup, List.mem_flatten, e4 x, Sel, denote, denoteAny_iff]
      constructor
      · rintro ⟨q, hq', f, hf, hx, hs, hd⟩
        exact ⟨f, hf, hx, hs, q, hq', hd⟩
      · rintro ⟨f, hf, hx, hs, q, hq', hd⟩
        exact ⟨q, hq', f, hf, hx, hs, hd⟩

end main

/-- with fuel for one call more than there are elements ahead, the `Next` loop returns them -/
theorem drain_of_refinesAt (o : IterOps Iter) : ∀ (c : Cursor) (it : Iter) (n : Nat), RefinesAt o it c →
    c.rest.length < n → drain o n it = .ok c.rest := by
  intro c it n
  induction n generalizing c it with
  | zero => exact fun _ h => absurd h (Nat.not_lt_zero _)
  | succ n ih =>
    intro h hn
    obtain ⟨it', h1, h2⟩ := h.next
    obtain ⟨b, r⟩ := c
    cases r with
    | nil => simp only [drain, h1, Cursor.next]
    | cons x r =>
      have hr : RefinesAt o it' ⟨b ++ [x], r⟩ := h2 rfl
      have hval : o.value it' = some x := by
        rw [hr.value (by simp [Cursor.cur])]; simp [Cursor.cur]
      simp only [drain, h1, Cursor.next, hval, ih _ it' hr (by simpa using hn)]

end B6.Lemmas.TagQuery
