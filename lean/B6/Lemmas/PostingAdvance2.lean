import B6.Lemmas.PostingAdvance
/-!
# Posting lists: `Iterator.Advance` refines "first id `≥` the target, at or after the cursor"

`advanceFrom_spec` / `advance_spec`: from a canonical state, `Advance (keyOf tbl T)`
* stays where it is when the current id is already `≥ T`;
* otherwise lands — in its canonical state — on the first remaining id that is not `< T`, or returns false
  (with the cursor the search started from) when there is none;
for every target `T` whose namespace is in the table (`TnOK`), whether or not that namespace occurs in the list.

This `advance_spec` is `B6.Model.Posting.advance_spec`, about ids and `AdvSpec`; `B6.Props.C08.advance_spec` restates it
against the spec cursor, whose own characterisation is `B6.Spec.Cursor.Cursor.advance_spec`.
-/
namespace B6.Model.Posting
open B6.Model.Varint

theorem walkTNAux_spec (nn : Nat) : ∀ (l : List NsIndex) (ns : Nat), ∃ d,
    walkTNAux nn l ns = ns + d ∧ (∀ j, j < d → ∃ e, l[j]? = some e ∧ e.1 < nn) ∧
    (∀ e, l[d]? = some e → ¬ e.1 < nn) := by
  intro l ns
  fun_induction walkTNAux nn l ns with
  | case1 ns => exact ⟨0, rfl, fun j hj => absurd hj (Nat.not_lt_zero j), fun e he => nomatch he⟩
  | case2 e rest ns h ih =>
    obtain ⟨d, h1, h2, h3⟩ := ih
    refine ⟨d + 1, by rw [h1, Nat.add_assoc, Nat.add_comm 1 d], fun j hj => ?_, h3⟩
    cases j with
    | zero => exact ⟨e, rfl, h⟩
    | succ j => exact h2 j (Nat.lt_of_succ_lt_succ hj)
  | case3 e rest ns h => exact ⟨0, rfl, fun j hj => absurd hj (Nat.not_lt_zero j), fun e' he' => by cases he'; exact h⟩

theorem walkTN_spec (nss : List NsIndex) (nn k0 : Nat) :
    k0 ≤ walkTN nss nn k0 ∧
    (∀ j, k0 ≤ j → j < walkTN nss nn k0 → ∃ e, nss[j]? = some e ∧ e.1 < nn) ∧
    (∀ e, nss[walkTN nss nn k0]? = some e → ¬ e.1 < nn) := by
  unfold walkTN
  obtain ⟨d, h1, h2, h3⟩ := walkTNAux_spec nn (nss.drop k0) k0
  rw [h1]
  refine ⟨Nat.le_add_right _ _, fun j hj1 hj2 => ?_, fun e he => h3 e (by rw [List.getElem?_drop]; exact he)⟩
  obtain ⟨i, rfl⟩ := Nat.exists_eq_add_of_le hj1
  obtain ⟨e, he, hlt⟩ := h2 i (Nat.lt_of_add_lt_add_left hj2)
  exact ⟨e, by rw [List.getElem?_drop] at he; exact he, hlt⟩

/-- `res` is what `Advance(T)` must answer when the ids `done` (all `< T`) are behind the cursor `it0` and `l`
are ahead: land on the first id of `l` that is not `< T`, in its canonical state — or answer false and leave
the cursor where it was. -/
def AdvSpec (pl : PostingList) (ids : List Id) (T : Id) (res : Except Err (Bool × It)) (it0 : It)
    (done l : List Id) : Prop :=
  (∀ x hi, l.dropWhile (fun x => decide (idLt x T)) = x :: hi →
    ∃ it', res = .ok (true, it') ∧ cur pl it' = .ok x ∧
      Canon pl ids it' (done ++ l.takeWhile (fun x => decide (idLt x T)) ++ [x]) hi) ∧
  (l.dropWhile (fun x => decide (idLt x T)) = [] → res = .ok (false, it0))

theorem advSpec_iff {pl : PostingList} {ids : List Id} {T : Id} {res : Except Err (Bool × It)} {it0 : It}
    {done l : List Id} : AdvSpec pl ids T res it0 done l ↔
      FirstGE pl ids T (fun it' => res = .ok (true, it')) (res = .ok (false, it0)) done l := Iff.rfl

theorem advSpec_of_scan {pl : PostingList} {tbl : Table} {ids : List Id} {T : Id} {itS it0 : It} {fuel : Nat}
    {aB lB done0 rest0 : List Id}
    (hs : ScanSpec pl tbl ids T itS fuel aB lB) (h1 : ids = aB ++ lB) (h2 : ids = done0 ++ rest0)
    (ha : ∀ x ∈ aB, idLt x T) (hd : ∀ x ∈ done0, idLt x T) :
    AdvSpec pl ids T (scanResult it0 (scan pl tbl (keyOf tbl T) fuel itS)) it0 done0 rest0 :=
  advSpec_iff.2 ((FirstGE.resplit (h1.symm.trans h2) ha hd (scanSpec_iff.1 hs)).imp
    (fun it' h => by rw [h]; rfl) (fun h => by rw [h]; rfl))

/-- for any `start` equal to the first block searched, so that it applies under `generalize` -/
theorem advanceSearch_eq (p : PostingList) (t : Table) (key : Key) (it : It) (ns : Nat) (e : NsIndex)
    (start j : Nat) (hstart : start = (if ns ≠ it.ns then e.2 else it.i) / 64)
    (hj : search (nsEndBlock p ns - start) (blockPred p.ids start key.value) = .ok j) :
    advanceSearch p t key it ns e =
      scanResult it (scan p t key (p.ids.length + 1)
        { it with i := if j > 0 then (j + start - 1) * 64 else (j + start) * 64 }) := by
  subst hstart
  unfold advanceSearch
  dsimp only
  rw [hj]

theorem done_lt_target {ids done0 rest0 : List Id} {c T : Id} (hs : SortedIds ids) (hsplit : ids = done0 ++ rest0)
    (hl : done0.getLast? = some c) (hcT : idLt c T) : ∀ x ∈ done0, idLt x T := by
  obtain ⟨ys, rfl⟩ := List.getLast?_eq_some_iff.1 hl
  have hs' : SortedIds (ys ++ ([c] ++ rest0)) := by rw [← List.append_assoc, ← hsplit]; exact hs
  exact List.forall_mem_append.2 ⟨fun x h => idLt_trans
    ((List.pairwise_append.1 hs').2.2 x h c (List.mem_append_left _ (List.mem_singleton_self c))) hcT,
    List.forall_mem_singleton.2 hcT⟩

/-- the block at `64 * b` starts with an id of the namespace entry that owns it -/
theorem block_of_ns {full : Bytes} {nss : List NsIndex} (hs : NssSorted nss) {l : List Id} {p prev k : Nat}
    (hlay : Lay full nss p prev k l) {ns tn b : Nat} (ho : Owns nss ns tn (64 * b))
    (h1 : p ≤ 64 * b) (h2 : 64 * b < full.length) :
    ∃ a id c, l = a ++ id :: c ∧ AtBlock full nss (64 * b) ns id c ∧ id.1 = tn ∧
      ∀ x ∈ a, ∃ kx idx, k ≤ kx ∧ nss[kx]? = some (x.1, idx) ∧ idx < 64 * b := by
  obtain ⟨a, id, c, k', hsplit, _, hat, hbef⟩ := lay_blocks l p prev k hlay b h1 h2
  obtain rfl : k' = ns := Owns.unique hs hat.owns ho
  obtain ⟨idx, hk, _⟩ := hat.ns
  obtain ⟨⟨idx', hk', _⟩, _⟩ := ho
  exact ⟨a, id, c, hsplit, hat, congrArg Prod.fst (Option.some.inj (hk.symm.trans hk')), hbef⟩

theorem ns_start {pl : PostingList} {tbl : Table} {ids : List Id} (ctx : Ctx pl tbl ids)
    {it : It} {done0 rest0 : List Id} {c : Id} (hc : Canon pl ids it done0 rest0) (hl : done0.getLast? = some c)
    {T : Id} {ns : Nat} {e : NsIndex} (he : pl.header.namespaces[ns]? = some e) (hlt : it.ns < ns)
    (hwalk : ∀ j, it.ns ≤ j → j < ns → ∃ e', pl.header.namespaces[j]? = some e' ∧ e'.1 < T.1) :
    ∃ a' id' c', rest0 = a' ++ id' :: c' ∧ ids = (done0 ++ a') ++ id' :: c' ∧
      AtBlock pl.ids pl.header.namespaces e.2 ns id' c' ∧ id'.1 = e.1 ∧ (∀ x ∈ a', idLt x T) := by
  have hmem := List.mem_of_getElem? he
  have hal := ctx.aligned e hmem
  have hin := ctx.inRange e hmem
  have hlen := (List.getElem?_eq_some_iff.1 he).1
  -- the cursor stands before the entry after its own, hence before `e`
  obtain ⟨e1, h1⟩ : ∃ e1, pl.header.namespaces[it.ns + 1]? = some e1 :=
    ⟨_, List.getElem?_eq_getElem (Nat.lt_of_le_of_lt hlt hlen)⟩
  have hi1 := hc.nextNs c hl _ h1
  have hi2 := nss_mono ctx.sortedNs h1 he hlt
  have hq : 64 * (e.2 / 64) = e.2 := Nat.mul_div_cancel' (Nat.dvd_of_mod_eq_zero hal)
  -- `e` owns its own start
  have ho : Owns pl.header.namespaces ns e.1 (64 * (e.2 / 64)) := ⟨⟨e.2, he, Nat.le_of_eq hq.symm⟩, fun e' he' => by
    rw [hq]; exact List.Pairwise.rel_of_getElem? ctx.sortedNs he he' (Nat.lt_succ_self _)⟩
  obtain ⟨a', id', c', hsplit, hat, hid, hbef⟩ := block_of_ns ctx.sortedNs hc.lay ho
    (by rw [hq]; exact Nat.le_trans hi1 hi2) (by rw [hq]; exact hin)
  rw [hq] at hat hbef
  refine ⟨a', id', c', hsplit, by rw [hc.split, hsplit, List.append_assoc], hat, hid, fun x hx => ?_⟩
  obtain ⟨kx, idx, h1', h2', h3'⟩ := hbef x hx
  obtain ⟨e', he', hlt'⟩ := hwalk kx h1' ((nss_idx_lt_iff ctx.sortedNs h2' he).1 h3')
  rw [h2'] at he'
  cases he'
  exact Or.inl hlt'

theorem lt_nsEndBlock {pl : PostingList} {tbl : Table} {ids : List Id} (ctx : Ctx pl tbl ids)
    (hpos : 0 < pl.ids.length) {ns b : Nat} (hb : b < nsEndBlock pl ns) :
    64 * b < pl.ids.length ∧ ∀ e', pl.header.namespaces[ns + 1]? = some e' → 64 * b < e'.2 := by
  revert hb
  fun_cases nsEndBlock pl ns with
  | case1 e1 hnx =>
    intro hb
    have := ctx.inRange e1 (List.mem_of_getElem? hnx)
    refine ⟨by omega, fun e' he' => ?_⟩
    cases hnx.symm.trans he'
    omega
  | case2 hnx => exact fun hb => ⟨by omega, fun e' he' => nomatch hnx.symm.trans he'⟩

theorem advSpec_atBlock {pl : PostingList} {tbl : Table} {ids : List Id} (ctx : Ctx pl tbl ids)
    {it : It} {done0 rest0 : List Id} (hc : Canon pl ids it done0 rest0) {T : Id} (hT : TnOK tbl T.1)
    (hdone : ∀ x ∈ done0, idLt x T) {aB cB : List Id} {idB : Id} {q k' : Nat}
    (hsplit : ids = aB ++ idB :: cB) (hat : AtBlock pl.ids pl.header.namespaces q k' idB cB)
    (hk : it.ns ≤ k') (haB : ∀ x ∈ aB, idLt x T) :
    AdvSpec pl ids T (scanResult it (scan pl tbl (keyOf tbl T) (pl.ids.length + 1) { it with i := q }))
      it done0 rest0 := by
  have hlenB := lay_length cB _ _ _ hat.lay
  have hn1 := putUvarint_length_pos idB.2
  exact advSpec_of_scan (scan_atBlock ctx hT hsplit hat it.ns it.value hk pl.ids.length (by omega))
    hsplit hc.split haB hdone

/-- the binary-search branch of `Advance` (the target's namespace has an entry `ns` in the list) -/
theorem advanceSearch_spec {pl : PostingList} {tbl : Table} {ids : List Id} (ctx : Ctx pl tbl ids)
    {it : It} {done0 rest0 : List Id} {c : Id} (hc : Canon pl ids it done0 rest0) (hl : done0.getLast? = some c)
    {T : Id} (hT : TnOK tbl T.1) (hcT : idLt c T)
    {ns : Nat} {e : NsIndex} (he : pl.header.namespaces[ns]? = some e) (heT : e.1 = T.1) (hns : it.ns ≤ ns)
    (hwalk : ∀ j, it.ns ≤ j → j < ns → ∃ e', pl.header.namespaces[j]? = some e' ∧ e'.1 < T.1) :
    AdvSpec pl ids T (advanceSearch pl tbl (keyOf tbl T) it ns e) it done0 rest0 := by
  have hdoneT := done_lt_target ctx.sorted hc.split hl hcT
  obtain ⟨_, ⟨idxc, hkc, hidxc⟩, _⟩ := hc.cur c hl
  have hal := ctx.aligned e (List.mem_of_getElem? he)
  have hpos := Nat.zero_lt_of_lt (ctx.inRange e (List.mem_of_getElem? he))
  -- the block range `[start, nsEndBlock)` lies in the index range of `ns`
  obtain ⟨start, hstart⟩ : ∃ s, s = (if ns ≠ it.ns then e.2 else it.i) / 64 := ⟨_, rfl⟩
  have hstart_le : e.2 ≤ 64 * start := by
    rw [hstart]
    by_cases hne : ns ≠ it.ns
    · rw [if_pos hne]; exact aligned_le_block hal (Nat.le_refl _)
    · obtain rfl : ns = it.ns := Decidable.not_not.1 hne
      rw [hkc] at he
      cases he
      rw [if_neg hne]; exact aligned_le_block hal hidxc
  have hrange : ∀ h, h < nsEndBlock pl ns - start → 64 * (h + start) < pl.ids.length ∧
      ∀ e', pl.header.namespaces[ns + 1]? = some e' → 64 * (h + start) < e'.2 :=
    fun h hh => lt_nsEndBlock ctx hpos (Nat.add_lt_of_lt_sub hh)
  obtain ⟨j, hj, hjn, hjf⟩ := search_spec (blockPred pl.ids start (keyOf tbl T).value) _
    fun h hh => ⟨_, if_neg (Nat.not_lt.2 (Nat.mul_comm _ _ ▸ Nat.le_of_lt (hrange h hh).1))⟩
  rw [advanceSearch_eq pl tbl (keyOf tbl T) it ns e start j hstart hj]
  cases j with
  | succ j =>
    -- the block before the first block whose first value is ≥ the target: its first id is `< T`
    have hb := hrange j (Nat.lt_of_succ_le hjn)
    obtain ⟨aB, idB, cB, hsplit, hat, hidB1, _⟩ := block_of_ns ctx.sortedNs ctx.lay
      ⟨⟨e.2, he, Nat.le_trans hstart_le (Nat.mul_le_mul_left 64 (Nat.le_add_left _ _))⟩, hb.2⟩ (Nat.zero_le _) hb.1
    have hfalse := hjf (Nat.succ_pos j)
    unfold blockPred at hfalse
    rw [Nat.add_sub_cancel, if_neg (Nat.not_lt.2 (Nat.mul_comm _ _ ▸ Nat.le_of_lt hb.1)), Nat.mul_comm,
      atBlock_first hat] at hfalse
    have hlt : idB.2 < T.2 := Nat.lt_of_not_le (of_decide_eq_false (Except.ok.inj hfalse))
    have hidBT : idLt idB T := Or.inr ⟨hidB1.trans heT, hlt⟩
    have hs' : SortedIds (aB ++ idB :: cB) := hsplit ▸ ctx.sorted
    rw [if_pos (Nat.succ_pos j), Nat.add_right_comm, Nat.add_sub_cancel, Nat.mul_comm]
    exact advSpec_atBlock ctx hc hT hdoneT hsplit hat hns
      fun x hx => idLt_trans ((List.pairwise_append.1 hs').2.2 x hx idB List.mem_cons_self) hidBT
  | zero =>
    rw [if_neg (Nat.lt_irrefl 0), Nat.zero_add, hstart]
    by_cases hne : ns ≠ it.ns
    · -- first block of the target's namespace
      rw [if_pos hne, Nat.div_mul_cancel (Nat.dvd_of_mod_eq_zero hal)]
      obtain ⟨a', id', c', _, hsplit, hat, _, ha'⟩ :=
        ns_start ctx hc hl he (Nat.lt_of_le_of_ne hns (Ne.symm hne)) hwalk
      exact advSpec_atBlock ctx hc hT hdoneT hsplit hat hns
        fun x hx => (List.mem_append.1 hx).elim (hdoneT x) (ha' x)
    · rw [if_neg hne]
      by_cases h64 : it.i % 64 = 0
      · -- the cursor already stands on a block start: scan from the canonical state
        have hlenr := lay_length rest0 it.i it.value it.ns hc.lay
        rw [Nat.div_mul_cancel (Nat.dvd_of_mod_eq_zero h64)]
        exact advSpec_of_scan (scan_canon ctx hT rest0 done0 it (pl.ids.length + 1) hc
          (Nat.lt_succ_of_le (Nat.le_trans (Nat.le_add_left _ _) hlenr))) hc.split hc.split hdoneT hdoneT
      · -- scan again from the start of the cursor's block
        obtain ⟨aB, idB, cB, hsplit, hat, hlenlt⟩ := hc.block c hl h64
        obtain rfl : ns = it.ns := Decidable.not_not.1 hne
        exact advSpec_atBlock ctx hc hT hdoneT hsplit hat (Nat.le_refl _)
          fun x hx => hdoneT x ((List.prefix_of_prefix_length_le ⟨_, hsplit.symm⟩ ⟨_, hc.split.symm⟩
            (Nat.le_of_lt hlenlt)).subset hx)

/-- `Advance` from a started cursor (current id `c`): stays put when `T ≤ c`; otherwise `AdvSpec`. -/
theorem advanceFrom_spec {pl : PostingList} {tbl : Table} {ids : List Id} (ctx : Ctx pl tbl ids)
    {it : It} {done0 rest0 : List Id} {c : Id} (hc : Canon pl ids it done0 rest0) (hl : done0.getLast? = some c)
    {T : Id} (hT : TnOK tbl T.1) :
    (¬ idLt c T → advanceFrom true pl tbl (keyOf tbl T) it = .ok (true, it)) ∧
    (idLt c T → AdvSpec pl ids T (advanceFrom true pl tbl (keyOf tbl T) it) it done0 rest0) := by
  have hcmem : c ∈ ids := by
    rw [hc.split]; exact List.mem_append_left _ (List.mem_of_getLast? hl)
  have hcT' : TnOK tbl c.1 := ctx.tnOK c hcmem
  have hfid : featureID pl tbl it = .ok (keyOf tbl c) := by
    unfold featureID; rw [canon_cur hc hl]; exact decodeId_ok hcT'
  have hstay : ((keyOf tbl T).less (keyOf tbl c) || decide (keyOf tbl T = keyOf tbl c)) = decide (¬ idLt c T) :=
    less_or_eq_keyOf ctx.tblOK hT hcT'
  refine ⟨?_, ?_⟩
  · intro hn
    unfold advanceFrom
    rw [hfid]
    dsimp only
    rw [if_pos (hstay.trans (decide_eq_true hn))]
  · intro hcT
    have hcond : ¬ (((keyOf tbl T).less (keyOf tbl c) || decide (keyOf tbl T = keyOf tbl c)) = true) :=
      fun h => of_decide_eq_true (hstay.symm.trans h) hcT
    obtain ⟨henc, hcomb⟩ := encode_keyOf ctx.tblOK hT
    obtain ⟨hval, ⟨idxc, hkc, hidxc⟩, hipos⟩ := hc.cur c hl
    obtain ⟨hw1, hw2, hw3⟩ := walkTN_spec pl.header.namespaces T.1 it.ns
    have hc1 : c.1 ≤ T.1 := hcT.fst_le
    unfold advanceFrom
    rw [hfid]
    dsimp only
    rw [if_neg hcond, henc]
    dsimp only
    rw [hcomb]
    cases hns : pl.header.namespaces[walkTN pl.header.namespaces T.1 it.ns]? with
    | none =>
      -- every remaining namespace is smaller than the target's
      dsimp only
      have hnone : pl.header.namespaces.length ≤ walkTN pl.header.namespaces T.1 it.ns :=
        List.getElem?_eq_none_iff.1 hns
      refine advSpec_iff.2 (FirstGE.none (fun x hx => ?_) rfl)
      obtain ⟨kx, idx, h1, h2⟩ := lay_mem_ns rest0 _ _ _ hc.lay x hx
      obtain ⟨e', he', hlt'⟩ := hw2 kx h1 (Nat.lt_of_lt_of_le (List.getElem?_eq_some_iff.1 h2).1 hnone)
      rw [h2] at he'
      cases he'
      exact Or.inl hlt'
    | some e =>
      dsimp only
      have hnotlt := hw3 e hns
      by_cases hgt : e.1 > T.1
      · -- a namespace absent from the list: land on the first id of the next namespace present
        rw [if_pos hgt]
        -- the walk has moved: the cursor's own entry carries `c.1 ≤ T.1 < e.1`
        have hnsne : it.ns < walkTN pl.header.namespaces T.1 it.ns := by
          refine Nat.lt_of_le_of_ne hw1 fun hh => ?_
          rw [← hh, hkc] at hns
          cases hns
          exact Nat.lt_irrefl _ (Nat.lt_of_le_of_lt hc1 hgt)
        obtain ⟨a', id', c', hsplit', hsplit, hat, hid'1, ha'⟩ := ns_start ctx hc hl hns hnsne hw2
        have hin := ctx.inRange e (List.mem_of_getElem? hns)
        rw [if_neg (Nat.lt_asymm hin), atBlock_first hat]
        have hnle : ¬ ((putUvarint id'.2).length : Int) ≤ 0 :=
          Int.not_le.2 (Int.natCast_pos.2 (putUvarint_length_pos id'.2))
        simp only [if_true, hnle, if_false, Int.toNat_natCast]
        have hnot : ¬ idLt id' T := not_idLt_of_fst_gt (hid'1 ▸ hgt)
        rw [hsplit']
        exact advSpec_iff.2 ((FirstGE.skip_iff ha').2 (FirstGE.here hnot rfl (hat.cur _)
          (canon_atBlock ctx hsplit hat)))
      · rw [if_neg hgt]
        exact advanceSearch_spec ctx hc hl hT hcT hns (by omega) hw1 hw2

theorem advance_started {pl : PostingList} {t : Table} {key : Key} {it : It} (h : it.i ≠ 0) :
    advance pl t key it = advanceFrom true pl t key it := by
  unfold advance advanceWith; rw [if_neg h]

theorem advance_fresh_end {pl : PostingList} {t : Table} {key : Key} {it it' : It} (h : it.i = 0)
    (hn : next pl it = .ok (false, it')) : advance pl t key it = .ok (false, it') := by
  unfold advance advanceWith; rw [if_pos h, hn]

theorem advance_fresh {pl : PostingList} {t : Table} {key : Key} {it it' : It} (h : it.i = 0)
    (hn : next pl it = .ok (true, it')) : advance pl t key it = advanceFrom true pl t key it' := by
  unfold advance advanceWith; rw [if_pos h, hn]

theorem advance_spec {pl : PostingList} {tbl : Table} {ids : List Id} (ctx : Ctx pl tbl ids)
    {it : It} {done0 rest0 : List Id} (hc : Canon pl ids it done0 rest0) {T : Id} (hT : TnOK tbl T.1) :
    (∀ c, done0.getLast? = some c → ¬ idLt c T → advance pl tbl (keyOf tbl T) it = .ok (true, it)) ∧
    ((∀ c, done0.getLast? = some c → idLt c T) →
      ∃ it1, AdvSpec pl ids T (advance pl tbl (keyOf tbl T) it) it1 done0 rest0) := by
  refine ⟨?_, ?_⟩
  · intro c hl hn
    rw [advance_started (Nat.ne_of_gt (hc.cur c hl).2.2)]
    exact (advanceFrom_spec ctx hc hl hT).1 hn
  · intro hlt
    cases hd : done0.getLast? with
    | some c =>
      refine ⟨it, ?_⟩
      rw [advance_started (Nat.ne_of_gt (hc.cur c hd).2.2)]
      exact (advanceFrom_spec ctx hc hd hT).2 (hlt c hd)
    | none =>
      -- not started: `Advance` calls `Next` first
      have hnil : done0 = [] := List.getLast?_eq_none_iff.1 hd
      subst hnil
      have hstart := hc.start rfl
      subst hstart
      cases hr : rest0 with
      | nil =>
        subst hr
        refine ⟨It.start, ?_⟩
        rw [advance_fresh_end rfl (canon_end hc)]
        exact advSpec_iff.2 (FirstGE.none (fun _ h => nomatch h) rfl)
      | cons id1 rest1 =>
        subst hr
        obtain ⟨it1, hn, hcur1, hc1⟩ := canon_next ctx hc
        refine ⟨it1, ?_⟩
        rw [advance_fresh rfl hn]
        have hl1 : ([] ++ [id1] : List Id).getLast? = some id1 := by simp
        obtain ⟨hstay, hmove⟩ := advanceFrom_spec ctx hc1 hl1 hT
        by_cases hlt1 : idLt id1 T
        · exact advSpec_iff.2 ((FirstGE.skip_iff (a := [id1]) fun x hx => by
            cases List.mem_singleton.1 hx; exact hlt1).2 (advSpec_iff.1 (hmove hlt1)))
        · exact advSpec_iff.2 (FirstGE.here hlt1 (hstay hlt1) hcur1 hc1)

end B6.Model.Posting
