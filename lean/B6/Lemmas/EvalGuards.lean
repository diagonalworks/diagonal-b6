import B6.Model.EvalGuards
import B6.Lemmas.InterpFuel
import B6.Lemmas.Simplify
/-!
Lemmas for C23: the decoder and the interpreter never produce the outcome `panic`; `Simplify` keeps lambda-free
programs lambda-free (`simplify_lambdaFree`).
-/
namespace B6.Lemmas.EvalGuards
open B6.Model B6.Model.EvalGuards B6.Lemmas.InterpFuel

/-- an outcome that is a value or an error (or "the model ran out of fuel"), not a panic -/
def NoPanic {α : Type} (r : Res α) : Prop := r ≠ .error .panic

theorem noPanic_ok {α} (a : α) : NoPanic (.ok a : Res α) := by simp [NoPanic]
theorem noPanic_err {α} : NoPanic (.error .error : Res α) := by simp [NoPanic]
theorem noPanic_fuel {α} : NoPanic (.error .fuel : Res α) := by simp [NoPanic]

theorem NoPanic.of_eq_error {α β} {x : Res α} {e : Fail} (hx : NoPanic x) (h : x = .error e) :
    NoPanic (.error e : Res β) :=
  fun hh => hx (h.trans (congrArg _ (Except.error.inj hh)))

theorem NoPanic.bind {α β : Type} {x : Res α} {k : α → Res β} (hx : NoPanic x) (hk : ∀ a, NoPanic (k a)) :
    NoPanic (x.bind k) := by
  cases x with
  | error e => exact hx.of_eq_error rfl
  | ok a => exact hk a

mutual
  theorem decodeQuery_noPanic : ∀ (q : PQuery), NoPanic (decodeQuery q)
    | .unset | .all | .empty | .keyed _ | .tagged _ _ | .cap _ _ | .point _ | .feature _ _ _ | .other _
    | .typed _ none => by simp [decodeQuery, NoPanic]
    | .typed t (some c) => by
      simp only [decodeQuery]
      split
      · exact noPanic_ok _
      · exact (decodeQuery_noPanic c).of_eq_error ‹_›
    | .inter qs | .union qs => by
      simp only [decodeQuery]
      split
      · exact noPanic_ok _
      · exact (decodeQueries_noPanic qs).of_eq_error ‹_›
  theorem decodeQueries_noPanic : ∀ (qs : List PQuery), NoPanic (decodeQueries qs)
    | [] => by simp [decodeQueries, NoPanic]
    | q :: qs => by
      simp only [decodeQueries]
      split
      · exact noPanic_ok _
      · exact (decodeQuery_noPanic q).of_eq_error ‹_›
      · exact (decodeQueries_noPanic qs).of_eq_error ‹_›
end

mutual
  theorem decodeLit_noPanic : ∀ (l : PLit), NoPanic (decodeLit l)
    | .unset | .int _ | .str _ | .featureID _ _ _ | .geojson | .feature | .pair | .appliedChange | .other _ _ => by
      simp [decodeLit, NoPanic]
    | .query q => by
      simp only [decodeLit]
      split
      · exact noPanic_ok _
      · exact (decodeQuery_noPanic q).of_eq_error ‹_›
    | .collection ks vs => by
      simp only [decodeLit]
      split
      · exact noPanic_err
      · split
        · exact noPanic_ok _
        · exact (decodeLits_noPanic ks).of_eq_error ‹_›
        · exact (decodeLits_noPanic vs).of_eq_error ‹_›
  theorem decodeLits_noPanic : ∀ (ls : List PLit), NoPanic (decodeLits ls)
    | [] => by simp [decodeLits, NoPanic]
    | l :: ls => by
      simp only [decodeLits]
      split
      · exact noPanic_ok _
      · exact (decodeLit_noPanic l).of_eq_error ‹_›
      · exact (decodeLits_noPanic ls).of_eq_error ‹_›
end

mutual
  theorem decodeNode_noPanic : ∀ (n : PNode), NoPanic (decodeNode n)
    | .unset | .sym _ | .call none _ _ | .lam _ none => by simp [decodeNode, NoPanic]
    | .lit l => by
      simp only [decodeNode]
      split
      · exact noPanic_ok _
      · exact (decodeLit_noPanic l).of_eq_error ‹_›
    | .call (some fn) args p => by
      simp only [decodeNode]
      split
      · exact (decodeNode_noPanic fn).of_eq_error ‹_›
      · split
        · exact noPanic_ok _
        · exact (decodeNodes_noPanic args).of_eq_error ‹_›
    | .lam ps (some body) => by
      simp only [decodeNode]
      split
      · exact noPanic_ok _
      · exact (decodeNode_noPanic body).of_eq_error ‹_›
  theorem decodeNodes_noPanic : ∀ (ns : List PNode), NoPanic (decodeNodes ns)
    | [] => by simp [decodeNodes, NoPanic]
    | n :: ns => by
      simp only [decodeNodes]
      split
      · exact (decodeNode_noPanic n).of_eq_error ‹_›
      · split
        · exact noPanic_ok _
        · exact (decodeNodes_noPanic ns).of_eq_error ‹_›
end

theorem decode_noPanic : ∀ (req : Option PNode), NoPanic (decode req)
  | none => by simp [decode, NoPanic]
  | some n => by simpa [decode] using decodeNode_noPanic n

/-- "not a panic" as a relation that ignores its first outcome, so that the interpreter's two inductions
(`evalWith_carried`, `applyFn_carried`) give the three statements below -/
theorem noPanic_carried : Carried fun {α} (_ x : Res α) => NoPanic x :=
  ⟨noPanic_ok, noPanic_err, fun hx hk => hx.bind hk⟩

theorem evalWith_noPanic (app : Val → List Val → Res Val) (happ : ∀ f args, NoPanic (app f args)) :
    ∀ (env : Env) (e : Expr), NoPanic (evalWith app env e) :=
  fun env e => evalWith_carried noPanic_carried (app' := app) happ e env

theorem evalArgs_noPanic (app : Val → List Val → Res Val) (happ : ∀ f args, NoPanic (app f args)) :
    ∀ (env : Env) (as : List Expr), NoPanic (evalArgs app env as) :=
  fun env as => evalArgs_carried noPanic_carried (app' := app) happ as env

theorem applyFn_noPanic : ∀ (fuel : Nat) (f : Val) (args : List Val), NoPanic (applyFn fuel f args) :=
  applyFn_carried noPanic_carried fun _ => noPanic_fuel

theorem interp_noPanic (fuel : Nat) (e : Expr) : NoPanic (interp fuel e) := by
  unfold interp
  split
  · exact evalWith_noPanic _ (applyFn_noPanic fuel) _ _
  · simp [NoPanic]

theorem simplify_lambdaFree (e s : Expr) (hl : e.lambdaFree = true) (h : simplify e = some s) : s.lambdaFree = true := by
  obtain ⟨m, hb⟩ := B6.Lemmas.Simplify.simplifyWith_eq_some h
  exact (B6.Lemmas.Simplify.simplifyBoth_lambdaFree _ _ e s m hl hb).1

end B6.Lemmas.EvalGuards
