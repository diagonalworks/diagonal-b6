import B6.Lemmas.RecordsBase
/-!
# Round-trip lemmas, part 3: tags and members

`inferValueType` dispatches on the first varint of a tag value *without consuming it*: the chosen decoder reads the same
bytes again, so `Value.dec` is not an `andThen` and is entered through `valueDec_peek`.
-/
namespace B6.Model.Records
open B6.Model.Varint

theorem valueDec_peek (tns : BitVec 16) (w : Nat) (hw : w < 2 ^ 64) (rest : Bytes) :
    Value.dec tns (putUvarint w ++ rest) =
      (if w % 4 = 0 then (Int.dec.map Value.int) (putUvarint w ++ rest)
       else if w % 4 = 1 then (LatLng.dec.map Value.point) (putUvarint w ++ rest)
       else if w % 4 = 2 then
        (if geometryEncoding (w / 4) = 1 then (LatLngs.dec.map Value.latlngs) (putUvarint w ++ rest)
         else if geometryEncoding (w / 4) = 0 then ((References.dec tns).map Value.refs) (putUvarint w ++ rest)
         else ((RefLLs.dec tns).map Value.mixed) (putUvarint w ++ rest))
       else none) := by
  simp only [Value.dec, uvarint_putUvarint_append w hw rest]

/-- the encodings are tested in the order of `Value.dec`: lat/lngs, references, mixed -/
theorem valueDec_geometry (tns : BitVec 16) (e l : Nat) (he : e ≤ 2) (h : lenOk e l = true) (rest : Bytes) :
    Value.dec tns (putUvarint (encodeValueType 2 (encodeGeometry e l)) ++ rest) =
      (if e = 1 then LatLngs.dec.map Value.latlngs else if e = 0 then (References.dec tns).map Value.refs
       else (RefLLs.dec tns).map Value.mixed) (putUvarint (encodeValueType 2 (encodeGeometry e l)) ++ rest) := by
  obtain ⟨h1, hg⟩ := lenOk_word e l he h
  obtain ⟨a, b, c⟩ := encodeValueType_spec 2 (encodeGeometry e l) (by omega) h1
  rw [valueDec_peek tns _ a, c, b, hg.enc, if_neg (by omega), if_neg (by omega), if_pos rfl]
  split
  · rfl
  · split <;> rfl

theorem rt_tagValue (tns : BitVec 16) (v : Value) (hok : v.ok = true) (hc : v.canonical = true) :
    RT (v.enc tns) (Value.dec tns) v := by
  intro rest
  cases v with
  | int x =>
    simp only [Value.ok, valueTypeOk_iff] at hok
    obtain ⟨a, b, c⟩ := encodeValueType_spec 0 x.toNat (by omega) hok
    rw [Value.enc, valueDec_peek tns _ a, c, if_pos rfl]
    refine (RT.map Value.int (RT.map (BitVec.ofNat 64) (rt_value _ a)) rest).trans ?_
    rw [b, BitVec.ofNat_toNat, BitVec.setWidth_eq]
  | point ll =>
    obtain ⟨a, _, c⟩ := encodeValueType_spec 1 ll.latWord (by omega) (by have := latWord_lt ll; omega)
    rw [Value.enc, LatLng.enc, List.append_assoc, valueDec_peek tns _ a, c, if_neg (by omega), if_pos rfl,
      ← List.append_assoc]
    exact RT.map Value.point (rt_latlng ll) rest
  | latlngs l =>
    rw [Value.enc, LatLngs.enc, List.append_assoc, valueDec_geometry tns 1 l.length (by omega) hok, if_pos rfl,
      ← List.append_assoc]
    exact RT.map Value.latlngs (rt_latlngs l hok) rest
  | refs l =>
    rw [Value.enc, References.enc, List.append_assoc, valueDec_geometry tns 0 l.length (by omega) hok,
      if_neg (by omega), if_pos rfl, ← List.append_assoc]
    exact RT.map Value.refs (rt_references tns l hok) rest
  | mixed l =>
    simp only [Value.canonical, List.all_eq_true] at hc
    rw [Value.enc, RefLLs.enc, List.append_assoc, List.append_assoc, valueDec_geometry tns 2 l.length (by omega) hok,
      if_neg (by omega), if_neg (by omega), ← List.append_assoc, ← List.append_assoc]
    exact RT.map Value.mixed (rt_refLLs tns l hok hc) rest

theorem rt_tag (tns : BitVec 16) (t : Tag) (hok : t.value.ok = true) (hc : t.value.canonical = true) :
    RT (Tag.enc tns t) (Tag.dec tns) t := by
  unfold Tag.enc Tag.dec
  refine (RT.andThen (rt_uvarint _ t.key.isLt) (RT.map _ (rt_tagValue tns t.value hok hc))).value ?_
  cases t; simp

theorem Tags.ok_iff (ts : List Tag) : Tags.ok ts = true ↔ ts.length < 2 ^ 63 ∧ ∀ t ∈ ts, t.value.ok = true := by
  simp only [Tags.ok, Bool.and_eq_true, decide_eq_true_eq, List.all_eq_true]

theorem rt_tags (tns : BitVec 16) (ts : List Tag) (hok : Tags.ok ts = true) (hc : Tags.canonical ts = true) :
    RT (Tags.enc tns ts) (Tags.dec tns) ts := by
  obtain ⟨hl, hv⟩ := (Tags.ok_iff ts).1 hok
  simp only [Tags.canonical, List.all_eq_true] at hc
  exact RT.counted (Tag.enc tns) (Tag.dec tns) ts hl fun t ht => rt_tag tns t (hv t ht) (hc t ht)

/-! ## Members -/

/-- the role test of `Members.Marshal` is `EncodeValueType`'s, written out a second time in the model -/
theorem Member.fits_iff (m : Member) : m.fits = true ↔ m.role.toNat < 2 ^ 62 ∧ m.type.toNat < 4 := by
  rw [Member.fits, Bool.and_eq_true, show m.ok = valueTypeOk m.role.toNat from rfl, valueTypeOk_iff, Member.typeOk,
    decide_eq_true_eq]

theorem Members.ok_iff (ms : List Member) : Members.ok ms = true ↔ ms.length < 2 ^ 63 ∧ ∀ m ∈ ms, m.fits = true := by
  simp only [Members.ok, Bool.and_eq_true, decide_eq_true_eq, List.all_eq_true]

theorem memberWord_spec (m : Member) (hr : m.role.toNat < 2 ^ 62) (ht : m.type.toNat < 2 ^ 2) :
    m.word < 2 ^ 64 ∧ m.word / 4 = m.role.toNat ∧ m.word % 4 = m.type.toNat := by
  -- the shift does not wrap, and OR-ing a 2-bit type into the cleared low bits is adding it
  rw [Member.word, Nat.mod_eq_of_lt (by omega), ← Nat.shiftLeft_eq _ 2, ← Nat.shiftLeft_add_eq_or_of_lt ht,
    Nat.shiftLeft_eq]
  omega

theorem rt_member (p : BitVec 16) (m : Member) (hok : m.fits = true) :
    RT (Member.enc p m) (Member.dec p) m := by
  obtain ⟨hr, ht⟩ := (Member.fits_iff m).1 hok
  obtain ⟨a, b, c⟩ := memberWord_spec m hr ht
  unfold Member.enc Member.dec
  refine (RT.andThen (rt_uvarint _ a) (RT.map _ (rt_reference p m.id))).value ?_
  rw [b, c]
  cases m; simp

theorem rt_members (p : BitVec 16) (ms : List Member) (hok : Members.ok ms = true) :
    RT (Members.enc p ms) (Members.dec p) ms := by
  obtain ⟨hl, hf⟩ := (Members.ok_iff ms).1 hok
  exact RT.counted (Member.enc p) (Member.dec p) ms hl fun m hm => rt_member p m (hf m hm)

end B6.Model.Records
