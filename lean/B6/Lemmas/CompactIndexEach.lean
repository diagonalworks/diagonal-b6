import B6.Lemmas.CompactIndexFind
/-!
# C01 lemmas: what `EachFeature` reports

`mem_each` reads what `each` reports off the blocks and their entries (iteration is a permutation of a block's
entries).  Every block of a built index is the block of a key (`BlockOf`), and a reported entry of such a block
comes from a source feature of that type and namespace (`BlockOf.entry_source`).  With the placement of the records
these give `each_enumerates_every_feature` and `each_enumerates_only_features` of `Props/C01.lean`.
-/
namespace B6.Model.CompactIndex
open B6.Lemmas.Basic
open B6.Model.Containers (Entry)

/-! ## what `each` reports -/

theorem iterIds_isSort (bits : Nat) : IsInsertSort (fun x y => iterLe bits x y = true) (iterInsert bits)
    (fun l => l.foldr (iterInsert bits) []) :=
  ⟨fun _ => rfl, fun _ _ _ => rfl, rfl, fun _ _ => rfl⟩

theorem mem_iterIds (b : Block) (x : Entry) : x ∈ iterIds b ↔ x ∈ b.entries := (iterIds_isSort b.bits).mem

/-- the id `EachFeature` reports for an entry -/
def reportOf (ix : Index) (t : Nat) (b : Block) (e : Entry) : Option FID :=
  if t == 0 && e.tag == 2#64 then none
  else (nsDecode ix.nt (nssGet b.hdr t).toNat).map fun ns => ⟨t, ns, e.id⟩

theorem each_eq (ix : Index) : each ix = [0, 1, 2, 3].flatMap fun t =>
    (ix.blocks.filter (·.typ == t)).flatMap fun b => (iterIds b).filterMap (reportOf ix t b) := rfl

theorem reportOf_spec (ix : Index) (t : Nat) (b : Block) (e : Entry) (x : FID) (h : reportOf ix t b e = some x) :
    x.typ = t ∧ x.val = e.id ∧ nsDecode ix.nt (nssGet b.hdr t).toNat = some x.ns := by
  unfold reportOf at h
  split at h
  · simp at h
  · obtain ⟨ns, hns, rfl⟩ := Option.map_eq_some_iff.mp h
    exact ⟨rfl, rfl, hns⟩

theorem mem_each (ix : Index) (x : FID) : x ∈ each ix ↔ x.typ < 4 ∧ ∃ b ∈ ix.blocks, b.typ = x.typ ∧
    nsDecode ix.nt (nssGet b.hdr x.typ).toNat = some x.ns ∧ ∃ e ∈ b.entries, e.id = x.val ∧ (x.typ = 0 → e.tag ≠ 2#64) := by
  rw [each_eq]
  simp only [List.mem_flatMap, List.mem_filterMap, List.mem_filter, beq_iff_eq, mem_iterIds]
  constructor
  · rintro ⟨t, ht, b, ⟨hb, hbt⟩, e, he, hx⟩
    obtain ⟨rfl, hv, hns⟩ := reportOf_spec ix t b e x hx
    refine ⟨by simp at ht; omega, b, hb, hbt, hns, e, he, hv.symm, ?_⟩
    intro h0 h2
    simp [reportOf, h0, h2] at hx
  · rintro ⟨ht, b, hb, hbt, hns, e, he, hv, htag⟩
    have h4 : x.typ ∈ [0, 1, 2, 3] := by
      have : x.typ = 0 ∨ x.typ = 1 ∨ x.typ = 2 ∨ x.typ = 3 := by omega
      simpa using this
    refine ⟨x.typ, h4, b, ⟨hb, hbt⟩, e, he, ?_⟩
    have hskip : (x.typ == 0 && e.tag == 2#64) = false := by
      by_cases h0 : x.typ = 0
      · simp [h0, htag h0]
      · simp [h0]
    simp only [reportOf, hskip, Bool.false_eq_true, if_false, hns, Option.map_some, hv]

/-! ## no id twice, given what the reader needs of the index -/

theorem each_nodup_of (ix : Index) (hsep : ix.blocks.Pairwise Sep) (hdist : ∀ b ∈ ix.blocks, b.entries.Pairwise fun e e' => e.id ≠ e'.id)
    (hnt : ix.nt.Nodup) : (each ix).Nodup := by
  rw [each_eq]
  refine List.pairwise_flatMap.mpr ⟨fun t _ => List.pairwise_flatMap.mpr ⟨fun b hbf => ?_, ?_⟩, ?_⟩
  · -- one block: its entries have different ids
    refine (((iterIds_isSort b.bits).perm b.entries).symm.pairwise (hdist b (List.mem_filter.mp hbf).1) fun h => Ne.symm h).filterMap _ ?_
    intro e e' hne x hx y hy hxy
    exact hne (by rw [← (reportOf_spec ix t b e x hx).2.1, ← (reportOf_spec ix t b e' y hy).2.1, hxy])
  · -- two blocks of one type: their header namespaces decode to different namespaces
    refine List.pairwise_filter.mpr (hsep.imp ?_)
    intro b1 b2 hs hp1 hp2 x hx y hy hxy
    obtain ⟨e, _, hxe⟩ := List.mem_filterMap.mp hx
    obtain ⟨e', _, hye⟩ := List.mem_filterMap.mp hy
    have h1 : ix.nt[(nssGet b1.hdr t).toNat]? = some y.ns := hxy ▸ (reportOf_spec ix t b1 e x hxe).2.2
    have h2 : ix.nt[(nssGet b2.hdr t).toNat]? = some y.ns := (reportOf_spec ix t b2 e' y hye).2.2
    have heq : nssGet b1.hdr t = nssGet b2.hdr t :=
      BitVec.eq_of_toNat_eq ((List.getElem?_inj (lt_length_of_getElem? h1) hnt).mp (h1.trans h2.symm))
    rw [beq_iff_eq] at hp1 hp2
    exact hs (hp1.trans hp2.symm) (hp1 ▸ heq)
  · -- two types
    refine (by decide : ([0, 1, 2, 3] : List Nat).Pairwise (· ≠ ·)).imp ?_
    intro t1 t2 hne x hx y hy hxy
    have htyp : ∀ {t z}, z ∈ (ix.blocks.filter (·.typ == t)).flatMap (fun b => (iterIds b).filterMap (reportOf ix t b)) →
        z.typ = t := fun {t z} => List.forall_mem_flatMap.2 (fun b _ =>
      List.forall_mem_filterMap.2 fun e _ z hze => (reportOf_spec ix t b e z hze).1) z
    exact hne ((htyp hx).symm.trans (hxy ▸ htyp hy))

/-! ## where a reported entry comes from -/

theorem pointBlock_entry_source (c : Ctx) (fs : List Feature) (scr : List (List (Str × BitVec 64 × Scratch)))
    (hscr : fs.map (scratchOf c fs) = scr.map .ok) (n : Nat) (ns : Str) (b : Block)
    (h : pointBlock c fs scr.flatten n ns = some b) (e : Entry) (he : e ∈ b.entries) (htag : e.tag ≠ 2#64) :
    ∃ f ∈ fs, f.id = ⟨0, ns, e.id⟩ := by
  obtain ⟨v, _, _, rfl⟩ := (mem_pointBlock_entries c fs scr.flatten n ns b h e).mp he
  rcases combine_cases c v (scratchFor scr.flatten ns v) with ⟨d, _, hd, _, _⟩ | ⟨_, h2⟩
  · obtain ⟨g, hg, hgid, _⟩ := point_scratch_source hscr ((mem_scratchFor _ _ _ _).mp hd)
    exact ⟨g, hg, by rw [combine_id]; exact hgid⟩
  · exact absurd h2 htag

theorem BlockOf.entry_source {c : Ctx} {fs : List Feature} {scr : List (List (Str × BitVec 64 × Scratch))} {t n : Nat}
    {ns : Str} {b : Block} (h : BlockOf c fs scr.flatten t n ns b) (hscr : fs.map (scratchOf c fs) = scr.map .ok)
    (e : Entry) (he : e ∈ b.entries) (htag : t = 0 → e.tag ≠ 2#64) : ∃ f ∈ fs, f.id = ⟨t, ns, e.id⟩ := by
  rcases h.made with ⟨rfl, hp⟩ | ⟨_, hf⟩
  · exact pointBlock_entry_source c fs scr hscr n ns b hp e he (htag rfl)
  · obtain ⟨f, hfm, hid, _⟩ := featureBlock_entry_source c fs t n ns b hf e he
    exact ⟨f, hfm, hid⟩

end B6.Model.CompactIndex
