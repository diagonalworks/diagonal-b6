import B6.Model.ChangeExport
import B6.Lemmas.AMap
import B6.Lemmas.Basic.Dedup
import B6.Lemmas.Basic.Sorted
import B6.Lemmas.Basic.List
/-!
Lemmas for C18 about `B6.Model.ChangeExport`, declared in the model's namespace (so `open B6.Model.ChangeExport` brings
model and lemmas).  A world denotes a map `abs b s : SMap` (feature id ⇀ (tag key ⇀ value) × body).  Every operation the
import performs (a tag edit, an accepted `AddFeature`, a document, a document list) commutes with `abs`; the exported
documents, run on the base's map, give the exporter's map.  Beside that: missing references depend on the references
only, and the order the export picks lets the rank rise along references.
-/
namespace B6.Model.ChangeExport
open B6.Model.Mutable (Id Key)
open B6.Model.Mutable.AMap
open B6.Lemmas.Basic (dedup_keepLast IsInsertSort any_congr_mem)

/-! ## association maps (`Lemmas/AMap.lean` has these two as well, with everything else about `get`, `set`, `erase`) -/
section amap
variable {α : Type} {β : Type} [DecidableEq α]

@[simp] theorem get_nil (k : α) : get ([] : List (α × β)) k = none := rfl

theorem contains_eq (m : List (α × β)) (k : α) : contains m k = (get m k).isSome := rfl

end amap

/-! ## the text layer -/

theorem inferAtom_str {l : List Char} {y : String} (h : inferAtom l = .ok (.str y)) : y = String.ofList l := by
  revert h
  fun_cases inferAtom l with
  | case4 => rintro ⟨⟩; rfl
  | case1 | case2 | case3 => nofun

theorem infer_str_eq {x y : String} (h : infer x = .ok (.atom (.str y))) : y = x := by
  revert h
  fun_cases infer x with
  | case4 _ a ha =>
    rintro ⟨⟩
    rw [inferAtom_str ha]; simp
  | case1 | case2 | case3 | case5 | case6 => nofun

/-! ## tags -/

theorem get_tagSet (ts : List Tag) (t : Tag) (k : Key) :
    get (tagSet ts t) k = if k = t.1 then some t.2 else get ts k :=
  get_upsert tagSet (fun _ => rfl) (fun _ _ _ _ => rfl) ts t k

theorem get_tagRemove (ts : List Tag) (k k' : Key) :
    get (tagRemove ts k) k' = if k' = k then none else get ts k' :=
  get_erase ts k k'

/-! ## modifications -/

theorem get_applyMods (mods : VMods) (orig : List Tag) (k : Key) :
    get (applyMods mods orig) k = modLookup (get mods k) (get orig k) :=
  get_overlay modLookup (fun _ => rfl) (fun m _ _ => by cases m <;> rfl) mods orig _ _
    (fun t => by
      unfold modExisting
      cases get mods t.1 with
      | none => rfl
      | some m => cases m <;> rfl)
    (fun e => by
      unfold modNew
      cases get mods e.1 with
      | none => cases get orig e.1 <;> rfl
      | some m => cases m <;> cases get orig e.1 <;> rfl) k

theorem applyMods_nil (orig : List Tag) : applyMods [] orig = orig := by
  unfold applyMods
  simp only [List.filterMap_nil, List.append_nil]
  induction orig with
  | nil => rfl
  | cons e r ih => simp [modExisting, ih]

theorem modsOf_set (mods : List (Id × VMods)) (id : Id) (m : VMods) (id' : Id) :
    modsOf (set mods id m) id' = if id' = id then m else modsOf mods id' := by
  unfold modsOf
  rw [get_set]
  by_cases h : id' = id <;> simp [h]

theorem modsOf_erase (mods : List (Id × VMods)) (id id' : Id) :
    modsOf (erase mods id) id' = if id' = id then [] else modsOf mods id' := by
  unfold modsOf
  rw [get_erase]
  by_cases h : id' = id <;> simp [h]

theorem modsOf_modsSet (mods : List (Id × VMods)) (id : Id) (k : Key) (m : VMod) (id' : Id) :
    modsOf (modsSet mods id k m) id' =
      if id' = id then set (modsOf mods id) k m else modsOf mods id' := by
  unfold modsSet
  rw [modsOf_set]

/-! ## the spec map -/

structure FeatView where
  tags : Key → Option V
  body : Body

theorem FeatView.ext' {a b : FeatView} (ht : ∀ k, a.tags k = b.tags k) (hb : a.body = b.body) : a = b := by
  cases a; cases b
  simp only [FeatView.mk.injEq]
  exact ⟨funext ht, hb⟩

abbrev SMap := Id → Option FeatView

def viewOf (f : Feat) : FeatView := ⟨fun k => get f.tags k, f.body⟩

def abs (b : Base) (s : St) : SMap := fun id => (s.find b id).map viewOf

theorem map_view_congr {γ : Type} (φ : FeatView → γ) {o1 o2 : Option Feat}
    (h : o1.map viewOf = o2.map viewOf) : o1.map (fun f => φ (viewOf f)) = o2.map (fun f => φ (viewOf f)) := by
  have := congrArg (Option.map φ) h
  rwa [Option.map_map, Option.map_map] at this

def FeatView.setTag (fv : FeatView) (t : Tag) : FeatView :=
  ⟨fun k => if k = t.1 then some t.2 else fv.tags k, fv.body⟩

def FeatView.delTag (fv : FeatView) (key : Key) : FeatView :=
  ⟨fun k => if k = key then none else fv.tags k, fv.body⟩

def SMap.addFeature (w : SMap) (f : Feat) : SMap := fun i => if i = f.id then some (viewOf f) else w i

/-- a tag is set on an existing feature; nothing happens for an unknown id -/
def SMap.addTag (w : SMap) (id : Id) (t : Tag) : SMap :=
  fun i => if i = id then (w i).map (fun fv => fv.setTag t) else w i

def SMap.removeTag (w : SMap) (id : Id) (key : Key) : SMap :=
  fun i => if i = id then (w i).map (fun fv => fv.delTag key) else w i

/-- a base feature seen through recorded modifications -/
def FeatView.withMods (fv : FeatView) (m : VMods) : FeatView :=
  ⟨fun k => modLookup (get m k) (fv.tags k), fv.body⟩

theorem viewOf_applyMods (f : Feat) (m : VMods) :
    viewOf { f with tags := applyMods m f.tags } = (viewOf f).withMods m := by
  apply FeatView.ext'
  · intro k; simp [viewOf, FeatView.withMods, get_applyMods]
  · rfl

theorem withMods_nil (fv : FeatView) : fv.withMods [] = fv := by
  apply FeatView.ext'
  · intro k; simp [FeatView.withMods, modLookup]
  · rfl

theorem abs_eq (b : Base) (s : St) (id : Id) :
    abs b s id = match get s.feats id with
      | some f => some (viewOf f)
      | none => (b.find id).map (fun f => (viewOf f).withMods (modsOf s.mods id)) := by
  unfold abs St.find
  cases h : get s.feats id with
  | some f => simp
  | none => simp [Option.map_map, Function.comp_def, viewOf_applyMods]

/-! ## the invariants of the tables -/

def Base.IdsOK (b : Base) : Prop := ∀ id f, b.find id = some f → f.id = id

def St.FeatsId (s : St) : Prop := ∀ id f, get s.feats id = some f → f.id = id

/-- ids of the modification table are distinct, and so are the keys recorded per id (Go maps) -/
def ModsNodup (ms : List (Id × VMods)) : Prop :=
  (ms.map (·.1)).Nodup ∧ ∀ e, e ∈ ms → (e.2.map (·.1)).Nodup

def St.WF (s : St) : Prop := s.FeatsId ∧ ModsNodup s.mods

theorem find_id {b : Base} {s : St} (hb : b.IdsOK) (hs : s.FeatsId) {id : Id} {f : Feat}
    (h : s.find b id = some f) : f.id = id := by
  unfold St.find at h
  split at h
  · next g hf => cases h; exact hs id _ hf
  · obtain ⟨g, hb', rfl⟩ := Option.map_eq_some_iff.1 h
    exact hb id g hb'

theorem featsId_empty : St.empty.FeatsId := by
  intro id f h; simp [St.empty] at h

theorem wf_empty : St.empty.WF := ⟨featsId_empty, by simp [ModsNodup, St.empty]⟩

theorem modsOf_nodup {ms : List (Id × VMods)} (h : ModsNodup ms) (id : Id) : ((modsOf ms id).map (·.1)).Nodup := by
  unfold modsOf
  cases hg : get ms id with
  | none => simp
  | some m => exact h.2 (id, m) (get_some_mem hg)

theorem modsNodup_erase {ms : List (Id × VMods)} (h : ModsNodup ms) (id : Id) : ModsNodup (erase ms id) :=
  ⟨nodup_erase ms id h.1, fun e he => h.2 e (mem_erase he)⟩

theorem modsNodup_modsSet {ms : List (Id × VMods)} (h : ModsNodup ms) (id : Id) (k : Key) (m : VMod) :
    ModsNodup (modsSet ms id k m) := by
  unfold modsSet
  refine ⟨nodup_set ms id _ h.1, ?_⟩
  intro e he
  unfold Mutable.AMap.set at he
  rcases List.mem_cons.mp he with he | he
  · subst he; exact nodup_set _ k m (modsOf_nodup h id)
  · exact h.2 e (mem_erase he)

theorem baseTable_ids (fs : List Feat) : ∀ (m : List (Id × Feat)), (∀ id g, get m id = some g → g.id = id) →
    ∀ id g, get (fs.foldl (fun m f => set m f.id f) m) id = some g → g.id = id := by
  induction fs with
  | nil => intro m h; exact h
  | cons f rest ih => intro m h; exact ih _ (forall_set h rfl)

theorem baseOf_idsOK (fs : List Feat) : (baseOf fs).IdsOK := by
  intro id f h
  simp only [baseOf, baseTable] at h
  exact baseTable_ids fs [] (by intro id g hg; simp at hg) id f h

/-! ## `AddTag` and `RemoveTag` -/

/-- the edit `m` of tag `k`, on a view; `setTag` and `delTag` are its two cases -/
def FeatView.modTag (fv : FeatView) (k : Key) (m : VMod) : FeatView :=
  ⟨fun k' => if k' = k then modLookup (some m) none else fv.tags k', fv.body⟩

theorem FeatView.setTag_eq_modTag (fv : FeatView) (t : Tag) : fv.setTag t = fv.modTag t.1 (.set t.2) := rfl

theorem FeatView.delTag_eq_modTag (fv : FeatView) (k : Key) : fv.delTag k = fv.modTag k .del := rfl

/-- the tag list after the edit `m` of key `k`: `Tags.ModifyOrAddTag` / `Tags.RemoveTag` -/
def VMod.on (m : VMod) (k : Key) (ts : List Tag) : List Tag :=
  match m with
  | .set v => tagSet ts (k, v)
  | .del => tagRemove ts k

theorem viewOf_modOn (f : Feat) (k : Key) (m : VMod) :
    viewOf { f with tags := m.on k f.tags } = (viewOf f).modTag k m := by
  apply FeatView.ext'
  · intro k'
    cases m <;> simp [viewOf, FeatView.modTag, VMod.on, get_tagSet, get_tagRemove, modLookup]
  · rfl

theorem withMods_set (fv : FeatView) (ms : VMods) (k : Key) (m : VMod) :
    fv.withMods (set ms k m) = (fv.withMods ms).modTag k m := by
  apply FeatView.ext'
  · intro k'
    simp only [FeatView.withMods, FeatView.modTag, get_set]
    by_cases hk : k' = k
    · simp only [hk, ↓reduceIte]; cases m <;> rfl
    · simp only [hk, ↓reduceIte]
  · rfl

theorem delTag_of_none {fv : FeatView} {key : Key} (h : fv.tags key = none) : fv.delTag key = fv := by
  apply FeatView.ext'
  · intro k
    simp only [FeatView.delTag]
    by_cases hk : k = key
    · subst hk; simp [h]
    · simp [hk]
  · rfl

/-- what the edit `m` of tag `k` of feature `id` does to the tables (`AddTag`: `m = .set t.2`; `RemoveTag`: `m = .del`).
Unlike C12's `Layer.adopt`, a copied base feature is stored under the `id` that was asked for, so what the step does
to `abs` needs no assumption on ids. -/
inductive TagStep (b : Base) (s : St) (id : Id) (k : Key) (m : VMod) : St → Prop
  /-- no such feature, or a key that is not there to remove -/
  | skip (h : ∀ f, s.find b id = some f → (viewOf f).modTag k m = viewOf f) : TagStep b s id k m s
  /-- an overlay feature is edited in place -/
  | retag {f : Feat} (hf : get s.feats id = some f) :
      TagStep b s id k m { s with feats := set s.feats id { f with tags := m.on k f.tags } }
  /-- a base feature is copied up with the edit; its recorded modifications go -/
  | adopt {f : Feat} (hf : get s.feats id = none) (hv : s.find b id = some f) :
      TagStep b s id k m { feats := set s.feats id { f with tags := m.on k f.tags }, mods := erase s.mods id }
  /-- the modification is recorded -/
  | record {f : Feat} (hf : get s.feats id = none) (hv : s.find b id = some f) :
      TagStep b s id k m { s with mods := modsSet s.mods id k m }

theorem addTag_step (b : Base) (s : St) (id : Id) (t : Tag) :
    TagStep b s id t.1 (.set t.2) (s.addTag b id t) := by
  fun_cases St.addTag b s id t with
  | case1 f hf => exact .retag hf
  | case2 hf hv => exact .skip fun f h => by rw [hv] at h; cases h
  | case3 hf f hv _ => exact .adopt hf hv
  | case4 hf f hv _ => exact .record hf hv

theorem removeTag_step (b : Base) (s : St) (id : Id) (k : Key) :
    TagStep b s id k .del (s.removeTag b id k) := by
  fun_cases St.removeTag b s id k with
  | case1 f hf => exact .retag hf
  | case2 hf hv => exact .skip fun f h => by rw [hv] at h; cases h
  | case3 hf f hv hg => exact .skip fun g h => by rw [hv] at h; cases h; exact delTag_of_none hg
  | case4 hf f hv _ _ _ => exact .adopt hf hv
  | case5 hf f hv _ _ _ => exact .record hf hv

theorem abs_tagStep {b : Base} {s s' : St} {id : Id} {k : Key} {m : VMod} (h : TagStep b s id k m s') :
    abs b s' = fun i => if i = id then (abs b s i).map (·.modTag k m) else abs b s i := by
  funext i
  by_cases hi : i = id
  · subst hi
    rw [if_pos rfl]
    cases h with
    | skip h =>
      cases hfind : s.find b i with
      | none => simp [abs, hfind]
      | some f => simp [abs, hfind, h f hfind]
    | retag hf => simp [abs_eq, get_set, hf, viewOf_modOn]
    | @adopt f hf hv =>
      have hview : abs b s i = some (viewOf f) := by simp [abs, hv]
      simp [hview, abs_eq, get_set, viewOf_modOn]
    | record hf hv =>
      simp only [abs_eq, hf, modsOf_modsSet, ↓reduceIte, Option.map_map, Function.comp_def, withMods_set]
  · rw [if_neg hi]
    cases h with
    | skip => rfl
    | retag hf => simp [abs_eq, get_set, hi]
    | adopt hf hv => simp [abs_eq, get_set, modsOf_erase, hi]
    | record hf hv => simp [abs_eq, modsOf_modsSet, hi]

theorem featsId_tagStep {b : Base} {s s' : St} {id : Id} {k : Key} {m : VMod} (h : TagStep b s id k m s')
    (hb : b.IdsOK) (hs : s.FeatsId) : s'.FeatsId := by
  cases h with
  | skip | record => exact hs
  | @retag f hf => exact forall_set hs (hs id f hf)
  | @adopt f hf hv => exact forall_set hs (find_id hb hs (f := f) hv)

theorem wf_tagStep {b : Base} {s s' : St} {id : Id} {k : Key} {m : VMod} (h : TagStep b s id k m s')
    (hb : b.IdsOK) (hw : s.WF) : s'.WF := by
  refine ⟨featsId_tagStep h hb hw.1, ?_⟩
  cases h with
  | skip | retag => exact hw.2
  | adopt => exact modsNodup_erase hw.2 _
  | record => exact modsNodup_modsSet hw.2 _ _ _

theorem abs_addTag (b : Base) (s : St) (id : Id) (t : Tag) :
    abs b (s.addTag b id t) = (abs b s).addTag id t := by
  unfold SMap.addTag
  simp only [FeatView.setTag_eq_modTag]
  exact abs_tagStep (addTag_step b s id t)

theorem abs_removeTag (b : Base) (s : St) (id : Id) (key : Key) :
    abs b (s.removeTag b id key) = (abs b s).removeTag id key := by
  unfold SMap.removeTag
  simp only [FeatView.delTag_eq_modTag]
  exact abs_tagStep (removeTag_step b s id key)

/-! ## accepted `AddFeature` -/

theorem get_copyFold (newId : Id) (rs : List Feat) : ∀ (feats : List (Id × Feat)) (id : Id),
    get (rs.foldl (copyStep newId) feats) id =
      (get feats id).or (if id = newId then none else rs.find? (fun r => r.id == id)) := by
  induction rs with
  | nil => intro feats id; simp
  | cons r rest ih =>
    intro feats id
    rw [List.foldl_cons, ih, List.find?_cons]
    unfold copyStep
    by_cases hid : r.id = id
    · subst hid
      simp only [beq_self_eq_true]
      cases hg : get feats r.id with
      | some g => simp [contains_eq, hg]
      | none =>
        by_cases hn : r.id = newId
        · subst hn; simp [hg]
        · simp [contains_eq, hg, hn, get_set]
    · simp only [beq_false_of_ne hid]
      split
      · rfl
      · rw [get_set, if_neg (fun h => hid h.symm)]

theorem abs_commit {b : Base} {s : St} (f : Feat) (rs : List Feat)
    (hrs : ∀ r, r ∈ rs → s.find b r.id = some r) :
    abs b (s.commit f rs) = (abs b s).addFeature f := by
  funext i
  simp only [SMap.addFeature]
  by_cases hi : i = f.id
  · subst hi; simp [abs_eq, St.commit, get_set]
  · rw [if_neg hi, abs_eq, abs_eq]
    simp only [St.commit, get_set, if_neg hi, modsOf_erase, get_copyFold]
    cases hg : get s.feats i with
    | some g => rfl
    | none =>
      cases hr : rs.find? (fun r => r.id == i) with
      | none => rfl
      | some r =>
        -- a referrer copied under `i` is what the world showed for `i`
        have hfind := hrs r (List.mem_of_find?_eq_some hr)
        rw [show r.id = i by simpa using List.find?_some hr] at hfind
        have : abs b s i = some (viewOf r) := by simp [abs, hfind]
        rw [abs_eq, hg] at this
        simpa using this.symm

theorem featsId_commit {s : St} (hs : s.FeatsId) (f : Feat) (rs : List Feat) : (s.commit f rs).FeatsId := by
  refine forall_set (fun i g hg => ?_) rfl
  rw [get_copyFold] at hg
  obtain hf | ⟨_, hg⟩ := Option.or_eq_some_iff.1 hg
  · exact hs i g hf
  · split at hg
    · cases hg
    · simpa using List.find?_some hg

theorem referrers_found {b : Base} {s : St} (hb : b.IdsOK) (hs : s.FeatsId) (ids : List Id) :
    ∀ r, r ∈ ids.filterMap (s.find b) → s.find b r.id = some r := by
  intro r hr
  rw [List.mem_filterMap] at hr
  obtain ⟨j, _, hj⟩ := hr
  have := find_id hb hs hj
  rw [this]; exact hj

theorem abs_addFeature {b : Base} {s : St} (hb : b.IdsOK) (hs : s.FeatsId) (f : Feat) :
    abs b (s.addFeature b f) = (abs b s).addFeature f :=
  abs_commit f _ (referrers_found hb hs _)

theorem featsId_addFeature {b : Base} {s : St} (hs : s.FeatsId) (f : Feat) : (s.addFeature b f).FeatsId :=
  featsId_commit hs f _

theorem modsNodup_addFeature {b : Base} {s : St} (h : ModsNodup s.mods) (f : Feat) :
    ModsNodup (s.addFeature b f).mods := modsNodup_erase h f.id

/-! ## when `Apply` gets through -/

theorem docsValid_cons (b : Base) (acc : St → Feat → Bool) (s : St) (d : Doc) (r : List Doc) :
    docsValid b acc s (d :: r) = ((match d with
      | .feat f => acc s f
      | .mods .. => true) && docsValid b acc (rebuildDoc b s d) r) := by
  cases d with
  | feat f => rfl
  | mods id add rm => simp [docsValid]

theorem importDocs_eq (b : Base) (acc : St → Feat → Bool) : ∀ (docs : List Doc) (s : St),
    importDocs b acc s docs = if docsValid b acc s docs then some (rebuild b s docs) else none := by
  intro docs s
  fun_induction docsValid b acc s docs with
  | case1 s => rfl
  | case2 s f r ih =>
    simp only [importDocs, importDoc]
    by_cases ha : acc s f = true
    · simp only [ha, ↓reduceIte, Bool.true_and]
      rw [ih]; rfl
    · simp [ha]
  | case3 s id add rm r ih => exact ih

theorem rebuild_cons (b : Base) (s : St) (d : Doc) (r : List Doc) :
    rebuild b s (d :: r) = rebuild b (rebuildDoc b s d) r := rfl

theorem docsValid_iff (b : Base) (acc : St → Feat → Bool) : ∀ (docs : List Doc) (s : St),
    docsValid b acc s docs = true ↔
      ∀ d1 f d2, docs = d1 ++ Doc.feat f :: d2 → acc (rebuild b s d1) f = true := by
  intro docs
  induction docs with
  | nil =>
    intro s
    simp only [docsValid, true_iff]
    intro d1 f d2 h
    cases d1 <;> simp at h
  | cons d r ih =>
    intro s
    rw [docsValid_cons, Bool.and_eq_true, ih]
    constructor
    · intro ⟨h0, hr⟩ d1 f d2 hsplit
      cases d1 with
      | nil =>
        cases hsplit
        simpa [rebuild] using h0
      | cons d' d1' =>
        cases hsplit
        rw [rebuild_cons]
        exact hr d1' f d2 rfl
    · intro h
      constructor
      · cases d with
        | feat f => simpa [rebuild] using h [] f r rfl
        | mods id add rm => rfl
      · intro d1 f d2 hsplit
        have := h (d :: d1) f d2 (by simp [hsplit])
        rwa [rebuild_cons] at this

/-! ## documents on the spec map -/

def specDoc (w : SMap) : Doc → SMap
  | .feat f => w.addFeature f
  | .mods id add rm => rm.foldl (fun w k => w.removeTag id k) (add.foldl (fun w t => w.addTag id t) w)

def specRun (w : SMap) (docs : List Doc) : SMap := docs.foldl specDoc w

theorem foldl_refines {b : Base} {α : Type} (op : St → α → St) (sop : SMap → α → SMap)
    (h : ∀ s : St, s.FeatsId → ∀ a, abs b (op s a) = sop (abs b s) a ∧ (op s a).FeatsId) (l : List α) :
    ∀ s : St, s.FeatsId → abs b (l.foldl op s) = l.foldl sop (abs b s) ∧ (l.foldl op s).FeatsId := by
  induction l with
  | nil => intro s hs; exact ⟨rfl, hs⟩
  | cons a rest ih =>
    intro s hs
    have h1 := h s hs a
    have h2 := ih (op s a) h1.2
    rwa [h1.1] at h2

theorem rebuildDoc_refines {b : Base} (hb : b.IdsOK) (s : St) (hs : s.FeatsId) (d : Doc) :
    abs b (rebuildDoc b s d) = specDoc (abs b s) d ∧ (rebuildDoc b s d).FeatsId := by
  cases d with
  | feat f => exact ⟨abs_addFeature hb hs f, featsId_addFeature hs f⟩
  | mods id add rm =>
    have h1 := foldl_refines (fun s t => s.addTag b id t) (fun w t => w.addTag id t)
      (fun s hs t => ⟨abs_addTag b s id t, featsId_tagStep (addTag_step b s id t) hb hs⟩) add s hs
    have h2 := foldl_refines (fun s k => s.removeTag b id k) (fun w k => w.removeTag id k)
      (fun s hs k => ⟨abs_removeTag b s id k, featsId_tagStep (removeTag_step b s id k) hb hs⟩) rm _ h1.2
    refine ⟨?_, h2.2⟩
    rw [rebuildDoc, h2.1, h1.1]; rfl

theorem rebuild_refines {b : Base} (hb : b.IdsOK) (docs : List Doc) : ∀ s : St, s.FeatsId →
    abs b (rebuild b s docs) = specRun (abs b s) docs ∧ (rebuild b s docs).FeatsId :=
  foldl_refines (rebuildDoc b) specDoc (rebuildDoc_refines hb) docs

/-- **import refines the spec run**: whatever `AddFeature` answers (`acc`), if `Apply` gets through all
documents the world it leaves denotes the map obtained by running the documents on the map -/
theorem importDocs_refines {b : Base} {acc : St → Feat → Bool} (hb : b.IdsOK) (docs : List Doc) :
    ∀ (s s' : St), s.FeatsId → importDocs b acc s docs = some s' →
      abs b s' = specRun (abs b s) docs ∧ s'.FeatsId := by
  intro s s' hs h
  rw [importDocs_eq] at h
  split at h
  · cases h; exact rebuild_refines hb docs s hs
  · cases h

/-! ## the exported documents, run on the base's map -/

theorem foldl_delTag_tags (l : List Key) : ∀ (g : FeatView) (k : Key),
    (l.foldl (fun fv key => fv.delTag key) g).tags k = if k ∈ l then none else g.tags k := by
  induction l with
  | nil => intro g k; simp
  | cons a rest ih =>
    intro g k
    simp only [List.foldl_cons, ih, List.mem_cons]
    by_cases hk : k ∈ rest
    · simp [hk]
    · by_cases ha : k = a
      · subst ha; simp [FeatView.delTag]
      · simp [hk, ha, FeatView.delTag]

theorem foldl_body {α : Type} (F : FeatView → α → FeatView) (hF : ∀ fv a, (F fv a).body = fv.body) (l : List α) :
    ∀ g : FeatView, (l.foldl F g).body = g.body :=
  fun g => l.foldlRecOn (motive := fun fv => fv.body = g.body) _ rfl fun fv h a _ => (hF fv a).trans h

/-- the tags after the `add` and the `remove` half of a modification document: a key recorded once is either set
first or deleted last -/
theorem mods_doc_tags (k : Key) (m : VMods) (hn : (m.map (·.1)).Nodup) : ∀ g : FeatView,
    ((dels m).foldl (fun fv key => fv.delTag key) ((sets m).foldl (fun fv t => fv.setTag t) g)).tags k =
      modLookup (get m k) (g.tags k) := by
  simp only [foldl_delTag_tags]
  induction m with
  | nil => intro g; simp [sets, dels, modLookup]
  | cons e r ih =>
    intro g
    obtain ⟨a, x⟩ := e
    rw [List.map_cons, List.nodup_cons] at hn
    rw [get_cons]
    cases x with
    | set v =>
      rw [show dels ((a, VMod.set v) :: r) = dels r from rfl,
        show sets ((a, VMod.set v) :: r) = (a, v) :: sets r from rfl, List.foldl_cons, ih hn.2]
      by_cases ha : a = k
      · subst ha; rw [if_pos rfl, get_none_of_not_mem hn.1]; simp [FeatView.setTag, modLookup]
      · have hk : ¬ k = a := fun h => ha h.symm
        rw [if_neg ha]; simp [FeatView.setTag, hk]
    | del =>
      rw [show dels ((a, VMod.del) :: r) = a :: dels r from rfl,
        show sets ((a, VMod.del) :: r) = sets r from rfl]
      by_cases ha : a = k
      · subst ha; simp [modLookup]
      · have hk : ¬ k = a := fun h => ha h.symm
        rw [if_neg ha, ← ih hn.2]; simp [hk]

/-- one `{id, add, remove}` document = the recorded modifications applied to that feature -/
theorem mods_doc_view (m : VMods) (hn : (m.map (·.1)).Nodup) (g : FeatView) :
    (dels m).foldl (fun fv key => fv.delTag key) ((sets m).foldl (fun fv t => fv.setTag t) g) = g.withMods m := by
  apply FeatView.ext'
  · intro k
    exact mods_doc_tags k m hn g
  · rw [foldl_body (fun fv key => fv.delTag key) (fun _ _ => rfl), foldl_body (fun fv t => fv.setTag t) (fun _ _ => rfl)]
    rfl

theorem foldl_at {α : Type} (id : Id) (F : FeatView → α → FeatView) (l : List α) : ∀ (w : SMap) (i : Id),
    (l.foldl (fun w a => fun j => if j = id then (w j).map (F · a) else w j) w) i =
      if i = id then (w i).map (fun fv => l.foldl F fv) else w i := by
  induction l with
  | nil => intro w i; by_cases h : i = id <;> simp [h]
  | cons a rest ih =>
    intro w i
    rw [List.foldl_cons, ih]
    by_cases h : i = id
    · simp [h, Option.map_map, Function.comp_def]
    · simp [h]

theorem specDoc_mods (w : SMap) (id : Id) (m : VMods) (hn : (m.map (·.1)).Nodup) (i : Id) :
    specDoc w (.mods id (sets m) (dels m)) i = if i = id then (w i).map (fun fv => fv.withMods m) else w i := by
  show ((dels m).foldl (fun w k => fun j => if j = id then (w j).map (·.delTag k) else w j)
    ((sets m).foldl (fun w t => fun j => if j = id then (w j).map (·.setTag t) else w j) w)) i = _
  rw [foldl_at id (fun fv k => fv.delTag k), foldl_at id (fun fv t => fv.setTag t)]
  by_cases h : i = id
  · simp only [h, ↓reduceIte, Option.map_map, Function.comp_def]
    congr 1
    funext fv
    exact mods_doc_view m hn fv
  · simp [h]

theorem specRun_exportMods (ms : List (Id × VMods)) (h : ModsNodup ms) : ∀ (w : SMap) (i : Id),
    specRun w (exportMods ms) i = (w i).map (fun fv => fv.withMods (modsOf ms i)) := by
  induction ms with
  | nil =>
    intro w i
    simp [exportMods, specRun, modsOf, withMods_nil]
  | cons e rest ih =>
    intro w i
    obtain ⟨a, m⟩ := e
    have hn : a ∉ rest.map (·.1) ∧ (rest.map (·.1)).Nodup := List.nodup_cons.mp h.1
    -- an id without modifications has no document, and its document would change nothing
    have hrun : specRun w (exportMods ((a, m) :: rest)) =
        specRun (specDoc w (.mods a (sets m) (dels m))) (exportMods rest) := by cases m <;> rfl
    rw [hrun, ih ⟨hn.2, fun e he => h.2 e (List.mem_cons_of_mem _ he)⟩,
      specDoc_mods w a m (h.2 (a, m) List.mem_cons_self)]
    have hcons : modsOf ((a, m) :: rest) i = if a = i then m else modsOf rest i := by
      unfold modsOf; rw [get_cons]; by_cases ha : a = i <;> simp only [ha, ↓reduceIte]
    rw [hcons]
    by_cases hi : i = a
    · subst hi
      have : modsOf rest i = [] := by unfold modsOf; rw [get_none_of_not_mem hn.1]
      simp [this, withMods_nil, Function.comp_def]
    · rw [if_neg hi, if_neg (fun h => hi h.symm)]

theorem specRun_exportFeats {s : St} (hs : s.FeatsId) (ord : List Id) : ∀ (w : SMap) (i : Id),
    specRun w (exportFeats s ord) i =
      if i ∈ ord then (match get s.feats i with
        | some f => some (viewOf f)
        | none => w i) else w i := by
  induction ord with
  | nil => intro w i; simp [exportFeats, specRun]
  | cons a rest ih =>
    intro w i
    cases hg : get s.feats a with
    | none =>
      have : exportFeats s (a :: rest) = exportFeats s rest := by
        simp [exportFeats, hg]
      rw [this, ih]
      by_cases hi : i = a
      · subst hi; simp [hg]
      · simp [hi]
    | some f =>
      have hid : f.id = a := hs a f hg
      have : specRun w (exportFeats s (a :: rest)) = specRun (w.addFeature f) (exportFeats s rest) := by
        simp [exportFeats, hg, specRun, specDoc]
      rw [this, ih]
      by_cases hi : i = a
      · subst hi; simp [hg, SMap.addFeature, hid]
      · simp [hi, SMap.addFeature, hid]

theorem abs_empty (b : Base) (i : Id) : abs b St.empty i = (b.find i).map viewOf := by
  rw [abs_eq]
  simp only [St.empty, get_nil, modsOf]
  cases b.find i with
  | none => rfl
  | some f => simp [withMods_nil]

theorem export_spec_at (b : Base) {s : St} (hs : s.FeatsId) (hm : ModsNodup s.mods) (ord : List Id) (i : Id)
    (hcov : (get s.feats i).isSome → i ∈ ord) :
    specRun (abs b St.empty) (exportDocs s ord) i = abs b s i := by
  have happ : specRun (abs b St.empty) (exportDocs s ord) =
      specRun (specRun (abs b St.empty) (exportMods s.mods)) (exportFeats s ord) := by
    simp [exportDocs, specRun, List.foldl_append]
  rw [happ, specRun_exportFeats hs, specRun_exportMods s.mods hm, abs_empty, abs_eq]
  cases hg : get s.feats i with
  | some f => simp [hcov (by simp [hg])]
  | none =>
    simp only [Option.map_map, Function.comp_def]
    split <;> rfl

/-- **the exported documents reproduce the map**: run on the map of the bare base, the documents exported
from a world give that world's map — for every order that lists all of the overlay's features -/
theorem export_spec (b : Base) {s : St} (hs : s.FeatsId) (hm : ModsNodup s.mods) (ord : List Id)
    (hcov : ∀ i, (get s.feats i).isSome → i ∈ ord) :
    specRun (abs b St.empty) (exportDocs s ord) = abs b s := by
  funext i
  exact export_spec_at b hs hm ord i (hcov i)

/-! ## whether a feature's own references resolve depends only on what the world shows for them -/

theorem hasLoc_eq (find : Id → Option Feat) (id : Id) :
    hasLoc find id =
      ((find id).map fun f => ((viewOf f).tags "point").isSome && (viewOf f).body == .generic).getD false := by
  unfold hasLoc; cases find id <;> rfl

theorem hasLoc_congr {find1 find2 : Id → Option Feat} {id : Id}
    (h : (find1 id).map viewOf = (find2 id).map viewOf) : hasLoc find1 id = hasLoc find2 id := by
  rw [hasLoc_eq, hasLoc_eq, map_view_congr (fun fv => (fv.tags "point").isSome && fv.body == .generic) h]

theorem validatePath_congr (loc1 loc2 : Id → Bool) (tags : List Tag)
    (h : ∀ as, pathElems tags = some as → ∀ r, r ∈ as.filterMap atomRef → loc1 r = loc2 r) :
    validatePath loc1 tags = validatePath loc2 tags := by
  unfold validatePath
  cases hp : pathElems tags with
  | none => rfl
  | some as =>
    -- `loc` is only asked about the path's own elements
    have : as.any (missingRef loc1) = as.any (missingRef loc2) := by
      apply any_congr_mem
      intro a ha
      unfold missingRef
      cases hr : atomRef a with
      | none => rfl
      | some id => exact congrArg (!·) (h as hp id (List.mem_filterMap.mpr ⟨a, ha, hr⟩))
    simp only [this]

theorem ite_ne {α : Type} {c : Prop} [Decidable c] {a b x : α} (ha : a ≠ x) (hb : b ≠ x) :
    (if c then a else b) ≠ x := by
  split <;> assumption

theorem validateAreaPath_missing (find : Id → Option Feat) (id : Id) :
    validateAreaPath find id = .missing ↔ find id = none := by
  unfold validateAreaPath
  cases h : find id with
  | none => simp
  | some p =>
    simp only [reduceCtorEq, iff_false]
    refine ite_ne nofun ?_
    cases pathElems p.tags with
    | none => nofun
    | some as => exact ite_ne nofun (ite_ne nofun (ite_ne nofun nofun))

theorem validateArea_missing (find : Id → Option Feat) (ps : List Poly) :
    validateArea find ps = .missing ↔ ∃ id, id ∈ ps.flatMap polyPaths ∧ find id = none := by
  unfold validateArea
  simp only
  constructor
  · intro h
    split at h
    · rename_i hc
      simp only [List.contains_iff_mem, List.mem_map] at hc
      obtain ⟨id, hid, hv⟩ := hc
      exact ⟨id, hid, (validateAreaPath_missing find id).mp hv⟩
    · split at h <;> simp at h
  · intro ⟨id, hid, hnone⟩
    have : ((ps.flatMap polyPaths).map (validateAreaPath find)).contains Verd.missing = true := by
      simp only [List.contains_iff_mem, List.mem_map]
      exact ⟨id, hid, (validateAreaPath_missing find id).mpr hnone⟩
    rw [if_pos this]

/-- a feature with a path or area id has the matching body (what `WrapFeature` asserts) -/
def Feat.Typed (f : Feat) : Prop :=
  (idType f.id = 1 → f.body = .generic) ∧ (idType f.id = 2 → ∃ ps, f.body = .area ps)

/-- **`missing` is a function of the references.** If two worlds show the same for every reference of `f`,
`ValidateFeature` reports a missing reference in one iff in the other. -/
theorem missing_congr (find1 find2 : Id → Option Feat) (f : Feat) (ht : f.Typed)
    (h : ∀ r, r ∈ refsOf f → (find1 r).map viewOf = (find2 r).map viewOf) :
    validateFeature find1 f = .missing ↔ validateFeature find2 f = .missing := by
  unfold validateFeature
  split
  · -- a path
    rename_i h1
    have hb : f.body = .generic := ht.1 (by simpa using h1)
    have : validatePath (hasLoc find1) f.tags = validatePath (hasLoc find2) f.tags := by
      apply validatePath_congr
      intro as hp r hr
      apply hasLoc_congr
      apply h
      simp only [refsOf, hb, hp]; exact hr
    rw [this]
  · split
    · rename_i h2
      obtain ⟨ps, hb⟩ := ht.2 (by simpa using h2)
      simp only [hb]
      rw [validateArea_missing, validateArea_missing]
      have hrefs : refsOf f = ps.flatMap polyPaths := by simp [refsOf, hb]
      have hn : ∀ id ∈ ps.flatMap polyPaths, (find1 id = none ↔ find2 id = none) := fun id hid => by
        rw [← Option.map_eq_none_iff (f := viewOf), h id (hrefs ▸ hid), Option.map_eq_none_iff]
      exact ⟨fun ⟨id, hid, h1⟩ => ⟨id, hid, (hn id hid).1 h1⟩, fun ⟨id, hid, h2⟩ => ⟨id, hid, (hn id hid).2 h2⟩⟩
    · simp

/-! ## the export rank rises strictly along references (acyclic overlays) -/

theorem dedupKeys_spec (l : List RefKey) : (dedupKeys l).Nodup ∧ ∀ k, k ∈ dedupKeys l ↔ k ∈ l :=
  dedup_keepLast (c := fun x xs => xs.contains x = true) (fun _ _ _ => List.contains_iff_mem) rfl (fun _ _ => rfl) l

theorem dedup_length_lt {S T : List RefKey} (x : RefKey) (hxS : x ∉ S) (hxT : x ∈ T) (hsub : ∀ k, k ∈ S → k ∈ T) :
    (dedupKeys S).length < (dedupKeys T).length := by
  have hn : (x :: dedupKeys S).Nodup :=
    List.nodup_cons.mpr ⟨fun h => hxS (((dedupKeys_spec S).2 x).mp h), (dedupKeys_spec S).1⟩
  refine List.Nodup.length_le_of_subset hn (l₂ := dedupKeys T) fun k hk => ((dedupKeys_spec T).2 k).mpr ?_
  rcases List.mem_cons.mp hk with h | h
  · exact h ▸ hxT
  · exact hsub k (((dedupKeys_spec S).2 k).mp h)

theorem mem_reach_succ (s : St) (n : Nat) (t : Id) (k : RefKey) :
    k ∈ reach s (n + 1) t ↔ k ∈ directKeys s t ∨ ∃ k', k' ∈ directKeys s t ∧ k ∈ reach s n k'.1 := by
  simp only [reach, List.mem_append, List.mem_flatMap]

theorem reach_mono (s : St) (k : RefKey) : ∀ (n : Nat) (t : Id), k ∈ reach s n t → k ∈ reach s (n + 1) t := by
  intro n
  induction n with
  | zero => intro t h; simp [reach] at h
  | succ n ih =>
    intro t h
    rw [mem_reach_succ] at h ⊢
    rcases h with h | ⟨k', hk', h⟩
    · exact Or.inl h
    · exact Or.inr ⟨k', hk', ih _ h⟩

theorem reach_mono_le (s : St) (k : RefKey) (t : Id) {n m : Nat} (hnm : n ≤ m) (h : k ∈ reach s n t) :
    k ∈ reach s m t := by
  induction hnm with
  | refl => exact h
  | step _ ih => exact reach_mono s k _ t ih

theorem mem_directKeys {s : St} {t : Id} {k : RefKey} (h : k ∈ directKeys s t) :
    ∃ e, e ∈ s.feats ∧ e.2.id = k.1 ∧ t ∈ refsOf e.2 := by
  simp only [directKeys, List.mem_filterMap] at h
  obtain ⟨e, he, hk⟩ := h
  split at hk
  · next hc =>
    cases hk
    exact ⟨e, he, rfl, List.contains_iff_mem.mp hc⟩
  · cases hk

def Height (s : St) (h : Id → Nat) : Prop := ∀ e, e ∈ s.feats → ∀ t, t ∈ refsOf e.2 → h e.2.id < h t

theorem directKeys_below {s : St} {h : Id → Nat} (hh : Height s h) {t : Id} {k : RefKey}
    (hk : k ∈ directKeys s t) : h k.1 < h t := by
  obtain ⟨e, he, hid, ht⟩ := mem_directKeys hk
  exact hid ▸ hh e he t ht

theorem reach_below {s : St} {h : Id → Nat} (hh : Height s h) (k : RefKey) :
    ∀ (n : Nat) (t : Id), k ∈ reach s n t → h k.1 < h t := by
  intro n
  induction n with
  | zero => intro t hk; simp [reach] at hk
  | succ n ih =>
    intro t hk
    rw [mem_reach_succ] at hk
    rcases hk with hk | ⟨k', hk', hk⟩
    · exact directKeys_below hh hk
    · exact Nat.lt_trans (ih _ hk) (directKeys_below hh hk')

/-- depth `h t` is enough to reach everything that can be reached from `t` -/
theorem reach_bounded {s : St} {h : Id → Nat} (hh : Height s h) (k : RefKey) :
    ∀ (n : Nat) (t : Id), k ∈ reach s n t → k ∈ reach s (h t) t := by
  intro n
  induction n with
  | zero => intro t hk; simp [reach] at hk
  | succ n ih =>
    intro t hk
    rw [mem_reach_succ] at hk
    -- `t` has a direct referrer below it, so `h t` is a successor
    obtain ⟨m, hm⟩ : ∃ m, h t = m + 1 := by
      rcases hk with hk | ⟨k', hk', _⟩
      · exact Nat.exists_eq_add_one_of_ne_zero (Nat.ne_of_gt (Nat.zero_lt_of_lt (directKeys_below hh hk)))
      · exact Nat.exists_eq_add_one_of_ne_zero (Nat.ne_of_gt (Nat.zero_lt_of_lt (directKeys_below hh hk')))
    rw [hm, mem_reach_succ]
    rcases hk with hk | ⟨k', hk', hk⟩
    · exact Or.inl hk
    · exact Or.inr ⟨k', hk', reach_mono_le s k _ (Nat.le_of_lt_succ (Nat.lt_of_lt_of_eq (directKeys_below hh hk') hm)) (ih _ hk)⟩

/-- **the export rank rises strictly along references.** If the overlay's references are acyclic — there
is a height bounded by the closure's fuel — then a feature `e` of the overlay has a strictly smaller rank
than anything it refers to. -/
theorem rank_lt_of_ref {s : St} {h : Id → Nat} (hh : Height s h) (hb : ∀ t, h t < s.fuel)
    (e : Id × Feat) (he : e ∈ s.feats) (t : Id) (ht : t ∈ refsOf e.2) :
    rank s e.2.id < rank s t := by
  unfold rank
  let x : RefKey := (e.2.id, if indexedRefs e.2 then some t else none)
  have hx : x ∈ directKeys s t := by
    simp only [directKeys, List.mem_filterMap]
    exact ⟨e, he, by simp [x, ht]⟩
  obtain ⟨m, hm⟩ : ∃ m, s.fuel = m + 1 := ⟨s.feats.length, rfl⟩
  apply dedup_length_lt x
  · exact fun hxa => Nat.lt_irrefl (h e.2.id) (reach_below hh x _ _ hxa)
  · rw [hm, mem_reach_succ]; exact Or.inl hx
  · intro k hk
    -- what reaches `e` reaches it within `h e`, which is below `h t`, which is below the fuel
    have hle : h e.2.id ≤ m := Nat.le_of_lt_succ (Nat.lt_of_lt_of_eq (Nat.lt_trans (hh e he t ht) (hb t)) hm)
    rw [hm, mem_reach_succ]
    exact Or.inr ⟨x, hx, reach_mono_le s k _ hle (reach_bounded hh k _ _ hk)⟩

/-! ## the order the export picks -/

theorem exportOrder_isSort (s : St) : IsInsertSort
    (fun a y => (rank s a > rank s y || (rank s a == rank s y && a < y)) = true) (insertByRank s)
    (fun l => l.foldr (insertByRank s) []) := ⟨fun _ => rfl, fun _ _ _ => rfl, rfl, fun _ _ => rfl⟩

theorem exportOrder_eq (s : St) : exportOrder s = (keys s.feats).reverse.foldr (insertByRank s) [] := by
  rw [exportOrder, List.foldr_reverse]

theorem exportOrder_sorted (s : St) : (exportOrder s).Pairwise (fun x y => rank s x ≥ rank s y) := by
  rw [exportOrder_eq]
  exact (exportOrder_isSort s).pairwise_of (S := fun x y => rank s x ≥ rank s y)
    (fun {a b} hc => by
      simp only [Bool.or_eq_true, decide_eq_true_eq, Bool.and_eq_true, beq_iff_eq] at hc
      exact hc.elim Nat.le_of_lt fun hc => Nat.le_of_eq hc.1.symm)
    (fun {a b} hc => by
      simp only [Bool.or_eq_true, decide_eq_true_eq, not_or] at hc
      exact Nat.le_of_not_lt hc.1)
    (fun hab hbc => Nat.le_trans hbc hab) _

theorem exportOrder_covers (s : St) (i : Id) (h : (get s.feats i).isSome) : i ∈ exportOrder s := by
  rw [exportOrder_eq, (exportOrder_isSort s).mem, List.mem_reverse]
  exact (mem_keys_iff s.feats i).2 h

/-- the world rebuilt from the export's first documents shows, for every id that is not an overlay feature
still to come, exactly what the exporting world shows — "the base plus the features exported before" -/
theorem rebuilt_world_at {b : Base} (hb : b.IdsOK) {s : St} (hs : s.FeatsId) (hm : ModsNodup s.mods)
    (l1 : List Id) (i : Id) (hi : (get s.feats i).isSome → i ∈ l1) :
    abs b (rebuild b St.empty (exportDocs s l1)) i = abs b s i := by
  rw [(rebuild_refines hb _ St.empty featsId_empty).1]
  exact export_spec_at b hs hm l1 i hi

end B6.Model.ChangeExport
