import B6.Lemmas.ProtoService
/-!
Deadlock freedom of the lock-protocol model (C40): a client that is not waiting for a lock can always move
(`WeakInv`), and when all wait nobody holds a lock (`LockInv`), so one of them gets it.
-/
namespace B6.Lemmas.ProtoService
open B6.Model.Proto B6.Model.Proto.Service

/-- waiting for a lock, or finished -/
def blocked (c : Client) : Bool :=
  c.pc == Pc.rlock || c.pc == Pc.rlock2 || c.pc == Pc.wlock || c.pc == Pc.done

theorem step_ne_nil {pref : Bool} {s s' : State} {i : Nat} {c : Client} (hc : s.clients[i]? = some c)
    (h : Move pref s i c s') : step pref s ≠ [] :=
  List.ne_nil_of_mem (mem_step.mpr ⟨i, c, hc, h⟩)

theorem enabled_unblocked (pref : Bool) (s : State) (h : WeakInv s) (i : Nat) (c : Client)
    (hc : s.clients[i]? = some c) (hb : blocked c = false) : ∃ s', Move pref s i c s' := by
  have hph := h.ph i c hc
  have heap : ∀ o, c.obj = some o → ∃ w, s.heap[o]? = some w :=
    fun o ho => ⟨_, List.getElem?_eq_getElem (h.ob i c o hc ho)⟩
  cases hpc : c.pc <;> simp [blocked, hpc] at hb
  case upRUnlock => exact ⟨_, .upRUnlock hpc⟩
  case wunlock => exact ⟨_, .wunlock hpc⟩
  case finalRUnlock => exact ⟨_, .finalRUnlock hpc⟩
  case find =>
    cases hreq : c.req <;> simp [phaseOk, hpc, hreq] at hph
    case query wid =>
      cases ho : mfind s.map wid with
      | some o => exact ⟨_, .findQuery hpc hreq ho⟩
      | none => exact ⟨_, .createQuery hpc hreq ho⟩
    case change wid rs =>
      cases ho : mfind s.map wid with
      | some o => exact ⟨_, .findChange hpc hreq ho⟩
      | none => exact ⟨_, .createChange hpc hreq ho⟩
  case eval =>
    cases hreq : c.req <;> simp [phaseOk, hpc, hreq] at hph
    case query => exact ⟨_, .evalQuery hpc hreq⟩
    case change =>
      obtain ⟨o, ho⟩ := Option.isSome_iff_exists.mp hph
      obtain ⟨w, hw⟩ := heap o ho
      exact ⟨_, .evalChange hpc hreq ho hw⟩
  case apply =>
    obtain ⟨wid, rs, hreq⟩ := phase_apply_req hph hpc
    simp [phaseOk, hpc, hreq] at hph
    obtain ⟨o, ho⟩ := Option.isSome_iff_exists.mp hph
    obtain ⟨w, hw⟩ := heap o ho
    exact ⟨_, .apply hpc ho hw⟩
  case mapop =>
    cases hreq : c.req <;> simp [phaseOk, hpc, hreq] at hph
    case delete wid =>
      cases ho : mfind s.map wid with
      | some o => exact ⟨_, .delete hpc hreq ho⟩
      | none => exact ⟨_, .deleteAbsent hpc hreq ho⟩
    case list => exact ⟨_, .list hpc hreq⟩

theorem not_deadlocked (pref : Bool) (s : State) (hw : WeakInv s) (hl : LockInv s) :
    deadlocked (step pref) terminal s = false := by
  refine deadlocked_eq_false fun ht => ?_
  obtain ⟨c0, hc0m, hc0⟩ := (List.all_eq_false (p := fun c : Client => c.pc == Pc.done) (l := s.clients)).mp ht
  obtain ⟨i0, hi0⟩ := List.getElem?_of_mem hc0m
  cases hb : s.clients.all blocked
  · obtain ⟨c, hcm, hb⟩ := List.all_eq_false.mp hb
    obtain ⟨i, hc⟩ := List.getElem?_of_mem hcm
    obtain ⟨_, hm⟩ := enabled_unblocked pref s hw i c hc (Bool.eq_false_iff.mpr hb)
    exact step_ne_nil hc hm
  · -- everybody waits for a lock or is done: nobody holds one
    have hall := List.all_eq_true.mp hb
    have idle : ∀ c ∈ s.clients, isReader c = false ∧ isWriter c = false := by
      intro c hc
      have := hall c hc
      simp only [blocked, Bool.or_eq_true, beq_iff_eq] at this
      rcases this with ((h | h) | h) | h <;> simp [isReader, isWriter, h]
    obtain ⟨hr0, hw0⟩ := hl.idle idle
    by_cases hww : ∃ (i : Nat) (c : Client), s.clients[i]? = some c ∧ c.pc = Pc.wlock
    · obtain ⟨i, c, hc, hpc⟩ := hww
      exact step_ne_nil hc (.wlock hpc (by simp [canLock, hw0, hr0]))
    · -- no writer waits: the unfinished client can take the read lock
      have hnw : writerWaiting s = false := by
        unfold writerWaiting
        apply (List.any_eq_false).mpr
        intro c hc hp
        obtain ⟨i, hi⟩ := List.getElem?_of_mem hc
        exact hww ⟨i, c, hi, by simpa using hp⟩
      have hg : canRLock pref s = true := by simp [canRLock, hw0, hnw]
      have hb0 := hall c0 hc0m
      simp only [blocked, Bool.or_eq_true, beq_iff_eq] at hb0
      rcases hb0 with ((h | h) | h) | h
      · exact step_ne_nil hi0 (.rlock h hg)
      · exact step_ne_nil hi0 (.rlock2 h hg)
      · exact absurd ⟨i0, c0, hi0, h⟩ hww
      · simp [h] at hc0

end B6.Lemmas.ProtoService
