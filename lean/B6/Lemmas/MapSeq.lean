import B6.Spec.MapSeq
/-! What `mapSeq` yields in terms of the item indices (`bad`, `val`): the values before the first failing item. -/
namespace B6.Spec.MapSeq

variable {α β ε : Type}

theorem mapSeq_cons_ok {f : α → Except ε β} {x : α} {y : β} (h : f x = .ok y) (xs : List α) :
    mapSeq f (x :: xs) = (y :: (mapSeq f xs).1, (mapSeq f xs).2) := by
  rw [mapSeq, h]

theorem mapSeq_cons_error {f : α → Except ε β} {x : α} {e : ε} (h : f x = .error e) (xs : List α) :
    mapSeq f (x :: xs) = ([], some e) := by
  rw [mapSeq, h]

/-- `mapSeq` yields the values of the items before the first one that fails (`r`), and fails iff there is one -/
theorem mapSeq_spec (f : α → Except ε β) : ∀ xs : List α, ∃ r, (∀ k, k < r → bad f xs k = false) ∧
    (mapSeq f xs).1 = (List.range r).filterMap (val f xs) ∧
    (r = xs.length ∧ (mapSeq f xs).2 = none ∨ r < xs.length ∧ bad f xs r = true ∧ (mapSeq f xs).2.isSome = true) := by
  intro xs
  fun_induction mapSeq f xs with
  | case1 => exact ⟨0, nofun, rfl, .inl ⟨rfl, rfl⟩⟩
  | case2 x xs e hfx => exact ⟨0, nofun, rfl, .inr ⟨Nat.succ_pos _, by simp [bad, hfx], rfl⟩⟩
  | case3 x xs y hfx ih =>
    obtain ⟨r, hok, h1, h2⟩ := ih
    refine ⟨r + 1, ?_, ?_, ?_⟩
    · intro k hk
      cases k with
      | zero => simp [bad, hfx]
      | succ k => exact hok k (Nat.lt_of_succ_lt_succ hk)
    · have hv0 : val f (x :: xs) 0 = some y := by simp [val, hfx]
      rw [List.range_succ_eq_map, List.filterMap_cons, hv0, List.filterMap_map]
      exact congrArg (y :: ·) h1
    · exact h2.imp (fun h => ⟨congrArg (· + 1) h.1, h.2⟩) fun h => ⟨Nat.succ_lt_succ h.1, h.2⟩

end B6.Spec.MapSeq
