import B6.Lemmas.Validate
import B6.Spec.Referrers
import B6.Lemmas.Basic.MapM
/-!
C37: an accepted `BasicMutableWorld.AddFeature` keeps every feature valid (`edits_valid`).
First the bridge to C15 (namespace `ValidateLink`): the model's `referrers` is the specification's `referrers` on the
reference skeleton, so it answers with exactly the transitive referrers; any such set is closed in the sense
`revalidated_valid` needs. Then the edits (namespace `ValidateEdits`). The argument turns on the IDs a validation looks up
(`Reads`): putting a feature under an ID that `g` does not read leaves the verdict on `g` as it was (`valid_put`). A valid
feature reads only inline points and features of another kind than its own; a feature outside a closed referrer set
(`closedSet`) reads nothing inside it.
-/
namespace B6.Lemmas.ValidateLink
open B6.Model.Validate B6.Lemmas.Validate B6.Spec.Referrers

/-- the reference skeleton (C15) of a feature of the validation skeleton -/
def toRef (f : Feat) : B6.Model.RefIndex.Feature := ⟨f.id, refsOf f⟩

abbrev view (w : World) : List B6.Model.RefIndex.Feature := w.map toRef

theorem refers_view (w : World) (t s : Id) : Refers (view w) t s ↔ ∃ f ∈ w, f.id = s ∧ t ∈ refsOf f := by
  simp only [Refers, view, List.mem_map]
  constructor
  · rintro ⟨g, ⟨f, hf, rfl⟩, h1, h2⟩; exact ⟨f, hf, h1, h2⟩
  · rintro ⟨f, hf, h1, h2⟩; exact ⟨toRef f, ⟨f, hf, rfl⟩, h1, h2⟩

theorem direct_view (w : World) (id : Id) (S : List Id) : directRefs w id S = direct (view w) id S := by
  simp only [directRefs, direct, view, List.filter_map, List.map_map]
  rfl

theorem closure_view (w : World) (id : Id) : ∀ (k : Nat) (S : List Id),
    B6.Model.Validate.closure w id k S = B6.Spec.Referrers.closure (view w) id k S := by
  intro k
  induction k with
  | zero => intro S; rfl
  | succ k ih => intro S; simp only [B6.Model.Validate.closure, B6.Spec.Referrers.closure, direct_view, ih]

theorem referrers_view (w : World) (id : Id) :
    B6.Model.Validate.referrers w id = B6.Spec.Referrers.referrers (view w) id := by
  simp only [B6.Model.Validate.referrers, B6.Spec.Referrers.referrers, closure_view, List.length_map]

end B6.Lemmas.ValidateLink

namespace B6.Lemmas.ValidateEdits
open B6.Model.Validate B6.Lemmas.Validate

theorem find_put (w : World) (f : Feat) (id : Id) :
    find (put w f) id = if id = f.id then some f else find w id :=
  (Basic.isLookup_find? (fun g : Feat => g.id)).upsert (put := put) (upd := fun _ e => e) (fun _ => rfl) (fun _ _ _ => rfl)
    (fun _ _ _ => ⟨rfl, rfl⟩) w f id

theorem locOf_put (w : World) (f : Feat) (id : Id) (h : id ≠ f.id) : locOf (put w f) id = locOf w id := by
  unfold locOf; rw [find_put]; simp [h]

theorem mem_put {w : World} (hu : Uniq w) {f g : Feat} (hg : g ∈ put w f) : g = f ∨ (g ∈ w ∧ g.id ≠ f.id) :=
  (Basic.mem_upsert (key := fun g : Feat => g.id) (put := put) (upd := fun _ e => e) (fun _ => rfl) (fun _ _ _ => rfl)
    (fun _ _ _ => rfl) hu).mp hg

def sameCtor (g f : Feat) : Bool :=
  match g.geo, f.geo with
  | .point _, .point _ => true
  | .path _, .path _ => true
  | .area _, .area _ => true
  | .other _, .other _ => true
  | _, _ => false

theorem pathSlots_put {w : World} {f : Feat} {refs : List Id} (h : f.id ∉ refs) :
    pathSlots (put w f) refs = pathSlots w refs :=
  Basic.mapM_congr fun t ht => locOf_put w f t fun e => h (e ▸ ht)

theorem validate_valid {O : Oracle} {w : World} {g g' : Feat} (h : validateFeature O false w g = some (true, g')) :
    valid O w g = true := by
  rw [← (validateFeature_out h).resolve_right fun c => nomatch c.1]
  exact validateFeature_valid (invert := false) (fun e => nomatch e) h

/-- `S` holds every feature of `w` that references `id` or a member of `S` (an executable check) -/
def closedSet (w : World) (id : Id) (S : List Id) : Bool :=
  (directRefs w id S).all fun s => decide (s ∈ S)

open B6.Spec.Referrers B6.Lemmas.ValidateLink in
theorem mem_directRefs {w : World} {id : Id} {S : List Id} {s : Id} :
    s ∈ directRefs w id S ↔ ∃ t, (t = id ∨ t ∈ S) ∧ ∃ f ∈ w, f.id = s ∧ t ∈ refsOf f := by
  rw [direct_view, mem_direct]
  exact exists_congr fun t => and_congr_right fun _ => refers_view w t s

open B6.Spec.Referrers B6.Lemmas.ValidateLink in
theorem closed_of_reach (w : World) (id : Id) (R : List Id)
    (hR : ∀ s, s ∈ R ↔ ReachPlus (view w) id s) : closedSet w id R = true := by
  simp only [closedSet, List.all_eq_true, decide_eq_true_eq]
  intro s hs
  obtain ⟨t, htt, hd⟩ := mem_directRefs.mp hs
  rw [hR]
  rcases htt with rfl | htt
  · exact .direct ((refers_view w _ _).mpr hd)
  · exact .step ((hR t).mp htt) ((refers_view w _ _).mpr hd)

theorem not_in_closed {w : World} {id : Id} {S : List Id} (hc : closedSet w id S = true) {g : Feat} (hg : g ∈ w)
    (hn : g.id ∉ S) : ∀ t ∈ refsOf g, t ≠ id ∧ t ∉ S := by
  intro t ht
  by_cases h1 : t = id ∨ t ∈ S
  · -- then `g` is one of the features the check looks at, so its ID is in `S`
    have := List.all_eq_true.mp hc g.id (mem_directRefs.mpr ⟨t, h1, g, hg, rfl, ht⟩)
    exact absurd (of_decide_eq_true this) hn
  · exact ⟨fun e => h1 (Or.inl e), fun e => h1 (Or.inr e)⟩

/-- the step of the re-validation fold in `addFeature` / `addFeatureWith` (the model writes it as a lambda) -/
abbrev revalidateStep (O : Oracle) (w' : World) (acc : Option Bool) (g : Feat) : Option Bool :=
  match acc with
  | some true => (validateFeature O false w' g).map (·.1)
  | other => other

theorem fold_validate {O : Oracle} {w' : World} : ∀ (rs : List Feat) (acc : Option Bool),
    rs.foldl (revalidateStep O w') acc = some true → acc = some true ∧ ∀ g ∈ rs, valid O w' g = true := by
  intro rs
  induction rs with
  | nil => intro acc h; exact ⟨h, by intro g hg; cases hg⟩
  | cons a rs ih =>
    intro acc h
    simp only [List.foldl_cons] at h
    obtain ⟨h1, h2⟩ := ih _ h
    cases acc with
    | none => simp at h1
    | some b =>
      cases b with
      | false => simp at h1
      | true =>
        refine ⟨rfl, ?_⟩
        intro g hg
        rcases List.mem_cons.mp hg with rfl | hg
        · cases hvg : validateFeature O false w' g with
          | none => simp [hvg] at h1
          | some p =>
            obtain ⟨b, g'⟩ := p
            simp only [revalidateStep, hvg, Option.map_some, Option.some.injEq] at h1
            subst h1
            exact validate_valid hvg
        · exact h2 g hg

theorem locOf_some {w : World} {t : Id} {k : Nat} (h : locOf w t = some k) :
    t.1 = 9 ∨ ∃ g, find w t = some g ∧ g.geo = .point (some k) := by
  rw [locOf_eq] at h
  by_cases hi : t.1 = 9
  · exact Or.inl hi
  · refine Or.inr ?_
    simp only [hi, ↓reduceIte] at h
    cases hf : find w t with
    | none => simp [hf] at h
    | some g =>
      simp only [hf, Option.bind_some, pointLoc] at h
      refine ⟨g, rfl, ?_⟩
      cases hg : g.geo with
      | point l => simp only [hg] at h; rw [h]
      | path r => simp [hg] at h
      | area r => simp [hg] at h
      | other r => simp [hg] at h

/-- the IDs that deciding `valid O w g` looks up in `w`: the elements of a path; the paths of an area and
their end points -/
inductive Reads (w : World) (g : Feat) : Id → Prop where
  | elem {refs t} : g.geo = .path refs → t ∈ refs → Reads w g t
  | path {polys pid} : g.geo = .area polys → pid ∈ polys.flatten → Reads w g pid
  | ends {polys pid i refs t} : g.geo = .area polys → pid ∈ polys.flatten →
      find w pid = some ⟨i, .path refs⟩ → refs.head? = some t ∨ refs.getLast? = some t → Reads w g t

theorem valid_put {O : Oracle} {w : World} {f g : Feat} (h : ¬ Reads w g f.id) :
    valid O (put w f) g = valid O w g := by
  unfold valid
  cases hg : g.geo with
  | point l => rfl
  | other l => rfl
  | path refs =>
    simp only
    rw [pathSlots_put (fun hin => h (.elem hg hin))]
  | area polys =>
    simp only
    have hok : ∀ pid ∈ polys.flatten, areaPathOk (put w f) pid = areaPathOk w pid := by
      intro pid hpid
      have hne : pid ≠ f.id := fun e => h (by rw [← e]; exact .path hg hpid)
      unfold areaPathOk
      rw [find_put, if_neg hne]
      cases hf : find w pid with
      | none => rfl
      | some p =>
        obtain ⟨i, geo⟩ := p
        cases geo with
        | path refs =>
          exact isLoop_congr fun t ht => locOf_put w f t fun e => h (by rw [← e]; exact .ends hg hpid hf ht)
        | _ => rfl
    rw [Bool.eq_iff_iff, List.all_eq_true, List.all_eq_true]
    exact ⟨fun a p hp => (hok p hp).symm ▸ a p hp, fun a p hp => hok p hp ▸ a p hp⟩

theorem reads_resolve {O : Oracle} {w : World} {g : Feat} {t : Id} (hv : valid O w g = true) (hr : Reads w g t) :
    t.1 = 9 ∨ ∃ h, find w t = some h ∧ sameCtor h g = false := by
  obtain ⟨gi, geo⟩ := g
  have hpoint : ∀ {k}, locOf w t = some k → (∀ l, geo ≠ .point l) →
      t.1 = 9 ∨ ∃ h, find w t = some h ∧ sameCtor h ⟨gi, geo⟩ = false := by
    intro k hk hnp
    rcases locOf_some hk with hi | ⟨h, hf, hgeo⟩
    · exact Or.inl hi
    · refine Or.inr ⟨h, hf, ?_⟩
      cases geo with
      | point l => exact absurd rfl (hnp l)
      | _ => simp [sameCtor, hgeo]
  cases hr with
  | elem hg ht =>
    cases hg
    obtain ⟨_, slots, hs, _⟩ := valid_path_iff.mp hv
    obtain ⟨k, hk⟩ := Basic.exists_of_mapM_some hs ht
    exact hpoint hk (fun l e => by cases e)
  | path hg hp =>
    cases hg
    obtain ⟨i, refs, hf, _⟩ := areaPathOk_iff.mp (List.all_eq_true.mp hv t hp)
    exact Or.inr ⟨_, hf, rfl⟩
  | ends hg hp hf ht =>
    cases hg
    obtain ⟨i, refs, hf', hl⟩ := areaPathOk_iff.mp (List.all_eq_true.mp hv _ hp)
    rw [hf] at hf'; cases hf'
    obtain ⟨k, hk⟩ := isLoop_ends hl ht
    exact hpoint hk (fun l e => by cases e)

theorem reads_refs {w : World} {g : Feat} {t : Id} (hr : Reads w g t) :
    t.1 = 9 ∨ t ∈ refsOf g ∨ ∃ p ∈ w, p.id ∈ refsOf g ∧ t ∈ refsOf p := by
  by_cases hi : t.1 = 9
  · exact Or.inl hi
  refine Or.inr ?_
  cases hr with
  | elem hg ht => exact Or.inl (by simp [refsOf, hg, ht, isInline, hi])
  | path hg hp => exact Or.inl (by simp only [refsOf, hg]; exact hp)
  | ends hg hp hf ht =>
    obtain ⟨hm, hid⟩ := find_some_mem hf
    cases hid
    refine Or.inr ⟨_, hm, by simp only [refsOf, hg]; exact hp, ?_⟩
    exact List.mem_filter.mpr ⟨ht.elim List.mem_of_head? List.mem_of_getLast?, by simp [isInline, hi]⟩

theorem valid_put_self {O : Oracle} {w : World} {f : Feat}
    (hk : ∀ g ∈ w, g.id = f.id → sameCtor g f = true) (hfid : f.id.1 ≠ 9) (hv : valid O w f = true) :
    valid O (put w f) f = true := by
  rw [valid_put, hv]
  intro hr
  rcases reads_resolve hv hr with h | ⟨h, hf, hc⟩
  · exact hfid h
  · obtain ⟨hm, hid⟩ := find_some_mem hf
    rw [hk h hm hid] at hc; cases hc

theorem valid_put_fresh {O : Oracle} {w : World} {f g : Feat} (hnew : find w f.id = none) (hfid : f.id.1 ≠ 9)
    (hv : valid O w g = true) : valid O (put w f) g = true := by
  rw [valid_put, hv]
  intro hr
  rcases reads_resolve hv hr with h | ⟨h, hf, _⟩
  · exact hfid h
  · rw [hnew] at hf; cases hf

theorem valid_put_outside {O : Oracle} {w : World} {f g : Feat} {R : List Id} (hcl : closedSet w f.id R = true)
    (hfid : f.id.1 ≠ 9) (hg : g ∈ w) (hn : g.id ∉ R) (hv : valid O w g = true) :
    valid O (put w f) g = true := by
  rw [valid_put, hv]
  intro hr
  rcases reads_refs hr with h | h | ⟨p, hp, hpg, ht⟩
  · exact hfid h
  · exact (not_in_closed hcl hg hn _ h).1 rfl
  · exact (not_in_closed hcl hp (not_in_closed hcl hg hn _ hpg).2 _ ht).1 rfl

theorem revalidated_valid {O : Oracle} {w : World} {f : Feat} {R : List Id} (hu : Uniq w)
    (hv : ∀ g ∈ w, valid O w g = true)
    (hk : ∀ g ∈ w, g.id = f.id → sameCtor g f = true) (hfid : f.id.1 ≠ 9)
    (hcl : closedSet w f.id R = true) (hf : valid O w f = true)
    (hfold : (R.filterMap (find (put w f))).foldl (revalidateStep O (put w f)) (some true) = some true) :
    ∀ g ∈ put w f, valid O (put w f) g = true := by
  intro g hg
  rcases mem_put hu hg with rfl | ⟨hgw, hgid⟩
  · exact valid_put_self hk hfid hf
  · by_cases hin : g.id ∈ R
    · have hfind : find (put w f) g.id = some g := by rw [find_put, if_neg hgid]; exact find_of_mem hu hgw
      exact (fold_validate _ _ hfold).2 g (List.mem_filterMap.mpr ⟨g.id, hin, hfind⟩)
    · exact valid_put_outside hcl hfid hgw hin (hv g hgw)

theorem addFeatureWith_ok {O : Oracle} {w w' : World} {f : Feat} {R : List Id} (h : addFeatureWith O w f R = .ok w') :
    w' = put w f ∧ (∃ f0, validateFeature O false w f = some (true, f0)) ∧
      (R.filterMap (find (put w f))).foldl (revalidateStep O (put w f)) (some true) = some true := by
  revert h
  fun_cases addFeatureWith O w f R with
  | case5 f0 hvf hfold => rintro ⟨⟩; exact ⟨rfl, ⟨f0, hvf⟩, hfold⟩
  | case1 | case2 | case3 | case4 => nofun

/-- the shape of `MutableOverlayWorld.AddFeature`, whose referrers come from the world's own `FindReferences` -/
theorem edits_valid_with (O : Oracle) (w w' : World) (f : Feat) (R : List Id) (hu : Uniq w)
    (hv : ∀ g ∈ w, valid O w g = true)
    (hk : ∀ g ∈ w, g.id = f.id → sameCtor g f = true) (hfid : f.id.1 ≠ 9)
    (hcl : closedSet w f.id R = true)
    (h : addFeatureWith O w f R = .ok w') : ∀ g ∈ w', valid O w' g = true := by
  obtain ⟨rfl, ⟨f0, hvf⟩, hfold⟩ := addFeatureWith_ok h
  exact revalidated_valid hu hv hk hfid hcl (validate_valid hvf) hfold

theorem addFeature_replace (O : Oracle) (w : World) (f : Feat) {R : List Id}
    (hex : (find w f.id).isSome = true) (hr : referrers w f.id = some R) :
    addFeature O w f = addFeatureWith O w f R := by
  unfold addFeature addFeatureWith
  simp only [hex, hr, ↓reduceIte]

theorem addFeature_fresh (O : Oracle) (w : World) (f : Feat) (hex : ¬ (find w f.id).isSome = true) :
    addFeature O w f = addFeatureWith O w f [] := by
  unfold addFeature addFeatureWith
  simp only [hex, List.filterMap_nil, List.foldl_nil, Bool.false_eq_true, ↓reduceIte]

theorem edits_valid (O : Oracle) (w w' : World) (f : Feat) (hu : Uniq w)
    (hv : ∀ g ∈ w, valid O w g = true)
    (hk : ∀ g ∈ w, g.id = f.id → sameCtor g f = true) (hfid : f.id.1 ≠ 9)
    (h : addFeature O w f = .ok w') : ∀ g ∈ w', valid O w' g = true := by
  by_cases hex : (find w f.id).isSome = true
  · cases hr : referrers w f.id with
    | none => unfold addFeature at h; simp only [hex, hr, ↓reduceIte] at h; split at h <;> cases h
    | some R =>
      exact edits_valid_with O w w' f R hu hv hk hfid (closed_of_reach w f.id R
        (B6.Spec.Referrers.referrers_spec _ _ R (ValidateLink.referrers_view w f.id ▸ hr)))
        (addFeature_replace O w f hex hr ▸ h)
  · obtain ⟨rfl, ⟨f0, hvf⟩, _⟩ := addFeatureWith_ok (addFeature_fresh O w f hex ▸ h)
    have hnew : find w f.id = none := by simpa using hex
    intro g hg
    rcases mem_put hu hg with rfl | ⟨hgw, _⟩
    · exact valid_put_self hk hfid (validate_valid hvf)
    · exact valid_put_fresh hnew hfid (hv g hgw)

end B6.Lemmas.ValidateEdits
