import B6.Model.GeoJSON
import B6.Lemmas.Basic.AssocList
/-! Lemmas for C32. `mk f i` is the b6 feature the import makes of the GeoJSON feature `f` under index `i`, `imp fs k` the
list of them for a collection; `Good f` collects what the partial theorem asks of one feature. Importing a collection of
`Good` (stored) features gives `imp` (`importCollection_good`), and every member of `imp` shows its GeoJSON feature
faithfully (`imp_faithful`). -/
namespace B6.Lemmas.GeoJSON
open B6.Model.GeoJSON
open B6.Lemmas.Basic (IsLookup isLookup_find?_beq)

variable {ν : Type}

theorem mapOpt_map {α β : Type} (f : α → β) (g : β → Option α) (h : ∀ a, g (f a) = some a) :
    ∀ xs : List α, mapOpt g (xs.map f) = some xs
  | [] => rfl
  | a :: as => by simp [mapOpt, h a, mapOpt_map f g h as]

theorem parseCoord_coordJ (c : Coord ν) : parseCoord (coordJ c) = some c := by
  cases c; rfl

theorem parseList_listJ {α : Type} (f : α → CJ ν) (g : CJ ν → Option α) (h : ∀ a, g (f a) = some a)
    (xs : List α) : parseList g (listJ f xs) = some xs := by
  simp [parseList, listJ, mapOpt_map f g h xs]

theorem getTag_isLookup : IsLookup (Prod.fst : String × TagVal ν → String) Prod.snd getTag :=
  (isLookup_find?_beq Prod.fst).map Prod.snd

theorem getTag_cons (k0 : String) (v : TagVal ν) (ts : List (String × TagVal ν)) (k : String) :
    getTag ((k0, v) :: ts) k = if k0 = k then some v else getTag ts k :=
  getTag_isLookup.cons (k0, v) ts k

theorem getTag_propTags_none (props : List (String × String)) (k : String)
    (h : ∀ kv ∈ props, kv.1 ≠ k) : getTag (propTags (ν := ν) props) k = none :=
  getTag_isLookup.eq_none_iff.2 (List.forall_mem_map.2 h)

theorem getTag_propTags_mem (props : List (String × String)) (hn : (props.map (·.1)).Nodup)
    (kv : String × String) (hkv : kv ∈ props) : getTag (propTags (ν := ν) props) kv.1 = some (.str kv.2) :=
  getTag_isLookup.of_mem (l := propTags props) (by rwa [propTags, List.map_map]) (e := (kv.1, .str kv.2))
    (List.mem_map.2 ⟨kv, hkv, rfl⟩)

theorem noClash_point {f : Feature ν} (hc : reservedClash f = false) {c : Coord ν} (hg : f.geom = .point c) :
    ∀ kv ∈ f.props, kv.1 ≠ pointTag := by
  intro kv hkv
  rw [reservedClash, hg] at hc
  simpa using List.any_eq_false.1 hc kv hkv

theorem noClash_line {f : Feature ν} (hc : reservedClash f = false) {cs : List (Coord ν)}
    (hg : f.geom = .lineString cs) : ∀ kv ∈ f.props, kv.1 ≠ pointTag ∧ kv.1 ≠ pathTag := by
  intro kv hkv
  rw [reservedClash, hg] at hc
  simpa using List.any_eq_false.1 hc kv hkv

theorem getTag_lineTags (cs : List (Coord ν)) (props : List (String × String))
    (hp : ∀ kv ∈ props, kv.1 ≠ pointTag) :
    getTag ((pathTag, TagVal.points cs) :: propTags props) pointTag = none ∧
    getTag ((pathTag, TagVal.points cs) :: propTags props) pathTag = some (.points cs) :=
  ⟨by rw [getTag_cons, if_neg (by decide), getTag_propTags_none _ _ hp], by rw [getTag_cons, if_pos rfl]⟩

/-! ## import -/

variable [DecidableEq ν]

/-- the feature `fillFromFeature` builds for an importable, well-shaped GeoJSON feature: the four record literals are
those of `fillFromFeatureRaw`, and `fill_good` is the check that they are -/
def mk (f : Feature ν) (i : Nat) : Imported ν :=
  match f.geom with
  | .point c => { ftype := .point, id := i, tags := (pointTag, .point c) :: propTags f.props }
  | .lineString cs => { ftype := .path, id := i, tags := (if cs = [] then [] else [(pathTag, .points cs)]) ++ propTags f.props }
  | .polygon rs => { ftype := .area, id := i, tags := propTags f.props, polygons := [rs.map stripClose] }
  | .multiPolygon ps => { ftype := .area, id := i, tags := propTags f.props, polygons := ps.map (·.map stripClose) }
  | _ => { ftype := .area, id := i, tags := [] }

def imp : List (Feature ν) → Nat → List (Imported ν)
  | [], _ => []
  | f :: fs, k => mk f k :: imp fs (k + 1)

def Good (f : Feature ν) : Prop :=
  wellShaped f.geom = true ∧ importable f.geom = true ∧ reservedClash f = false ∧ (f.props.map (·.1)).Nodup

theorem mk_id (f : Feature ν) (i : Nat) : (mk f i).id = i := by
  unfold mk; split <;> rfl

theorem fill_good (f : Feature ν) (i : Nat) (hw : wellShaped f.geom = true) (hi : importable f.geom = true) :
    fillFromFeatureRaw f i = .added (mk f i) := by
  unfold fillFromFeatureRaw mk
  cases hg : f.geom with
  | point c => rfl
  | lineString cs => rfl
  | polygon rs =>
    simp only [hg, wellShaped, Bool.not_eq_true'] at hw
    simp [hw]
  | multiPolygon ps =>
    simp only [hg, wellShaped, Bool.not_eq_true'] at hw
    simp [hw]
  | multiPoint cs => simp [hg, importable, expectedGeom] at hi
  | multiLineString ls => simp [hg, importable, expectedGeom] at hi

theorem valid_mk (f : Feature ν) (i : Nat) (hw : wellShaped f.geom = true) (hc : reservedClash f = false) :
    valid (mk f i) = true := by
  unfold valid mk
  cases hg : f.geom with
  | lineString cs =>
    simp only [hg, wellShaped, decide_eq_true_eq] at hw
    have hne : cs ≠ [] := by intro h; subst h; simp at hw
    obtain ⟨h1, h2⟩ := getTag_lineTags cs f.props (fun kv hkv => (noClash_line hc hg kv hkv).1)
    simp only [hne, if_false, geometryLen, List.singleton_append, h1, h2]
    simpa using hw
  | point c => rfl
  | polygon rs => rfl
  | multiPolygon ps => rfl
  | multiPoint cs => rfl
  | multiLineString ls => rfl

theorem fillFrom_good : ∀ (fs : List (Feature ν)) (k : Nat), (∀ f ∈ fs, Good (stored f)) →
    fillFrom fs k = some (imp (fs.map stored) k)
  | [], _, _ => rfl
  | f :: fs, k, h => by
    simp only [fillFrom, fillFromFeature, fill_good (stored f) k (h f (by simp)).1 (h f (by simp)).2.1,
      fillFrom_good fs (k + 1) (fun g hg => h g (by simp [hg])), imp, List.map_cons]

theorem applyAll_good : ∀ (fs : List (Feature ν)) (k : Nat), (∀ f ∈ fs, Good f) →
    applyAll (imp fs k) = (imp fs k, true)
  | [], _, _ => rfl
  | f :: fs, k, h => by
    simp only [imp, applyAll, valid_mk f k (h f (by simp)).1 (h f (by simp)).2.2.1, if_true,
      applyAll_good fs (k + 1) (fun g hg => h g (by simp [hg]))]

theorem imp_length : ∀ (fs : List (Feature ν)) (k : Nat), (imp fs k).length = fs.length
  | [], _ => rfl
  | _ :: fs, k => by simp [imp, imp_length fs (k + 1)]

theorem imp_ids : ∀ (fs : List (Feature ν)) (k : Nat), ∀ y ∈ imp fs k, k ≤ y.id
  | [], _, y, hy => by cases hy
  | f :: fs, k, y, hy => by
    simp only [imp, List.mem_cons] at hy
    rcases hy with h | h
    · subst h; rw [mk_id]; exact Nat.le_refl _
    · have := imp_ids fs (k + 1) y h; omega

theorem filter_none_of_lt (fs : List (Feature ν)) (k i : Nat) (h : i < k) :
    (imp fs k).filter (fun y => y.id == i) = [] := by
  apply List.filter_eq_nil_iff.2
  intro y hy
  have := imp_ids fs k y hy
  simp; omega

omit [DecidableEq ν] in
theorem findByID_eq (w : List (Imported ν)) (t : FType) (i : Nat) :
    findByID w t i = (w.filter fun y => y.id == i).find? fun y => y.ftype == t := by
  rw [findByID, List.find?_filter]
  simp only [Bool.and_comm (_ == t), Bool.decide_and, Bool.decide_eq_true]

theorem findByID_none_of_lt (fs : List (Feature ν)) (k i : Nat) (t : FType) (h : i < k) :
    findByID (imp fs k) t i = none := by
  rw [findByID_eq, filter_none_of_lt fs k i h]; rfl

theorem filter_imp : ∀ (fs : List (Feature ν)) (k j : Nat) (hj : j < fs.length),
    (imp fs k).filter (fun y => y.id == k + j) = [mk fs[j] (k + j)]
  | f :: fs, k, 0, _ => by
    rw [imp, List.filter_cons, mk_id, if_pos (by simp), filter_none_of_lt fs (k + 1) (k + 0) (by omega)]; rfl
  | f :: fs, k, j + 1, hj => by
    rw [imp, List.filter_cons, mk_id, if_neg (by simp), show k + (j + 1) = (k + 1) + j by omega]
    exact filter_imp fs (k + 1) j (Nat.lt_of_succ_lt_succ hj)

theorem findByID_imp (fs : List (Feature ν)) (k j : Nat) (hj : j < fs.length) (t : FType)
    (ht : (mk fs[j] (k + j)).ftype = t) : findByID (imp fs k) t (k + j) = some (mk fs[j] (k + j)) := by
  rw [findByID_eq, filter_imp fs k j hj, List.find?_cons, beq_iff_eq.2 ht]

theorem faithful_mk (f : Feature ν) (i : Nat) (h : Good f) :
    ∃ t g, expectedGeom f.geom = some (t, g) ∧ (mk f i).ftype = t ∧ observe (mk f i) = g ∧
      ∀ kv ∈ f.props, getTag (mk f i).tags kv.1 = some (.str kv.2) := by
  obtain ⟨hw, hi, hc, hn⟩ := h
  have hprops := getTag_propTags_mem (ν := ν) f.props hn
  unfold mk
  cases hg : f.geom with
  | point c =>
    refine ⟨.point, .point c, rfl, rfl, by simp only [observe, getTag_cons, if_pos], ?_⟩
    intro kv hkv
    rw [getTag_cons, if_neg (fun h => noClash_point hc hg kv hkv h.symm)]
    exact hprops kv hkv
  | lineString cs =>
    simp only [hg, wellShaped, decide_eq_true_eq] at hw
    have hne : cs ≠ [] := by intro h; subst h; simp at hw
    have hk := noClash_line hc hg
    obtain ⟨h1, h2⟩ := getTag_lineTags cs f.props (fun kv hkv => (hk kv hkv).1)
    simp only [hne, if_false, List.singleton_append]
    refine ⟨.path, .path cs, rfl, rfl, by simp only [observe, h1, h2], ?_⟩
    intro kv hkv
    rw [getTag_cons, if_neg (fun h => (hk kv hkv).2 h.symm)]
    exact hprops kv hkv
  | polygon rs => exact ⟨.area, .area [rs.map stripClose], rfl, rfl, rfl, hprops⟩
  | multiPolygon ps => exact ⟨.area, .area (ps.map (·.map stripClose)), rfl, rfl, rfl, hprops⟩
  | multiPoint cs => simp [hg, importable, expectedGeom] at hi
  | multiLineString ls => simp [hg, importable, expectedGeom] at hi

theorem imp_faithful (fs : List (Feature ν)) (j : Nat) (hj : j < fs.length) (h : Good fs[j]) :
    importedFaithfullyRaw (imp fs 0) fs[j] j = true := by
  obtain ⟨t, g, he, ht, ho, hp⟩ := faithful_mk fs[j] j h
  have hf := findByID_imp fs 0 j hj t (by simpa using ht)
  have hc : ((imp fs 0).filter fun y => y.id == 0 + j).length = 1 := by rw [filter_imp fs 0 j hj]; rfl
  simp only [Nat.zero_add] at hf hc
  unfold importedFaithfullyRaw
  simp only [he, hf, ho, hc, beq_self_eq_true, Bool.true_and, Bool.and_true]
  apply List.all_eq_true.2
  intro kv hkv
  simp [hp kv hkv]

/-! ### stored property keys never clash with the geometry tags -/

theorem storedKey_ne (k : String) : (storedKey k == pointTag) = false ∧ (storedKey k == pathTag) = false := by
  unfold storedKey
  by_cases h1 : k = pointTag
  · subst h1; decide
  · by_cases h2 : k = pathTag
    · subst h2; decide
    · simp [h1, h2]

omit [DecidableEq ν] in
theorem reservedClash_stored (f : Feature ν) : reservedClash (stored f) = false := by
  unfold reservedClash stored
  cases f.geom <;> simp [List.any_map, Function.comp_def, (storedKey_ne _).1, (storedKey_ne _).2]

theorem good_stored (f : Feature ν) (hw : wellShaped f.geom = true) (hi : importable f.geom = true)
    (hn : (f.props.map fun kv => storedKey kv.1).Nodup) : Good (stored f) := by
  refine ⟨hw, hi, reservedClash_stored f, ?_⟩
  simpa [stored, List.map_map, Function.comp_def] using hn

theorem importCollection_good (fs : List (Feature ν)) (h : ∀ f ∈ fs, Good (stored f)) :
    importCollection fs = some (imp (fs.map stored) 0) := by
  have h' : ∀ g ∈ fs.map stored, Good g := List.forall_mem_map.2 h
  simp [importCollection, fillFromGeoJSON, fillFrom_good fs 0 h, applyAll_good (fs.map stored) 0 h']

end B6.Lemmas.GeoJSON
