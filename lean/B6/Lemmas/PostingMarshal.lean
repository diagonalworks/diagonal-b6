import B6.Lemmas.Posting
/-!
# Posting lists: `NewIterator` reads back what `PostingList.Marshal` wrote

`unmarshal (marshal p) = some p` whenever lengths, counts and indices are below `2^64` (what their varints carry; Go holds
them in `int`) and every TypeAndNamespace is below `2^16`.
-/
namespace B6.Model.Posting
open B6.Model.Varint

theorem unmarshalNss_marshal : ∀ (nss : List NsIndex) (rest : Bytes),
    (∀ e ∈ nss, e.1 < 65536 ∧ e.2 < 2 ^ 64) →
    unmarshalNss nss.length (nss.flatMap (fun e => putUvarint e.1 ++ putUvarint e.2) ++ rest) = some (nss, rest) := by
  intro nss
  induction nss with
  | nil => intro rest _; rfl
  | cons e nss ih =>
    intro rest h
    obtain ⟨⟨h1, h2⟩, hl⟩ := List.forall_mem_cons.mp h
    simp only [List.flatMap_cons, List.length_cons, List.append_assoc]
    unfold unmarshalNss
    rw [uvarint_putUvarint_append e.1 (Nat.lt_trans h1 (by decide))]
    simp only [List.drop_left]
    rw [uvarint_putUvarint_append e.2 h2]
    simp only [List.drop_left]
    rw [ih rest hl, Nat.mod_eq_of_lt h1]

theorem unmarshal_marshal (p : PostingList) (h1 : p.header.token.length < 2 ^ 64) (h2 : p.header.features < 2 ^ 64)
    (h3 : p.header.namespaces.length < 2 ^ 64)
    (h4 : ∀ e ∈ p.header.namespaces, e.1 < 65536 ∧ e.2 < 2 ^ 64) : unmarshal (marshal p) = some p := by
  obtain ⟨⟨token, features, nss⟩, ids⟩ := p
  simp only at h1 h2 h3 h4
  unfold unmarshal marshal marshalHeader marshalNss
  simp only [List.append_assoc]
  rw [uvarint_putUvarint_append _ h1]
  -- the token is read back by its length; what follows it does not matter here
  generalize htail : putUvarint features ++ (putUvarint nss.length ++
    (nss.flatMap (fun e => putUvarint e.1 ++ putUvarint e.2) ++ ids)) = tail
  simp only [List.drop_left, List.take_left, List.length_append,
    fun m => Nat.not_lt.2 (Nat.le_add_right token.length m), if_false]
  subst htail
  rw [uvarint_putUvarint_append _ h2]
  simp only [List.drop_left]
  rw [uvarint_putUvarint_append _ h3]
  simp only [List.drop_left]
  rw [unmarshalNss_marshal nss ids h4]

theorem sorted_length_le {nss : List NsIndex} (hs : NssSorted nss) {B : Nat} (hB : ∀ e ∈ nss, e.2 < B) :
    nss.length ≤ B := by
  have key : ∀ i (hi : i < nss.length), i ≤ nss[i].2 := by
    intro i
    induction i with
    | zero => intro _; exact Nat.zero_le _
    | succ i ih =>
      intro hi
      have h1 := ih (by omega)
      have := List.pairwise_iff_getElem.1 hs i (i + 1) (by omega) hi (by omega)
      omega
  by_cases h0 : nss.length = 0
  · omega
  · have hl : nss.length - 1 < nss.length := by omega
    have h1 := key (nss.length - 1) hl
    have h2 := hB nss[nss.length - 1] (List.getElem_mem hl)
    omega

theorem drain_unmarshal_marshal_fill (token : Bytes) (ids : List Id) (hv : ValidIds ids) (hs : SortedIds ids)
    (htn : ∀ id ∈ ids, id.1 < 65536) (htok : token.length < 2 ^ 64) (hcount : ids.length < 2 ^ 64)
    (hbuf : (fill token ids).ids.length < 2 ^ 64) :
    (unmarshal (marshal (fill token ids))).bind drain = some ids := by
  have hin := fill_nss_inRange token ids
  have h4 : ∀ e ∈ (fill token ids).header.namespaces, e.1 < 65536 ∧ e.2 < 2 ^ 64 := by
    intro e he
    obtain ⟨_, _, _, id, hid, heq⟩ := encodeFrom_nss_spec ids Enc.init e he
    have := hin e he
    exact ⟨by rw [heq]; exact htn id hid, by omega⟩
  have h3 : (fill token ids).header.namespaces.length < 2 ^ 64 := by
    have := sorted_length_le (fill_nss_sorted token ids) hin
    omega
  rw [unmarshal_marshal (fill token ids) htok hcount h3 h4]
  exact drain_fill token ids hv hs

end B6.Model.Posting
