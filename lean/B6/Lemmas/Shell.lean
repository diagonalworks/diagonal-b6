import B6.Model.Shell
/-! What the model parser makes of the token lists the model printer produces, for any placement of the tokens in a
text: the induction behind C20's `parse_unparse_tokens` (`readsSE`, `readsArgs`). Fuel is dealt with once (`Ev`,
`Ev.bind`), the failing, flag-driven printer once (`ptoks`, `toks_eq`); then one construction per printed form. -/
namespace B6.Lemmas.Shell
open B6.Model.Shell B6.Model.FeatureID

variable {esc : Bool}

def toksOf (pts : List PTok) : List Tok := pts.map (·.tok)

def headTok (ts : List PTok) : Option Tok := ts.head?.map (·.tok)

theorem headTok_cons (t : Tok) (b e : Nat) (r : List PTok) : headTok (⟨t, b, e⟩ :: r) = some t := rfl

/-- what may follow an argument: not `=` (which would turn a symbol into a tag key) and not `,`
(which would turn a float into a lat,lng) -/
def FollowA (rest : List PTok) : Prop := headTok rest ≠ some (.p 61) ∧ headTok rest ≠ some (.p 44)

/-- what may follow a call: additionally nothing that starts a further argument -/
def FollowC (rest : List PTok) : Prop :=
  FollowA rest ∧ ∀ t, headTok rest = some t → argStart t = false

theorem followA_cases {rest : List PTok} (h : FollowA rest) :
    rest = [] ∨ ∃ t b e r, rest = ⟨t, b, e⟩ :: r ∧ ∀ c, t = .p c → c ≠ 61 ∧ c ≠ 44 := by
  cases rest with
  | nil => exact Or.inl rfl
  | cons x r =>
    obtain ⟨tok, b, e⟩ := x
    simp only [FollowA, headTok_cons, ne_eq, Option.some.injEq] at h
    exact Or.inr ⟨tok, b, e, r, rfl, fun c hc => ⟨fun e => h.1 (e ▸ hc), fun e => h.2 (e ▸ hc)⟩⟩

theorem FollowC.toA {rest : List PTok} (h : FollowC rest) : FollowA rest := h.1

theorem followA_of_argStart (t : Tok) (b e : Nat) (r : List PTok) (h : argStart t = true) :
    FollowA (⟨t, b, e⟩ :: r) := by
  constructor <;> (simp only [headTok_cons, ne_eq, Option.some.injEq]; intro hc; subst hc; simp [argStart] at h)

theorem followC_close (c : Nat) (hc : c = 41 ∨ c = 125 ∨ c = 124) (b e : Nat) (r : List PTok) :
    FollowC (⟨.p c, b, e⟩ :: r) := by
  refine ⟨⟨?_, ?_⟩, ?_⟩
  · simp only [headTok_cons, ne_eq, Option.some.injEq, Tok.p.injEq]; omega
  · simp only [headTok_cons, ne_eq, Option.some.injEq, Tok.p.injEq]; omega
  · intro t ht
    simp only [headTok_cons, Option.some.injEq] at ht
    subst ht
    rcases hc with rfl | rfl | rfl <;> rfl

theorem followC_nil : FollowC [] := ⟨⟨nofun, nofun⟩, nofun⟩

theorem toksOf_eq_append {pts : List PTok} {a b : List Tok} (h : toksOf pts = a ++ b) :
    ∃ p q, pts = p ++ q ∧ toksOf p = a ∧ toksOf q = b := by
  simp only [toksOf] at h
  obtain ⟨p, q, rfl, hp, hq⟩ := List.map_eq_append_iff.mp h
  exact ⟨p, q, rfl, hp, hq⟩

theorem toksOf_eq_cons {pts : List PTok} {t : Tok} {ts : List Tok} (h : toksOf pts = t :: ts) :
    ∃ b e q, pts = ⟨t, b, e⟩ :: q ∧ toksOf q = ts := by
  cases pts with
  | nil => simp [toksOf] at h
  | cons x q =>
    obtain ⟨tok, b, e⟩ := x
    simp only [toksOf, List.map_cons, List.cons.injEq] at h
    exact ⟨b, e, q, by rw [h.1], h.2⟩

theorem toksOf_eq_nil {pts : List PTok} (h : toksOf pts = []) : pts = [] := by
  cases pts with
  | nil => rfl
  | cons x q => simp [toksOf] at h

theorem toksOf_eq_single {pts : List PTok} {t : Tok} (h : toksOf pts = [t]) : ∃ b e, pts = [⟨t, b, e⟩] := by
  obtain ⟨b, e, q, rfl, hq⟩ := toksOf_eq_cons h
  rw [toksOf_eq_nil hq]
  exact ⟨b, e, rfl⟩

theorem toksOf_eq_bracket {pts : List PTok} {o c : Nat} {ts : List Tok}
    (h : toksOf pts = [Tok.p o] ++ ts ++ [Tok.p c]) :
    ∃ b1 e1 inner b2 e2, pts = ⟨.p o, b1, e1⟩ :: (inner ++ [⟨.p c, b2, e2⟩]) ∧ toksOf inner = ts := by
  obtain ⟨b1, e1, q, rfl, hq⟩ := toksOf_eq_cons h
  obtain ⟨inner, close, rfl, hin, hcl⟩ := toksOf_eq_append hq
  obtain ⟨b2, e2, rfl⟩ := toksOf_eq_single hcl
  exact ⟨b1, e1, inner, b2, e2, rfl, hin⟩

theorem keyTok_cases (k : Bytes) : keyTok k = .tagKey k ∨ keyTok k = .sym k := by
  unfold keyTok
  split <;> simp

theorem tagValue_of_value (v : Bytes) :
    tagValue? (if valueBare v then Tok.sym v else Tok.str v) = some v := by
  split <;> rfl

theorem tagToks_printable (k v : Bytes) (hk : keyBare k = true) :
    tagToks k v = [keyTok k, .p 61, if valueBare v then .sym v else .str v] := by
  simp only [tagToks, hk, ↓reduceIte, List.cons_append, List.nil_append]
  split <;> rfl

theorem toksOf_eq_tag {pts : List PTok} {k v : Bytes} (hk : keyBare k = true) (h : toksOf pts = tagToks k v) :
    ∃ b1 e1 b2 e2 b3 e3, pts = [⟨keyTok k, b1, e1⟩, ⟨.p 61, b2, e2⟩,
      ⟨if valueBare v then .sym v else .str v, b3, e3⟩] := by
  rw [tagToks_printable k v hk] at h
  obtain ⟨b1, e1, q1, rfl, h1⟩ := toksOf_eq_cons h
  obtain ⟨b2, e2, q2, rfl, h2⟩ := toksOf_eq_cons h1
  obtain ⟨b3, e3, rfl⟩ := toksOf_eq_single h2
  exact ⟨b1, e1, b2, e2, b3, e3, rfl⟩

/-- `f F = v` for all large enough `F`: the form of this file's statements about the fuelled parse functions. Two such
facts combine by adding their bounds (`Ev.bind`), so no parse function has to be shown monotone in its fuel. -/
def Ev {α : Type} (f : Nat → α) (v : α) : Prop := ∃ n, ∀ F, f (F + n) = v

theorem Ev.const {α : Type} (v : α) : Ev (fun _ => v) v := ⟨0, fun _ => rfl⟩

theorem Ev.one {α : Type} {f : Nat → α} {v : α} (h : ∀ F, f (F + 1) = v) : Ev f v := ⟨1, h⟩

theorem Ev.of_succ {α : Type} {f : Nat → α} {v : α} (h : Ev (fun F => f (F + 1)) v) : Ev f v :=
  h.elim fun n h => ⟨n + 1, h⟩

theorem Ev.bind {α β : Type} {f : Nat → PR α} {g : Nat → α → PR β} {a : α} {v : PR β}
    (hf : Ev f (.ok a)) (hg : Ev (fun F => g F a) v) : Ev (fun F => (f F).bind (g F)) v := by
  obtain ⟨n, hf⟩ := hf
  obtain ⟨m, hg⟩ := hg
  refine ⟨n + m, fun F => ?_⟩
  have h1 := hf (F + m)
  have h2 := hg (F + n)
  rw [show F + m + n = F + (n + m) by omega] at h1
  rw [show F + n + m = F + (n + m) by omega] at h2
  simp only [h1, PR.ok_bind, h2]

def Reads {α : Type} (p : Nat → List PTok → PR (α × List PTok)) (ts : List PTok) (a : α) (rest : List PTok) : Prop :=
  Ev (fun F => p F ts) (.ok (a, rest))

def EndsQ (rest : List PTok) : Prop := headTok rest = some (.p 93)
def FollowQ (rest : List PTok) : Prop :=
  headTok rest = some (.p 93) ∨ headTok rest = some (.p 38) ∨ headTok rest = some (.p 124)

/-- any placement of `ts` before `]`, `&` or `|` is read as the query member `x` -/
def ReadsQFirst (ts : List Tok) (x : Q) : Prop :=
  ∀ pre, toksOf pre = ts → ∀ rest, FollowQ rest → ∃ b e, Reads parseQFirst (pre ++ rest) (x, b, e) rest

def ReadsQE (ts : List Tok) (x : Q) : Prop :=
  ∀ pre, toksOf pre = ts → ∀ rest, EndsQ rest → ∃ b e, Reads parseQE (pre ++ rest) (x, b, e) rest

theorem followQ_cases {rest : List PTok} (h : FollowQ rest) :
    ∃ c b e r, rest = ⟨.p c, b, e⟩ :: r ∧ (c = 93 ∨ c = 38 ∨ c = 124) := by
  cases rest with
  | nil => simp [FollowQ, headTok] at h
  | cons x r =>
    obtain ⟨tok, b, e⟩ := x
    simp only [FollowQ, headTok_cons, Option.some.injEq] at h
    rcases h with h | h | h <;> subst h
    · exact ⟨93, b, e, r, rfl, Or.inl rfl⟩
    · exact ⟨38, b, e, r, rfl, Or.inr (Or.inl rfl)⟩
    · exact ⟨124, b, e, r, rfl, Or.inr (Or.inr rfl)⟩

theorem endsQ_cases {rest : List PTok} (h : EndsQ rest) : ∃ b e r, rest = ⟨.p 93, b, e⟩ :: r := by
  obtain ⟨c, b, e, r, rfl, _⟩ := followQ_cases (Or.inl h)
  simp only [EndsQ, headTok_cons, Option.some.injEq, Tok.p.injEq] at h
  exact ⟨b, e, r, by rw [h]⟩

theorem qfirst_tagged (k v : Bytes) (hk : keyBare k = true) : ReadsQFirst (tagToks k v) (.tagged k v) := by
  intro pre hpre rest _
  obtain ⟨b1, e1, b2, e2, b3, e3, rfl⟩ := toksOf_eq_tag hk hpre
  refine ⟨b1, e3, .one fun F => ?_⟩
  rcases keyTok_cases k with hkt | hkt <;> rw [hkt] <;>
    simp only [List.cons_append, List.nil_append, parseQFirst, tagValue_of_value]

theorem qfirst_keyed (k : Bytes) : ReadsQFirst [keyTok k] (.keyed k) := by
  intro pre hpre rest hf
  obtain ⟨b1, e1, rfl⟩ := toksOf_eq_single hpre
  obtain ⟨c, b, e, r, rfl, hc⟩ := followQ_cases hf
  refine ⟨b1, e1, .one fun F => ?_⟩
  rcases keyTok_cases k with hkt | hkt <;> rw [hkt] <;> rcases hc with rfl | rfl | rfl <;> rfl

theorem ReadsQFirst.qe {ts : List Tok} {x : Q} (h : ReadsQFirst ts x) : ReadsQE ts x := by
  intro pre hpre rest hr
  obtain ⟨b2, e2, r, rfl⟩ := endsQ_cases hr
  obtain ⟨b, e, h⟩ := h pre hpre _ (Or.inl hr)
  refine ⟨b, e, Ev.of_succ ?_⟩
  simp only [parseQE]
  exact h.bind (Ev.const _)

theorem ReadsQE.bracket {ts : List Tok} {x : Q} (h : ReadsQE ts x) :
    ReadsQFirst ([Tok.p 91] ++ ts ++ [Tok.p 93]) x := by
  intro pre hpre rest _
  obtain ⟨b1, e1, inner, b2, e2, rfl, hin⟩ := toksOf_eq_bracket hpre
  obtain ⟨b, e, h⟩ := h inner hin (⟨.p 93, b2, e2⟩ :: rest) rfl
  refine ⟨b, e, Ev.of_succ ?_⟩
  simp only [List.cons_append, List.append_assoc, List.nil_append, parseQFirst]
  exact h.bind (Ev.const _)

theorem ReadsQFirst.op {t1 t2 : List Tok} {x1 x2 : Q} {op : Nat} (hop : op = 38 ∨ op = 124)
    (h1 : ReadsQFirst t1 x1) (h2 : ReadsQE t2 x2) : ReadsQE (t1 ++ [Tok.p op] ++ t2) (mkQ op x1 x2) := by
  intro pre hpre rest hr
  simp only [List.append_assoc, List.cons_append, List.nil_append] at hpre
  obtain ⟨p1, p23, rfl, hp1, h23⟩ := toksOf_eq_append hpre
  obtain ⟨bo, eo, p3, rfl, hp3⟩ := toksOf_eq_cons h23
  obtain ⟨b2, e2, h2⟩ := h2 p3 hp3 rest hr
  obtain ⟨b1, e1, h1⟩ := h1 p1 hp1 (⟨.p op, bo, eo⟩ :: (p3 ++ rest))
    (hop.elim (fun h => Or.inr (Or.inl (by rw [h]; rfl))) (fun h => Or.inr (Or.inr (by rw [h]; rfl))))
  refine ⟨b1, e2, Ev.of_succ ?_⟩
  simp only [List.append_assoc, List.cons_append, parseQE]
  refine h1.bind ?_
  rcases hop with rfl | rfl <;> exact h2.bind (Ev.const _)

mutual
theorem q_first : ∀ (q : Q), q.printable esc = true → ReadsQFirst q.subToks q.norm
  | .keyed k, _ => qfirst_keyed k
  | .tagged k v, hp => by
    simp only [Q.printable, Bool.and_eq_true] at hp
    exact qfirst_tagged k v hp.1.2
  | .and qs, hp => (q_list qs 38 (Or.inl rfl) (by simpa only [Q.printable] using hp)).bracket
  | .or qs, hp => (q_list qs 124 (Or.inr rfl) (by simpa only [Q.printable] using hp)).bracket
theorem q_list : ∀ (qs : QL) (op : Nat), (op = 38 ∨ op = 124) → qs.printable esc = true →
    ReadsQE (qs.toks op) (qs.norm op)
  | .nil, _, _, hp => by simp [QL.printable] at hp
  | .cons q .nil, op, _, hp => (q_first q (by simpa only [QL.printable] using hp)).qe
  | .cons q (.cons q' qs'), op, hop, hp => by
    simp only [QL.printable, Bool.and_eq_true] at hp
    exact (q_first q hp.1).op hop
      (q_list (.cons q' qs') op hop (by simpa only [QL.printable, Bool.and_eq_true] using hp.2))
end

theorem q_top (q : Q) (hp : q.printable esc = true) : ReadsQE q.toks q.norm := by
  cases q with
  | keyed k => exact (q_first (.keyed k) hp).qe
  | tagged k v => exact (q_first (.tagged k v) hp).qe
  | and qs => exact q_list qs 38 (Or.inl rfl) (by simpa only [Q.printable] using hp)
  | or qs => exact q_list qs 124 (Or.inr rfl) (by simpa only [Q.printable] using hp)

/-! ## what the parser makes of a placement of printed tokens

`pre` carries the printed tokens at arbitrary positions, `rest` is whatever follows them. -/

def ReadsArg (ts : List Tok) (x : SE) : Prop :=
  ∀ pre, toksOf pre = ts → ∀ rest, FollowA rest → ∃ pe, PE.strip pe = x ∧ Reads parseArg (pre ++ rest) pe rest

def ReadsArgs (ts : List Tok) (x : SEL) : Prop :=
  ∀ pre, toksOf pre = ts → ∀ rest, FollowC rest →
    ∃ pels, PEL.strip pels = x ∧ Reads parseArgs (pre ++ rest) pels rest

def ReadsCall (ts : List Tok) (x : SE) : Prop :=
  ∀ pre, toksOf pre = ts → ∀ rest, FollowC rest → ∃ pe, PE.strip pe = x ∧ Reads parseCall (pre ++ rest) pe rest

/-- read by `pipeline` as members that fold to a tree of shape `x`, after which the pipeline loop goes on
with whatever follows: `pipeline` returns what the loop returns from there. Not `Reads parsePipeline`: after these
members the loop may still meet `| more`, which only the caller knows (`ReadsPipe.pipe` adds a member,
`ReadsPipe.reads` ends the pipeline where the next token is not `|`). -/
def ReadsPipe (ts : List Tok) (x : SE) : Prop :=
  ∀ pre, toksOf pre = ts → ∀ rest, FollowC rest →
    ∃ pe, PE.strip pe = x ∧ ∀ v, Ev (fun F => pipeLoop F pe rest) v → Ev (fun F => parsePipeline F (pre ++ rest)) v

/-- read by `expression` as a tree of shape `x`, also when met by `arg` or `call`, which hand the tokens on -/
def ReadsExpr (ts : List Tok) (x : SE) : Prop :=
  ∀ pre, toksOf pre = ts → ∀ rest, FollowA rest →
    (∀ F, parseArg (F + 1) (pre ++ rest) = parseExpr F (pre ++ rest) ∧
      parseCall (F + 1) (pre ++ rest) = parseExpr F (pre ++ rest)) ∧
    ∃ pe, PE.strip pe = x ∧ Reads parseExpr (pre ++ rest) pe rest

theorem ReadsExpr.arg {ts : List Tok} {x : SE} (h : ReadsExpr ts x) : ReadsArg ts x := by
  intro pre hpre rest hr
  obtain ⟨hs, pe, hx, hp⟩ := h pre hpre rest hr
  refine ⟨pe, hx, Ev.of_succ ?_⟩
  simp only [(hs _).1]
  exact hp

theorem ReadsExpr.call {ts : List Tok} {x : SE} (h : ReadsExpr ts x) : ReadsCall ts x := by
  intro pre hpre rest hr
  obtain ⟨hs, pe, hx, hp⟩ := h pre hpre rest hr.1
  refine ⟨pe, hx, Ev.of_succ ?_⟩
  simp only [(hs _).2]
  exact hp

theorem ReadsCall.pipe {ts : List Tok} {x : SE} (h : ReadsCall ts x) : ReadsPipe ts x := by
  intro pre hpre rest hr
  obtain ⟨pe, hs, hp⟩ := h pre hpre rest hr
  refine ⟨pe, hs, fun v hv => Ev.of_succ ?_⟩
  simp only [parsePipeline]
  exact hp.bind hv

/-! ## the alternatives of `expression`, each as an equation -/

theorem parseExpr_group (F b e : Nat) (rest : List PTok) :
    parseExpr (F + 1) (⟨.p 40, b, e⟩ :: rest) =
      (parsePipeline F rest).bind fun (inner, r) =>
        match r with
        | ⟨.p 41, _, _⟩ :: r' => .ok (inner, r')
        | _ => .err := rfl

theorem parseExpr_query (F b e : Nat) (rest : List PTok) :
    parseExpr (F + 1) (⟨.p 91, b, e⟩ :: rest) =
      (parseQE F rest).bind fun ((q, b, e), r) =>
        match r with
        | ⟨.p 93, _, _⟩ :: r' => .ok (.mk (.lit (.query q)) b e, r')
        | _ => .err := rfl

theorem parseExpr_tag (k : Bytes) (t : Tok) (ht : t = .tagKey k ∨ t = .sym k) (F b1 e1 b2 e2 : Nat) (v : Tok)
    (b3 e3 : Nat) (rest : List PTok) :
    parseExpr (F + 1) (⟨t, b1, e1⟩ :: ⟨.p 61, b2, e2⟩ :: ⟨v, b3, e3⟩ :: rest) =
      match tagValue? v with
      | some v => .ok (.mk (.lit (.tag k v)) b1 e3, rest)
      | none => .err := by
  rcases ht with rfl | rfl <;> rfl

theorem parseExpr_lambda0 (F b e ab ae : Nat) (rest : List PTok) :
    parseExpr (F + 1) (⟨.p 123, b, e⟩ :: ⟨.arrow, ab, ae⟩ :: rest) =
      (parsePipeline F rest).bind fun (body, r) =>
        match r with
        | ⟨.p 125, _, _⟩ :: r' => .ok (.mk (.lambda [] body) body.b body.e, r')
        | _ => .err := rfl

theorem parseExpr_params (F b e : Nat) (s : Bytes) (sb se : Nat) (t : Tok) (ht : t = .p 44 ∨ t = .arrow)
    (tb te : Nat) (rest : List PTok) :
    parseExpr (F + 1) (⟨.p 123, b, e⟩ :: ⟨.sym s, sb, se⟩ :: ⟨t, tb, te⟩ :: rest) =
      (parseSymbols F (⟨.sym s, sb, se⟩ :: ⟨t, tb, te⟩ :: rest)).bind fun (ps, b, r) =>
        match r with
        | ⟨.arrow, _, _⟩ :: r1 =>
          (parsePipeline F r1).bind fun (body, r2) =>
            match r2 with
            | ⟨.p 125, _, _⟩ :: r3 => .ok (.mk (.lambda ps body) b body.e, r3)
            | _ => .err
        | _ => .err := by
  rcases ht with rfl | rfl <;> rfl

theorem parseExpr_float (t : Bytes) (b e : Nat) (rest : List PTok) (hf : FollowA rest) (F : Nat) :
    parseExpr (F + 1) (⟨.float t, b, e⟩ :: rest) = .ok (.mk (.lit (.float t)) b e, rest) := by
  rcases followA_cases hf with rfl | ⟨tok, b', e', r, rfl, hne⟩
  · rfl
  · cases tok with
    | p c =>
      unfold parseExpr
      simp [(hne c rfl).2]
    | _ => rfl

theorem lit_reads (l : Lit) (hp : l.printable esc = true) : ReadsExpr l.toks (.lit l.norm) := by
  intro pre hpre rest hf
  cases l with
  | str _ | int _ | id _ =>
    obtain ⟨b, e, rfl⟩ := toksOf_eq_single hpre
    exact ⟨fun _ => ⟨rfl, rfl⟩, _, rfl, .one fun _ => rfl⟩
  | float t =>
    obtain ⟨b, e, rfl⟩ := toksOf_eq_single hpre
    exact ⟨fun _ => ⟨rfl, rfl⟩, _, rfl, .one (parseExpr_float t b e rest hf)⟩
  | point lat lng =>
    obtain ⟨b1, e1, q1, rfl, h1⟩ := toksOf_eq_cons hpre
    obtain ⟨b2, e2, q2, rfl, h2⟩ := toksOf_eq_cons h1
    obtain ⟨b3, e3, rfl⟩ := toksOf_eq_single h2
    exact ⟨fun _ => ⟨rfl, rfl⟩, .mk (.lit (.point lat lng)) 0 0, rfl, .one fun _ => rfl⟩
  | tag k v =>
    simp only [Lit.printable, Bool.and_eq_true] at hp
    obtain ⟨b1, e1, b2, e2, b3, e3, rfl⟩ := toksOf_eq_tag hp.1.2 hpre
    refine ⟨fun _ => ?_, .mk (.lit (.tag k v)) b1 e3, rfl, .one fun F => ?_⟩
    · rcases keyTok_cases k with hkt | hkt <;> rw [hkt] <;> exact ⟨rfl, rfl⟩
    · exact (parseExpr_tag k _ (keyTok_cases k) F b1 e1 b2 e2 _ b3 e3 rest).trans (by rw [tagValue_of_value])
  | query q =>
    obtain ⟨b1, e1, inner, b2, e2, rfl, hin⟩ := toksOf_eq_bracket hpre
    obtain ⟨b, e, h⟩ := q_top q hp inner hin (⟨.p 93, b2, e2⟩ :: rest) rfl
    refine ⟨fun _ => ⟨rfl, rfl⟩, .mk (.lit (.query q.norm)) b e, rfl, Ev.of_succ ?_⟩
    simp only [List.cons_append, List.append_assoc, List.nil_append, parseExpr_query]
    exact h.bind (Ev.const _)

/-- the first token of a printed literal -/
def litHead (l : Lit) : Tok :=
  match l with
  | .str s => .str s
  | .int i => .int i
  | .float t => .float t
  | .point lat _ => .float lat
  | .id f => .id f
  | .tag k _ => keyTok k
  | .query _ => .p 91

/-! ## the parser's loops at their stopping points -/

theorem parseArg_sym (s : Bytes) (b e : Nat) (rest : List PTok) (hf : FollowA rest) (F : Nat) :
    parseArg (F + 1) (⟨.sym s, b, e⟩ :: rest) = .ok (.mk (.sym s) b e, rest) := by
  rcases followA_cases hf with rfl | ⟨tok, b', e', r, rfl, hne⟩
  · rfl
  · cases tok with
    | p c => simp [parseArg, (hne c rfl).1]
    | _ => rfl

theorem parseArgs_stop (rest : List PTok) (hf : FollowC rest) (F : Nat) :
    parseArgs (F + 1) rest = .ok (.nil, rest) := by
  rcases followA_cases hf.1 with rfl | ⟨tok, b', e', r, rfl, _⟩
  · rfl
  · simp [parseArgs, hf.2 tok rfl]

theorem parseCall_sym (s : Bytes) (b e : Nat) (ts : List PTok) (hf : FollowA ts) (F : Nat) :
    parseCall (F + 1) (⟨.sym s, b, e⟩ :: ts) =
      (parseArgs F ts).bind fun (args, r) => .ok (mkCall s b e args, r) := by
  rcases followA_cases hf with rfl | ⟨tok, b', e', r, rfl, hne⟩
  · rfl
  · cases tok with
    | p c => simp [parseCall, (hne c rfl).1]
    | _ => rfl

theorem pipeLoop_stop (left : PE) (rest : List PTok) (h : headTok rest ≠ some (.p 124)) (F : Nat) :
    pipeLoop (F + 1) left rest = .ok (left, rest) := by
  cases rest with
  | nil => rfl
  | cons x r =>
    obtain ⟨tok, b, e⟩ := x
    simp only [headTok_cons, ne_eq, Option.some.injEq] at h
    cases tok with
    | p c =>
      have hc : c ≠ 124 := fun hc => h (by rw [hc])
      simp [pipeLoop, hc]
    | _ => rfl

theorem ReadsPipe.reads {ts : List Tok} {x : SE} (h : ReadsPipe ts x) {pre : List PTok} (hpre : toksOf pre = ts)
    {rest : List PTok} (hr : FollowC rest) (hstop : headTok rest ≠ some (.p 124)) :
    ∃ pe, PE.strip pe = x ∧ Reads parsePipeline (pre ++ rest) pe rest :=
  (h pre hpre rest hr).imp fun pe hp => ⟨hp.1, hp.2 _ (.one (pipeLoop_stop pe rest hstop))⟩

theorem ReadsPipe.top {ts : List Tok} {x : SE} (h : ReadsPipe ts x) {pts : List PTok} (hpts : toksOf pts = ts) :
    ∃ pe, PE.strip pe = x ∧ Ev (fun F => parseTop F pts) (.ok pe) := by
  obtain ⟨pe, hs, hp⟩ := h.reads hpts followC_nil nofun
  rw [List.append_nil] at hp
  exact ⟨pe, hs, hp.bind (Ev.const _)⟩

theorem pipeline_close {ts : List Tok} {x : SE} (h : ReadsPipe ts x) (c : Nat) (hc : c = 41 ∨ c = 125)
    (inner : List PTok) (hin : toksOf inner = ts) (b e : Nat) (rest : List PTok) :
    ∃ pe, PE.strip pe = x ∧ Reads parsePipeline (inner ++ ⟨.p c, b, e⟩ :: rest) pe (⟨.p c, b, e⟩ :: rest) :=
  h.reads hin (followC_close c (hc.elim Or.inl fun h => Or.inr (Or.inl h)) b e rest)
    (by rw [headTok_cons]; simp only [ne_eq, Option.some.injEq, Tok.p.injEq]; omega)

theorem ReadsPipe.paren {ts : List Tok} {x : SE} (h : ReadsPipe ts x) :
    ReadsExpr ([Tok.p 40] ++ ts ++ [Tok.p 41]) x := by
  intro pre hpre rest _
  obtain ⟨b1, e1, inner, b2, e2, rfl, hin⟩ := toksOf_eq_bracket hpre
  obtain ⟨pe, hs, hp⟩ := pipeline_close h 41 (Or.inl rfl) inner hin b2 e2 rest
  refine ⟨fun _ => ⟨rfl, rfl⟩, pe, hs, Ev.of_succ ?_⟩
  simp only [List.cons_append, List.append_assoc, List.nil_append, parseExpr_group]
  exact hp.bind (Ev.const _)

theorem parseSymbols_head : ∀ (ps : List Bytes), ps ≠ [] → ∀ (pre : List PTok), toksOf pre = lambdaHead ps →
    ∀ (ab ae : Nat) (r : List PTok),
    ∃ b, Ev (fun F => parseSymbols F (pre ++ ⟨.arrow, ab, ae⟩ :: r)) (.ok (ps, b, ⟨.arrow, ab, ae⟩ :: r))
  | [], h, _, _, _, _, _ => absurd rfl h
  | [p], _, pre, hpre, ab, ae, r => by
    obtain ⟨b, e, rfl⟩ := toksOf_eq_single hpre
    exact ⟨b, .one fun F => rfl⟩
  | p :: p' :: ps, _, pre, hpre, ab, ae, r => by
    simp only [lambdaHead] at hpre
    obtain ⟨b1, e1, q1, rfl, h1⟩ := toksOf_eq_cons hpre
    obtain ⟨b2, e2, q2, rfl, h2⟩ := toksOf_eq_cons h1
    obtain ⟨b', h'⟩ := parseSymbols_head (p' :: ps) (by simp) q2 h2 ab ae r
    refine ⟨b1, Ev.of_succ ?_⟩
    simp only [List.cons_append, parseSymbols]
    exact h'.bind (Ev.const _)

theorem ReadsPipe.lambda {bt : List Tok} {x : SE} (h : ReadsPipe bt x) (ps : List Bytes) :
    ReadsExpr ([Tok.p 123] ++ lambdaHead ps ++ [Tok.arrow] ++ bt ++ [Tok.p 125]) (.lambda ps x) := by
  intro pre hpre rest _
  simp only [List.cons_append, List.nil_append, List.append_assoc] at hpre
  obtain ⟨b0, e0, q0, rfl, h0⟩ := toksOf_eq_cons hpre
  obtain ⟨hd, tl, rfl, hhd, htl⟩ := toksOf_eq_append h0
  obtain ⟨ab, ae, q1, rfl, h1⟩ := toksOf_eq_cons htl
  obtain ⟨bpre, close, rfl, hb, hcl⟩ := toksOf_eq_append h1
  obtain ⟨b2, e2, rfl⟩ := toksOf_eq_single hcl
  obtain ⟨peB, hs, hp⟩ := pipeline_close h 125 (Or.inr rfl) bpre hb b2 e2 rest
  cases ps with
  | nil =>
    have := toksOf_eq_nil hhd; subst this
    refine ⟨fun _ => ⟨rfl, rfl⟩, .mk (.lambda [] peB) peB.b peB.e, by simp only [PE.strip, PK.strip, hs],
      Ev.of_succ ?_⟩
    simp only [List.cons_append, List.append_assoc, List.nil_append, parseExpr_lambda0]
    exact hp.bind (Ev.const _)
  | cons p ps' =>
    obtain ⟨sb, hsym⟩ := parseSymbols_head (p :: ps') (by simp) hd hhd ab ae (bpre ++ [⟨.p 125, b2, e2⟩] ++ rest)
    -- `expression` looks past the first parameter: what follows it is `,` or `->`, not the `=` of a collection
    obtain ⟨sb', se', hd', rfl, hthird⟩ : ∃ sb' se' hd', hd = ⟨.sym p, sb', se'⟩ :: hd' ∧
        (hd' = [] ∨ ∃ cb ce hd'', hd' = ⟨.p 44, cb, ce⟩ :: hd'') := by
      cases ps' with
      | nil =>
        obtain ⟨sb', se', rfl⟩ := toksOf_eq_single hhd
        exact ⟨sb', se', [], rfl, Or.inl rfl⟩
      | cons p' ps'' =>
        simp only [lambdaHead] at hhd
        obtain ⟨sb', se', hd', rfl, hh⟩ := toksOf_eq_cons hhd
        obtain ⟨cb, ce, hd'', rfl, _⟩ := toksOf_eq_cons hh
        exact ⟨sb', se', _, rfl, Or.inr ⟨cb, ce, hd'', rfl⟩⟩
    refine ⟨fun _ => ⟨rfl, rfl⟩, .mk (.lambda (p :: ps') peB) sb peB.e, by simp only [PE.strip, PK.strip, hs],
      Ev.of_succ ?_⟩
    rcases hthird with rfl | ⟨cb, ce, hd'', rfl⟩ <;>
      simp only [List.cons_append, List.append_assoc, List.nil_append] at hsym ⊢
    · simp only [parseExpr_params _ _ _ _ _ _ _ (Or.inr rfl)]; exact hsym.bind (hp.bind (Ev.const _))
    · simp only [parseExpr_params _ _ _ _ _ _ _ (Or.inl rfl)]; exact hsym.bind (hp.bind (Ev.const _))

/-! ## the printer on the printable subset

`SE.toks` can fail, and takes its position as a flag. On printable expressions it is a pure function: `ptoks` at the
top level, `atoks` in argument position, where a call is the same tokens in parentheses. -/

theorem isSym_eq (f : SE) (h : isSym f = true) : ∃ s, f = .sym s := by
  cases f <;> simp_all [isSym]

def argParen (e : SE) (ts : List Tok) : List Tok :=
  match e with
  | .call _ _ _ => [.p 40] ++ ts ++ [.p 41]
  | _ => ts

mutual
/-- the tokens `SE.toks e true` writes for a printable `e` (`toks_eq`); statements about printed expressions are proved
by recursion over this function, which cannot fail and has no position flag -/
def ptoks : SE → List Tok
  | .sym s => [.sym s]
  | .lit l => l.toks
  | .lambda ps body => [.p 123] ++ lambdaHead ps ++ [.arrow] ++ ptoks body ++ [.p 125]
  | .call f .nil _ => ptoks f
  | .call f (.cons a as) false => ptoks f ++ ptoksArgs (.cons a as)
  | .call f (.cons a0 .nil) true => ptoks a0 ++ [.p 124] ++ pipedParen f (ptoks f)
  | .call f (.cons a0 (.cons a1 as)) true => ptoks a0 ++ [.p 124] ++ (ptoks f ++ ptoksArgs (.cons a1 as))
def ptoksArgs : SEL → List Tok
  | .nil => []
  | .cons e es => argParen e (ptoks e) ++ ptoksArgs es
end

abbrev atoks (e : SE) : List Tok := argParen e (ptoks e)

mutual
theorem toks_eq : ∀ (e : SE), e.printable esc = true → e.toks true = .ok (ptoks e) ∧ e.toks false = .ok (atoks e)
  | .sym s, _ => ⟨rfl, rfl⟩
  | .lit l, _ => ⟨rfl, rfl⟩
  | .lambda ps body, hp => by
    simp only [SE.printable, Bool.and_eq_true] at hp
    simp only [SE.toks, (toks_eq body hp.2).1, UR.ok_bind, ptoks, argParen, and_self]
  | .call f .nil false, hp => by
    simp only [SE.printable, Bool.and_eq_true] at hp
    obtain ⟨s, rfl⟩ := isSym_eq f hp.1.1
    exact ⟨rfl, rfl⟩
  | .call f (.cons a as) false, hp => by
    simp only [SE.printable, Bool.and_eq_true] at hp
    obtain ⟨s, rfl⟩ := isSym_eq f hp.1.1
    simp only [SE.toks, toksArgs_eq (.cons a as) hp.2, UR.ok_bind, ptoks, argParen, ↓reduceIte,
      Bool.false_eq_true, List.append_assoc, and_self]
  | .call _ .nil true, hp => by simp [SE.printable] at hp
  | .call f (.cons a0 .nil) true, hp => by
    simp only [SE.printable, Bool.and_eq_true] at hp
    simp only [SE.toks, (toks_eq a0 hp.2).1, (toks_eq f hp.1).1, UR.ok_bind, ptoks, argParen, ↓reduceIte,
      Bool.false_eq_true, List.append_assoc, and_self]
  | .call f (.cons a0 (.cons a1 as)) true, hp => by
    simp only [SE.printable, Bool.and_eq_true] at hp
    obtain ⟨s, rfl⟩ := isSym_eq f hp.1.1.1
    simp only [SE.toks, (toks_eq a0 hp.1.2).1, toksArgs_eq (.cons a1 as) hp.2, UR.ok_bind, ptoks, argParen,
      ↓reduceIte, Bool.false_eq_true, List.append_assoc, and_self]
theorem toksArgs_eq : ∀ (es : SEL), es.printable esc = true → es.toks = .ok (ptoksArgs es)
  | .nil, _ => rfl
  | .cons e es, hp => by
    simp only [SEL.printable, Bool.and_eq_true] at hp
    simp only [SEL.toks, (toks_eq e hp.1).2, toksArgs_eq es hp.2, UR.ok_bind, ptoksArgs]
end

theorem atoks_head (e : SE) (hp : e.printable esc = true) : ∃ t r, atoks e = t :: r ∧ argStart t = true := by
  cases e with
  | lit l =>
    cases l with
    | tag k v =>
      simp only [SE.printable, Lit.printable, Bool.and_eq_true] at hp
      simp only [atoks, argParen, ptoks, Lit.toks, tagToks_printable k v hp.1.2]
      rcases keyTok_cases k with hk | hk <;> rw [hk] <;> exact ⟨_, _, rfl, rfl⟩
    | _ => exact ⟨_, _, rfl, rfl⟩
  | _ => exact ⟨_, _, rfl, rfl⟩

/-- arguments, if there are any, start with the start of an argument -/
theorem followA_args (es : SEL) (hp : es.printable esc = true) (p2 rest : List PTok)
    (hp2 : toksOf p2 = ptoksArgs es) (hr : FollowA rest) : FollowA (p2 ++ rest) := by
  cases es with
  | nil => cases toksOf_eq_nil hp2; exact hr
  | cons e es =>
    simp only [SEL.printable, Bool.and_eq_true] at hp
    obtain ⟨t, r, h, hs⟩ := atoks_head e hp.1
    obtain ⟨b, e', q, rfl, _⟩ := toksOf_eq_cons (ts := r ++ ptoksArgs es)
      (hp2.trans (by rw [ptoksArgs, show argParen e (ptoks e) = _ from h]; rfl))
    exact followA_of_argStart t b e' _ hs

theorem readsCall_sym (s : Bytes) : ReadsCall [.sym s] (.call (.sym s) .nil false) := by
  intro pre hpre rest hr
  obtain ⟨b, e, rfl⟩ := toksOf_eq_single hpre
  refine ⟨mkCall s b e .nil, rfl, Ev.of_succ ?_⟩
  simp only [List.cons_append, List.nil_append, parseCall_sym s b e rest hr.1]
  exact Ev.bind (.one (parseArgs_stop rest hr)) (Ev.const _)

theorem readsArg_sym (s : Bytes) : ReadsArg [.sym s] (.sym s) := by
  intro pre hpre rest hr
  obtain ⟨b, e, rfl⟩ := toksOf_eq_single hpre
  exact ⟨.mk (.sym s) b e, rfl, .one (parseArg_sym s b e rest hr)⟩

/-- only a bare symbol is read differently as an argument and as a call -/
theorem normA_call (f : SE) (args : SEL) (p : Bool) : (SE.call f args p).normA = (SE.call f args p).normC := by
  cases args with
  | nil => cases p <;> rfl
  | cons a as =>
    cases p with
    | false => rfl
    | true => cases as <;> rfl

theorem ReadsPipe.argCall {f : SE} {as : SEL} {p : Bool} (h : ReadsPipe (ptoks (.call f as p)) (SE.call f as p).normC) :
    ReadsArg (atoks (.call f as p)) (SE.call f as p).normA :=
  normA_call f as p ▸ h.paren.arg

theorem call_reads (s : Bytes) (a : SE) (as : SEL) (hp : (SEL.cons a as).printable esc = true)
    (hArgs : ReadsArgs (ptoksArgs (.cons a as)) (SEL.cons a as).normA) :
    ReadsCall ([Tok.sym s] ++ ptoksArgs (.cons a as)) (.call (.sym s) (SEL.cons a as).normA false) := by
  intro pre hpre rest hr
  obtain ⟨b, e, apre, rfl, hap⟩ := toksOf_eq_cons hpre
  obtain ⟨pels, hs, h⟩ := hArgs apre hap rest hr
  refine ⟨mkCall s b e pels, by simp only [mkCall, PE.strip, PK.strip, hs], Ev.of_succ ?_⟩
  simp only [List.cons_append, parseCall_sym s b e _ (followA_args _ hp apre rest hap hr.1)]
  exact h.bind (Ev.const _)

theorem ReadsPipe.pipe {lhs rhs : List Tok} {x y : SE} (h0 : ReadsPipe lhs x) (hR : ReadsCall rhs y) :
    ReadsPipe (lhs ++ [Tok.p 124] ++ rhs) (.call y (.cons x .nil) true) := by
  intro pre hpre rest hr
  simp only [List.append_assoc, List.cons_append, List.nil_append] at hpre
  obtain ⟨p0, p1, rfl, hp0, hp1⟩ := toksOf_eq_append hpre
  obtain ⟨bo, eo, rpre, rfl, hrp⟩ := toksOf_eq_cons hp1
  obtain ⟨pe0, hs0, h0⟩ := h0 p0 hp0 (⟨.p 124, bo, eo⟩ :: (rpre ++ rest))
    (followC_close 124 (Or.inr (Or.inr rfl)) bo eo _)
  obtain ⟨peR, hsR, hR⟩ := hR rpre hrp rest hr
  refine ⟨mkPipe pe0 peR, by simp only [mkPipe, PE.strip, PK.strip, PEL.strip, hs0, hsR], fun v hv => ?_⟩
  simp only [List.append_assoc, List.cons_append]
  refine h0 v (Ev.of_succ ?_)
  simp only [pipeLoop]
  exact hR.bind hv

def notPiped : SE → Bool
  | .call _ _ true => false
  | _ => true

/-- how the parser reads a printed `e` in each of the three grammar positions -/
structure ReadsSE (e : SE) : Prop where
  arg : ReadsArg (atoks e) e.normA
  call : notPiped e = true → ReadsCall (ptoks e) e.normC
  pipe : ReadsPipe (ptoks e) e.normC

theorem pipedParen_reads (f : SE) (h : ReadsSE f) : ReadsCall (pipedParen f (ptoks f)) f.normC := by
  cases f with
  | call g gs gp =>
    cases gp with
    | true => exact h.pipe.paren.call
    | false => exact h.call rfl
  | _ => exact h.call rfl

mutual
theorem readsSE : ∀ (e : SE), e.printable esc = true → ReadsSE e
  | .sym s, _ => ⟨readsArg_sym s, fun _ => readsCall_sym s, (readsCall_sym s).pipe⟩
  | .lit l, hp =>
    have h := lit_reads l (by simpa only [SE.printable] using hp)
    ⟨h.arg, fun _ => h.call, h.call.pipe⟩
  | .lambda ps body, hp => by
    simp only [SE.printable, Bool.and_eq_true] at hp
    have h : ReadsExpr (ptoks (.lambda ps body)) (SE.lambda ps body).normC := by
      simpa only [ptoks, SE.normC] using (readsSE body hp.2).pipe.lambda ps
    exact ⟨h.arg, fun _ => h.call, h.call.pipe⟩
  | .call f .nil false, hp => by
    simp only [SE.printable, Bool.and_eq_true] at hp
    obtain ⟨s, rfl⟩ := isSym_eq f hp.1.1
    exact ⟨ReadsPipe.argCall (f := .sym s) (as := .nil) (p := false) (readsCall_sym s).pipe, fun _ => readsCall_sym s,
      (readsCall_sym s).pipe⟩
  | .call f (.cons a as) false, hp => by
    simp only [SE.printable, Bool.and_eq_true] at hp
    obtain ⟨s, rfl⟩ := isSym_eq f hp.1.1
    have hC : ReadsCall (ptoks (.call (.sym s) (.cons a as) false)) (SE.call (.sym s) (.cons a as) false).normC := by
      simpa only [ptoks, SE.normC, SE.normA] using call_reads s a as hp.2 (readsArgs (.cons a as) hp.2)
    exact ⟨hC.pipe.argCall, fun _ => hC, hC.pipe⟩
  | .call _ .nil true, hp => by simp [SE.printable] at hp
  | .call f (.cons a0 .nil) true, hp => by
    simp only [SE.printable, Bool.and_eq_true] at hp
    have hP : ReadsPipe (ptoks (.call f (.cons a0 .nil) true)) (SE.call f (.cons a0 .nil) true).normC := by
      simpa only [ptoks, SE.normC] using (readsSE a0 hp.2).pipe.pipe (pipedParen_reads f (readsSE f hp.1))
    exact ⟨hP.argCall, fun h => by simp [notPiped] at h, hP⟩
  | .call f (.cons a0 (.cons a1 as)) true, hp => by
    simp only [SE.printable, Bool.and_eq_true] at hp
    obtain ⟨s, rfl⟩ := isSym_eq f hp.1.1.1
    have hP : ReadsPipe (ptoks (.call (.sym s) (.cons a0 (.cons a1 as)) true))
        (SE.call (.sym s) (.cons a0 (.cons a1 as)) true).normC := by
      simpa only [ptoks, SE.normC, SE.normA] using
        (readsSE a0 hp.1.2).pipe.pipe (call_reads s a1 as hp.2 (readsArgs (.cons a1 as) hp.2))
    exact ⟨hP.argCall, fun h => by simp [notPiped] at h, hP⟩
theorem readsArgs : ∀ (es : SEL), es.printable esc = true → ReadsArgs (ptoksArgs es) es.normA
  | .nil, _ => by
    intro pre hpre rest hr
    have := toksOf_eq_nil hpre; subst this
    exact ⟨.nil, rfl, .one (parseArgs_stop rest hr)⟩
  | .cons e es, hp => by
    simp only [SEL.printable, Bool.and_eq_true] at hp
    intro pre hpre rest hr
    obtain ⟨p1, p2, rfl, hp1, hp2⟩ := toksOf_eq_append hpre
    obtain ⟨pe, hs1, h1⟩ := (readsSE e hp.1).arg p1 hp1 (p2 ++ rest) (followA_args es hp.2 p2 rest hp2 hr.1)
    obtain ⟨pels, hs2, h2⟩ := readsArgs es hp.2 p2 hp2 rest hr
    -- the first token of the whole list starts an argument
    obtain ⟨t, r, hhead, hstart⟩ := atoks_head e hp.1
    obtain ⟨b0, e0, q0, hp1c⟩ : ∃ b0 e0 q0, p1 = ⟨t, b0, e0⟩ :: q0 :=
      (toksOf_eq_cons (hp1.trans hhead)).elim fun b0 h => h.elim fun e0 h => h.elim fun q0 h => ⟨b0, e0, q0, h.1⟩
    refine ⟨.cons pe pels, by simp only [PEL.strip, hs1, hs2, SEL.normA], Ev.of_succ ?_⟩
    have hcons : (p1 ++ p2) ++ rest = ⟨t, b0, e0⟩ :: (q0 ++ (p2 ++ rest)) := by rw [hp1c]; simp
    rw [hcons]
    simp only [parseArgs, hstart, ↓reduceIte]
    rw [← hcons, List.append_assoc]
    exact h1.bind (h2.bind (Ev.const _))
end

/-- `readsArgs` with the printer `SEL.toks` and the bound on the fuel written out -/
def StmtArgs (es : SEL) : Prop :=
  ∀ ts, es.toks = .ok ts → ∀ pre, toksOf pre = ts → ∀ rest, FollowC rest →
    ∃ n pels, PEL.strip pels = es.normA ∧ ∀ F, parseArgs (F + n) (pre ++ rest) = .ok (pels, rest)

theorem sel_all : ∀ (es : SEL), es.printable esc = true → StmtArgs es :=
  fun es hp ts hts pre hpre rest hr => by
    cases (toksArgs_eq es hp).symm.trans hts
    exact (readsArgs es hp pre hpre rest hr).elim fun pels h => h.2.elim fun n hn => ⟨n, pels, h.1, hn⟩

end B6.Lemmas.Shell
