import B6.Model.Validator
import B6.Lemmas.Basic.List
/-!
C36, about `Model/Validator.lean` (the validator as a fold over an arrival order; the lemma files `Validator.lean` and
`ValidatorUniq.lean` are about another model, the structure `Validator` of `Model/Validate.lean`, C37): what it emits,
as a multiset, is the specification (`run_perm_spec`), for every arrival order with distinct path ids; two orders of the
same arrivals have the same specification (`spec_perm`). `validateArea` / `validateQueue` are given in closed form (`mark`, `classify`);
`classify` looks only at the known part of the map, which the `unknown` marks leave alone. `Inv` is the
invariant of the fold.
-/
namespace B6.Lemmas.ValidatorPerm
open B6.Model.Validator

/-! ## closed form of `validateArea` -/

def isBad (o : Option St) : Bool := o == some .invalid || o == some .validNotLoop
def isPending (o : Option St) : Bool := o == none || o == some .unknown

def areaBad (m : PMap) (ps : List Nat) : Bool := ps.any fun p => isBad (m p)
def areaPending (m : PMap) (ps : List Nat) : Bool := ps.any fun p => isPending (m p)

/-- the state `validateArea` computes, as a function of the map alone -/
def classify (m : PMap) (ps : List Nat) : St :=
  if areaBad m ps then .invalid else if areaPending m ps then .unknown else .valid

/-- the marking `validateArea` leaves behind -/
def mark (m : PMap) (ps : List Nat) : PMap := fun x => if m x = none ∧ x ∈ ps then some .unknown else m x

/-- forget the `unknown` marks -/
def known : Option St → Option St
  | some .unknown => none
  | x => x

theorem isBad_known (o : Option St) : isBad (known o) = isBad o := by
  cases o with
  | none => rfl
  | some s => cases s <;> rfl

theorem isPending_known (o : Option St) : isPending (known o) = isPending o := by
  cases o with
  | none => rfl
  | some s => cases s <;> rfl

theorem classify_congr (m m' : PMap) (ps : List Nat)
    (hb : ∀ x ∈ ps, isBad (m' x) = isBad (m x)) (hp : ∀ x ∈ ps, isPending (m' x) = isPending (m x)) :
    classify m' ps = classify m ps := by
  have e1 : areaBad m' ps = areaBad m ps := Basic.any_congr_mem hb
  have e2 : areaPending m' ps = areaPending m ps := Basic.any_congr_mem hp
  simp [classify, e1, e2]

theorem classify_known (m m' : PMap) (ps : List Nat) (h : ∀ x, known (m' x) = known (m x)) :
    classify m' ps = classify m ps :=
  classify_congr m m' ps (fun x _ => by rw [← isBad_known, h, isBad_known])
    (fun x _ => by rw [← isPending_known, h, isPending_known])

theorem known_mark (m : PMap) (ps : List Nat) (x : Nat) : known (mark m ps x) = known (m x) := by
  unfold mark; split
  · rename_i h; simp [known, h.1]
  · rfl

def markAll (m : PMap) : List (Nat × List Nat) → PMap
  | [] => m
  | (_, ps) :: rest => markAll (mark m ps) rest

theorem known_markAll (q : List (Nat × List Nat)) : ∀ (m : PMap) (x : Nat), known (markAll m q x) = known (m x) := by
  induction q with
  | nil => intro m x; rfl
  | cons a t ih => intro m x; obtain ⟨a1, ps⟩ := a; simp [markAll, ih, known_mark]

theorem classify_mark (m : PMap) (qs ps : List Nat) : classify (mark m qs) ps = classify m ps :=
  classify_known m _ ps (known_mark m qs)

def classOne (o : Option St) : St := if isBad o then .invalid else if isPending o then .unknown else .valid

def join (s c : St) : St :=
  if s = .invalid ∨ c = .invalid then .invalid else if s = .unknown ∨ c = .unknown then .unknown else .valid

theorem areaStep_eq (m : PMap) (s : St) (p : Nat) (hs : s ≠ .validNotLoop) :
    areaStep (m, s) p = (mark m [p], join s (classOne (m p))) := by
  unfold areaStep
  dsimp only
  cases h : m p with
  | none =>
    have : setP m p .unknown = mark m [p] := by
      funext x
      by_cases hx : x = p
      · subst hx; simp [setP, mark, h]
      · simp [setP, mark, hx]
    rw [← this]
    cases s <;> first | rfl | exact absurd rfl hs
  | some s' =>
    have : mark m [p] = m := by
      funext x
      by_cases hx : x = p
      · subst hx; simp [mark, h]
      · simp [mark, hx]
    rw [this]
    cases s' <;> cases s <;> first | rfl | exact absurd rfl hs

theorem join_ne_notLoop (s c : St) : join s c ≠ .validNotLoop := by
  unfold join
  split
  · simp
  · split <;> simp

theorem mark_cons (m : PMap) (p : Nat) (ps : List Nat) : mark (mark m [p]) ps = mark m (p :: ps) := by
  funext x
  unfold mark
  by_cases h2 : x = p
  · subst h2
    by_cases h1 : m x = none <;> simp [h1]
  · by_cases h1 : m x = none <;> simp [h1, h2]

theorem join_ite (a b c d : Bool) :
    join (if a then .invalid else if b then .unknown else .valid) (if c then .invalid else if d then .unknown else .valid) =
      if (a || c) then .invalid else if (b || d) then .unknown else .valid := by
  cases a <;> cases b <;> cases c <;> cases d <;> rfl

theorem classify_cons (m : PMap) (p : Nat) (ps : List Nat) :
    classify m (p :: ps) = join (classOne (m p)) (classify m ps) :=
  (join_ite (isBad (m p)) (isPending (m p)) (areaBad m ps) (areaPending m ps)).symm

theorem join_assoc (a b c : St) (ha : a ≠ .validNotLoop) : join (join a b) c = join a (join b c) := by
  cases a <;> (try exact absurd rfl ha) <;> cases b <;> cases c <;> rfl

theorem foldl_areaStep (ps : List Nat) : ∀ (m : PMap) (s : St), s ≠ .validNotLoop →
    ps.foldl areaStep (m, s) = (mark m ps, join s (classify m ps)) := by
  induction ps with
  | nil =>
    intro m s hs
    have : mark m [] = m := by funext x; simp [mark]
    cases s <;> simp_all [classify, areaBad, areaPending, join]
  | cons p rest ih =>
    intro m s hs
    rw [List.foldl_cons, areaStep_eq m s p hs, ih _ _ (join_ne_notLoop _ _), mark_cons, classify_mark,
      classify_cons, join_assoc _ _ _ hs]

theorem classify_ne_notLoop (m : PMap) (ps : List Nat) : classify m ps ≠ .validNotLoop := by
  unfold classify
  split
  · simp
  · split <;> simp

theorem join_valid (c : St) (hc : c ≠ .validNotLoop) : join .valid c = c := by
  cases c <;> simp_all [join]

theorem validateArea_eq (m : PMap) (ps : List Nat) : validateArea m ps = (mark m ps, classify m ps) := by
  unfold validateArea
  rw [foldl_areaStep ps m .valid (by simp), join_valid _ (classify_ne_notLoop m ps)]

/-! ## closed form of `validateQueue` -/

theorem classify_markAll (m : PMap) (q : List (Nat × List Nat)) (ps : List Nat) :
    classify (markAll m q) ps = classify m ps :=
  classify_known m _ ps (known_markAll q m)

def toOut (a : Nat × List Nat) : Out := Out.area a.1 a.2

theorem validateQueue_eq (q : List (Nat × List Nat)) : ∀ (m : PMap),
    validateQueue m q =
      (markAll m q, q.filter (fun a => classify m a.2 = .unknown),
        (q.filter (fun a => classify m a.2 = .valid)).map toOut) := by
  induction q with
  | nil => intro m; rfl
  | cons a t ih =>
    intro m
    obtain ⟨a1, ps⟩ := a
    simp only [validateQueue, validateArea_eq, ih]
    have hc : ∀ b : Nat × List Nat, classify (mark m ps) b.2 = classify m b.2 := fun b => classify_mark m ps b.2
    simp only [hc, markAll]
    cases h : classify m ps <;> simp [h, toOut]

/-! ## the projections of an arrival list are `filterMap`s (`verdict`: a `findSome?`), so they distribute over append -/

theorem pathIds_eq_filterMap (arr : List Arrival) :
    pathIds arr = arr.filterMap (fun a => match a with | .path id _ => some id | .area _ _ => none) := by
  induction arr with
  | nil => rfl
  | cons a t ih => cases a <;> simp [pathIds, ih]

theorem areasOf_eq_filterMap (arr : List Arrival) :
    areasOf arr = arr.filterMap (fun a => match a with | .path _ _ => none | .area a ps => some (a, ps)) := by
  induction arr with
  | nil => rfl
  | cons a t ih => cases a <;> simp [areasOf, ih]

theorem emittedPaths_eq_filterMap (arr : List Arrival) :
    emittedPaths arr = arr.filterMap (fun a => match a with
      | .path id v => if v = .invalid then none else some (Out.path id) | .area _ _ => none) := by
  induction arr with
  | nil => rfl
  | cons a t ih =>
    cases a with
    | path id v => by_cases h : v = .invalid <;> simp [emittedPaths, h, ih]
    | area a ps => simp [emittedPaths, ih]

theorem pathIds_append (l1 l2 : List Arrival) : pathIds (l1 ++ l2) = pathIds l1 ++ pathIds l2 := by
  simp only [pathIds_eq_filterMap, List.filterMap_append]

theorem areasOf_append (l1 l2 : List Arrival) : areasOf (l1 ++ l2) = areasOf l1 ++ areasOf l2 := by
  simp only [areasOf_eq_filterMap, List.filterMap_append]

theorem emittedPaths_append (l1 l2 : List Arrival) : emittedPaths (l1 ++ l2) = emittedPaths l1 ++ emittedPaths l2 := by
  simp only [emittedPaths_eq_filterMap, List.filterMap_append]

theorem verdict_eq_findSome? (arr : List Arrival) (k : Nat) :
    verdict arr k = arr.findSome? (fun a => match a with
      | .path id v => if id = k then some v else none | .area _ _ => none) := by
  induction arr with
  | nil => rfl
  | cons a t ih =>
    cases a with
    | path id v => by_cases h : id = k <;> simp [verdict, h, ih]
    | area a ps => simp [verdict, ih]

theorem verdict_append (l1 l2 : List Arrival) (k : Nat) :
    verdict (l1 ++ l2) k = (verdict l1 k).or (verdict l2 k) := by
  simp only [verdict_eq_findSome?, List.findSome?_append]

theorem verdict_none_of_not_mem (l : List Arrival) (k : Nat) (h : k ∉ pathIds l) : verdict l k = none := by
  fun_induction verdict l k with
  | case1 => rfl
  | case2 v rest k => exact absurd List.mem_cons_self h
  | case3 id v rest k hk ih => exact ih fun hm => h (List.mem_cons_of_mem _ hm)
  | case4 a ps rest k ih => exact ih h

theorem verdict_snoc_area (pre : List Arrival) (a : Nat) (ps : List Nat) :
    verdict (pre ++ [Arrival.area a ps]) = verdict pre := by
  funext k
  rw [verdict_append]
  cases verdict pre k <;> simp [verdict]

theorem verdict_snoc_path (pre : List Arrival) (id : Nat) (pv : PV) (h : verdict pre id = none) (k : Nat) :
    verdict (pre ++ [Arrival.path id pv]) k = if k = id then some pv else verdict pre k := by
  rw [verdict_append]
  by_cases hk : k = id
  · subst hk; simp [h, verdict]
  · cases verdict pre k <;> simp [verdict, hk, Ne.symm hk]

/-! ## two arrival orders of the same arrivals have the same specification -/

theorem pathIds_perm {arr arr' : List Arrival} (hp : arr.Perm arr') : (pathIds arr).Perm (pathIds arr') := by
  rw [pathIds_eq_filterMap, pathIds_eq_filterMap]; exact hp.filterMap _

theorem mem_pathIds {arr : List Arrival} {k : Nat} {v : PV} (h : Arrival.path k v ∈ arr) : k ∈ pathIds arr := by
  rw [pathIds_eq_filterMap]; exact List.mem_filterMap.mpr ⟨_, h, rfl⟩

theorem verdict_eq_some_iff (arr : List Arrival) (hnd : (pathIds arr).Nodup) (k : Nat) (v : PV) :
    verdict arr k = some v ↔ Arrival.path k v ∈ arr := by
  fun_induction verdict arr k with
  | case1 => simp
  | case2 w rest k =>
    rw [Option.some.injEq, List.mem_cons, Arrival.path.injEq]
    exact ⟨fun h => .inl ⟨rfl, h.symm⟩, fun h => h.elim (fun e => e.2.symm) fun h =>
      absurd (mem_pathIds h) (List.nodup_cons.mp hnd).1⟩
  | case3 id w rest k hid ih =>
    rw [ih (List.nodup_cons.mp hnd).2, List.mem_cons, Arrival.path.injEq]
    exact ⟨.inr, fun h => h.resolve_left fun e => hid e.1.symm⟩
  | case4 a ps rest k ih => simpa using ih hnd

theorem verdict_perm (arr arr' : List Arrival) (hp : arr.Perm arr') (hnd : (pathIds arr).Nodup) :
    verdict arr = verdict arr' := by
  funext k
  exact Option.ext fun v => by
    rw [verdict_eq_some_iff arr hnd, verdict_eq_some_iff arr' ((pathIds_perm hp).nodup_iff.mp hnd), hp.mem_iff]

theorem spec_perm (arr arr' : List Arrival) (hp : arr.Perm arr') (hnd : (pathIds arr).Nodup) :
    (spec arr).Perm (spec arr') := by
  unfold spec
  rw [← verdict_perm arr arr' hp hnd]
  apply List.Perm.append
  · rw [emittedPaths_eq_filterMap, emittedPaths_eq_filterMap]; exact hp.filterMap _
  · apply List.Perm.map
    apply List.Perm.filter
    rw [areasOf_eq_filterMap, areasOf_eq_filterMap]; exact hp.filterMap _

theorem mem_spec_area (arr : List Arrival) (a : Nat) (ps : List Nat) (h : Out.area a ps ∈ spec arr) :
    (a, ps) ∈ areasOf arr := by
  unfold spec at h
  rw [List.mem_append] at h
  cases h with
  | inl h =>
    exfalso
    rw [emittedPaths_eq_filterMap, List.mem_filterMap] at h
    obtain ⟨x, _, hx⟩ := h
    cases x with
    | path id v => by_cases hv : v = .invalid <;> simp [hv] at hx
    | area _ _ => simp at hx
  | inr h =>
    rw [List.mem_map] at h
    obtain ⟨b, hb, hbe⟩ := h
    have := (List.mem_filter.mp hb).1
    simp only [Out.area.injEq] at hbe
    obtain ⟨b1, b2⟩ := b
    simp only at hbe
    rw [← hbe.1, ← hbe.2]; exact this

/-! ## the invariant of the validator fold -/

/-- the verdicts seen so far, as a path-state map -/
def vmap (f : Nat → Option PV) : PMap := fun p => (f p).map PV.toSt

/-- classification of an area against the verdicts of the arrivals `pre` -/
def cls (pre : List Arrival) (ps : List Nat) : St := classify (vmap (verdict pre)) ps

structure Inv (pre : List Arrival) (v : V) (out : List Out) : Prop where
  verdicts : ∀ p, known (v.paths p) = vmap (verdict pre) p
  marked : ∀ a ∈ areasOf pre, ∀ p ∈ a.2, v.paths p ≠ none
  queue : v.queue = (areasOf pre).filter (fun a => cls pre a.2 = .unknown)
  emitted : out.Perm (emittedPaths pre ++ ((areasOf pre).filter (fun a => cls pre a.2 = .valid)).map toOut)

theorem toSt_ne_unknown (pv : PV) : pv.toSt ≠ .unknown := by cases pv <;> simp [PV.toSt]

theorem known_vmap (f : Nat → Option PV) (p : Nat) : known (vmap f p) = vmap f p := by
  unfold vmap
  cases hf : f p with
  | none => rfl
  | some pv => cases pv <;> rfl

theorem classify_of_known (m : PMap) (pre : List Arrival) (h : ∀ p, known (m p) = vmap (verdict pre) p)
    (ps : List Nat) : classify m ps = cls pre ps :=
  classify_known _ m ps fun x => (h x).trans (known_vmap _ x).symm

theorem mark_ne_none (m : PMap) (ps : List Nat) (x : Nat) (h : m x ≠ none) : mark m ps x ≠ none := by
  unfold mark; split
  · simp
  · exact h

theorem markAll_ne_none (q : List (Nat × List Nat)) : ∀ (m : PMap) (x : Nat), m x ≠ none → markAll m q x ≠ none := by
  induction q with
  | nil => intro m x h; exact h
  | cons a t ih => intro m x h; obtain ⟨a1, ps⟩ := a; exact ih _ _ (mark_ne_none m ps x h)

theorem mark_mem_ne_none (m : PMap) (ps : List Nat) (x : Nat) (h : x ∈ ps) : mark m ps x ≠ none := by
  unfold mark
  by_cases hm : m x = none
  · simp [hm, h]
  · simp [hm]

/-! ### an area arrives -/

theorem cls_snoc_area (pre : List Arrival) (a : Nat) (ps qs : List Nat) :
    cls (pre ++ [Arrival.area a ps]) qs = cls pre qs := by
  unfold cls; rw [verdict_snoc_area]

theorem inv_area (pre : List Arrival) (v : V) (out : List Out) (a : Nat) (ps : List Nat) (h : Inv pre v out) :
    Inv (pre ++ [Arrival.area a ps]) (step v (.area a ps)).1 (out ++ (step v (.area a ps)).2) := by
  have hcl : classify v.paths ps = cls pre ps := classify_of_known v.paths pre h.verdicts ps
  have hA : areasOf (pre ++ [Arrival.area a ps]) = areasOf pre ++ [(a, ps)] := by
    rw [areasOf_append]; rfl
  have hE : emittedPaths (pre ++ [Arrival.area a ps]) = emittedPaths pre := by
    rw [emittedPaths_append]; simp [emittedPaths]
  have hc : ∀ qs, cls (pre ++ [Arrival.area a ps]) qs = cls pre qs := cls_snoc_area pre a ps
  have key : ∀ (v' : V) (o' : List Out), v'.paths = mark v.paths ps →
      v'.queue = (if cls pre ps = .unknown then v.queue ++ [(a, ps)] else v.queue) →
      o' = (if cls pre ps = .valid then [Out.area a ps] else []) →
      Inv (pre ++ [Arrival.area a ps]) v' (out ++ o') := by
    intro v' o' hp hq ho
    constructor
    · intro p
      rw [hp, known_mark, verdict_snoc_area]
      exact h.verdicts p
    · intro b hb p hpm
      rw [hp]
      rw [hA, List.mem_append] at hb
      cases hb with
      | inl hb => exact mark_ne_none _ _ _ (h.marked b hb p hpm)
      | inr hb =>
        simp only [List.mem_singleton] at hb
        subst hb
        exact mark_mem_ne_none _ _ _ hpm
    · rw [hq, hA, List.filter_append]
      simp only [hc]
      by_cases hs : cls pre ps = .unknown
      · simp [hs, h.queue]
      · simp [hs, h.queue]
    · rw [ho, hA, hE, List.filter_append, List.map_append]
      simp only [hc]
      by_cases hs : cls pre ps = .valid
      · simp only [hs, ite_true, List.filter_cons, List.filter_nil, decide_true, List.map_cons, List.map_nil, toOut]
        rw [← List.append_assoc]
        exact List.Perm.append_right _ h.emitted
      · simp only [hs, ite_false, List.filter_cons, List.filter_nil, decide_false, Bool.false_eq_true,
          List.map_nil, List.append_nil]
        exact h.emitted
  simp only [step, validateArea_eq, hcl]
  cases hs : cls pre ps <;> exact key _ _ rfl (by simp [hs]) (by simp [hs])

/-! ### a path arrives -/

theorem filter_split {α} (l : List α) (p q r : α → Bool) (h1 : ∀ x, p x = true → r x = true)
    (h2 : ∀ x, r x = true → p x = true ∨ q x = true) (h3 : ∀ x, p x = true → q x = false) :
    (l.filter r).Perm (l.filter p ++ (l.filter q).filter r) := by
  have e1 : (l.filter r).filter p = l.filter p := by
    rw [List.filter_filter]
    exact List.filter_congr fun x _ => by cases hp : p x <;> simp [h1 x, hp]
  have e2 : (l.filter r).filter (fun x => !p x) = (l.filter q).filter r := by
    rw [List.filter_filter, List.filter_filter]
    refine List.filter_congr fun x _ => ?_
    cases hp : p x
    · cases hr : r x
      · rfl
      · simpa [hp] using h2 x hr
    · simp [h3 x hp]
  rw [← e1, ← e2]
  exact (List.filter_append_perm p _).symm

theorem vmap_snoc_path (pre : List Arrival) (id : Nat) (pv : PV) (hnew : verdict pre id = none) (x : Nat) :
    vmap (verdict (pre ++ [Arrival.path id pv])) x = if x = id then some pv.toSt else vmap (verdict pre) x := by
  unfold vmap
  rw [verdict_snoc_path pre id pv hnew]
  by_cases hx : x = id <;> simp [hx]

theorem cls_snoc_path_not_mem (pre : List Arrival) (id : Nat) (pv : PV) (hnew : verdict pre id = none)
    (ps : List Nat) (h : id ∉ ps) : cls (pre ++ [Arrival.path id pv]) ps = cls pre ps := by
  unfold cls
  apply classify_congr <;>
  · intro x hx
    have : x ≠ id := fun e => h (e ▸ hx)
    rw [vmap_snoc_path pre id pv hnew]
    simp [this]

theorem isBad_mono (pre : List Arrival) (id : Nat) (pv : PV) (hnew : verdict pre id = none) (x : Nat)
    (h : isBad (vmap (verdict pre) x) = true) : isBad (vmap (verdict (pre ++ [Arrival.path id pv])) x) = true := by
  rw [vmap_snoc_path pre id pv hnew]
  by_cases hx : x = id
  · subst hx; simp [vmap, hnew, isBad] at h
  · simpa [hx] using h

theorem isPending_anti (pre : List Arrival) (id : Nat) (pv : PV) (hnew : verdict pre id = none) (x : Nat)
    (h : isPending (vmap (verdict (pre ++ [Arrival.path id pv])) x) = true) : isPending (vmap (verdict pre) x) = true := by
  rw [vmap_snoc_path pre id pv hnew] at h
  by_cases hx : x = id
  · subst hx; simp [vmap, hnew, isPending]
  · simpa [hx] using h

theorem any_mono {f g : Nat → Bool} (ps : List Nat) (h : ∀ x, f x = true → g x = true) (hf : ps.any f = true) :
    ps.any g = true := by
  rw [List.any_eq_true] at *
  obtain ⟨x, hx, hfx⟩ := hf
  exact ⟨x, hx, h x hfx⟩

theorem cls_cases (pre : List Arrival) (ps : List Nat) :
    (cls pre ps = .invalid ↔ areaBad (vmap (verdict pre)) ps = true) ∧
    (cls pre ps = .unknown ↔ areaBad (vmap (verdict pre)) ps = false ∧ areaPending (vmap (verdict pre)) ps = true) ∧
    (cls pre ps = .valid ↔ areaBad (vmap (verdict pre)) ps = false ∧ areaPending (vmap (verdict pre)) ps = false) := by
  unfold cls classify
  cases areaBad (vmap (verdict pre)) ps <;> cases areaPending (vmap (verdict pre)) ps <;> simp

/-- when a path arrives: an area that was valid stays valid; one that is unknown afterwards was unknown; one that is
valid afterwards was valid or unknown -/
theorem cls_snoc_path_mono (pre : List Arrival) (id : Nat) (pv : PV) (hnew : verdict pre id = none) (ps : List Nat) :
    (cls pre ps = .valid → cls (pre ++ [Arrival.path id pv]) ps = .valid) ∧
    (cls (pre ++ [Arrival.path id pv]) ps = .unknown → cls pre ps = .unknown) ∧
    (cls (pre ++ [Arrival.path id pv]) ps = .valid → cls pre ps = .valid ∨ cls pre ps = .unknown) := by
  -- a path that was bad stays bad, so an area that is not bad afterwards was not bad before
  have not_bad : areaBad (vmap (verdict (pre ++ [Arrival.path id pv]))) ps = false →
      areaBad (vmap (verdict pre)) ps = false := fun hb =>
    Bool.eq_false_iff.mpr fun hb1 => Bool.false_ne_true (hb.symm.trans (any_mono ps (isBad_mono pre id pv hnew) hb1))
  have pend_anti : areaPending (vmap (verdict (pre ++ [Arrival.path id pv]))) ps = true →
      areaPending (vmap (verdict pre)) ps = true :=
    any_mono ps (fun x => isPending_anti pre id pv hnew x)
  obtain ⟨i1, u1, v1⟩ := cls_cases pre ps
  obtain ⟨i2, u2, v2⟩ := cls_cases (pre ++ [Arrival.path id pv]) ps
  refine ⟨?_, ?_, ?_⟩
  · intro h
    obtain ⟨hb, hp⟩ := v1.mp h
    -- not pending before: every verdict is there, and none of the ids is the new one
    have hnot : id ∉ ps := by
      intro hmem
      have : areaPending (vmap (verdict pre)) ps = true := by
        unfold areaPending
        rw [List.any_eq_true]
        exact ⟨id, hmem, by simp [vmap, hnew, isPending]⟩
      simp [this] at hp
    rw [cls_snoc_path_not_mem pre id pv hnew ps hnot]; exact h
  · intro h
    obtain ⟨hb, hp⟩ := u2.mp h
    exact u1.mpr ⟨not_bad hb, pend_anti hp⟩
  · intro h
    obtain ⟨hb, hp⟩ := v2.mp h
    cases hp1 : areaPending (vmap (verdict pre)) ps with
    | false => exact Or.inl (v1.mpr ⟨not_bad hb, hp1⟩)
    | true => exact Or.inr (u1.mpr ⟨not_bad hb, hp1⟩)

theorem emittedPaths_snoc_path (pre : List Arrival) (id : Nat) (pv : PV) :
    emittedPaths (pre ++ [Arrival.path id pv]) = emittedPaths pre ++ (if pv = .invalid then [] else [Out.path id]) := by
  rw [emittedPaths_append]
  by_cases h : pv = .invalid <;> simp [emittedPaths, h]

theorem areasOf_snoc_path (pre : List Arrival) (id : Nat) (pv : PV) :
    areasOf (pre ++ [Arrival.path id pv]) = areasOf pre := by
  rw [areasOf_append]; simp [areasOf]

theorem known_setP (m : PMap) (id : Nat) (pv : PV) (x : Nat) :
    known (setP m id pv.toSt x) = if x = id then some pv.toSt else known (m x) := by
  unfold setP
  by_cases hx : x = id
  · simp only [hx, ite_true]
    cases pv <;> rfl
  · simp [hx]

theorem perm_emit {α} {out E F : List α} (o : List α) (h : out.Perm (E ++ F)) : (out ++ o).Perm (E ++ o ++ F) := by
  refine (h.append_right o).trans ?_
  rw [List.append_assoc, List.append_assoc]
  exact List.Perm.append_left _ List.perm_append_comm

theorem inv_path (pre : List Arrival) (v : V) (out : List Out) (id : Nat) (pv : PV) (h : Inv pre v out)
    (hnew : verdict pre id = none) :
    Inv (pre ++ [Arrival.path id pv]) (step v (.path id pv)).1 (out ++ (step v (.path id pv)).2) := by
  have hA : areasOf (pre ++ [Arrival.path id pv]) = areasOf pre := areasOf_snoc_path pre id pv
  have hE := emittedPaths_snoc_path pre id pv
  -- the map right after the store
  have hk1 : ∀ x, known (setP v.paths id pv.toSt x) = vmap (verdict (pre ++ [Arrival.path id pv])) x := by
    intro x
    rw [known_setP, vmap_snoc_path pre id pv hnew, h.verdicts x]
  have hcl1 : ∀ ps, classify (setP v.paths id pv.toSt) ps = cls (pre ++ [Arrival.path id pv]) ps :=
    classify_of_known _ (pre ++ [Arrival.path id pv]) hk1
  have hm1 : ∀ x, v.paths x ≠ none → setP v.paths id pv.toSt x ≠ none := by
    intro x hx
    unfold setP
    by_cases hxi : x = id <;> simp [hxi, hx]
  have hmono := cls_snoc_path_mono pre id pv hnew
  by_cases hknown : (v.paths id).isSome = true
  · -- an area mentioned this path before: the queue is re-validated
    simp only [step, hknown, ite_true, validateQueue_eq, hcl1]
    constructor
    · intro p; rw [known_markAll]; exact hk1 p
    · intro b hb p hp
      rw [hA] at hb
      exact markAll_ne_none _ _ _ (hm1 p (h.marked b hb p hp))
    · show List.filter _ v.queue = List.filter _ (areasOf (pre ++ [Arrival.path id pv]))
      rw [hA, h.queue, List.filter_filter]
      apply List.filter_congr
      intro b _
      have hm := (hmono b.2).2.1
      by_cases h1 : cls (pre ++ [Arrival.path id pv]) b.2 = .unknown
      · have h2 : cls pre b.2 = .unknown := hm h1
        simp [h1, h2]
      · simp [h1]
    · show (out ++ ((if pv = PV.invalid then [] else [Out.path id]) ++ List.map toOut (List.filter _ v.queue))).Perm _
      rw [hA, hE, h.queue]
      have hsplit := filter_split (areasOf pre) (fun a => decide (cls pre a.2 = .valid))
        (fun a => decide (cls pre a.2 = .unknown)) (fun a => decide (cls (pre ++ [Arrival.path id pv]) a.2 = .valid))
        (by intro b hb; simpa using (hmono b.2).1 (by simpa using hb))
        (by intro b hb; simpa using (hmono b.2).2.2 (by simpa using hb))
        (by intro b hb; have : cls pre b.2 = .valid := by simpa using hb
            simp [this])
      have hmap := (hsplit.map toOut)
      rw [List.map_append] at hmap
      -- out ++ (o0 ++ X) ~ (E ++ o0) ++ F'
      refine List.Perm.trans ?_ (List.Perm.append_left _ hmap.symm)
      rw [← List.append_assoc, ← List.append_assoc]
      apply List.Perm.append_right
      exact perm_emit _ h.emitted
  · -- nobody mentioned this path yet: no queued area can depend on it
    have hnone : v.paths id = none := by
      cases hv : v.paths id with
      | none => rfl
      | some s => simp [hv] at hknown
    have hnot : ∀ b ∈ areasOf pre, id ∉ b.2 := fun b hb hmem => h.marked b hb id hmem hnone
    have hsame : ∀ b ∈ areasOf pre, cls (pre ++ [Arrival.path id pv]) b.2 = cls pre b.2 :=
      fun b hb => cls_snoc_path_not_mem pre id pv hnew b.2 (hnot b hb)
    have hk : (v.paths id).isSome = false := by simpa using hknown
    simp only [step, hk, Bool.false_eq_true, ite_false]
    constructor
    · exact hk1
    · intro b hb p hp
      rw [hA] at hb
      exact hm1 p (h.marked b hb p hp)
    · show v.queue = List.filter _ (areasOf (pre ++ [Arrival.path id pv]))
      rw [hA, h.queue]
      apply List.filter_congr
      intro b hb
      rw [hsame b hb]
    · show (out ++ (if pv = PV.invalid then [] else [Out.path id])).Perm _
      rw [hA, hE]
      have hf : (areasOf pre).filter (fun a => decide (cls (pre ++ [Arrival.path id pv]) a.2 = .valid)) =
          (areasOf pre).filter (fun a => decide (cls pre a.2 = .valid)) := by
        apply List.filter_congr
        intro b hb
        rw [hsame b hb]
      rw [hf]
      exact perm_emit _ h.emitted

/-! ### the whole fold -/

theorem inv_init : Inv [] V.init [] := by
  constructor
  · intro p; rfl
  · intro a ha; simp [areasOf] at ha
  · rfl
  · simp [emittedPaths, areasOf]

theorem runFrom_inv (rest : List Arrival) : ∀ (pre : List Arrival) (v : V) (out : List Out),
    Inv pre v out → (pathIds (pre ++ rest)).Nodup →
    Inv (pre ++ rest) (runFrom v rest).1 (out ++ (runFrom v rest).2) := by
  induction rest with
  | nil => intro pre v out h _; simpa [runFrom] using h
  | cons a rest ih =>
    intro pre v out h hnd
    have hstep : Inv (pre ++ [a]) (step v a).1 (out ++ (step v a).2) := by
      cases a with
      | area a0 ps => exact inv_area pre v out a0 ps h
      | path id pv =>
        apply inv_path pre v out id pv h
        apply verdict_none_of_not_mem
        rw [pathIds_append] at hnd
        have := (List.nodup_append.mp hnd).2.2
        intro hmem
        exact this id hmem id (by simp [pathIds]) rfl
    have hnd' : (pathIds ((pre ++ [a]) ++ rest)).Nodup := by simpa using hnd
    have := ih (pre ++ [a]) (step v a).1 (out ++ (step v a).2) hstep hnd'
    simpa [runFrom, List.append_assoc] using this

theorem settled_iff (o : Option PV) :
    isBad (o.map PV.toSt) = false ∧ isPending (o.map PV.toSt) = false ↔ o = some .valid := by
  cases o with
  | none => decide
  | some pv => cases pv <;> decide

theorem cls_valid_iff (arr : List Arrival) (ps : List Nat) :
    (cls arr ps = .valid) ↔ allValid (verdict arr) ps = true := by
  rw [(cls_cases arr ps).2.2]
  simp only [areaBad, areaPending, allValid, List.any_eq_false, List.all_eq_true, decide_eq_true_eq,
    Bool.not_eq_true]
  exact ⟨fun ⟨hb, hp⟩ p h => (settled_iff _).mp ⟨hb p h, hp p h⟩,
    fun h => ⟨fun p hp => ((settled_iff _).mpr (h p hp)).1, fun p hp => ((settled_iff _).mpr (h p hp)).2⟩⟩

theorem run_perm_spec (arr : List Arrival) (hnd : (pathIds arr).Nodup) : (run arr).Perm (spec arr) := by
  have h := runFrom_inv arr [] V.init [] inv_init (by simpa using hnd)
  have he := h.emitted
  simp only [List.nil_append] at he
  unfold run spec
  have hf : (areasOf arr).filter (fun a => decide (cls arr a.2 = .valid)) =
      (areasOf arr).filter (fun a => allValid (verdict arr) a.2) := by
    apply List.filter_congr
    intro b _
    have := cls_valid_iff arr b.2
    cases h1 : allValid (verdict arr) b.2 <;> simp_all
  rw [hf] at he
  exact he

end B6.Lemmas.ValidatorPerm
