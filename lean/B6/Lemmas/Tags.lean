import B6.Model.Tags
import B6.Spec.OrderedMap
import B6.Lemmas.Basic.AssocList
/-!
`Model/Tags.lean` against `Spec/OrderedMap.lean`, for `B6.Props.C39`: on key-distinct lists the two loops of the Go code
do what the ordered map does.  The deletion loop is followed on the backing array, where the shift leaves a stale copy
of the last tag that is never matched again.
-/
namespace B6.Lemmas.Tags
open B6.Model.Tags B6.Spec.OrderedMap

/-! ### keys / distinctness -/

theorem distinct_nil : Distinct [] := by simp [Distinct, keys]

theorem distinct_cons {e : Entry} {m : OMap} :
    Distinct (e :: m) ↔ (∀ x ∈ m, x.1 ≠ e.1) ∧ Distinct m := by
  unfold Distinct keys
  rw [List.map_cons, List.nodup_cons, List.mem_map]
  exact and_congr_left' ⟨fun h x hx e => h ⟨x, hx, e⟩, fun h ⟨x, hx, e⟩ => h x hx e⟩

theorem distinct_append_fresh {m : OMap} {e : Entry} (hd : Distinct m) (hf : ∀ x ∈ m, x.1 ≠ e.1) :
    Distinct (m ++ [e]) :=
  List.pairwise_map.2 (List.pairwise_append.2 ⟨List.pairwise_map.1 hd, List.pairwise_singleton _ _,
    fun x hx _ hb => List.mem_singleton.mp hb ▸ hf x hx⟩)

theorem keys_map_preserve (f : Entry → Entry) (hf : ∀ x, (f x).1 = x.1) (m : OMap) :
    keys (m.map f) = keys m := by
  unfold keys
  rw [List.map_map]
  exact List.map_congr_left (fun x _ => hf x)

/-! ### the spec's `lookup` -/

theorem any_false_iff {m : OMap} {k : String} :
    m.any (·.1 == k) = false ↔ ∀ x ∈ m, x.1 ≠ k :=
  List.any_eq_false.trans (forall₂_congr fun _ _ => by simp)

theorem lookup_isLookup : Basic.IsLookup (Prod.fst : Entry → String) Prod.snd lookup :=
  (Basic.isLookup_find?_beq Prod.fst).map Prod.snd

theorem any_eq_lookup (m : OMap) (k : String) : m.any (·.1 == k) = (lookup m k).isSome := by
  rw [lookup, Option.isSome_map, List.isSome_find?]

theorem lookup_cons (e : Entry) (m : OMap) (k : String) :
    lookup (e :: m) k = if e.1 = k then some e.2 else lookup m k :=
  lookup_isLookup.cons e m k

/-! ### `ModifyOrAddTag` -/

theorem map_replace_id {t : Tags} {tag : Tag} (h : ∀ x ∈ t, x.1 ≠ tag.1) :
    t.map (fun x => if x.1 == tag.1 then (x.1, tag.2) else x) = t :=
  (List.map_congr_left fun x hx => if_neg (by simpa using h x hx)).trans (List.map_id _)

theorem modify_eq {t : Tags} (tag : Tag) (hd : Distinct t) :
    B6.Model.Tags.modify t tag =
      (lookup t tag.1).map fun old => (t.map fun x => if x.1 == tag.1 then (x.1, tag.2) else x, old) := by
  induction t with
  | nil => rfl
  | cons hd' tl ih =>
    obtain ⟨k', v⟩ := hd'
    rw [distinct_cons] at hd
    rw [B6.Model.Tags.modify, lookup_cons, List.map_cons]
    by_cases h : k' = tag.1
    · -- the first tag has the key, so no later tag has it
      rw [map_replace_id fun x hx => h ▸ hd.1 x hx]
      simp only [h, beq_self_eq_true, ↓reduceIte, Option.map_some]
    · have hb : (k' == tag.1) = false := by simpa using h
      simp only [h, hb, ↓reduceIte, ih hd.2, Bool.false_eq_true]
      cases lookup tl tag.1 <;> rfl

/-! ### `RemoveTag`: the in-place deletion loop on the Go-slice model -/

theorem removeLoop_no_match (k : String) (n : Nat) : ∀ (fuel i : Nat) (s : GoSlice),
    (∀ j, i ≤ j → j < n → ∃ t, s.back[j]? = some t ∧ t.1 ≠ k) → removeLoop k n fuel i s = some s := by
  intro fuel
  induction fuel with
  | zero => intro i s _; rfl
  | succ f ih =>
    intro i s h
    rw [removeLoop]
    split
    · rfl
    · obtain ⟨t, ht, hne⟩ := h i (Nat.le_refl _) (by omega)
      simp only [ht, hne, ↓reduceIte]
      exact ih (i + 1) s fun j hj => h j (by omega)

theorem getLastD_mem_of_ne_nil (x : Tag) {l : List Tag} (h : l ≠ []) : l.getLastD x ∈ l := by
  cases l with
  | nil => exact absurd rfl h
  | cons y ys => rw [List.getLastD_cons]; exact List.getLastD_mem_cons

theorem drop_length_getLastD (x : Tag) (l C : List Tag) :
    (x :: l ++ C).drop l.length = l.getLastD x :: C := by
  induction l generalizing x with
  | nil => rfl
  | cons y ys ih => rw [List.getLastD_cons]; exact ih y

/-- `append(t[:i], t[i+1:]...)`: the tail slides down by one and the old last element stays behind in the array -/
theorem cut_at (A B C : List Tag) (x : Tag) :
    GoSlice.cut ⟨A ++ x :: B ++ C, A.length + (x :: B).length⟩ A.length
      = some ⟨A ++ B ++ B.getLastD x :: C, A.length + B.length⟩ := by
  have h1 : ¬ (A.length + 1 > A.length + (x :: B).length) := by simp
  have htake : (A ++ x :: B ++ C).take A.length = A := by
    rw [List.append_assoc, List.take_left']; rfl
  have hdrop1 : (A ++ x :: B ++ C).drop (A.length + 1) = B ++ C := by
    rw [List.append_assoc, List.drop_length_add_append]
    simp
  have hdrop2 : (A ++ x :: B ++ C).drop (A.length + (x :: B).length - 1) = B.getLastD x :: C := by
    rw [List.append_assoc, show A.length + (x :: B).length - 1 = A.length + B.length by simp,
      List.drop_length_add_append]
    exact drop_length_getLastD x B C
  have htake2 : (B ++ C).take (A.length + (x :: B).length - (A.length + 1)) = B := by
    rw [show A.length + (x :: B).length - (A.length + 1) = B.length by simp; omega]
    exact List.take_left' rfl
  simp only [GoSlice.cut, h1, ↓reduceIte, htake, hdrop1, hdrop2, htake2]
  simp

/-- `pre` has been passed without a match, `suf` is still to come, `spare` is the capacity beyond the length.  The stale
element the shift leaves behind is never matched again, so the loop does not panic and the array keeps its size. -/
theorem removeLoop_spec (k : String) (suf : List Tag) :
    ∀ (pre spare back : List Tag) (i n fuel : Nat), back = pre ++ suf ++ spare → i = pre.length →
      n = i + suf.length → suf.length ≤ fuel → (∀ a ∈ pre, a.1 ≠ k) → Distinct suf →
      ∃ s', removeLoop k n fuel i ⟨back, n⟩ = some s'
        ∧ s'.toList = pre ++ suf.filter (·.1 != k)
        ∧ s'.back.length = back.length
        ∧ s'.len ≤ s'.back.length := by
  induction suf with
  | nil =>
    intro pre spare back i n fuel hb hi hn _ _ _
    subst hb hi hn
    refine ⟨_, removeLoop_no_match k _ fuel _ _ fun j h1 h2 => absurd h2 (Nat.not_lt.mpr h1), ?_, rfl, ?_⟩
    · simp [GoSlice.toList]
    · simp
  | cons x suf ih =>
    intro pre spare back i n fuel hb hi hn hfuel hpre hd
    subst hb hi hn
    rw [distinct_cons] at hd
    cases fuel with
    | zero => simp at hfuel
    | succ f =>
      have hget : (pre ++ x :: suf ++ spare)[pre.length]? = some x := by
        rw [List.append_assoc, List.getElem?_append_right (Nat.le_refl _)]
        simp
      have hlt : ¬ (pre.length ≥ pre.length + (x :: suf).length) := by simp
      by_cases hx : x.1 = k
      · -- the (only) matching tag: cut, then the rest of the loop sees no match
        have hsuf : ∀ b ∈ suf, b.1 ≠ k := fun b hb => by
          have := hd.1 b hb
          rwa [hx] at this
        simp only [removeLoop, hlt, ↓reduceIte, hget, hx, cut_at]
        -- the remaining indices hold the rest of `suf` and the stale copy of its last tag
        have hrest := removeLoop_no_match k (pre.length + (x :: suf).length) f (pre.length + 1)
            ⟨pre ++ suf ++ suf.getLastD x :: spare, pre.length + suf.length⟩ fun j h1 h2 => by
          rw [List.length_cons] at h2
          rw [List.append_assoc, List.getElem?_append_right (by omega)]
          by_cases hj : j - pre.length < suf.length
          · rw [List.getElem?_append_left hj, List.getElem?_eq_getElem hj]
            exact ⟨_, rfl, hsuf _ (List.getElem_mem hj)⟩
          · rw [List.getElem?_append_right (by omega), show j - pre.length - suf.length = 0 by omega]
            exact ⟨_, rfl, hsuf _ (getLastD_mem_of_ne_nil x (List.ne_nil_of_length_pos (by omega)))⟩
        refine ⟨_, hrest, ?_, ?_, ?_⟩
        · have hb : (x.1 != k) = false := by simp [hx]
          have hfil : suf.filter (·.1 != k) = suf := List.filter_eq_self.mpr fun b hb => by simpa using hsuf b hb
          simp only [GoSlice.toList, List.filter_cons, hb, Bool.false_eq_true, ↓reduceIte, hfil]
          rw [← List.length_append]
          exact List.take_left' rfl
        · simp only [List.length_append, List.length_cons]; omega
        · simp only [List.length_append, List.length_cons]; omega
      · -- no match at this index: step over it
        simp only [removeLoop, hlt, ↓reduceIte, hget, hx]
        have hpre' : ∀ a ∈ pre ++ [x], a.1 ≠ k :=
          List.forall_mem_append.2 ⟨hpre, List.forall_mem_singleton.2 hx⟩
        obtain ⟨s', h1, h2, h3, h4⟩ := ih (pre ++ [x]) spare (pre ++ x :: suf ++ spare) (pre.length + 1)
          (pre.length + (x :: suf).length) f (by simp) (by simp) (by simp; omega) (by simpa using hfuel)
          hpre' hd.2
        refine ⟨s', h1, ?_, h3, h4⟩
        have hb : (x.1 != k) = true := by simpa using hx
        rw [h2, List.filter_cons, hb, if_pos rfl, List.append_assoc]
        rfl

/-! ### `RemoveTags` -/

theorem removeAll_nil (m : OMap) : removeAll m [] = m := by
  unfold removeAll
  rw [List.filter_eq_self]
  intro x _
  simp

theorem removeAll_cons (m : OMap) (k : String) (ks : List String) :
    removeAll m (k :: ks) = removeAll (remove m k) ks := by
  unfold removeAll remove
  rw [List.filter_filter]
  apply List.filter_congr
  intro x _
  by_cases h : x.1 = k
  · simp [h]
  · simp [h, bne_iff_ne]

end B6.Lemmas.Tags
