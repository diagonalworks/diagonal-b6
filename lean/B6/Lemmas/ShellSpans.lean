import B6.Model.Shell
/-! Span invariants of the model parser (C20): every parse function returns a node whose span starts at or
after the first token it saw, nests its children, and ends before the first token it left. -/
namespace B6.Lemmas.ShellSpans
open B6.Model.Shell B6.Model.FeatureID

/-- positions of a token list: every token has `b ≤ e`, and they follow one another from `lo` on (not an order on
the tokens themselves) -/
def Sorted : Nat → List PTok → Prop
  | _, [] => True
  | lo, t :: ts => lo ≤ t.b ∧ t.b ≤ t.e ∧ Sorted t.e ts

theorem Sorted.mono {lo lo' : Nat} {ts : List PTok} (h : Sorted lo ts) (hl : lo' ≤ lo) : Sorted lo' ts := by
  cases ts with
  | nil => trivial
  | cons t r => exact ⟨by have := h.1; omega, h.2.1, h.2.2⟩

theorem Sorted.tail {lo : Nat} {t : PTok} {ts : List PTok} (h : Sorted lo (t :: ts)) : Sorted lo ts :=
  h.2.2.mono (Nat.le_trans h.1 h.2.1)

theorem Sorted.le_end {lo : Nat} {t : PTok} {ts : List PTok} (h : Sorted lo (t :: ts)) : lo ≤ t.e :=
  Nat.le_trans h.1 h.2.1

/-- a span `[b, e)` returned for tokens starting at `lo`, leaving `rest` -/
def SpanAt (lo b e : Nat) (rest : List PTok) : Prop := lo ≤ b ∧ b ≤ e ∧ Sorted e rest

def SpanInv (lo : Nat) (pe : PE) (rest : List PTok) : Prop := pe.nested = true ∧ SpanAt lo pe.b pe.e rest

theorem Sorted.three {lo : Nat} {t1 t2 t3 : PTok} {rest : List PTok} (h : Sorted lo (t1 :: t2 :: t3 :: rest)) :
    SpanAt lo t1.b t3.e rest :=
  ⟨h.1, Nat.le_trans h.2.1 (Nat.le_trans h.2.2.le_end h.2.2.2.2.le_end), h.2.2.2.2.2.2⟩

theorem SpanAt.join {lo b1 e1 b2 e2 : Nat} {t : PTok} {ts rest : List PTok} (h1 : SpanAt lo b1 e1 (t :: ts))
    (h2 : SpanAt t.e b2 e2 rest) : SpanAt lo b1 e2 rest :=
  ⟨h1.1, Nat.le_trans h1.2.1 (Nat.le_trans h1.2.2.le_end (Nat.le_trans h2.1 h2.2.1)), h2.2.2⟩

/-- a span read after an opening token and up to a closing token -/
theorem SpanAt.between {lo b e : Nat} {o c : PTok} {ts rest : List PTok} (hs : Sorted lo (o :: ts))
    (h : SpanAt o.e b e (c :: rest)) : SpanAt lo b e rest :=
  ⟨Nat.le_trans hs.le_end h.1, h.2.1, h.2.2.tail⟩

/-- arguments follow one another -/
def Chain : Nat → PEL → Prop
  | _, .nil => True
  | lo, .cons x xs => lo ≤ x.b ∧ x.b ≤ x.e ∧ x.nested = true ∧ Chain x.e xs

theorem PR.bind_ok {α β : Type} {r : PR α} {g : α → PR β} {x : β} (h : r.bind g = .ok x) :
    ∃ a, r = .ok a ∧ g a = .ok x := by
  cases r with
  | ok a => exact ⟨a, rfl, h⟩
  | err => simp [PR.bind] at h
  | unsupported => simp [PR.bind] at h
  | fuel => simp [PR.bind] at h

theorem lastEnd_indep : ∀ (ys : PEL) (y : PE) (d d' : Nat),
    (PEL.cons y ys).lastEnd d = (PEL.cons y ys).lastEnd d'
  | .nil, _, _, _ => rfl
  | .cons z zs, y, d, d' => by simp only [PEL.lastEnd]; exact lastEnd_indep zs z d d'

theorem chain_lastEnd : ∀ (args : PEL) (lo : Nat), Chain lo args → lo ≤ args.lastEnd lo
  | .nil, _, _ => Nat.le_refl _
  | .cons x .nil, lo, h => by simp only [PEL.lastEnd]; have := h.1; have := h.2.1; omega
  | .cons x (.cons y ys), lo, h => by
    have h2 := chain_lastEnd (.cons y ys) x.e h.2.2.2
    have e1 : (PEL.cons x (.cons y ys)).lastEnd lo = (PEL.cons y ys).lastEnd lo := by simp only [PEL.lastEnd]
    rw [e1, lastEnd_indep ys y lo x.e]
    have := h.1; have := h.2.1; omega

theorem chain_nestedIn : ∀ (args : PEL) (lo b hi : Nat), Chain lo args → b ≤ lo → args.lastEnd lo ≤ hi →
    args.nestedIn b hi = true
  | .nil, _, _, _, _, _, _ => rfl
  | .cons x .nil, lo, b, hi, h, hb, hh => by
    simp only [PEL.lastEnd] at hh
    simp only [PEL.nestedIn, h.2.2.1, Bool.and_true, Bool.and_eq_true, decide_eq_true_eq]
    have := h.1; omega
  | .cons x (.cons y ys), lo, b, hi, h, hb, hh => by
    have e1 : (PEL.cons x (.cons y ys)).lastEnd lo = (PEL.cons y ys).lastEnd x.e := by
      simp only [PEL.lastEnd]; exact lastEnd_indep ys y lo x.e
    rw [e1] at hh
    have hle := chain_lastEnd (.cons y ys) x.e h.2.2.2
    have ih := chain_nestedIn (.cons y ys) x.e b hi h.2.2.2 (by have := h.1; have := h.2.1; omega) hh
    simp only [PEL.nestedIn, h.2.2.1, Bool.and_true, Bool.and_eq_true, decide_eq_true_eq] at ih ⊢
    have := h.1
    exact ⟨⟨by omega, by omega⟩, ih⟩

theorem q_spans : ∀ (F : Nat),
    (∀ {lo ts q b e rest}, Sorted lo ts → parseQFirst F ts = .ok ((q, b, e), rest) → SpanAt lo b e rest) ∧
    (∀ {lo ts q b e rest}, Sorted lo ts → parseQE F ts = .ok ((q, b, e), rest) → SpanAt lo b e rest) := by
  intro F
  induction F with
  | zero => exact ⟨fun _ h => (by cases h), fun _ h => (by cases h)⟩
  | succ F ih =>
    have first : ∀ {lo ts q b e rest}, Sorted lo ts → parseQFirst (F + 1) ts = .ok ((q, b, e), rest) →
        SpanAt lo b e rest := by
      intro lo ts q b e rest hs h
      unfold parseQFirst at h
      split at h
      · obtain ⟨⟨⟨q', b', e'⟩, r⟩, h1, h2⟩ := PR.bind_ok h
        simp only at h2
        split at h2
        · cases h2
          exact (ih.2 hs.2.2 h1).between hs
        · simp at h2
      · split at h
        · cases h
          exact hs.three
        · simp at h
      · split at h
        · cases h
          exact hs.three
        · simp at h
      · cases h
        exact hs
      · cases h
        exact hs
      · simp at h
    refine ⟨first, ?_⟩
    intro lo ts q b e rest hs h
    unfold parseQE at h
    obtain ⟨⟨⟨q1, b1, e1⟩, r⟩, h1, h2⟩ := PR.bind_ok h
    have hq := ih.1 hs h1
    simp only at h2
    split at h2
    · obtain ⟨⟨⟨q2, b2, e2⟩, r2⟩, h3, h4⟩ := PR.bind_ok h2
      cases h4
      exact hq.join (ih.2 hq.2.2.2.2 h3)
    · obtain ⟨⟨⟨q2, b2, e2⟩, r2⟩, h3, h4⟩ := PR.bind_ok h2
      cases h4
      exact hq.join (ih.2 hq.2.2.2.2 h3)
    · cases h2
      exact hq

theorem symbols_spans : ∀ (F : Nat) {lo : Nat} {ts : List PTok} {ps : List Bytes} {b : Nat} {rest : List PTok},
    Sorted lo ts → parseSymbols F ts = .ok (ps, b, rest) → lo ≤ b ∧ Sorted b rest := by
  intro F lo ts ps b rest hs h
  fun_induction parseSymbols F ts generalizing lo ps b with
  | case1 => cases h
  | case2 F s b' _ _ _ r ih =>
    obtain ⟨⟨ss, b'', r'⟩, h1, h2⟩ := PR.bind_ok h
    cases h2
    have := ih hs.2.2.2.2 h1
    exact ⟨hs.1, this.2.mono (Nat.le_trans hs.2.1 (Nat.le_trans hs.2.2.le_end this.1))⟩
  | case3 => cases h; exact ⟨hs.1, hs.2.2.mono hs.2.1⟩
  | case4 => cases h

@[simp] theorem PE.b_mk (k : PK) (b e : Nat) : (PE.mk k b e).b = b := rfl
@[simp] theorem PE.e_mk (k : PK) (b e : Nat) : (PE.mk k b e).e = e := rfl

/-- a node without children -/
theorem SpanInv.leaf {lo b e : Nat} {rest : List PTok} (k : PK) (hk : ∀ b e, k.nestedIn b e = true)
    (h : SpanAt lo b e rest) : SpanInv lo (.mk k b e) rest :=
  ⟨by simp [PE.nested, hk, h.2.1], h⟩

/-- the result of the pipeline loop contains the tree it started from -/
theorem pipeLoop_noPoint : ∀ (F : Nat) {left : PE} {ts : List PTok} {pe : PE} {rest : List PTok},
    pipeLoop F left ts = .ok (pe, rest) → pe.noPoint = true → left.noPoint = true := by
  intro F
  induction F with
  | zero => intro left ts pe rest h; cases h
  | succ F ih =>
    intro left ts pe rest h hnp
    unfold pipeLoop at h
    split at h
    · obtain ⟨⟨right, r⟩, h1, h2⟩ := PR.bind_ok h
      have := ih h2 hnp
      simp only [mkPipe, PE.noPoint, PK.noPoint, PEL.noPoint, Bool.and_true, Bool.and_eq_true] at this
      exact this.2
    · cases h
      exact hnp

/-! The six mutually recursive parse functions, one step of fuel each: what a function needs of the others at the
fuel below is a hypothesis. -/

/-- every result of `p` with fuel `F` that holds no `lat, lng` literal has the span invariant -/
def Spans (p : Nat → List PTok → PR (PE × List PTok)) (F : Nat) : Prop :=
  ∀ {lo ts pe rest}, Sorted lo ts → p F ts = .ok (pe, rest) → pe.noPoint = true → SpanInv lo pe rest

def ArgsSpans (F : Nat) : Prop :=
  ∀ {lo ts pels rest}, Sorted lo ts → parseArgs F ts = .ok (pels, rest) → pels.noPoint = true →
    Chain lo pels ∧ Sorted (pels.lastEnd lo) rest

def LoopSpans (F : Nat) : Prop :=
  ∀ {lo left ts pe rest}, SpanInv lo left ts → pipeLoop F left ts = .ok (pe, rest) → pe.noPoint = true →
    SpanInv lo pe rest

theorem mkCall_spans {F : Nat} (ihAs : ArgsSpans F) {lo : Nat} {s : Bytes} {b e : Nat} {ts r : List PTok} {args : PEL}
    (hs : Sorted lo (⟨.sym s, b, e⟩ :: ts)) (h1 : parseArgs F ts = .ok (args, r)) (hnp : args.noPoint = true) :
    SpanInv lo (mkCall s b e args) r := by
  simp only [Sorted] at hs
  obtain ⟨hc, hr⟩ := ihAs hs.2.2 h1 hnp
  have hle := chain_lastEnd args e hc
  have hn := chain_nestedIn args e b (args.lastEnd e) hc hs.2.1 (Nat.le_refl _)
  refine ⟨?_, hs.1, by simp only [mkCall, PE.b_mk, PE.e_mk]; omega, hr⟩
  have h1' : b ≤ args.lastEnd e := by omega
  simp [mkCall, PE.nested, PK.nestedIn, hn, h1', hle, hs.2.1]

theorem parseExpr_spans {F : Nat} (ihP : Spans parsePipeline F) : Spans parseExpr (F + 1) := by
  intro lo ts pe rest hs h hnp
  unfold parseExpr at h
  split at h
  · -- a lat,lng literal: excluded
    cases h
    simp [PE.noPoint, PK.noPoint] at hnp
  · simp at h
  · cases h
    exact .leaf _ (fun _ _ => rfl) hs
  · cases h
    exact .leaf _ (fun _ _ => rfl) hs
  · cases h
    exact .leaf _ (fun _ _ => rfl) hs
  · cases h
    exact .leaf _ (fun _ _ => rfl) hs
  · split at h
    · cases h
      exact .leaf _ (fun _ _ => rfl) hs.three
    · simp at h
  · split at h
    · cases h
      exact .leaf _ (fun _ _ => rfl) hs.three
    · simp at h
  · -- group
    obtain ⟨⟨inner, r⟩, h1, h2⟩ := PR.bind_ok h
    simp only at h2
    split at h2
    · cases h2
      obtain ⟨hn, hq⟩ := ihP hs.2.2 h1 hnp
      exact ⟨hn, hq.between hs⟩
    · simp at h2
  · -- lambda without parameters
    obtain ⟨⟨body, r⟩, h1, h2⟩ := PR.bind_ok h
    simp only at h2
    split at h2
    · cases h2
      have hnpb : body.noPoint = true := by simpa only [PE.noPoint, PK.noPoint] using hnp
      obtain ⟨hn, hq⟩ := ihP hs.2.2.2.2 h1 hnpb
      exact ⟨by simp [PE.nested, PK.nestedIn, hn, hq.2.1], hq.between hs.tail⟩
    · simp at h2
  · simp at h
  · -- lambda with parameters
    obtain ⟨⟨ps, b, r⟩, h1, h2⟩ := PR.bind_ok h
    simp only at h2
    split at h2
    · obtain ⟨⟨body, r2⟩, h3, h4⟩ := PR.bind_ok h2
      simp only at h4
      split at h4
      · cases h4
        obtain ⟨hb1, hsr⟩ := symbols_spans F hs.2.2 h1
        have hnpb : body.noPoint = true := by simpa only [PE.noPoint, PK.noPoint] using hnp
        obtain ⟨hn, hq⟩ := ihP hsr.2.2 h3 hnpb
        -- the node spans from the first parameter to the end of the body
        have hx : b ≤ body.b := Nat.le_trans hsr.le_end hq.1
        have hj : SpanAt lo b body.e _ := ⟨Nat.le_trans hs.le_end hb1, Nat.le_trans hx hq.2.1, hq.2.2.tail⟩
        exact ⟨by simp [PE.nested, PK.nestedIn, hn, hj.2.1, hx], hj⟩
      · simp at h4
    · simp at h2
  · split at h <;> simp at h
  · simp at h
  · -- query literal
    obtain ⟨⟨⟨q, b, e⟩, r⟩, h1, h2⟩ := PR.bind_ok h
    simp only at h2
    split at h2
    · cases h2
      have hq := ((q_spans F).2 hs.2.2 h1).between hs
      exact ⟨by simp [PE.nested, PK.nestedIn, hq.2.1], hq⟩
    · simp at h2
  · simp at h

theorem parseArg_spans {F : Nat} (ihE : Spans parseExpr F) : Spans parseArg (F + 1) := by
  intro lo ts pe rest hs h hnp
  unfold parseArg at h
  split at h
  · exact ihE hs h hnp
  · cases h
    exact .leaf _ (fun _ _ => rfl) hs
  · exact ihE hs h hnp

theorem parseCall_spans {F : Nat} (ihE : Spans parseExpr F) (ihAs : ArgsSpans F) : Spans parseCall (F + 1) := by
  intro lo ts pe rest hs h hnp
  unfold parseCall at h
  split at h
  · exact ihE hs h hnp
  · obtain ⟨⟨args, r⟩, h1, h2⟩ := PR.bind_ok h
    cases h2
    exact mkCall_spans ihAs hs h1 (by simpa only [mkCall, PE.noPoint, PK.noPoint, Bool.true_and] using hnp)
  · exact ihE hs h hnp

theorem parseArgs_spans {F : Nat} (ihA : Spans parseArg F) (ihAs : ArgsSpans F) : ArgsSpans (F + 1) := by
  intro lo ts pels rest hs h hnp
  unfold parseArgs at h
  split at h
  · cases h
    exact ⟨trivial, trivial⟩
  · split at h
    · obtain ⟨⟨a, r⟩, h1, h2⟩ := PR.bind_ok h
      obtain ⟨⟨as, r'⟩, h3, h4⟩ := PR.bind_ok h2
      cases h4
      simp only [PEL.noPoint, Bool.and_eq_true] at hnp
      obtain ⟨hn, hb, hbe, hr⟩ := ihA hs h1 hnp.1
      obtain ⟨hc, hr'⟩ := ihAs hr h3 hnp.2
      refine ⟨⟨hb, hbe, hn, hc⟩, ?_⟩
      cases as with
      | nil => simpa only [PEL.lastEnd] using hr'
      | cons y ys =>
        simp only [PEL.lastEnd]
        rw [lastEnd_indep ys y lo a.e]
        exact hr'
    · cases h
      exact ⟨trivial, hs⟩

theorem pipeLoop_spans {F : Nat} (ihC : Spans parseCall F) (ihL : LoopSpans F) : LoopSpans (F + 1) := by
  intro lo left ts pe rest ⟨hn, hb, hbe, hs⟩ h hnp
  unfold pipeLoop at h
  split at h
  · obtain ⟨⟨right, r⟩, h1, h2⟩ := PR.bind_ok h
    simp only [Sorted] at hs
    have hnpr : right.noPoint = true := by
      have := pipeLoop_noPoint F h2 hnp
      simp only [mkPipe, PE.noPoint, PK.noPoint, PEL.noPoint, Bool.and_true, Bool.and_eq_true] at this
      exact this.1
    obtain ⟨hn2, hb2, hbe2, hr2⟩ := ihC hs.2.2 h1 hnpr
    refine ihL (left := mkPipe left right) ⟨?_, by simpa only [mkPipe, PE.b_mk] using hb,
      by simp only [mkPipe, PE.b_mk, PE.e_mk]; omega, by simpa only [mkPipe, PE.e_mk] using hr2⟩ h2 hnp
    have hy1 : left.b ≤ right.e := by omega
    have hy2 : left.b ≤ right.b := by omega
    have hy3 : left.e ≤ right.e := by omega
    simp [mkPipe, PE.nested, PK.nestedIn, PEL.nestedIn, hn, hn2, hy1, hy2, hy3]
  · cases h
    exact ⟨hn, hb, hbe, hs⟩

theorem parsePipeline_spans {F : Nat} (ihC : Spans parseCall F) (ihL : LoopSpans F) : Spans parsePipeline (F + 1) := by
  intro lo ts pe rest hs h hnp
  unfold parsePipeline at h
  obtain ⟨⟨c, r⟩, h1, h2⟩ := PR.bind_ok h
  exact ihL (ihC hs h1 (pipeLoop_noPoint F h2 hnp)) h2 hnp

theorem spans : ∀ (F : Nat), Spans parsePipeline F ∧ LoopSpans F ∧ Spans parseCall F ∧ ArgsSpans F ∧
    Spans parseArg F ∧ Spans parseExpr F
  | 0 =>
    ⟨fun _ h => (by cases h), fun _ h => (by cases h), fun _ h => (by cases h),
      fun _ h => (by cases h), fun _ h => (by cases h), fun _ h => (by cases h)⟩
  | F + 1 =>
    have ⟨ihP, ihL, ihC, ihAs, ihA, ihE⟩ := spans F
    ⟨parsePipeline_spans ihC ihL, pipeLoop_spans ihC ihL, parseCall_spans ihE ihAs, parseArgs_spans ihA ihAs,
      parseArg_spans ihE, parseExpr_spans ihP⟩

end B6.Lemmas.ShellSpans
