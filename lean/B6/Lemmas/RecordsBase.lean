import B6.Lemmas.Records
import B6.Lemmas.Bits
import B6.Model.RecordsRaw
/-!
# Round-trip lemmas, part 2: the leaf records (references, lat/lngs, their lists, bit strings)

`ReferencesAndLatLngs` is proved for decoding into a receiver that holds `old` (`rt_refLLsInto`: `overlay old g`
comes back); the plain decoder is the case of an empty receiver (`refLLs_decInto_nil`), where a canonical `g` is its own
overlay (`refLLs_overlay_eq`).
-/
namespace B6.Model.Records
open B6.Model.Varint

/-! ## Reference -/

theorem rt_reference (p : BitVec 16) (r : Reference) : RT (Reference.enc p r) (Reference.dec p) r := by
  have htn := r.tn.isLt
  have hval := r.value.isLt
  unfold Reference.dec
  fun_cases Reference.enc p r with
  | case1 h => -- explicit form
    refine RT.andThen (rt_uvarint (r.tn.toNat * 2 + 1) (by omega)) ?_
    rw [if_pos (by omega), show (r.tn.toNat * 2 + 1) / 2 = r.tn.toNat by omega]
    refine (RT.map _ (rt_uvarint r.value.toNat hval)).value ?_
    rw [BitVec.ofNat_toNat, BitVec.ofNat_toNat, BitVec.setWidth_eq, BitVec.setWidth_eq]
  | case2 h => -- primary form: the namespace is implied, bit 63 is clear
    have h1 : r.tn = p := Decidable.of_not_not fun hne => h (Or.inl hne)
    have h2 : r.value.toNat < 2 ^ 63 := Nat.lt_of_not_le fun hle => h (Or.inr hle)
    rw [Nat.mod_eq_of_lt (by omega)]
    rw [← List.append_nil (putUvarint _)]
    refine RT.andThen (rt_uvarint (r.value.toNat * 2) (by omega)) ?_
    rw [if_neg (by omega), show r.value.toNat * 2 / 2 = r.value.toNat by omega, BitVec.ofNat_toNat, BitVec.setWidth_eq, ← h1]
    exact RT.pure _

/-! ## References -/

theorem add_delta {w : Nat} (last v : BitVec w) : last + (v - last) = v := by
  rw [BitVec.add_comm, BitVec.sub_add_cancel]

theorem rt_referencesStep (p : BitVec 16) (last : BitVec 64) (r : Reference) :
    RT (References.encStep p last r).1 (References.decStep p last) (r, (References.encStep p last r).2) := by
  unfold References.decStep
  fun_cases References.encStep p last r with
  | case1 h =>
    refine (RT.map _ (rt_reference p ⟨r.tn, zigzagEncode (r.value - last)⟩)).value ?_
    simp only [h, if_true, zigzagDecode_zigzagEncode, add_delta]
    cases r; simp_all
  | case2 h =>
    refine (RT.map _ (rt_reference p r)).value ?_
    simp [h]

theorem rt_referencesBody (p : BitVec 16) (rs : List Reference) :
    RT (References.encBody p rs) (References.decBody p rs.length) rs :=
  RT.times rs 0#64 fun s a _ => rt_referencesStep p s a

theorem rt_references (p : BitVec 16) (rs : List Reference) (h : References.ok rs = true) :
    RT (References.enc p rs) (References.dec p) rs :=
  RT.lenHeader 0 rs.length (by omega) h (rt_referencesBody p rs)

/-! ## LatLngs -/

theorem rt_latlngsStep (last p : LatLng) :
    RT (LatLngs.encStep last p).1 (LatLngs.decStep last) (p, (LatLngs.encStep last p).2) := by
  unfold LatLngs.encStep LatLngs.decStep
  refine (RT.andThen (rt_varint _) (RT.map _ (rt_varint _))).value ?_
  simp only [Lemmas.Bits.setWidth_signExtend _ (by decide : 32 ≤ 64), add_delta]

theorem rt_latlngsBody (lls : List LatLng) : RT (LatLngs.encBody lls) (LatLngs.decBody lls.length) lls :=
  RT.times lls LatLng.zero fun s a _ => rt_latlngsStep s a

theorem rt_latlngs (lls : List LatLng) (h : LatLngs.ok lls = true) : RT (LatLngs.enc lls) LatLngs.dec lls :=
  RT.lenHeader 1 lls.length (by omega) h (rt_latlngsBody lls)

/-! ## LatLng (a point tag value) -/

theorem signExtend_32_64_toNat (x : BitVec 32) :
    (x.signExtend 64).toNat = x.toNat + if 2 ^ 31 ≤ x.toNat then 2 ^ 64 - 2 ^ 32 else 0 := by
  have := x.isLt
  rw [BitVec.toNat_signExtend, BitVec.msb_eq_decide, BitVec.toNat_setWidth, Nat.mod_eq_of_lt (by omega)]
  simp only [decide_eq_true_eq, Nat.add_one_sub_one]

theorem latWord_lt (ll : LatLng) : ll.latWord < 2 ^ 33 := by
  have := ll.lat.isLt
  rw [LatLng.latWord, zigzagEncode_eq_varintZig, varintZig_eq_zig, zig_toNat (w := 63),
    signExtend_32_64_toNat]
  by_cases h : 2 ^ 31 ≤ ll.lat.toNat
  · rw [if_pos h, if_pos (by omega)]; omega
  · rw [if_neg h, if_neg (by omega)]; omega

/-- `LatLng.Marshal` never panics: the zigzag of an `int32` fits 33 bits. -/
theorem latlng_ok (ll : LatLng) : ll.ok = true := by
  unfold LatLng.ok
  rw [valueTypeOk_iff]
  have := latWord_lt ll
  omega

theorem rt_latlng (ll : LatLng) : RT ll.enc LatLng.dec ll := by
  have hw := latWord_lt ll
  obtain ⟨a, b, _⟩ := encodeValueType_spec 1 ll.latWord (by omega) (by omega)
  unfold LatLng.enc LatLng.dec
  refine (RT.andThen ((rt_value _ a).value b) (RT.map _ (rt_u32 ll.lng))).value ?_
  simp only [LatLng.latWord, BitVec.ofNat_toNat, BitVec.setWidth_eq, zigzagDecode_zigzagEncode,
    Lemmas.Bits.setWidth_signExtend _ (by decide : 32 ≤ 64)]

/-! ## delta coded ints -/

theorem rt_deltaIntsStep (last v : BitVec 64) :
    RT (DeltaInts.encStep last v).1 (DeltaInts.decStep last) (v, (DeltaInts.encStep last v).2) := by
  unfold DeltaInts.encStep DeltaInts.decStep
  refine (RT.map _ (rt_uvarint _ (zigzagEncode (v - last)).isLt)).value ?_
  simp only [BitVec.ofNat_toNat, BitVec.setWidth_eq, zigzagDecode_zigzagEncode, add_delta]

theorem rt_deltaInts (vs : List (BitVec 64)) : RT (DeltaInts.enc vs) (DeltaInts.dec vs.length) vs :=
  RT.times vs 0#64 fun s a _ => rt_deltaIntsStep s a

/-! ## Bits -/

theorem bitsOfByte_byteOfBits (l : List Bool) : bitsOfByte l.length (byteOfBits l) = l := by
  induction l with
  | nil => rfl
  | cons b bs ih =>
    simp only [List.length_cons, bitsOfByte, byteOfBits]
    have h1 : (b.toNat + 2 * byteOfBits bs) / 2 = byteOfBits bs := by cases b <;> simp <;> omega
    have h2 : ((b.toNat + 2 * byteOfBits bs) % 2 == 1) = b := by cases b <;> simp <;> omega
    rw [h1, h2, ih]

theorem byteOfBits_lt (l : List Bool) : byteOfBits l < 2 ^ l.length := by
  induction l with
  | nil => simp [byteOfBits]
  | cons b bs ih =>
    simp only [List.length_cons, byteOfBits, Nat.pow_succ]
    cases b <;> simp <;> omega

theorem bitsOfByte_toUInt8_byteOfBits (l : List Bool) (h : l.length ≤ 8) :
    bitsOfByte l.length ((byteOfBits l).toUInt8).toNat = l := by
  have h1 := byteOfBits_lt l
  have h2 : 2 ^ l.length ≤ 2 ^ 8 := Nat.pow_le_pow_right (by omega) h
  have hb : ((byteOfBits l).toUInt8).toNat = byteOfBits l := UInt8.toNat_ofNat_of_lt' (show _ < 256 by omega)
  rw [hb, bitsOfByte_byteOfBits]

theorem rt_packBits (l : List Bool) : RT (packBits l) (unpackBits (l.length / 8) (l.length % 8)) l := by
  fun_induction packBits l with
  | case1 b0 b1 b2 b3 b4 b5 b6 b7 rest ih =>
    intro tail
    have e1 : (b0 :: b1 :: b2 :: b3 :: b4 :: b5 :: b6 :: b7 :: rest).length / 8 = rest.length / 8 + 1 := by
      simp only [List.length_cons]; omega
    have e2 : (b0 :: b1 :: b2 :: b3 :: b4 :: b5 :: b6 :: b7 :: rest).length % 8 = rest.length % 8 := by
      simp only [List.length_cons]; omega
    rw [e1, e2]
    simp only [List.cons_append, unpackBits, ih tail]
    have := bitsOfByte_toUInt8_byteOfBits [b0, b1, b2, b3, b4, b5, b6, b7] (by simp)
    have e8 : [b0, b1, b2, b3, b4, b5, b6, b7].length = 8 := rfl
    rw [e8] at this
    simp only [this, List.cons_append, List.nil_append, List.length_cons]
  | case2 => intro tail; rfl
  | case3 l h1 h2 =>
    have hl : l.length < 8 := by
      rcases l with _ | ⟨b0, _ | ⟨b1, _ | ⟨b2, _ | ⟨b3, _ | ⟨b4, _ | ⟨b5, _ | ⟨b6, _ | ⟨b7, rest⟩⟩⟩⟩⟩⟩⟩⟩ <;>
        first | (simp only [List.length_cons, List.length_nil]; omega) | exact absurd rfl (h1 _ _ _ _ _ _ _ _ _)
    have hpos : 0 < l.length := by
      cases l with
      | nil => exact absurd rfl h2
      | cons _ _ => simp
    intro tail
    have e1 : l.length / 8 = 0 := by omega
    have e2 : l.length % 8 = (l.length - 1) + 1 := by omega
    rw [e1, e2]
    simp only [List.cons_append, List.nil_append, unpackBits, List.length_cons, List.length_nil]
    have := bitsOfByte_toUInt8_byteOfBits l (by omega)
    have e3 : l.length - 1 + 1 = l.length := by omega
    rw [e3, this]

theorem rt_bits (b : List Bool) (h : Bits.ok b = true) : RT (Bits.enc b) Bits.dec b := by
  simp only [Bits.ok, decide_eq_true_eq] at h
  exact RT.andThen (rt_count _ h) (rt_packBits b)

theorem RT.flagged {α : Type} (flags : List Bool) (l : Nat) (hfl : flags.length = l) (hl : l < 2 ^ 63)
    {b : Bytes} {loop : List Bool → Dec α} {a : α} (hb : RT b (loop flags) a) :
    RT (Bits.enc flags ++ b)
      (Bits.dec.andThen fun fl => if fl.length < l then Dec.fail else loop (fl.take l)) a := by
  refine RT.andThen (rt_bits flags (by rw [Bits.ok, hfl]; exact decide_eq_true hl)) ?_
  rw [hfl, if_neg (Nat.lt_irrefl l), ← hfl, List.take_length]
  exact hb

/-! ## ReferencesAndLatLngs -/

theorem rt_refLLsStepInto (p : BitVec 16) (s : MixedState) (x slot : RefLL) :
    RT (RefLLs.encStep p s x).1 (RefLLs.decStepInto p x.isRef slot s)
      ((if x.isRef then ⟨x.ref, slot.ll⟩ else ⟨slot.ref, x.ll⟩ : RefLL), (RefLLs.encStep p s x).2) := by
  unfold RefLLs.encStep RefLLs.decStepInto
  cases x.isRef
  · exact RT.map _ (rt_latlngsStep s.2 x.ll)
  · exact RT.map _ (rt_referencesStep p s.1 x.ref)

/-- canonical: the half the flag does not select is zero -/
theorem RefLL.canonical_iff (x : RefLL) :
    x.canonical = true ↔ if x.isRef then x.ll = LatLng.zero else x.ref = Reference.invalid := by
  simp only [RefLL.canonical, RefLL.isRef, Bool.or_eq_true, beq_iff_eq, bne_iff_ne, ne_eq]
  by_cases hr : x.ref = Reference.invalid <;> simp [hr]

theorem RefLL.fill_eq (x slot : RefLL) (hc : x.canonical = true)
    (hs : if x.isRef then slot.ll = LatLng.zero else slot.ref = Reference.invalid) :
    (if x.isRef then ⟨x.ref, slot.ll⟩ else ⟨slot.ref, x.ll⟩ : RefLL) = x := by
  have hc := (RefLL.canonical_iff x).1 hc
  obtain ⟨r, l⟩ := x
  split at hs <;> simp_all

theorem rt_refLLsLoopInto (p : BitVec 16) (g : List RefLL) : ∀ (old : List RefLL) (s : MixedState),
    RT (encEach (RefLLs.encStep p) s g) (RefLLs.decLoopInto p (g.map RefLL.isRef) old s) (RefLLs.overlay old g) := by
  intro old s
  fun_induction RefLLs.overlay old g generalizing s with
  | case1 old => exact RT.pure _
  | case2 old x xs ih =>
    exact RT.andThen (rt_refLLsStepInto p s x (splitSlot RefLL.zero old).1) (RT.map (_ :: ·) (ih _))

theorem rt_refLLsInto (old : List RefLL) (p : BitVec 16) (g : List RefLL) (h : RefLLs.ok g = true) :
    RT (RefLLs.enc p g) (RefLLs.decInto old p) (RefLLs.overlay old g) := by
  have hl : g.length < 2 ^ 60 := by simpa using (lenOk_iff_lt 2 g.length).1 h
  unfold RefLLs.enc
  rw [List.append_assoc]
  exact RT.lenHeader 2 g.length (by omega) h <|
    RT.flagged (loop := fun fl => RefLLs.decLoopInto p fl old (0#64, LatLng.zero))
      (g.map RefLL.isRef) g.length (List.length_map ..) (by omega) (rt_refLLsLoopInto p g old _)

/-- slots past the end of `old` are fresh and impose nothing: hence `zip` -/
theorem refLLs_overlay_eq (g : List RefLL) : ∀ old : List RefLL, (∀ x ∈ g, x.canonical = true) →
    (∀ pr ∈ old.zip g, if pr.2.isRef then pr.1.ll = LatLng.zero else pr.1.ref = Reference.invalid) →
    RefLLs.overlay old g = g := by
  intro old hg hz
  fun_induction RefLLs.overlay old g with
  | case1 => rfl
  | case2 old x xs ih =>
    obtain ⟨hx, hxs⟩ := List.forall_mem_cons.mp hg
    cases old with
    | nil => exact List.cons_eq_cons.2 ⟨RefLL.fill_eq x RefLL.zero hx (by split <;> rfl), ih hxs (fun _ h => nomatch h)⟩
    | cons o os =>
      exact List.cons_eq_cons.2
        ⟨RefLL.fill_eq x o hx (hz (o, x) List.mem_cons_self), ih hxs fun pr h => hz pr (List.mem_cons_of_mem _ h)⟩

theorem refLLs_decLoopInto_nil (p : BitVec 16) (fls : List Bool) : ∀ s : MixedState,
    RefLLs.decLoopInto p fls [] s = Dec.forEach (RefLLs.decStep p) fls s := by
  intro s
  fun_induction Dec.forEach (RefLLs.decStep p) fls s with
  | case1 s => rfl
  | case2 fl fls s ih =>
    simp only [RefLLs.decLoopInto, splitSlot, ih]
    rw [show RefLLs.decStepInto p fl RefLL.zero s = RefLLs.decStep p fl s from rfl]

theorem refLLs_decInto_nil (p : BitVec 16) : RefLLs.decInto [] p = RefLLs.dec p := by
  unfold RefLLs.decInto RefLLs.dec RefLLs.decBodyInto RefLLs.decBody
  simp only [refLLs_decLoopInto_nil]

theorem rt_refLLs (p : BitVec 16) (g : List RefLL) (h : RefLLs.ok g = true) (hc : ∀ x ∈ g, x.canonical = true) :
    RT (RefLLs.enc p g) (RefLLs.dec p) g :=
  refLLs_decInto_nil p ▸ (rt_refLLsInto [] p g h).value (refLLs_overlay_eq g [] hc fun _ h => nomatch h)

end B6.Model.Records
