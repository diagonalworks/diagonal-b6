import B6.Model.Validate
import B6.Lemmas.Basic.AssocList
/-!
C37, about `Model/Validate.lean`: a validation stage of `Finish` is a `filterMap` that keeps IDs and locations
(`stageOn_eq`), and what `validateFeature` accepts is valid in the world it was validated against
(`validateFeature_valid`); so each feature `Finish` keeps is valid in the final world, which agrees with the world of
its stage on everything the feature reads (`finish_valid`).
-/
namespace B6.Lemmas.Validate
open B6.Model.Validate

def Uniq (w : World) : Prop := (w.map (·.id)).Nodup

theorem find_some_mem {w : World} {id : Id} {f : Feat} (h : find w id = some f) : f ∈ w ∧ f.id = id := by
  unfold find at h
  exact ⟨List.mem_of_find?_eq_some h, by simpa using List.find?_some h⟩

theorem find_of_mem {w : World} (hu : Uniq w) {f : Feat} (hf : f ∈ w) : find w f.id = some f :=
  (Basic.isLookup_find? (fun g : Feat => g.id)).of_mem hu hf

def pointLoc (f : Feat) : Option Nat := match f.geo with | .point l => l | _ => none

theorem locOf_eq (w : World) (id : Id) :
    locOf w id = if id.1 = 9 then some (1000 + id.2) else (find w id).bind pointLoc := by
  unfold locOf
  by_cases hi : id.1 = 9
  · simp [hi]
  · simp only [hi, ↓reduceIte]
    cases find w id with
    | none => rfl
    | some f =>
      obtain ⟨i, g⟩ := f
      cases g with
      | point l => cases l <;> rfl
      | path r => rfl
      | area p => rfl
      | other r => rfl

theorem locOf_append (w out : World) (h : ∀ g ∈ out, pointLoc g = none) (t : Id) : locOf (w ++ out) t = locOf w t := by
  rw [locOf_eq, locOf_eq]
  unfold find
  rw [List.find?_append]
  cases List.find? (fun f => decide (f.id = t)) w with
  | some p => rfl
  | none =>
    cases ho : List.find? (fun f => decide (f.id = t)) out with
    | none => rfl
    | some g => rw [Option.none_or, Option.bind_some, Option.bind_none, h g (List.mem_of_find?_eq_some ho)]

theorem validateFeature_out {O : Oracle} {invert : Bool} {w : World} {f g : Feat} {b : Bool}
    (h : validateFeature O invert w f = some (b, g)) :
    g = f ∨ (invert = true ∧ ∃ r, f.geo = .path r ∧ g = ⟨f.id, .path r.reverse⟩) := by
  revert h
  fun_cases validateFeature O invert w f with
  | case3 refs hg _ hi => rintro ⟨⟩; exact .inr ⟨hi, refs, hg, rfl⟩  -- a clockwise path, inverted
  | case6 => nofun
  | case1 | case2 | case4 | case5 | case7 => rintro ⟨⟩; exact .inl rfl

/-! ## a validation stage is a `filterMap` -/

/-- what a stage does with one feature. `none` stands both for "dropped" and for a validation that panicked, which
is why `stageOn_eq` is an implication from `stageOn … = some l'` and not an equation. -/
def keepOf (O : Oracle) (invert : Bool) (sel : Feat → Bool) (ctx : World) (f : Feat) : Option Feat :=
  if sel f then
    match validateFeature O invert ctx f with
    | some (true, g) => some g
    | _ => none
  else some f

theorem stageOn_eq {O : Oracle} {invert : Bool} {sel : Feat → Bool} {ctx : World} :
    ∀ {l l' : World}, stageOn O invert sel ctx l = some l' → l' = l.filterMap (keepOf O invert sel ctx) := by
  intro l l' h
  fun_induction stageOn O invert sel ctx l generalizing l' with
  | case1 => cases h; rfl
  | case2 f l hr ih => cases h  -- the tail panicked
  | case3 f l rest hr hs hv ih => cases h  -- the validation of `f` panicked
  | case4 f l rest hr hs g hv ih =>  -- accepted
    cases h
    rw [List.filterMap_cons, ← ih hr]
    simp only [keepOf, hs, hv, ↓reduceIte]
  | case5 f l rest hr hs g hv ih =>  -- rejected
    cases h
    rw [List.filterMap_cons, ← ih hr]
    simp only [keepOf, hs, hv, ↓reduceIte]
  | case6 f l rest hr hs ih =>  -- not selected
    cases h
    rw [List.filterMap_cons, ← ih hr]
    simp only [keepOf, hs, Bool.false_eq_true, ↓reduceIte]

section
variable {O : Oracle} {invert : Bool} {sel : Feat → Bool} {ctx : World}

theorem keepOf_some {f g : Feat} (h : keepOf O invert sel ctx f = some g) :
    (sel f = false ∧ g = f) ∨ (sel f = true ∧ validateFeature O invert ctx f = some (true, g)) := by
  revert h
  fun_cases keepOf O invert sel ctx f with
  | case1 hs g' hv => rintro ⟨⟩; exact .inr ⟨hs, hv⟩
  | case2 => nofun
  | case3 hs => rintro ⟨⟩; exact .inl ⟨by simpa using hs, rfl⟩

theorem keepOf_out {f g : Feat} (h : keepOf O invert sel ctx f = some g) :
    g = f ∨ ∃ r, f.geo = .path r ∧ g = ⟨f.id, .path r.reverse⟩ := by
  rcases keepOf_some h with ⟨_, rfl⟩ | ⟨_, hv⟩
  · exact Or.inl rfl
  · exact (validateFeature_out hv).imp_right And.right

theorem keepOf_id {f g : Feat} (h : keepOf O invert sel ctx f = some g) : g.id = f.id := by
  rcases keepOf_out h with rfl | ⟨_, _, rfl⟩ <;> rfl

theorem keepOf_self {f : Feat} (h : sel f = false ∨ ∃ k, f.geo = .point k) : keepOf O invert sel ctx f = some f := by
  unfold keepOf
  rcases h with h | ⟨k, hk⟩
  · rw [h]; rfl
  · split
    · simp only [validateFeature, hk]
    · rfl

theorem stage_ids_sub (l : World) :
    ((l.filterMap (keepOf O invert sel ctx)).map (·.id)).Sublist (l.map (·.id)) := by
  induction l with
  | nil => exact List.Sublist.refl _
  | cons f l ih =>
    rw [List.filterMap_cons]
    cases hk : keepOf O invert sel ctx f with
    | none => exact ih.cons _
    | some g => rw [List.map_cons, List.map_cons, keepOf_id hk]; exact ih.cons_cons _

theorem stage_uniq {l : World} (hu : Uniq l) : Uniq (l.filterMap (keepOf O invert sel ctx)) :=
  List.Nodup.sublist (stage_ids_sub l) hu

theorem stage_locOf {l : World} (hu : Uniq l) (id : Id) :
    locOf (l.filterMap (keepOf O invert sel ctx)) id = locOf l id := by
  rw [locOf_eq, locOf_eq]
  by_cases hinl : id.1 = 9
  · simp [hinl]
  simp only [hinl, ↓reduceIte]
  cases hf' : find (l.filterMap (keepOf O invert sel ctx)) id with
  | some g =>
    obtain ⟨hg, hgid⟩ := find_some_mem hf'
    obtain ⟨f, hfl, hk⟩ := List.mem_filterMap.mp hg
    have := find_of_mem hu hfl
    rw [← keepOf_id hk, hgid] at this
    rw [this]
    rcases keepOf_out hk with rfl | ⟨r, hr, rfl⟩
    · rfl
    · simp only [Option.bind_some, pointLoc, hr]
  | none =>
    cases hf : find l id with
    | none => rfl
    | some f =>
      obtain ⟨hfl, hfid⟩ := find_some_mem hf
      cases hgeo : f.geo with
      | point k =>
        have := find_of_mem (stage_uniq (O := O) (invert := invert) (sel := sel) (ctx := ctx) hu)
          (List.mem_filterMap.mpr ⟨f, hfl, keepOf_self (Or.inr ⟨k, hgeo⟩)⟩)
        rw [hfid, hf'] at this; cases this
      | _ => simp [pointLoc, hgeo]

end

theorem pathSlots_congr {w w' : World} (h : ∀ id, locOf w' id = locOf w id) (refs : List Id) :
    pathSlots w' refs = pathSlots w refs := by
  unfold pathSlots
  have : locOf w' = locOf w := funext h
  rw [this]

theorem validatePath_len {O : Oracle} {w : World} {refs : List Id} (h : validatePath O w refs ≠ .invalid) :
    2 ≤ refs.length :=
  Nat.le_of_not_lt fun hl => h (by unfold validatePath; rw [if_pos hl])

theorem valid_path_iff {O : Oracle} {w : World} {i : Id} {refs : List Id} :
    valid O w ⟨i, .path refs⟩ = true ↔ 2 ≤ refs.length ∧ ∃ slots, pathSlots w refs = some slots ∧
      (closedRefs refs = true → O.loopValid slots.dropLast = true ∧ O.ccw slots.dropLast = true) := by
  simp only [valid, Bool.and_eq_true, decide_eq_true_eq]
  cases pathSlots w refs with
  | none => simp
  | some slots => cases closedRefs refs <;> simp

theorem validatePath_ok {O : Oracle} {w : World} {i : Id} {refs : List Id} (h : validatePath O w refs = .ok) :
    valid O w ⟨i, .path refs⟩ = true := by
  revert h
  fun_cases validatePath O w refs with
  | case5 hl slots hs _ h1 h2 =>  -- a valid counter-clockwise loop
    exact fun _ => valid_path_iff.mpr ⟨Nat.not_lt.mp hl, slots, hs, fun _ => ⟨by simpa using h1, by simpa using h2⟩⟩
  | case6 hl slots hs hc =>  -- not closed
    exact fun _ => valid_path_iff.mpr ⟨Nat.not_lt.mp hl, slots, hs, fun h => absurd h hc⟩
  | case1 | case2 | case3 | case4 => nofun

theorem validatePath_clockwise {O : Oracle} {w : World} {i : Id} {refs : List Id} {slots : List Nat}
    (h : validatePath O w refs = .clockwise) (hs : pathSlots w refs.reverse = some slots)
    (h1 : O.loopValid slots.dropLast = true) (h2 : O.ccw slots.dropLast = true) :
    valid O w ⟨i, .path refs.reverse⟩ = true :=
  valid_path_iff.mpr ⟨by rw [List.length_reverse]; exact validatePath_len (by rw [h]; exact PathVerdict.noConfusion),
    slots, hs, fun _ => ⟨h1, h2⟩⟩

theorem valid_path_congr {O : Oracle} {w w' : World} (h : ∀ id, locOf w' id = locOf w id) (i : Id) (refs : List Id) :
    valid O w' ⟨i, .path refs⟩ = valid O w ⟨i, .path refs⟩ := by
  simp only [valid, pathSlots_congr h]

theorem isLoop_congr {w w' : World} {refs : List Id}
    (h : ∀ t, refs.head? = some t ∨ refs.getLast? = some t → locOf w' t = locOf w t) :
    isLoop w' refs = isLoop w refs := by
  unfold isLoop
  cases hh : refs.head? with
  | none => rfl
  | some a =>
    cases hl : refs.getLast? with
    | none => rfl
    | some b => simp only [h a (Or.inl hh), h b (Or.inr hl)]

theorem isLoop_ends {w : World} {refs : List Id} {t : Id} (h : isLoop w refs = true)
    (ht : refs.head? = some t ∨ refs.getLast? = some t) : ∃ k, locOf w t = some k := by
  unfold isLoop at h
  cases hh : refs.head? with
  | none => simp [hh] at h
  | some a =>
    cases hl : refs.getLast? with
    | none => simp [hh, hl] at h
    | some b =>
      simp only [hh, hl, Bool.and_eq_true] at h
      cases ha : locOf w a with
      | none => simp [ha] at h
      | some x =>
        cases hb : locOf w b with
        | none => simp [ha, hb] at h
        | some y =>
          rcases ht with ht | ht
          · rw [hh] at ht; cases ht; exact ⟨x, ha⟩
          · rw [hl] at ht; cases ht; exact ⟨y, hb⟩

theorem pathForArea_eq (w : World) (refs : List Id) : pathForArea w refs = some (isLoop w refs) := by
  unfold pathForArea isLoop
  by_cases hlen : refs.length < 3
  · rw [if_pos hlen, decide_eq_false (Nat.not_le.mpr hlen)]; rfl
  · rw [if_neg hlen, decide_eq_true (Nat.not_lt.mp hlen), Bool.true_and]
    cases refs.head? <;> cases refs.getLast? <;> try rfl
    rename_i a b
    dsimp only
    cases locOf w a <;> cases locOf w b <;> rfl

theorem areaPathOk_iff {w : World} {pid : Id} :
    areaPathOk w pid = true ↔ ∃ i refs, find w pid = some ⟨i, .path refs⟩ ∧ isLoop w refs = true := by
  fun_cases areaPathOk w pid with
  | case1 i refs hf =>
    exact ⟨fun h => ⟨i, refs, hf, h⟩, fun ⟨_, _, hf', hl⟩ => by cases hf.symm.trans hf'; exact hl⟩
  | case2 hn => exact ⟨nofun, fun ⟨i, refs, hf, _⟩ => absurd hf (hn i refs)⟩

theorem validatePaths_true {w : World} : ∀ {ids : List Id}, validatePaths w ids = some true →
    ∀ pid ∈ ids, areaPathOk w pid = true := by
  intro ids h p hp
  fun_induction validatePaths w ids with
  | case1 => cases hp
  | case2 a rest i refs hf hl => cases h
  | case3 a rest i refs hf hl => cases h
  | case4 a rest i refs hf hl ih =>  -- the one arm that goes on: a path that is a loop
    rw [pathForArea_eq] at hl
    rcases List.mem_cons.mp hp with rfl | hp
    · exact areaPathOk_iff.mpr ⟨i, refs, hf, Option.some.inj hl⟩
    · exact ih h hp
  | case5 a rest x hf hx => cases h
  | case6 a rest hf => cases h

/-! ## accepted ⇒ valid -/

/-- the contract on one fed feature (the per-feature hypothesis of the streaming validator; declared in the namespace of
`Lemmas/Validator.lean`, under which C37 names it, and here because `validateFeature_valid` needs it): inverting it, when it
is a clockwise loop, yields a valid counter-clockwise loop -/
def _root_.B6.Lemmas.Validator.featContract (O : Oracle) (pts : World) (f : Feat) : Prop :=
  ∀ refs, f.geo = .path refs → validatePath O pts refs = .clockwise →
    ∃ slots, pathSlots pts refs.reverse = some slots ∧ O.loopValid slots.dropLast = true ∧ O.ccw slots.dropLast = true

theorem invertContract_feat {O : Oracle} {pts src : World} (h : invertContract O pts src = true) :
    ∀ f ∈ src, Validator.featContract O pts f := by
  intro f hf refs hg hvp
  have := List.all_eq_true.mp h f hf
  simp only [hg, hvp] at this
  cases hs : pathSlots pts refs.reverse with
  | none => simp [hs] at this
  | some slots => rw [hs, Bool.and_eq_true] at this; exact ⟨slots, rfl, this⟩

theorem validateFeature_valid {O : Oracle} {invert : Bool} {w : World} {f g : Feat}
    (hc : invert = true → Validator.featContract O w f)
    (h : validateFeature O invert w f = some (true, g)) : valid O w g = true := by
  obtain ⟨i, geo⟩ := f
  revert h
  fun_cases validateFeature O invert w ⟨i, geo⟩ with
  | case2 refs hg hvp => rintro ⟨⟩; cases hg; exact validatePath_ok hvp
  | case3 refs hg hvp hi =>  -- clockwise and inverted: the contract
    rintro ⟨⟩; cases hg
    obtain ⟨slots, hs, h1, h2⟩ := hc hi refs rfl hvp
    exact validatePath_clockwise hvp hs h1 h2
  | case5 polys hg b hva => rintro ⟨⟩; cases hg; exact List.all_eq_true.mpr (validatePaths_true hva)
  | case7 hp ha =>  -- a point or another kind: nothing is checked
    rintro ⟨⟩
    cases geo with
    | path r => exact absurd rfl (hp r)
    | area r => exact absurd rfl (ha r)
    | _ => rfl
  | case1 | case4 | case6 => nofun

theorem valid_congr_loc {O : Oracle} {w w' : World} (h : ∀ id, locOf w' id = locOf w id) {g : Feat}
    (hg : isArea g = false) : valid O w' g = valid O w g := by
  obtain ⟨i, geo⟩ := g
  cases geo with
  | path refs => exact valid_path_congr h i refs
  | area p => cases hg
  | _ => rfl

theorem allValid_iff {O : Oracle} {w : World} : allValid O w = true ↔ ∀ g ∈ w, valid O w g = true := by
  rw [allValid, List.all_eq_true]

/-! ## `Finish` -/

theorem finish_valid (O : Oracle) (invert : Bool) (src w : World) (hu : Uniq src)
    (hc : invert = true → invertContract O src src = true) (h : finish O invert src = some w) :
    ∀ g ∈ w, valid O w g = true := by
  unfold finish stage at h
  cases h1s : stageOn O invert (fun f => !isArea f) src src with
  | none => simp [h1s] at h
  | some w1 =>
    simp only [h1s] at h
    have e2 := stageOn_eq h
    have e1 := stageOn_eq h1s
    have hu1 : Uniq w1 := e1 ▸ stage_uniq hu
    have hu2 : Uniq w := e2 ▸ stage_uniq hu1
    have loc2 : ∀ id, locOf w id = locOf w1 id := fun id => by rw [e2, stage_locOf hu1]
    have loc1 : ∀ id, locOf w1 id = locOf src id := fun id => by rw [e1, stage_locOf hu]
    intro g hg
    rw [e2] at hg
    obtain ⟨f1, hf1, hk1⟩ := List.mem_filterMap.mp hg
    rcases keepOf_some hk1 with ⟨hsel, rfl⟩ | ⟨hsel, hv⟩
    · -- not an area: accepted by the first stage against `src`; it reads locations only
      rw [e1] at hf1
      obtain ⟨f0, hf0, hk0⟩ := List.mem_filterMap.mp hf1
      rcases keepOf_some hk0 with ⟨hsel0, rfl⟩ | ⟨_, hv0⟩
      · rw [Bool.not_eq_false'] at hsel0; rw [hsel] at hsel0; cases hsel0
      · rw [valid_congr_loc (fun id => (loc2 id).trans (loc1 id)) hsel]
        exact validateFeature_valid (fun hi => invertContract_feat (hc hi) f0 hf0) hv0
    · -- an area, accepted against the survivors `w1` of the first stage, all of which the second stage keeps
      cases hgeo : f1.geo with
      | area polys =>
        have hgf : g = f1 := (validateFeature_out hv).resolve_right fun ⟨_, r, hr, _⟩ => by rw [hgeo] at hr; cases hr
        subst hgf
        have hva := validateFeature_valid (fun _ refs hp => by rw [hgeo] at hp; cases hp) hv
        simp only [valid, hgeo, List.all_eq_true] at hva ⊢
        intro pid hpid
        obtain ⟨i, refs, hfind, hl⟩ := areaPathOk_iff.mp (hva pid hpid)
        obtain ⟨hmem, hid⟩ := find_some_mem hfind
        have hfw := find_of_mem hu2 (e2 ▸ List.mem_filterMap.mpr ⟨_, hmem, keepOf_self (Or.inl rfl)⟩)
        cases hid
        exact areaPathOk_iff.mpr ⟨i, refs, hfw, by rw [isLoop_congr fun t _ => loc2 t]; exact hl⟩
      | _ => simp [isArea, hgeo] at hsel

end B6.Lemmas.Validate
