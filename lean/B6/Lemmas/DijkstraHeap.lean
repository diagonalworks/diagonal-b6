import B6.Lemmas.Dijkstra
import B6.Lemmas.Basic.Dedup
/-!
# The queue of `ShortestPathSearch` really is a binary heap

`container/heap` as modelled in `Model/Dijkstra.lean`, `Less` = strict `<` on the distances of the table entries.
`HInv`: the queue holds exactly the unvisited table entries, each once, in heap order.  The sift lemmas see the table
only through `less_decides`; `push_ord` / `pop_ord` / `fix_ord` are about an array in heap order under one table,
`push_spec` / `fix_spec` / `pop_spec` about `HInv` (what they add is who is queued).  `run_step` is one iteration of
the loop for `runH` and `runHU` alike, so the run-time check of `runH` is redundant, a run that ends leaves nothing
unvisited, the loop terminates on a finite closed vertex set, and `ExpandSearchTo` stops at the pop of `dest`.
-/
namespace B6.Lemmas.DijkstraHeap
open B6.Model.Dijkstra B6.Spec.ShortestPath B6.Lemmas.Dijkstra

/-! ### positions of the implicit tree -/

def par (k : Nat) : Nat := (k - 1) / 2

theorem par_lt {k : Nat} (hk : 0 < k) : par k < k := by unfold par; omega

theorem par_left (i : Nat) : par (2 * i + 1) = i := by unfold par; omega

theorem par_right (i : Nat) : par (2 * i + 1 + 1) = i := by unfold par; omega

theorem child_of_par {k i : Nat} (hk : 0 < k) (h : par k = i) : k = 2 * i + 1 ∨ k = 2 * i + 1 + 1 := by
  unfold par at h; omega

/-- the distance to the end of the array, which bounds the fuel `down` needs, shrinks on the way down (on its own
because `omega` is slow in the context of `down_spec`) -/
theorem fuel_down {n i j fuel : Nat} (hf : n - i < fuel + 1) (hij : i < j) (hjn : j < n) : n - j < fuel := by
  omega

/-! ### arrays: bounds, the same entries in another arrangement (no table, no order) -/
section arrays
variable {P : Type}

theorem getElem?_lt {h : Array P} {k : Nat} (hk : k < h.size) : ∃ p, h[k]? = some p :=
  ⟨h[k], Array.getElem?_eq_some_iff.mpr ⟨hk, rfl⟩⟩

theorem lt_size_of_some {h : Array P} {k : Nat} {p : P} (hk : h[k]? = some p) : k < h.size :=
  (Array.getElem?_eq_some_iff.mp hk).1

theorem getElem?_pop_some {h : Array P} {k : Nat} {p : P} :
    h.pop[k]? = some p ↔ k < h.size - 1 ∧ h[k]? = some p := by
  rw [Array.getElem?_pop]; split <;> simp [*]

theorem getElem?_push_lt {h : Array P} {v : P} {k : Nat} (hk : k < h.size) : (h.push v)[k]? = h[k]? := by
  rw [Array.getElem?_push, if_neg (Nat.ne_of_lt hk)]

private def tr (i j k : Nat) : Nat := if k = i then j else if k = j then i else k

private theorem tr_ne {i j k : Nat} (h1 : k ≠ i) (h2 : k ≠ j) : tr i j k = k := by simp [tr, h1, h2]
private theorem tr_left (i j : Nat) : tr i j i = j := by simp [tr]
private theorem tr_right (i j : Nat) : tr i j j = i := by
  unfold tr; by_cases h : j = i <;> simp [h]

private theorem tr_tr (i j k : Nat) : tr i j (tr i j k) = k := by
  by_cases hi : k = i
  · rw [hi, tr_left, tr_right]
  · by_cases hj : k = j
    · rw [hj, tr_right, tr_left]
    · rw [tr_ne hi hj, tr_ne hi hj]

/-- `h'` holds the same queue entries as `h`, moved around by a bijection of positions -/
def Shuffle (h h' : Array P) : Prop :=
  ∃ σ τ : Nat → Nat, (∀ k, σ (τ k) = k) ∧ (∀ k, τ (σ k) = k) ∧ ∀ k : Nat, h'[k]? = h[σ k]?

theorem Shuffle.refl (h : Array P) : Shuffle h h := ⟨id, id, fun _ => rfl, fun _ => rfl, fun _ => rfl⟩

theorem Shuffle.trans {h1 h2 h3 : Array P} (a : Shuffle h1 h2) (b : Shuffle h2 h3) : Shuffle h1 h3 := by
  obtain ⟨σ1, τ1, a1, a2, a3⟩ := a
  obtain ⟨σ2, τ2, b1, b2, b3⟩ := b
  refine ⟨fun k => σ1 (σ2 k), fun k => τ2 (τ1 k), ?_, ?_, ?_⟩
  · intro k; simp [a1, b1]
  · intro k; simp [a2, b2]
  · intro k; rw [b3, a3]

theorem swap_spec {h : Array P} {i j : Nat} {pi pj : P} (hi : h[i]? = some pi) (hj : h[j]? = some pj) :
    ∃ h', Heap.swap h i j = some h' ∧ h'.size = h.size ∧ h'[i]? = h[j]? ∧ h'[j]? = h[i]? ∧
      (∀ k : Nat, k ≠ i → k ≠ j → h'[k]? = h[k]?) ∧ Shuffle h h' := by
  have hi' := lt_size_of_some hi
  have hj' := lt_size_of_some hj
  have hs : ∀ k : Nat, ((h.setIfInBounds i pj).setIfInBounds j pi)[k]? = h[tr i j k]? := by
    intro k
    simp only [Array.getElem?_setIfInBounds, Array.size_setIfInBounds]
    by_cases hkj : j = k
    · subst hkj; simp [hj', tr_right, hi]
    · by_cases hki : i = k
      · subst hki; simp [hkj, hi', tr_left, hj]
      · simp [hkj, hki, tr_ne (Ne.symm hki) (Ne.symm hkj)]
  exact ⟨_, by simp [Heap.swap, hi, hj], by simp, by rw [hs, tr_left], by rw [hs, tr_right],
    fun k hi hj => by rw [hs, tr_ne hi hj], tr i j, tr i j, tr_tr i j, tr_tr i j, hs⟩

/-- the queue holds every point at most once -/
def Inj (h : Array P) : Prop := ∀ (a b : Nat) (p : P), h[a]? = some p → h[b]? = some p → a = b

def Mem (h : Array P) (p : P) : Prop := ∃ k : Nat, h[k]? = some p

theorem Shuffle.inj {h h' : Array P} (s : Shuffle h h') (hi : Inj h) : Inj h' := by
  obtain ⟨σ, τ, h1, h2, hs⟩ := s
  intro a b p ha hb
  rw [hs] at ha hb
  have := congrArg τ (hi _ _ p ha hb)
  simpa [h2] using this

theorem Shuffle.mem {h h' : Array P} (s : Shuffle h h') (p : P) : Mem h' p ↔ Mem h p := by
  obtain ⟨σ, τ, h1, h2, hs⟩ := s
  constructor
  · intro ⟨k, hk⟩; exact ⟨σ k, by rw [← hs]; exact hk⟩
  · intro ⟨k, hk⟩; exact ⟨τ k, by rw [hs, h1]; exact hk⟩

variable [DecidableEq P]

theorem indexOf_spec {h : Array P} {p : P} {i : Nat} (hi : h[i]? = some p) :
    ∀ (fuel k : Nat), k ≤ i → i < k + fuel → ∃ k', Heap.indexOf h p fuel k = some k' ∧ h[k']? = some p := by
  intro fuel k h1 h2
  have hlt := lt_size_of_some hi
  have hne : ∀ {k}, h[k]? ≠ some p → k ≠ i := fun hk e => hk (e ▸ hi)
  fun_induction Heap.indexOf h p fuel k with
  | case1 => omega
  | case2 fuel k hk => exact ⟨k, rfl, hk⟩
  | case3 fuel k hk _ ih => have := hne hk; exact ih (by omega) (by omega)
  | case4 fuel k hk _ => have := hne hk; omega

end arrays

section heap
variable {P S α : Type} [DecidableEq P] [Cost α]

/-! ### the order `Less` uses, between points and between positions of the queue -/

/-- `p` is not behind `q` in the order `Less` uses (distances of their table entries) -/
def KLe (t : Table P S α) (p q : P) : Prop :=
  ∀ ep eq, tget t p = some ep → tget t q = some eq → ¬ eq.dist < ep.dist

/-- the same between two positions of the queue -/
def KLeIdx (t : Table P S α) (h : Array P) (a b : Nat) : Prop :=
  ∀ pa pb, h[a]? = some pa → h[b]? = some pb → KLe t pa pb

/-- every queued point has a table entry -/
def AllIn (t : Table P S α) (h : Array P) : Prop := ∀ (k : Nat) (p : P), h[k]? = some p → ∃ e, tget t p = some e

/-- heap order on the first `n` positions -/
def Ord (t : Table P S α) (h : Array P) (n : Nat) : Prop :=
  ∀ k, 0 < k → k < n → KLeIdx t h (par k) k

/-- heap order except between `j` and its parent (state of `up`) -/
def OrdUp (t : Table P S α) (h : Array P) (n j : Nat) : Prop :=
  (∀ k, 0 < k → k < n → k ≠ j → KLeIdx t h (par k) k) ∧
  (∀ k, 0 < k → k < n → par k = j → 0 < j → KLeIdx t h (par j) k)

/-- heap order except between `i` and its children (state of `down`) -/
def OrdDown (t : Table P S α) (h : Array P) (n i : Nat) : Prop :=
  (∀ k, 0 < k → k < n → par k ≠ i → KLeIdx t h (par k) k) ∧
  (∀ k, 0 < k → k < n → par k = i → 0 < i → KLeIdx t h (par i) k)

theorem KLe.congr {t t' : Table P S α} {a b : P} (ha : tget t' a = tget t a) (hb : tget t' b = tget t b)
    (h : KLe t a b) : KLe t' a b := by
  intro ea eb h1 h2
  rw [ha] at h1; rw [hb] at h2
  exact h ea eb h1 h2

theorem KLeIdx.of {t : Table P S α} {h : Array P} {a b : Nat} {pa pb : P} {ea eb : Entry P S α}
    (ha : h[a]? = some pa) (hb : h[b]? = some pb) (hea : tget t pa = some ea) (heb : tget t pb = some eb)
    (hle : ¬ eb.dist < ea.dist) : KLeIdx t h a b := by
  intro pa' pb' ha' hb' ea' eb' hea' heb'
  rw [ha] at ha'; rw [hb] at hb'; cases ha'; cases hb'
  rw [hea] at hea'; rw [heb] at heb'; cases hea'; cases heb'
  exact hle

theorem KLeIdx.congr {t : Table P S α} {h h' : Array P} {a b a' b' : Nat} (hk : KLeIdx t h a' b')
    (ea : h'[a]? = h[a']?) (eb : h'[b]? = h[b']?) : KLeIdx t h' a b :=
  fun pa pb ha hb => hk pa pb (ea ▸ ha) (eb ▸ hb)

omit [Cost α] in
theorem Shuffle.allIn {t : Table P S α} {h h' : Array P} (s : Shuffle h h') (ha : AllIn t h) : AllIn t h' := by
  obtain ⟨σ, _, _, _, hs⟩ := s
  intro k p hk
  rw [hs] at hk
  exact ha _ p hk

theorem Ord.ofTable {t t' : Table P S α} {h : Array P} {n : Nat} (ho : Ord t h n)
    (hsame : ∀ (k : Nat) (q : P), h[k]? = some q → tget t' q = tget t q) : Ord t' h n :=
  fun k hk0 hkn pa pb ha hb => (ho k hk0 hkn pa pb ha hb).congr (hsame _ _ ha) (hsame _ _ hb)

theorem Ord.pop {t : Table P S α} {h : Array P} {n : Nat} (ho : Ord t h n) (hn : h.size - 1 ≤ n) :
    Ord t h.pop h.pop.size :=
  fun k hk0 hkn pa pb ha hb =>
    ho k hk0 (Nat.lt_of_lt_of_le (Array.size_pop ▸ hkn) hn) pa pb (getElem?_pop_some.mp ha).2 (getElem?_pop_some.mp hb).2

/-- the queue is a binary heap (under `Less`) of exactly the unvisited entries -/
structure HInv (s : HState P S α) : Prop where
  unvis : ∀ (k : Nat) (p : P), s.heap[k]? = some p → ∃ e, tget s.t p = some e ∧ e.visited = false
  cover : ∀ p e, tget s.t p = some e → e.visited = false → Mem s.heap p
  inj : Inj s.heap
  ord : Ord s.t s.heap s.heap.size

theorem HInv.allIn {s : HState P S α} (h : HInv s) : AllIn s.t s.heap := by
  intro k p hk
  obtain ⟨e, he, _⟩ := h.unvis k p hk
  exact ⟨e, he⟩

theorem HInv.ofShuffle {t : Table P S α} {h h' : Array P} (hsh : Shuffle h h')
    (unvis : ∀ (k : Nat) (p : P), h[k]? = some p → ∃ e, tget t p = some e ∧ e.visited = false)
    (cover : ∀ p e, tget t p = some e → e.visited = false → Mem h p) (inj : Inj h)
    (ord : Ord t h' h'.size) : HInv { t := t, heap := h' } :=
  ⟨fun k p hk => by obtain ⟨k', hk'⟩ := (hsh.mem p).mp ⟨k, hk⟩; exact unvis k' p hk',
   fun p e hp hv => (hsh.mem p).mpr (cover p e hp hv), hsh.inj inj, ord⟩

theorem HInv.afterPop {s : HState P S α} (hI : HInv s) {p : P} {h1 : Array P} (r : Entry P S α)
    (hinj : Inj h1) (hord : Ord s.t h1 h1.size)
    (hmem : ∀ q, Mem h1 q ↔ (q ≠ p ∧ Mem s.heap q)) :
    HInv { t := tput s.t p { r with visited := true }, heap := h1 } := by
  have hne : ∀ (k : Nat) (q : P), h1[k]? = some q → q ≠ p := fun k q hk => ((hmem q).mp ⟨k, hk⟩).1
  refine ⟨?_, ?_, hinj, ?_⟩
  · intro k q hk
    obtain ⟨_, k', hk'⟩ := (hmem q).mp ⟨k, hk⟩
    obtain ⟨e, he, hev⟩ := hI.unvis k' q hk'
    exact ⟨e, (get_put_ne _ _ (hne k q hk)).trans he, hev⟩
  · intro q e hq hqv
    rcases get_put_some hq with ⟨_, he⟩ | ⟨hqp, hq'⟩
    · rw [he] at hqv; cases hqv
    · exact (hmem q).mpr ⟨hqp, hI.cover q e hq' hqv⟩
  · exact hord.ofTable fun k q hk => get_put_ne _ _ (hne k q hk)

theorem HInv.allVisited_of_empty {s : HState P S α} (hI : HInv s) (hz : s.heap.size = 0) :
    ∀ p e, tget s.t p = some e → e.visited = true := by
  intro p e hp
  cases hv : e.visited with
  | true => rfl
  | false =>
    obtain ⟨k, hk⟩ := hI.cover p e hp hv
    exact absurd (lt_size_of_some hk) (hz ▸ Nat.not_lt_zero k)

theorem run_empty (g : Graph P S α) (max : α) (to : Option P) (fuel : Nat) {s : HState P S α}
    (hz : s.heap.size = 0) : runH g max to fuel s = .done s ∧ runHU g max to fuel s = .done s := by
  cases fuel <;> simp [runH, runHU, hz]

variable [LawfulCost α]

theorem KLe.trans {t : Table P S α} {a b c : P} (h1 : KLe t a b) (h2 : KLe t b c)
    (hb : ∃ e, tget t b = some e) : KLe t a c := by
  intro ea ec ha hc hlt
  obtain ⟨eb, hb⟩ := hb
  exact not_lt_of_le (le_trans (le_of_not_lt (h1 ea eb ha hb)) (le_of_not_lt (h2 eb ec hb hc))) hlt

theorem KLe.refl (t : Table P S α) (a : P) : KLe t a a := by
  intro ea eb ha hb hlt
  rw [ha] at hb; cases hb
  exact not_lt_of_le (le_rfl _) hlt

theorem KLeIdx.refl (t : Table P S α) (h : Array P) (a : Nat) : KLeIdx t h a a := by
  intro pa pb ha hb
  rw [ha] at hb; cases hb; exact KLe.refl t pa

theorem KLeIdx.trans {t : Table P S α} {h : Array P} {a b c : Nat} (h1 : KLeIdx t h a b) (hall : AllIn t h)
    (hb : b < h.size) (h2 : KLeIdx t h b c) : KLeIdx t h a c := by
  intro pa pc ha hc
  obtain ⟨pb, hpb⟩ := getElem?_lt hb
  exact (h1 pa pb ha hpb).trans (h2 pb pc hpb hc) (hall b pb hpb)

/-- `Less(i, j)` answers; `false` means exactly that `j` is not behind `i`, and `true` implies that `i` is not behind
`j`.  The sift lemmas use nothing else of the table. -/
theorem less_decides {t : Table P S α} {h : Array P} {i j : Nat} {pi pj : P}
    (hi : h[i]? = some pi) (hj : h[j]? = some pj) (hall : AllIn t h) :
    ∃ b, Heap.less t h i j = some b ∧ (b = true → KLeIdx t h i j) ∧ (b = false ↔ KLeIdx t h j i) := by
  obtain ⟨ei, hei⟩ := hall i pi hi
  obtain ⟨ej, hej⟩ := hall j pj hj
  refine ⟨decide (ei.dist < ej.dist), by simp [Heap.less, hi, hj, hei, hej], fun hb => ?_, fun hb => ?_, fun hk => ?_⟩
  · exact KLeIdx.of hi hj hei hej (not_lt_of_le (le_of_lt (of_decide_eq_true hb)))
  · exact KLeIdx.of hj hi hej hei (of_decide_eq_false hb)
  · exact decide_eq_false (hk pj pi hj hi ej ei hej hei)

/-- `heap.up` restores the heap order when only the pair (parent j, j) may be out of order -/
theorem up_spec {t : Table P S α} :
    ∀ (fuel : Nat) (h : Array P) (j : Nat), AllIn t h → OrdUp t h h.size j → j < h.size → j < fuel →
      ∃ h', Heap.up t fuel h j = some h' ∧ h'.size = h.size ∧ Ord t h' h'.size ∧ Shuffle h h' := by
  intro fuel h j hall hord hj hf
  fun_induction Heap.up t fuel h j with
  | case1 => omega
  | case2 fuel h => exact ⟨h, rfl, rfl, fun k hk0 hkn => hord.1 k hk0 hkn (Nat.ne_of_gt hk0), Shuffle.refl h⟩
  | case3 fuel h j i hj0 ih =>
    rw [show i = par j from rfl] at ih ⊢
    have hj0 : 0 < j := Nat.pos_of_ne_zero hj0
    have hij : par j < j := par_lt hj0
    have hi : par j < h.size := Nat.lt_trans hij hj
    obtain ⟨pj, hpj⟩ := getElem?_lt hj
    obtain ⟨pi, hpi⟩ := getElem?_lt hi
    obtain ⟨b, hless, hb1, hb0⟩ := less_decides hpj hpi hall
    rw [hless]
    cases b with
    | true =>
      -- `j` is ahead of its parent: swap them; now only the pair (grandparent, parent) may be out of order
      obtain ⟨h', hsw, hsz, hsi, hsj, hsk, hsh'⟩ := swap_spec hpi hpj
      have kji : KLeIdx t h j (par j) := hb1 rfl
      have hord' : OrdUp t h' h'.size (par j) := by
        rw [hsz]
        constructor
        · intro k hk0 hkn hki
          by_cases hkj : k = j
          · rw [hkj]; exact kji.congr hsi hsj
          · have hk := hsk k hki hkj
            have hold := hord.1 k hk0 hkn hkj
            by_cases hpk : par k = j
            · rw [hpk]; exact (hord.2 k hk0 hkn hpk hj0).congr hsj hk
            · by_cases hpk2 : par k = par j
              · rw [hpk2] at hold ⊢
                exact (kji.trans hall hi hold).congr hsi hk
              · exact hold.congr (hsk _ hpk2 hpk) hk
        · intro k hk0 hkn hpk hi0
          have hgi : KLeIdx t h (par (par j)) (par j) := hord.1 _ hi0 hi (Nat.ne_of_lt hij)
          have hgg := par_lt hi0
          have hpp := hsk (par (par j)) (Nat.ne_of_lt hgg) (Nat.ne_of_lt (Nat.lt_trans hgg hij))
          by_cases hkj : k = j
          · rw [hkj]; exact hgi.congr hpp hsj
          · have hold := hord.1 k hk0 hkn hkj
            rw [hpk] at hold
            have := par_lt hk0
            exact (hgi.trans hall hi hold).congr hpp (hsk k (by omega) hkj)
      obtain ⟨h'', hup, hsz', hord'', hsh⟩ :=
        ih h' (hsh'.allIn hall) hord' (hsz ▸ hi) (Nat.lt_of_lt_of_le hij (Nat.le_of_lt_succ hf))
      exact ⟨h'', by simp [hsw, hup], hsz'.trans hsz, hord'', hsh'.trans hsh⟩
    | false =>
      refine ⟨h, by simp, rfl, fun k hk0 hkn => ?_, Shuffle.refl h⟩
      by_cases hkj : k = j
      · rw [hkj]; exact hb0.mp rfl
      · exact hord.1 k hk0 hkn hkj

theorem pickChild_spec {t : Table P S α} {h : Array P} {i n : Nat} (hall : AllIn t h) (hn : n ≤ h.size)
    (hj1 : ¬ 2 * i + 1 ≥ n) :
    ∃ j, Heap.pickChild t h (2 * i + 1) n = some j ∧ par j = i ∧ 0 < j ∧ j < n ∧
      ∀ k, k < n → par k = i → 0 < k → KLeIdx t h j k := by
  unfold Heap.pickChild
  have h1 : 2 * i + 1 < n := Nat.lt_of_not_ge hj1
  by_cases h2 : 2 * i + 1 + 1 < n
  · obtain ⟨p1, hp1⟩ := getElem?_lt (Nat.lt_of_lt_of_le h1 hn)
    obtain ⟨p2, hp2⟩ := getElem?_lt (Nat.lt_of_lt_of_le h2 hn)
    obtain ⟨b, hless, hb1, hb0⟩ := less_decides hp2 hp1 hall
    simp only [h2, if_true, hless]
    cases b with
    | true =>
      refine ⟨_, by simp, par_right i, Nat.succ_pos _, h2, fun k _ hpk hk0 => ?_⟩
      rcases child_of_par hk0 hpk with rfl | rfl
      · exact hb1 rfl
      · exact KLeIdx.refl t h _
    | false =>
      refine ⟨_, by simp, par_left i, Nat.succ_pos _, h1, fun k _ hpk hk0 => ?_⟩
      rcases child_of_par hk0 hpk with rfl | rfl
      · exact KLeIdx.refl t h _
      · exact hb0.mp rfl
  · refine ⟨_, by simp [h2], par_left i, Nat.succ_pos _, h1, fun k hkn hpk hk0 => ?_⟩
    rcases child_of_par hk0 hpk with rfl | rfl
    · exact KLeIdx.refl t h _
    · exact absurd hkn h2

/-- `heap.down` restores the heap order on the first `n` positions when only `i` may be above its children;
positions from `n` on are not touched -/
theorem down_spec {t : Table P S α} :
    ∀ (fuel : Nat) (h : Array P) (i n : Nat), AllIn t h → n ≤ h.size → OrdDown t h n i → n - i < fuel →
      ∃ r, Heap.down t fuel h i n = some r ∧ r.1.size = h.size ∧ Ord t r.1 n ∧ Shuffle h r.1 ∧
        ∀ k : Nat, n ≤ k → r.1[k]? = h[k]? := by
  intro fuel
  induction fuel with
  | zero => intro h i n _ _ _ hf; omega
  | succ fuel ih =>
    intro h i n hall hn hord hf
    unfold Heap.down
    by_cases hj1 : 2 * i + 1 ≥ n
    · refine ⟨(h, i), by simp [hj1], rfl, fun k hk0 hkn => hord.1 k hk0 hkn fun hpk => ?_, Shuffle.refl h,
        fun _ _ => rfl⟩
      have := child_of_par hk0 hpk; omega
    · simp only [hj1, if_false]
      -- the smaller child `j`, not behind any child of `i`
      obtain ⟨j, hpick, hji, hj0, hjn, hjmin⟩ := pickChild_spec hall hn hj1
      rw [hpick]
      simp only []
      have hij : i < j := hji ▸ par_lt hj0
      have hjs : j < h.size := Nat.lt_of_lt_of_le hjn hn
      obtain ⟨pi, hpi⟩ := getElem?_lt (Nat.lt_trans hij hjs)
      obtain ⟨pj, hpj⟩ := getElem?_lt hjs
      obtain ⟨b, hless, hb1, hb0⟩ := less_decides hpj hpi hall
      rw [hless]
      cases b with
      | true =>
        obtain ⟨h', hsw, hsz, hsi, hsj, hsk, hsh'⟩ := swap_spec hpi hpj
        have kji : KLeIdx t h j i := hb1 rfl
        have hord' : OrdDown t h' n j := by
          constructor
          · intro k hk0 hkn hpk
            by_cases hkj : k = j
            · rw [hkj, hji]; exact kji.congr hsi hsj
            · by_cases hki : k = i
              · rw [hki] at hk0 ⊢
                have := par_lt hk0
                exact (hord.2 j hj0 hjn hji hk0).congr
                  (hsk _ (Nat.ne_of_lt this) (Nat.ne_of_lt (Nat.lt_trans this hij))) hsi
              · have hk := hsk k hki hkj
                by_cases hpki : par k = i
                · rw [hpki]; exact (hjmin k hkn hpki hk0).congr hsi hk
                · exact (hord.1 k hk0 hkn hpki).congr (hsk _ hpki hpk) hk
          · intro k hk0 hkn hpk _
            have hold := hord.1 k hk0 hkn (hpk ▸ Nat.ne_of_gt hij)
            rw [hpk] at hold
            have hjk : j < k := hpk ▸ par_lt hk0
            rw [hji]; exact hold.congr hsi (hsk k (Nat.ne_of_gt (Nat.lt_trans hij hjk)) (Nat.ne_of_gt hjk))
        obtain ⟨r, hdown, hsz', hord'', hsh, hfix⟩ :=
          ih h' j n (hsh'.allIn hall) (hsz ▸ hn) hord' (fuel_down hf hij hjn)
        refine ⟨r, by simp [hsw, hdown], hsz'.trans hsz, hord'', hsh'.trans hsh, fun k hk => ?_⟩
        have hjk := Nat.lt_of_lt_of_le hjn hk
        rw [hfix k hk, hsk k (Nat.ne_of_gt (Nat.lt_trans hij hjk)) (Nat.ne_of_gt hjk)]
      | false =>
        refine ⟨(h, i), by simp, rfl, fun k hk0 hkn => ?_, Shuffle.refl h, fun _ _ => rfl⟩
        by_cases hpk : par k = i
        · rw [hpk]; exact (hb0.mp rfl).trans hall hjs (hjmin k hkn hpk hk0)
        · exact hord.1 k hk0 hkn hpk

theorem down_noop {t : Table P S α} {h : Array P} {i n : Nat} (fuel : Nat) (hall : AllIn t h) (hn : n ≤ h.size)
    (hi : i < h.size) (hch : ∀ k, k < n → par k = i → 0 < k → KLeIdx t h i k) :
    Heap.down t (fuel + 1) h i n = some (h, i) := by
  unfold Heap.down
  by_cases hj1 : 2 * i + 1 ≥ n
  · simp [hj1]
  · simp only [hj1, if_false]
    obtain ⟨j, hpick, hji, hj0, hjn, _⟩ := pickChild_spec hall hn hj1
    obtain ⟨pi, hpi⟩ := getElem?_lt hi
    obtain ⟨pj, hpj⟩ := getElem?_lt (show j < h.size by omega)
    obtain ⟨b, hless, _, hb0⟩ := less_decides hpj hpi hall
    rw [hpick]; simp only []
    rw [hless, hb0.mpr (hch j hjn hji hj0)]; rfl

/-- in a heap the root is not behind anything -/
theorem root_min {t : Table P S α} {h : Array P} {n : Nat} (hall : AllIn t h) (hn : n ≤ h.size)
    (hord : Ord t h n) : ∀ k, k < n → KLeIdx t h 0 k := by
  intro k
  induction k using Nat.strongRecOn with
  | _ k ih =>
    intro hk
    by_cases hk0 : k = 0
    · rw [hk0]; exact KLeIdx.refl t h 0
    · have hp := par_lt (Nat.pos_of_ne_zero hk0)
      exact (ih (par k) hp (by omega)).trans hall (by omega) (hord k (by omega) hk)

/-! ### `Push`, `Pop`, `Fix` on an array in heap order, for one table -/

theorem push_ord {t : Table P S α} {h : Array P} {v : P} (hall : AllIn t (h.push v)) (hord : Ord t h h.size) :
    ∃ h', Heap.push t h v = some h' ∧ Ord t h' h'.size ∧ Shuffle (h.push v) h' := by
  -- the new last position is the only one that may be ahead of its parent, and it has no children
  have hordU : OrdUp t (h.push v) (h.push v).size h.size := by
    rw [Array.size_push]
    refine ⟨fun k hk0 hkn hkj => ?_, fun k hk0 hkn hpk _ => ?_⟩
    · have hk : k < h.size := Nat.lt_of_le_of_ne (Nat.le_of_lt_succ hkn) hkj
      exact (hord k hk0 hk).congr (getElem?_push_lt (Nat.lt_trans (par_lt hk0) hk)) (getElem?_push_lt hk)
    · have := par_lt hk0; omega
  obtain ⟨h', hup, _, hord', hsh⟩ :=
    up_spec ((h.push v).size + 1) (h.push v) h.size hall hordU (by simp) (by simp; omega)
  exact ⟨h', by unfold Heap.push; simpa using hup, hord', hsh⟩

/-- `heap.Pop` on a non-empty heap: the root is swapped to the end and stays there while the new root is sifted down
over the other positions; what is returned is that array without its last entry -/
theorem pop_ord {t : Table P S α} {h : Array P} (hall : AllIn t h) (hord : Ord t h h.size) (hne : h.size ≠ 0) :
    ∃ p h1 r, h[0]? = some p ∧ Heap.swap h 0 (h.size - 1) = some h1 ∧
      Heap.down t (h.size + 1) h1 0 (h.size - 1) = some r ∧ Heap.pop t h = some (p, r.1.pop) ∧
      r.1.size = h.size ∧ Shuffle h r.1 ∧ r.1[h.size - 1]? = some p ∧ Ord t r.1 (h.size - 1) := by
  have h0 : 0 < h.size := Nat.pos_of_ne_zero hne
  obtain ⟨p, hp⟩ := getElem?_lt h0
  obtain ⟨pl, hpl⟩ := getElem?_lt (Nat.sub_lt h0 Nat.one_pos)
  obtain ⟨h1, hsw, hsz, _, hsl, hsk, hsh1⟩ := swap_spec hp hpl
  -- the rest is a heap except at the new root
  have hordD : OrdDown t h1 (h.size - 1) 0 := by
    refine ⟨fun k hk0 hkn hpk => ?_, fun _ _ _ _ h0 => absurd h0 (Nat.lt_irrefl 0)⟩
    have hpl := Nat.lt_trans (par_lt hk0) hkn
    exact (hord k hk0 (Nat.lt_of_lt_of_le hkn (Nat.sub_le _ _))).congr (hsk _ hpk (Nat.ne_of_lt hpl))
      (hsk k (Nat.ne_of_gt hk0) (Nat.ne_of_lt hkn))
  obtain ⟨r, hdown, hsz2, hord2, hsh2, hfix⟩ :=
    down_spec (h.size + 1) h1 0 (h.size - 1) (hsh1.allIn hall) (hsz ▸ Nat.sub_le _ _) hordD (by omega)
  have hlast : r.1[h.size - 1]? = some p := by rw [hfix _ (Nat.le_refl _), hsl]; exact hp
  exact ⟨p, h1, r, hp, hsw, hdown, by simp [Heap.pop, hne, hsw, hdown, hlast], hsz2.trans hsz,
    hsh1.trans hsh2, hlast, hord2⟩

/-- `heap.Fix` at the position of `v` after the entry of `v` moved ahead (`t` before, `t'` after): `down` does
nothing, `up` restores the order -/
theorem fix_ord {t t' : Table P S α} {h : Array P} {i : Nat} {v : P} (hi : h[i]? = some v) (hinj : Inj h)
    (hall : AllIn t h) (hall' : AllIn t' h) (hord : Ord t h h.size)
    (hmono : ∀ a b : Nat, b ≠ i → KLeIdx t h a b → KLeIdx t' h a b) :
    ∃ h', Heap.fix t' h v = some h' ∧ Ord t' h' h'.size ∧ Shuffle h h' := by
  have hisz := lt_size_of_some hi
  have hchild : ∀ k, k < h.size → par k = i → 0 < k → KLeIdx t' h i k := by
    intro k hk hpk hk0
    have hik : i < k := hpk ▸ par_lt hk0
    exact hmono i k (Nat.ne_of_gt hik) (by rw [← hpk]; exact hord k hk0 hk)
  obtain ⟨k', hidx, hk'⟩ := indexOf_spec hi h.size 0 (Nat.zero_le _) (by simpa using hisz)
  obtain rfl : k' = i := hinj k' i v hk' hi
  have hdown := down_noop (t := t') (n := h.size) h.size hall' (Nat.le_refl _) hisz hchild
  have hordU : OrdUp t' h h.size k' := by
    refine ⟨fun k hk0 hkn hkj => hmono _ k hkj (hord k hk0 hkn), fun k hk0 hkn hpk hj0 => ?_⟩
    have h2 := hord k hk0 hkn
    rw [hpk] at h2
    have hk : k' < k := hpk ▸ par_lt hk0
    exact hmono _ k (Nat.ne_of_gt hk) ((hord k' hj0 hisz).trans hall hisz h2)
  obtain ⟨h', hup, _, hord', hsh⟩ := up_spec (h.size + 1) h k' hall' hordU hisz (Nat.lt_succ_of_lt hisz)
  exact ⟨h', by simp [Heap.fix, hidx, hdown, hup], hord', hsh⟩

theorem pop_spec {s : HState P S α} (hI : HInv s) (hne : s.heap.size ≠ 0) :
    ∃ p h1, Heap.pop s.t s.heap = some (p, h1) ∧ IsMin s.t p ∧ Inj h1 ∧ Ord s.t h1 h1.size ∧
      (∀ q, Mem h1 q ↔ (q ≠ p ∧ Mem s.heap q)) := by
  obtain ⟨t, h⟩ := s
  have hall : AllIn t h := hI.allIn
  obtain ⟨p, _, r, hp, _, _, hpop, hrs, hshuf, hlast, hord2⟩ := pop_ord hall hI.ord hne
  have hinj2 : Inj r.1 := hshuf.inj hI.inj
  refine ⟨p, r.1.pop, hpop, ?_, ?_, ?_, fun q => ⟨?_, ?_⟩⟩
  · obtain ⟨ep, hep, hepv⟩ := hI.unvis 0 p hp
    refine ⟨ep, hep, hepv, fun q eq hq hqv => ?_⟩
    obtain ⟨k, hk⟩ := hI.cover q eq hq hqv
    exact root_min hall (Nat.le_refl _) hI.ord k (lt_size_of_some hk) p q hp hk ep eq hep hq
  · exact fun a b q ha hb => hinj2 a b q (getElem?_pop_some.mp ha).2 (getElem?_pop_some.mp hb).2
  · exact hord2.pop (by rw [hrs]; exact Nat.le_refl _)
  · intro ⟨k, hk⟩
    obtain ⟨hlt, hk'⟩ := getElem?_pop_some.mp hk
    refine ⟨fun hqp => ?_, (hshuf.mem q).mp ⟨k, hk'⟩⟩
    rw [hinj2 _ _ q hk' (hqp ▸ hlast), hrs] at hlt
    exact Nat.lt_irrefl _ hlt
  · intro ⟨hqp, hm⟩
    obtain ⟨k, hk⟩ := (hshuf.mem q).mpr hm
    have hklt := lt_size_of_some hk
    have : k ≠ h.size - 1 := fun e => hqp (by rw [e, hlast] at hk; exact (Option.some.inj hk).symm)
    have hkr : k ≠ r.1.size - 1 := by rw [hrs]; exact this
    exact ⟨k, getElem?_pop_some.mpr ⟨Nat.lt_of_le_of_ne (Nat.le_sub_one_of_lt hklt) hkr, hk⟩⟩

theorem push_spec {t0 : Table P S α} {h : Array P} {v : P} {ne : Entry P S α}
    (hI : HInv { t := t0, heap := h }) (hv : tget t0 v = none) (hnv : ne.visited = false) :
    ∃ h', Heap.push (tput t0 v ne) h v = some h' ∧ HInv { t := tput t0 v ne, heap := h' } := by
  have hnot : ∀ k : Nat, h[k]? ≠ some v := fun k hk => by
    obtain ⟨e, he, _⟩ := hI.unvis k v hk
    rw [hv] at he; cases he
  have hold : ∀ (k : Nat) (q : P), h[k]? = some q → tget (tput t0 v ne) q = tget t0 q :=
    fun k q hk => get_put_ne _ _ (fun e => hnot k (e ▸ hk))
  have hget : ∀ (k : Nat) (q : P), (h.push v)[k]? = some q →
      (k = h.size ∧ q = v) ∨ (k < h.size ∧ h[k]? = some q) := by
    intro k q hk
    rw [Array.getElem?_push] at hk
    split at hk
    · exact Or.inl ⟨‹_›, (Option.some.inj hk).symm⟩
    · exact Or.inr ⟨lt_size_of_some hk, hk⟩
  have hunvis : ∀ (k : Nat) (q : P), (h.push v)[k]? = some q →
      ∃ e, tget (tput t0 v ne) q = some e ∧ e.visited = false := by
    intro k q hk
    rcases hget k q hk with ⟨_, rfl⟩ | ⟨_, hk'⟩
    · exact ⟨ne, get_put_self _ _ _, hnv⟩
    · obtain ⟨e, he, hev⟩ := hI.unvis k q hk'
      exact ⟨e, (hold k q hk').trans he, hev⟩
  obtain ⟨h', hp, hord, hsh⟩ :=
    push_ord (fun k q hk => (hunvis k q hk).imp fun _ h => h.1) (hI.ord.ofTable hold)
  refine ⟨h', hp, HInv.ofShuffle hsh hunvis ?_ ?_ hord⟩
  · refine forall_get_put (fun _ => ⟨h.size, by simp⟩) fun q e hq' hqv => ?_
    obtain ⟨k, hk⟩ := hI.cover q e hq' hqv
    exact ⟨k, (getElem?_push_lt (lt_size_of_some hk)).trans hk⟩
  · intro a b q ha hb
    rcases hget a q ha with ⟨h1, rfl⟩ | ⟨_, ha'⟩ <;> rcases hget b q hb with ⟨h2, hq⟩ | ⟨_, hb'⟩
    · exact h1.trans h2.symm
    · exact absurd hb' (hnot b)
    · exact absurd (hq ▸ ha') (hnot a)
    · exact hI.inj a b q ha' hb'

theorem fix_spec {t0 : Table P S α} {h : Array P} {v : P} {n ne : Entry P S α}
    (hI : HInv { t := t0, heap := h }) (hv : tget t0 v = some n) (hvu : n.visited = false)
    (hnv : ne.visited = false) (hd : ne.dist < n.dist) :
    ∃ h', Heap.fix (tput t0 v ne) h v = some h' ∧ HInv { t := tput t0 v ne, heap := h' } := by
  obtain ⟨i, hi⟩ := hI.cover v n hv hvu
  replace hi : h[i]? = some v := hi
  have hother : ∀ (k : Nat) (q : P), h[k]? = some q → k ≠ i → tget (tput t0 v ne) q = tget t0 q :=
    fun k q hk hki => get_put_ne _ _ (fun e => hki (hI.inj k i v (e ▸ hk) hi))
  have hunvis : ∀ (k : Nat) (q : P), h[k]? = some q →
      ∃ e, tget (tput t0 v ne) q = some e ∧ e.visited = false := by
    intro k q hk
    by_cases hki : k = i
    · rw [hki, hi] at hk; cases hk; exact ⟨ne, get_put_self _ _ _, hnv⟩
    · obtain ⟨e, he, hev⟩ := hI.unvis k q hk
      exact ⟨e, (hother k q hk hki).trans he, hev⟩
  -- only `v` moved, and it moved ahead: what was not behind a position other than `i` still is not
  have hmono : ∀ (a b : Nat), b ≠ i → KLeIdx t0 h a b → KLeIdx (tput t0 v ne) h a b := by
    intro a b hbi hk pa pb ha hb ea eb h1 h2
    rw [hother b pb hb hbi] at h2
    by_cases hai : a = i
    · rw [hai, hi] at ha; cases ha
      rw [get_put_self] at h1; cases h1
      exact fun hlt => hk v pb (hai ▸ hi) hb n eb hv h2 (lt_of_lt_of_le hlt (le_of_lt hd))
    · rw [hother a pa ha hai] at h1
      exact hk pa pb ha hb ea eb h1 h2
  obtain ⟨h', hf, hord, hsh⟩ :=
    fix_ord hi hI.inj hI.allIn (fun k q hk => (hunvis k q hk).imp fun _ h => h.1) hI.ord hmono
  exact ⟨h', hf, HInv.ofShuffle hsh hunvis (forall_get_put (fun _ => ⟨i, hi⟩) hI.cover) hI.inj hord⟩

theorem relaxH_spec (max d : α) {s : HState P S α} (hI : HInv s) (e : Edge P S α) :
    ∃ s', relaxH max d (some s) e = some s' ∧ HInv s' := by
  obtain ⟨t, h⟩ := s
  unfold relaxH
  rcases relaxK_spec max d t e with ⟨hk, _⟩ | ⟨_, _, ne, k, hk, hnv, hnd, _, hold, rfl⟩
  · simp only [hk]; exact ⟨_, rfl, hI⟩
  · simp only [hk]
    cases hg : tget t e.last with
    | none =>
      obtain ⟨h', hp, hI'⟩ := push_spec hI hg hnv
      exact ⟨_, by simp [hp], hI'⟩
    | some n =>
      obtain ⟨h', hp, hI'⟩ := fix_spec hI hg (hold n hg).1 hnv (by rw [hnd]; exact (hold n hg).2)
      exact ⟨_, by simp [hp], hI'⟩

theorem foldl_relaxH_spec (max d : α) (es : List (Edge P S α)) :
    ∀ {s : HState P S α}, HInv s → ∃ s', es.foldl (relaxH max d) (some s) = some s' ∧ HInv s' :=
  fun {s} hI => es.foldlRecOn (motive := fun b => ∃ s', b = some s' ∧ HInv s') _ ⟨s, rfl, hI⟩
    fun _ ⟨_, hb, h1⟩ e _ => hb ▸ relaxH_spec max d h1 e

/-- One iteration on a well-formed, non-empty queue, for the checked and the unchecked loop alike: nothing gets
stuck, the check of `runH` passes, and the next state is well formed with table `expand … p`. -/
theorem run_step (g : Graph P S α) (max : α) (to : Option P) (fuel : Nat) {s : HState P S α} (hI : HInv s)
    (hne : s.heap.size ≠ 0) :
    ∃ p ep h1, IsMin s.t p ∧ tget s.t p = some ep ∧
      ((stopNow to p (tput s.t p { ep with visited := true }) ep = true ∧
          runH g max to (fuel + 1) s = .done { t := tput s.t p { ep with visited := true }, heap := h1 } ∧
          runHU g max to (fuel + 1) s = .done { t := tput s.t p { ep with visited := true }, heap := h1 }) ∨
       (stopNow to p (tput s.t p { ep with visited := true }) ep = false ∧
          ∃ s2, HInv s2 ∧ expand g max s.t p = some s2.t ∧
            runH g max to (fuel + 1) s = runH g max to fuel s2 ∧
            runHU g max to (fuel + 1) s = runHU g max to fuel s2)) := by
  obtain ⟨p, h1, hpop, hmin, hinj, hord, hmem⟩ := pop_spec hI hne
  have hb := isMinB_complete hmin
  have ⟨ep, hep, _⟩ := hmin
  have hmark := markVisited_of_get hep
  refine ⟨p, ep, h1, hmin, hep, ?_⟩
  cases hstop : stopNow to p (tput s.t p { ep with visited := true }) ep with
  | true => exact Or.inl ⟨rfl, by simp [runH, hne, hpop, hb, hmark, hstop], by simp [runHU, hne, hpop, hmark, hstop]⟩
  | false =>
    obtain ⟨s2, hf, hI2⟩ := foldl_relaxH_spec max ep.dist (g.adj p) (hI.afterPop ep hinj hord hmem)
    refine Or.inr ⟨rfl, s2, hI2, ?_, by simp [runH, hne, hpop, hb, hmark, hstop, hf],
      by simp [runHU, hne, hpop, hmark, hstop, hf]⟩
    rw [expand_eq hep, foldl_relaxH_table max ep.dist (g.adj p) _ _ hf]

theorem runH_done_allVisited (g : Graph P S α) (max : α) :
    ∀ (fuel : Nat) (s s' : HState P S α), HInv s → runH g max none fuel s = .done s' →
      ∀ p e, tget s'.t p = some e → e.visited = true := by
  intro fuel
  induction fuel with
  | zero =>
    intro s s' hI h
    by_cases hz : s.heap.size = 0
    · rw [(run_empty g max none 0 hz).1] at h
      cases h; exact hI.allVisited_of_empty hz
    · simp [runH, hz] at h
  | succ fuel ih =>
    intro s s' hI h
    by_cases hz : s.heap.size = 0
    · rw [(run_empty g max none _ hz).1] at h
      cases h; exact hI.allVisited_of_empty hz
    · obtain ⟨p, ep, h1, _, _, ⟨hstop, _⟩ | ⟨_, s2, hI2, _, h2, _⟩⟩ := run_step g max none fuel hI hz
      · simp [stopNow] at hstop
      · rw [h2] at h; exact ih s2 s' hI2 h

theorem dedup_spec (l : List P) : (dedup l).Nodup ∧ ∀ x, x ∈ dedup l ↔ x ∈ l :=
  Basic.dedup_keepFirst (p := fun x y => decide (y ≠ x)) (fun _ _ => decide_eq_true_iff) rfl (fun _ _ => rfl) l

/-- the state `NewShortestPathSearch…` produces for any list of origins (duplicates entered once) has a
well-formed queue -/
theorem HInv.initList (origins : List P) :
    HInv ({ t := initTable origins, heap := initHeap origins } : HState P S α) := by
  have hget : ∀ (k : Nat) (p : P), (initHeap origins)[k]? = some p → p ∈ origins := by
    intro k p hk
    simp only [initHeap, List.getElem?_toArray] at hk
    exact ((dedup_spec origins).2 p).mp (List.mem_iff_getElem?.mpr ⟨k, hk⟩)
  refine ⟨fun k p hk => ⟨_, initTable_get_mem (hget k p hk), rfl⟩, ?_, ?_, ?_⟩
  · intro p e hp _
    obtain ⟨k, hk⟩ := List.mem_iff_getElem?.mp (((dedup_spec origins).2 p).mpr (initTable_get_some hp).1)
    exact ⟨k, by simp only [initHeap, List.getElem?_toArray]; exact hk⟩
  · intro a b p ha hb
    simp only [initHeap, List.getElem?_toArray] at ha hb
    exact (List.getElem?_inj (List.getElem?_eq_some_iff.mp ha).1 (dedup_spec origins).1).mp (ha.trans hb.symm)
  · -- all distances are 0
    intro k _ _ pa pb _ _ ea eb hea heb
    rw [(initTable_get_some hea).2, (initTable_get_some heb).2]
    exact not_lt_of_le (le_rfl _)

/-- the state `NewShortestPathSearchFromPoint` produces for a connected origin has a well-formed queue -/
theorem HInv.init (o : P) : HInv ({ t := initTable [o], heap := initHeap [o] } : HState P S α) :=
  HInv.initList [o]

/-- … and for a point that is not connected (empty queue, empty table) -/
theorem HInv.initEmpty : HInv ({ t := initTable [], heap := initHeap [] } : HState P S α) :=
  HInv.initList []

/-- **Termination**: on a finite, closed vertex set the loop never runs out of fuel (and never gets stuck):
with at least as much fuel as there are unsettled vertices, `runH` finishes. -/
theorem runH_finishes (g : Graph P S α) (max : α) (to : Option P) (V : List P)
    (hclosed : ∀ p, p ∈ V → ∀ e, e ∈ g.adj p → e.last ∈ V) :
    ∀ (fuel : Nat) (s : HState P S α), HInv s → (∀ p x, tget s.t p = some x → p ∈ V) → cnt V s.t ≤ fuel →
      ∃ s', runH g max to fuel s = .done s' := by
  intro fuel
  induction fuel with
  | zero =>
    intro s hI hk hc
    by_cases hz : s.heap.size = 0
    · exact ⟨s, (run_empty g max to 0 hz).1⟩
    · -- the root of a non-empty queue is an unsettled vertex
      obtain ⟨p, hp⟩ := getElem?_lt (show 0 < s.heap.size by omega)
      obtain ⟨e, he, hev⟩ := hI.unvis 0 p hp
      have : p ∈ V.filter (isOpen s.t) := List.mem_filter.mpr ⟨hk p e he, by simp [isOpen, he, hev]⟩
      have := List.length_pos_of_mem this
      unfold cnt at hc; omega
  | succ fuel ih =>
    intro s hI hk hc
    by_cases hz : s.heap.size = 0
    · exact ⟨s, (run_empty g max to _ hz).1⟩
    · obtain ⟨p, ep, h1, hmin, hep, ⟨_, h, _⟩ | ⟨_, s2, hI2, hexp, h, _⟩⟩ := run_step g max to fuel hI hz
      · exact ⟨_, h⟩
      · have hpV : p ∈ V := hk p ep hep
        have hc2 := expand_cnt_lt hexp hpV (by simp [isOpen, hep, (hmin.at hep).1])
        rw [h]
        refine ih s2 hI2 (fun q x hq => ?_) (by omega)
        obtain ⟨_, _, _, hoth⟩ := expand_touched hexp
        by_cases hqp : q = p
        · rw [hqp]; exact hpV
        · rcases (hoth q hqp).key hq with hold | ⟨e, he, hqe⟩
          · exact hk q x hold
          · rw [hqe]; exact hclosed p hpV e he

/-- the state after the first statements of `ExpandSearchTo(dest)`: the queue is well formed and `dest` is queued -/
theorem searchToStart_spec (origins : List P) (dest : P) (inf : α) :
    ∃ s : HState P S α, searchToStart origins dest inf = some s ∧ HInv s ∧
      (∃ de, tget s.t dest = some de ∧ de.visited = false) ∧
      ((dest ∈ origins ∧ s.t = initTable origins) ∨
        (dest ∉ origins ∧ s.t = sentinelTable origins dest inf)) := by
  fun_cases searchToStart origins dest inf with
  | case1 e0 hd =>
    obtain ⟨hdo, he0⟩ := initTable_get_some hd
    exact ⟨_, rfl, HInv.initList origins, ⟨e0, hd, by rw [he0]⟩, Or.inl ⟨hdo, rfl⟩⟩
  | case2 hd =>
    have hdo : dest ∉ origins := fun hm => by rw [initTable_get_mem hm] at hd; cases hd
    obtain ⟨h', hp, hI⟩ : ∃ h', Heap.push (sentinelTable origins dest inf) (initHeap origins) dest = some h' ∧
        HInv { t := sentinelTable origins dest inf, heap := h' } := push_spec (HInv.initList origins) hd rfl
    exact ⟨{ t := sentinelTable origins dest inf, heap := h' }, by rw [hp]; rfl, hI, ⟨_, get_put_self _ _ _, rfl⟩,
      Or.inr ⟨hdo, rfl⟩⟩

/-- `ExpandSearchTo` on a well-formed queue that holds `dest`: a finished run went through states of the
abstract search and stopped exactly when `dest` was popped (as a queued minimum) and marked visited -/
theorem runH_to_spec (g : Graph P S α) (max : α) (dest : P) :
    ∀ (fuel : Nat) (s s' : HState P S α), HInv s → (∃ de, tget s.t dest = some de ∧ de.visited = false) →
      runH g max (some dest) fuel s = .done s' →
      ∃ tr t r, Reach g max s.t tr t ∧ IsMin t dest ∧ markVisited t dest = some (s'.t, r) := by
  intro fuel
  induction fuel with
  | zero =>
    intro s s' hI ⟨de, hde, hdv⟩ h
    obtain ⟨k, hk⟩ := hI.cover dest de hde hdv
    have := lt_size_of_some hk
    simp [runH, show s.heap.size ≠ 0 by omega] at h
  | succ fuel ih =>
    intro s s' hI ⟨de, hde, hdv⟩ h
    obtain ⟨k, hk⟩ := hI.cover dest de hde hdv
    have hz : s.heap.size ≠ 0 := by have := lt_size_of_some hk; omega
    obtain ⟨p, ep, h1, hmin, hep, ⟨hstop, h2, _⟩ | ⟨hstop, s2, hI2, hexp, h2, _⟩⟩ :=
      run_step g max (some dest) fuel hI hz
    · -- the second stop condition cannot hold while `dest` is queued, so `p = dest`
      rw [h2] at h; cases h
      by_cases hpd : p = dest
      · subst hpd
        exact ⟨[], s.t, ep, Reach.refl, hmin, markVisited_of_get hep⟩
      · simp [stopNow, hpd, get_put_ne _ _ (Ne.symm hpd), hde, (hmin.at hep).2 dest de hde hdv] at hstop
    · rw [h2] at h
      have hpd : dest ≠ p := by
        intro hpd; subst hpd; simp [stopNow] at hstop
      obtain ⟨_, _, _, hoth⟩ := expand_touched hexp
      have hd2 := (hoth dest hpd).queued ⟨de, hde, hdv⟩
      obtain ⟨tr, t, r, hr, hmin2, hmark2⟩ := ih s2 s' hI2 hd2 h
      exact ⟨tr ++ [(p, ep.dist)], t, r, Reach.first_step hmin hep hexp hr, hmin2, hmark2⟩

end heap
end B6.Lemmas.DijkstraHeap
