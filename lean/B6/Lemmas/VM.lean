import B6.Model.VM
import B6.Lemmas.Builtins
import B6.Lemmas.InterpFuel
/-!
C21 `vm_first_order`: on first-order values (`FO`) the three `CallFromStack` compute `applyFn` (`call_agrees`,
induction on fuel) and compiled lambda-free expressions compute `evalWith` (`expr_agrees`, structural).  `FO`, read as
a relation on the diagonal (`EqFO`), is one of the relations the builtin table carries (`Lemmas/Builtins`).
-/
namespace B6.Lemmas.VM
open B6.Model B6.Model.VM

mutual
  def FO : Val → Bool
    | .int _ => true
    | .str _ => true
    | .query _ => true
    | .other _ _ => true
    | .pair a b => FO a && FO b
    | .builtin _ => true
    | .closure _ _ _ => false
    | .lam _ _ => false
    | .part f args snap => FO f && FOs args && snap.isEmpty && vmCallable f
  def FOs : List Val → Bool
    | [] => true
    | v :: vs => FO v && FOs vs
end

theorem FOs_append : ∀ (as bs : List Val), FOs (as ++ bs) = (FOs as && FOs bs)
  | [], bs => by simp [FOs]
  | a :: as, bs => by simp [FOs, FOs_append as bs, Bool.and_assoc]

/-- `FO` as a relation on the diagonal (`v' = v` in this order: it is what the inversions of `Transports` conclude) -/
def EqFO (v v' : Val) : Prop := v' = v ∧ FO v = true

theorem FOs_lift : ∀ {vs : List Val}, FOs vs = true → Builtins.Lift EqFO vs vs
  | [], _ => .nil
  | v :: vs, h => by
    rw [FOs, Bool.and_eq_true] at h
    exact .cons ⟨rfl, h.1⟩ (FOs_lift h.2)

theorem lift_FOs : ∀ {vs vs' : List Val}, Builtins.Lift EqFO vs vs' → FOs vs = true
  | _, _, .nil => rfl
  | _, _, .cons h hs => by rw [FOs, h.2, lift_FOs hs]; rfl

theorem EqFO_transports : Builtins.Transports EqFO where
  int_inv h := h.1
  str_inv h := h.1
  query_inv h := ⟨_, h.1⟩
  pair_inv h := by
    obtain ⟨rfl, h⟩ := h
    rw [FO, Bool.and_eq_true] at h
    exact ⟨_, _, rfl, ⟨rfl, h.1⟩, ⟨rfl, h.2⟩⟩
  callable h := by rw [h.1]
  arity h := by rw [h.1]
  cell h := by rw [h.1]
  lit l := ⟨rfl, by cases l <;> rfl⟩
  builtin _ := ⟨rfl, rfl⟩
  pair h1 h2 := by
    obtain ⟨rfl, h1⟩ := h1
    obtain ⟨rfl, h2⟩ := h2
    exact ⟨rfl, by rw [FO, h1, h2]; rfl⟩
  typed h := by cases h.1; exact ⟨rfl, rfl⟩
  inter h1 h2 := by cases h1.1; cases h2.1; exact ⟨rfl, rfl⟩
  union h1 h2 := by cases h1.1; cases h2.1; exact ⟨rfl, rfl⟩

theorem convertAll_FO {ts : List Ty} {vs cs : List Val} (h : convertAll ts vs = .ok cs) (hv : FOs vs = true) :
    FOs cs = true := by
  obtain ⟨_, _, hcs⟩ := Builtins.convertAll_mono EqFO_transports (FOs_lift hv) h
  exact lift_FOs hcs

theorem step_value_FO {b : Builtin} {cs : List Val} {v : Val} (h : b.step cs = .value v)
    (hcs : FOs cs = true) : FO v = true := by
  have := Builtins.step_mono EqFO_transports (b := b) (FOs_lift hcs)
  rw [h] at this
  exact this.2

theorem splitArgs_frame (x : Val) (args S : List Val) :
    splitArgs (x :: (args.reverse ++ S)) args.length = some (args, S) := by
  simp [splitArgs]

theorem step_tail_FO {b : Builtin} {cs : List Val} {g : Val} {xs : List Val} (h : b.step cs = .tail g xs)
    (hcs : FOs cs = true) : FO g = true ∧ FOs xs = true := by
  rw [(Builtins.step_tail h).1, FOs, Bool.and_eq_true] at hcs
  exact hcs

theorem callable_arity : ∀ (f : Val), FO f = true → vmCallable f = true → ∃ m, f.arity = some m
  | .builtin b, _, _ => ⟨b.arity, rfl⟩
  | .part g bs snap, h, _ => by
    simp [FO] at h
    obtain ⟨m, hm⟩ := callable_arity g h.1.1.1 h.2
    exact ⟨m - bs.length, by simp [Val.arity, hm]⟩
  | .lam _ _, h, _ => by simp [FO] at h
  | .int _, _, h | .str _, _, h | .query _, _, h | .other _ _, _, h | .pair _ _, _, h
  | .closure _ _ _, _, h => by simp [vmCallable] at h

theorem FO_callable_iff (f : Val) (h : FO f = true) : f.isCallable = vmCallable f := by
  cases f <;> simp_all [Val.isCallable, vmCallable, FO]

/-! ### `CallFromStack`, clause by clause (the machine's side of `InterpFuel.applyFn_builtin/_closure/_part`) -/

theorem callFromStack_builtin (code : List Instr) (fuel : Nat) (b : Builtin) (args S : List Val)
    (regs : List (Nat × Val)) :
    callFromStack code (fuel + 1) (.builtin b) args.length ⟨.int args.length :: (args.reverse ++ S), regs⟩ =
      if args.length > b.want args.length then .error .error
      else if args.length == b.want args.length then
        match convertAll (b.paramsAt args.length) args with
        | .error e => .error e
        | .ok cs => match b.step cs with
          | .value v => .ok ⟨v :: S, regs⟩
          | .fail => .error .error
          | .tail g xs =>
            match callFromStack code fuel g xs.length
                ⟨.int xs.length :: (xs.reverse ++ .int args.length :: (args.reverse ++ S)), regs⟩ with
            | .error e => .error e
            | .ok st' => match st'.stack with
              | r :: _ => .ok { st' with stack := r :: S }
              | [] => .error .panic
      else .ok ⟨.part (.builtin b) args regs :: S, regs⟩ := by
  simp only [callFromStack, splitArgs_frame]
  rfl

theorem callFromStack_lam (code : List Instr) (fuel pc k : Nat) (args S : List Val) (regs : List (Nat × Val)) :
    callFromStack code (fuel + 1) (.lam pc k) args.length ⟨.int args.length :: (args.reverse ++ S), regs⟩ =
      if args.length == k then
        execList (callFromStack code fuel) (code.drop pc) ⟨.int args.length :: (args.reverse ++ S), regs⟩
      else if args.length < k then .ok ⟨.part (.lam pc k) args regs :: S, regs⟩
      else .error .error := by
  simp only [callFromStack, splitArgs_frame]

theorem callFromStack_part (code : List Instr) (fuel : Nat) {g : Val} {m : Nat} (bs : List Val)
    (snap : List (Nat × Val)) (args S : List Val) (regs : List (Nat × Val)) (hm : g.arity = some m) :
    callFromStack code (fuel + 1) (.part g bs snap) args.length ⟨.int args.length :: (args.reverse ++ S), regs⟩ =
      if args.length + bs.length == m then
        match callFromStack code fuel g (args ++ bs).length
            ⟨.int (args ++ bs).length :: ((args ++ bs).reverse ++ S), snap⟩ with
        | .error e => .error e
        | .ok st' => .ok { st' with regs := regs }
      else if args.length + bs.length < m then .ok ⟨.part (.part g bs snap) args regs :: S, regs⟩
      else .error .error := by
  by_cases h : args.length + bs.length = m
  · subst h
    have hlen : ¬ (bs.reverse ++ (args.reverse ++ S)).length < args.length + bs.length := by
      simp only [List.length_append, List.length_reverse]; omega
    simp only [callFromStack, hm, beq_self_eq_true, if_true, hlen, if_false]
    rw [List.reverse_append, List.append_assoc, List.length_append, Int.natCast_add]
    rfl
  · have h1 : (args.length + bs.length == m) = false := by simpa using h
    simp only [callFromStack, hm, h1, Bool.false_eq_true, if_false, splitArgs_frame]

/-- what `callFromStack` must do for the VM to agree with `applyFn`: consume the frame and the
arguments, leave the result, keep the (empty) register file -/
def liftRes (S : List Val) : Res Val → Res St
  | .ok v => .ok ⟨v :: S, []⟩
  | .error e => .error e

/-- the contract between the VM's `CallFromStack` and the interpreter's function application, at
some fuel level -/
def Agree (call : Val → Nat → St → Res St) (app : Val → List Val → Res Val) : Prop :=
  ∀ (f : Val) (args S : List Val), FO f = true → vmCallable f = true → FOs args = true →
    call f args.length ⟨.int args.length :: (args.reverse ++ S), []⟩ = liftRes S (app f args)
    ∧ (∀ v, app f args = .ok v → FO v = true)

theorem call_agrees (code : List Instr) : ∀ (fuel : Nat), Agree (callFromStack code fuel) (applyFn fuel) := by
  intro fuel
  induction fuel with
  | zero => intro f args S _ _ _; simp [callFromStack, applyFn, liftRes]
  | succ fuel ih =>
    intro f args S hf hcall hargs
    cases f with
    | int _ | str _ | query _ | other _ _ | pair _ _ | closure _ _ _ => simp [vmCallable] at hcall
    | lam _ _ => simp [FO] at hf
    | builtin b =>
      rw [callFromStack_builtin, InterpFuel.applyFn_builtin]
      by_cases h1 : args.length > b.want args.length
      · simp [h1, liftRes]
      · simp only [h1, if_false]
        by_cases h2 : args.length = b.want args.length
        · have h2' : (args.length == b.want args.length) = true := by simpa using h2
          simp only [h2', if_true]
          cases hc : convertAll (b.paramsAt args.length) args with
          | error e => simp [liftRes]
          | ok cs =>
            have hcs := convertAll_FO hc hargs
            cases hs : b.step cs with
            | value v =>
              simp only [hs, liftRes]
              exact ⟨trivial, fun v' hv' => by injection hv' with hv'; subst hv'; exact step_value_FO hs hcs⟩
            | fail => simp only [hs, liftRes]; exact ⟨trivial, fun v' hv' => by cases hv'⟩
            | tail g xs =>
              obtain ⟨hg, hxs⟩ := step_tail_FO hs hcs
              have hgc : vmCallable g = true := FO_callable_iff g hg ▸ Builtins.step_tail_isCallable hc hs
              obtain ⟨ih1, ih2⟩ := ih g xs (.int args.length :: (args.reverse ++ S)) hg hgc hxs
              simp only [hs, ih1]
              cases happ : applyFn fuel g xs with
              | error e => simp only [liftRes]; exact ⟨trivial, fun v' hv' => by cases hv'⟩
              | ok v =>
                simp only [liftRes]
                exact ⟨trivial, fun v' hv' => by injection hv' with hv'; subst hv'; exact ih2 _ happ⟩
        · have h3 : (args.length == b.want args.length) = false := by simpa using h2
          simp only [h3, Bool.false_eq_true, if_false, liftRes]
          refine ⟨trivial, ?_⟩
          intro v hv; injection hv with hv; subst hv
          simp [FO, hargs, vmCallable]
    | part g bs snap =>
      simp only [FO, Bool.and_eq_true, List.isEmpty_iff] at hf
      obtain ⟨⟨⟨hg, hbs⟩, hsnap⟩, hgc⟩ := hf
      subst hsnap
      obtain ⟨m, hm⟩ := callable_arity g hg hgc
      rw [InterpFuel.applyFn_part, callFromStack_part code fuel bs [] args S [] hm]
      simp only [hm]
      by_cases h1 : args.length + bs.length = m
      · have hab : FOs (args ++ bs) = true := by simp [FOs_append, hargs, hbs]
        obtain ⟨ih1, ih2⟩ := ih g (args ++ bs) S hg hgc hab
        simp only [h1, beq_self_eq_true, if_true, ih1]
        cases happ : applyFn fuel g (args ++ bs) with
        | error e => simp [liftRes]
        | ok v => simp only [liftRes]; exact ⟨trivial, fun v' hv' => by injection hv' with hv'; subst hv'; exact ih2 _ happ⟩
      · have h1' : (args.length + bs.length == m) = false := by simpa using h1
        simp only [h1', Bool.false_eq_true, if_false]
        by_cases h2 : args.length + bs.length < m
        · simp only [h2, if_true, liftRes]
          refine ⟨trivial, ?_⟩
          intro v hv; injection hv with hv; subst hv
          simp only [FO, hargs, hg, hbs, hgc, hcall, List.isEmpty_nil, Bool.and_self]
        · simp [h2, liftRes]

/-! ### lambda-free code; the compiler's outer loop -/

def isLamFree : Instr → Bool
  | .pushLam _ _ => false
  | .callLam _ _ _ => false
  | _ => true

theorem compileSegments_ok {e : Expr} {segs : List Segment} (h : compileSegments e = .ok segs) :
    ∃ is st rest, compileExpr [] e {} = .ok (is, st) ∧ compileQueue (e.numLambdas + 1) st = .ok rest ∧
      segs = (0, [Instr.pushVal (.int 0)] ++ is ++ [.ret]) :: rest := by
  revert h
  fun_cases compileSegments e <;> rintro ⟨⟩  -- one leaf succeeds
  exact ⟨_, _, _, ‹_›, ‹_›, rfl⟩

def ExprOK (call : Val → Nat → St → Res St) (app : Val → List Val → Res Val) (e : Expr) (st : CState) : Prop :=
  (wfAt [] e = true → ∃ is, compileExpr [] e st = .ok (is, st) ∧ is.all isLamFree = true ∧
      (∀ post S, execList call (is ++ post) ⟨S, []⟩ =
          match evalWith app [] e with
          | .ok v => execList call post ⟨v :: S, []⟩
          | .error err => .error err) ∧
      (∀ v, evalWith app [] e = .ok v → FO v = true))
  ∧ (wfAt [] e = false → compileExpr [] e st = .error .error)

/-- the run clause of `ExprOK` for the instructions the compiler did emit, whatever machine they are run on -/
theorem ExprOK.run {call : Val → Nat → St → Res St} {app : Val → List Val → Res Val} {e : Expr} {st st' : CState}
    {is : List Instr} (h : ExprOK call app e st) (hc : compileExpr [] e st = .ok (is, st')) (post : List Instr)
    (S : List Val) :
    execList call (is ++ post) ⟨S, []⟩ =
      match evalWith app [] e with
      | .ok v => execList call post ⟨v :: S, []⟩
      | .error err => .error err := by
  cases hw : wfAt [] e with
  | false => rw [h.2 hw] at hc; cases hc
  | true =>
    obtain ⟨is', hc', _, hrun, _⟩ := h.1 hw
    rw [hc] at hc'; cases hc'
    exact hrun post S

def ArgsOK (call : Val → Nat → St → Res St) (app : Val → List Val → Res Val) (as : List Expr) (st : CState) : Prop :=
  (wfsAt [] as = true → ∃ is, compileArgs [] as st = .ok (is, st) ∧ is.all isLamFree = true ∧
      (∀ post S, execList call (is ++ post) ⟨S, []⟩ =
          match evalArgs app [] as with
          | .ok vs => execList call post ⟨vs.reverse ++ S, []⟩
          | .error err => .error err) ∧
      (∀ vs, evalArgs app [] as = .ok vs → FOs vs = true ∧ vs.length = as.length))
  ∧ (wfsAt [] as = false → compileArgs [] as st = .error .error)

-- both are `List.lookup_nil`: of a frame, of an environment
theorem lookup_nil (s : String) : (([] : List (String × Nat)).lookup s) = none := rfl
theorem lookup_nil' (s : String) : (([] : Env).lookup s) = none := List.lookup_nil

mutual
  theorem expr_agrees {call : Val → Nat → St → Res St} {app : Val → List Val → Res Val} (H : Agree call app) :
      (e : Expr) → e.lambdaFree = true → (st : CState) → ExprOK call app e st
    | .sym s, _, st => by
      unfold ExprOK
      simp only [wfAt, compileExpr, evalWith, lookup_nil, lookup_nil', List.contains_nil, Bool.false_or]
      cases hb : Builtin.ofName s with
      | none => simp
      | some b =>
        simp only [Option.isSome_some, forall_const]
        refine ⟨⟨[.pushFn b], rfl, by simp [isLamFree], ?_, ?_⟩, by simp⟩
        · intro post S; simp [execList]
        · intro v hv; injection hv with hv; subst hv; simp [FO]
    | .lit l, _, st => by
      unfold ExprOK
      simp only [wfAt, compileExpr, evalWith]
      refine ⟨fun _ => ⟨[.pushVal l.toVal], rfl, by simp [isLamFree], ?_, ?_⟩, by simp⟩
      · intro post S; simp [execList]
      · intro v hv; injection hv with hv; subst hv; cases l <;> rfl
    | .lam ps b, h, st => by simp [Expr.lambdaFree] at h
    | .call f args p, h, st => by
      simp only [Expr.lambdaFree, Bool.and_eq_true] at h
      have iha := args_agrees H args h.2 st
      unfold ExprOK
      unfold ArgsOK at iha
      simp only [wfAt, compileExpr, evalWith]
      cases hw : wfsAt [] args with
      | false =>
        simp only [Bool.false_and, Bool.false_eq_true, false_implies, true_and, forall_const]
        rw [iha.2 hw]
      | true =>
        obtain ⟨isa, hca, hlf, hexec, hfo⟩ := iha.1 hw
        simp only [hca, Bool.true_and]
        cases f with
        | lam ps b => cases h.1
        | lit l => simp
        | sym s =>
          dsimp only
          cases hb : Builtin.ofName s with
          | none => simp
          | some b =>
            simp only [Option.isSome_some, forall_const]
            refine ⟨⟨isa ++ [.callFn b args.length], rfl, by simp [hlf, isLamFree], ?_⟩, by simp⟩
            cases hev : evalArgs app [] args with
            | error err =>
              exact ⟨fun post S => by rw [List.append_assoc, hexec, hev], fun v hv => nomatch hv⟩
            | ok vs =>
              obtain ⟨hvs, hlen⟩ := hfo vs hev
              have hH := fun S => H (.builtin b) vs S rfl rfl hvs
              refine ⟨fun post S => ?_, (hH []).2⟩
              rw [List.append_assoc, hexec, hev]
              simp only [List.singleton_append, execList]
              have := (hH S).1
              rw [hlen] at this
              rw [this]
              cases app (.builtin b) vs <;> rfl
        | call g gargs q =>
          dsimp only
          have ihf := expr_agrees H (.call g gargs q) h.1 st
          unfold ExprOK at ihf
          constructor
          · intro hwf
            obtain ⟨isf, hcf, hlff, hexecf, hfof⟩ := ihf.1 hwf
            simp only [hcf]
            refine ⟨isa ++ isf ++ [.callStack args.length], rfl, by simp [hlf, hlff, isLamFree], ?_⟩
            have hrun : ∀ post S, execList call (isa ++ isf ++ [.callStack args.length] ++ post) ⟨S, []⟩ =
                match evalArgs app [] args with
                | .ok vs => (match evalWith app [] (.call g gargs q) with
                  | .ok fv => execList call (.callStack args.length :: post) ⟨fv :: (vs.reverse ++ S), []⟩
                  | .error err => .error err)
                | .error err => .error err := by
              intro post S
              rw [List.append_assoc, List.append_assoc, hexec]
              cases evalArgs app [] args with
              | error err => rfl
              | ok vs => exact hexecf _ _
            cases hev : evalArgs app [] args with
            | error err => exact ⟨fun post S => by rw [hrun, hev], fun v hv => nomatch hv⟩
            | ok vs =>
              obtain ⟨hvs, hlen⟩ := hfo vs hev
              dsimp only
              cases hef : evalWith app [] (.call g gargs q) with
              | error err => exact ⟨fun post S => by rw [hrun, hev, hef], fun v hv => nomatch hv⟩
              | ok fv =>
                have hfv := hfof fv hef
                dsimp only
                rw [FO_callable_iff fv hfv]
                cases hcl : vmCallable fv with
                | false =>
                  exact ⟨fun post S => by rw [hrun, hev, hef]; simp only [execList, hcl]; rfl, fun v hv => nomatch hv⟩
                | true =>
                  have hH := fun S => H fv vs S hfv hcl hvs
                  refine ⟨fun post S => ?_, (hH []).2⟩
                  rw [hrun, hev, hef]
                  simp only [execList, hcl, if_true]
                  have := (hH S).1
                  rw [hlen] at this
                  rw [this]
                  cases app fv vs <;> rfl
          · intro hwf
            rw [ihf.2 hwf]
  theorem args_agrees {call : Val → Nat → St → Res St} {app : Val → List Val → Res Val} (H : Agree call app) :
      (as : List Expr) → Expr.lambdaFrees as = true → (st : CState) → ArgsOK call app as st
    | [], _, st => by
      unfold ArgsOK
      simp only [wfsAt, compileArgs, evalArgs]
      refine ⟨fun _ => ⟨[], rfl, rfl, ?_, ?_⟩, by simp⟩
      · intro post S; simp
      · intro vs hvs; injection hvs with hvs; subst hvs; simp [FOs]
    | a :: as, h, st => by
      simp only [Expr.lambdaFrees, Bool.and_eq_true] at h
      have iha := expr_agrees H a h.1 st
      have ihas := args_agrees H as h.2 st
      unfold ArgsOK
      unfold ExprOK at iha
      unfold ArgsOK at ihas
      simp only [wfsAt, compileArgs, evalArgs]
      cases hwa : wfAt [] a with
      | false =>
        simp only [Bool.false_and, Bool.false_eq_true, false_implies, true_and, forall_const]
        rw [iha.2 hwa]
      | true =>
        obtain ⟨isa, hca, hlfa, hexa, hfoa⟩ := iha.1 hwa
        simp only [hca, Bool.true_and]
        constructor
        · intro hws
          obtain ⟨iss, hcs, hlfs, hexs, hfos⟩ := ihas.1 hws
          simp only [hcs]
          refine ⟨isa ++ iss, rfl, by simp [hlfa, hlfs], ?_, ?_⟩
          · intro post S
            rw [List.append_assoc, hexa]
            cases hea : evalWith app [] a with
            | error err => rfl
            | ok v =>
              simp only []
              rw [hexs]
              cases hes : evalArgs app [] as with
              | error err => rfl
              | ok vs => simp
          · intro vs hvs
            cases hea : evalWith app [] a with
            | error err => rw [hea] at hvs; cases hvs
            | ok v =>
              cases hes : evalArgs app [] as with
              | error err => rw [hea, hes] at hvs; cases hvs
              | ok vs' =>
                simp only [hea, hes] at hvs
                injection hvs with hvs; subst hvs
                obtain ⟨h1, h2⟩ := hfos vs' hes
                simp [FOs, hfoa v hea, h1, h2]
        · intro hws
          rw [ihas.2 hws]
end

end B6.Lemmas.VM
