import B6.Lemmas.VM
/-!
C21 `vm_lambda_partial`: the value relation `VR` between interpreter values (closures with environments)
and VM values (`*lambdaCall` = entry point + arity, partial calls with a register snapshot).  It and its converse
have `Transports` (`Lemmas/Builtins`), so `ConvertWithContext` and the builtin table respect it in both directions.
`VR.clo` holds a fact of the matcher `VM.matchLamWith`; what the matcher accepts is inverted here, clause by clause,
for the simulation to read instructions off it.  The namespace is that of the simulation, `B6.Lemmas.VMLambda`.
-/
namespace B6.Lemmas.VMLambda
open B6.Model B6.Model.VM B6.Lemmas.VM

mutual
  inductive VR (code : List Instr) : Val → Val → Prop
    | int (i : Int) : VR code (.int i) (.int i)
    | str (s : String) : VR code (.str s) (.str s)
    | query (q : Query) : VR code (.query q) (.query q)
    | other (k t : String) : VR code (.other k t) (.other k t)
    | pair {a a' b b' : Val} : VR code a a' → VR code b b' → VR code (.pair a b) (.pair a' b')
    | builtin (b : Builtin) : VR code (.builtin b) (.builtin b)
    | clo {ps : List String} {b : Expr} {env : Env} {frame : Frame} {bound : List String} {pc : Nat} :
        (∀ s, bound.contains s = false → env.lookup s = none ∧ frame.lookup s = none) →
        (Expr.regScan bound ps false b).isSome = true →
        matchLamWith (fun fr js => matchExpr code fr b js) code frame ps pc = true →
        VR code (.closure ps b env) (.lam pc ps.length)
    | part {f f' : Val} {args args' : List Val} {snap : List (Nat × Val)} {m : Nat} :
        VR code f f' → f.arity = some m → f'.arity = some m → f.isCallable = true → vmCallable f' = true →
        VRs code args args' → VR code (.part f args []) (.part f' args' snap)
  inductive VRs (code : List Instr) : List Val → List Val → Prop
    | nil : VRs code [] []
    | cons {a a' : Val} {as as' : List Val} : VR code a a' → VRs code as as' → VRs code (a :: as) (a' :: as')
end

variable {code : List Instr}

theorem VRs_length : ∀ {as as' : List Val}, VRs code as as' → as.length = as'.length
  | [], _, h => by cases h; rfl
  | _ :: as, _, h => by cases h with | cons _ h2 => simp [VRs_length h2]

theorem VRs_append : ∀ {as as' bs bs' : List Val}, VRs code as as' → VRs code bs bs' → VRs code (as ++ bs) (as' ++ bs')
  | [], _, _, _, h, hb => by cases h; exact hb
  | _ :: as, _, _, _, h, hb => by cases h with | cons h1 h2 => exact .cons h1 (VRs_append h2 hb)

theorem VR_arity {v v' : Val} (h : VR code v v') : v.arity = v'.arity := by
  cases h with
  | part hf h1 h2 _ _ hargs => simp [Val.arity, h1, h2, VRs_length hargs]
  | _ => simp [Val.arity]

theorem VR_callable {v v' : Val} (h : VR code v v') : v.isCallable = vmCallable v' ∧ v'.isCallable = vmCallable v' := by
  cases h <;> simp [Val.isCallable, vmCallable]

theorem VR_literalable {v v' : Val} (h : VR code v v') : v.literalable = v'.literalable := by
  cases h <;> simp [Val.literalable]

theorem VR_obs_cell : ∀ {v v' : Val}, VR code v v' → v.obs = v'.obs ∧ v.cellToks = v'.cellToks
  | .int _, _, h | .str _, _, h | .query _, _, h | .other _ _, _, h | .builtin _, _, h => by
    cases h; exact ⟨rfl, rfl⟩
  | .pair a b, _, h => by
    cases h with
    | pair h1 h2 => simp [Val.obs, Val.cellToks, VR_obs_cell h1, VR_obs_cell h2]
  | .closure _ _ _, _, h | .part _ _ _, _, h => by
    have := VR_arity h
    cases h <;> simp only [Val.obs, Val.cellToks] <;> rw [this] <;> exact ⟨rfl, rfl⟩
  | .lam _ _, _, h => by cases h

theorem VR_obs {v v' : Val} (h : VR code v v') : v.obs = v'.obs := (VR_obs_cell h).1

theorem VR_lit (l : Lit) : VR code l.toVal l.toVal := by
  cases l <;> simp [Lit.toVal] <;> constructor

/-! ### what the matcher accepts: one inversion per clause of `matchExpr`, `matchLamWith`, `matchMain` -/

mutual
  theorem qbeq_sound : (a b : Query) → Query.beq a b = true → a = b
    | .keyed a, b, h => by cases b <;> simp_all [Query.beq]
    | .tagged a v, b, h => by cases b <;> simp_all [Query.beq]
    | .other a, b, h => by cases b <;> simp_all [Query.beq]
    | .typed t q, b, h => by
      cases b <;> simp [Query.beq] at h
      rename_i t' q'
      simp [h.1, qbeq_sound q q' h.2]
    | .inter qs, b, h => by
      cases b <;> simp [Query.beq] at h
      rename_i qs'
      simp [qbeqs_sound qs qs' h]
    | .union qs, b, h => by
      cases b <;> simp [Query.beq] at h
      rename_i qs'
      simp [qbeqs_sound qs qs' h]
  theorem qbeqs_sound : (as bs : List Query) → Query.beqs as bs = true → as = bs
    | [], [], _ => rfl
    | [], _ :: _, h => by simp [Query.beqs] at h
    | _ :: _, [], h => by simp [Query.beqs] at h
    | a :: as, b :: bs, h => by
      simp [Query.beqs] at h
      simp [qbeq_sound a b h.1, qbeqs_sound as bs h.2]
end

theorem litMatches_sound {l : Lit} {v : Val} (h : litMatches l v = true) : v = l.toVal := by
  cases l <;> cases v <;> simp [litMatches] at h <;> simp_all [Lit.toVal]
  exact (qbeq_sound _ _ h).symm

theorem takeStores_spec : ∀ (k : Nat) (is : List Instr) (own : List Nat) (rest : List Instr),
    takeStores k is = some (own, rest) → is = own.reverse.map Instr.store ++ rest ∧ own.length = k := by
  intro k is own rest h
  fun_induction takeStores k is generalizing own rest with
  | case1 is => cases h; simp
  | case2 k r is rs rest' hr ih =>
    cases h
    obtain ⟨h1, h2⟩ := ih rs rest' hr
    simp [h1, h2]
  | case3 | case4 => cases h

theorem matchLamWith_inv {m : Frame → List Instr → Option (List Instr)} {frame : Frame} {ps : List String} {pc : Nat}
    (h : matchLamWith m code frame ps pc = true) :
    ∃ own is tl, code.drop pc = own.reverse.map Instr.store ++ is ∧ own.length = ps.length ∧
      (∀ r ∈ own, r < maxArgs) ∧ own.Nodup ∧ m (ps.zip own ++ frame) is = some (.discard :: .ret :: tl) := by
  unfold matchLamWith at h
  split at h
  · rename_i own is hts
    obtain ⟨hcode, hol⟩ := takeStores_spec _ _ _ _ hts
    simp only [Bool.and_eq_true, decide_eq_true_eq, List.all_eq_true] at h
    obtain ⟨⟨hlt, hnd⟩, hbody⟩ := h
    split at hbody
    · exact ⟨own, is, _, hcode, hol, hlt, hnd, ‹_›⟩
    · cases hbody
  · cases h

theorem matchMain_inv {e : Expr} (h : matchMain code e = true) :
    ∃ v0 is tl, code = .pushVal v0 :: is ∧ matchExpr code [] e is = some (.ret :: tl) := by
  unfold matchMain at h
  split at h
  · split at h
    · exact ⟨_, _, _, rfl, ‹_›⟩
    · cases h
  · cases h

section
variable {frame : Frame} {is rest : List Instr}

theorem matchExpr_sym_load {s : String} {r : Nat} (hl : frame.lookup s = some r)
    (h : matchExpr code frame (.sym s) is = some rest) : is = .load r :: rest := by
  simp only [matchExpr, hl] at h
  split at h
  · split at h <;> cases h
    rename_i hr
    rw [eq_of_beq hr]
  · cases h

theorem matchExpr_sym_fn {s : String} (hl : frame.lookup s = none)
    (h : matchExpr code frame (.sym s) is = some rest) : ∃ b, Builtin.ofName s = some b ∧ is = .pushFn b :: rest := by
  simp only [matchExpr, hl] at h
  split at h
  · rename_i b hb
    split at h
    · split at h <;> cases h
      rename_i hr
      exact ⟨b, hb, by rw [eq_of_beq hr]⟩
    · cases h
  · cases h

theorem matchExpr_lit {l : Lit} (h : matchExpr code frame (.lit l) is = some rest) : is = .pushVal l.toVal :: rest := by
  simp only [matchExpr] at h
  split at h
  · split at h <;> cases h
    rename_i hl
    rw [litMatches_sound hl]
  · cases h

theorem matchExpr_lam {ps : List String} {b : Expr} (h : matchExpr code frame (.lam ps b) is = some rest) :
    ∃ pc, is = .pushLam pc ps.length :: rest ∧
      matchLamWith (fun fr js => matchExpr code fr b js) code frame ps pc = true := by
  simp only [matchExpr] at h
  split at h
  · split at h <;> cases h
    rename_i hc
    simp only [Bool.and_eq_true, beq_iff_eq] at hc
    exact ⟨_, by rw [hc.1], hc.2⟩
  · cases h

theorem matchExpr_call {f : Expr} {args : List Expr} {p : Bool}
    (h : matchExpr code frame (.call f args p) is = some rest) :
    ∃ is1, matchArgs code frame args is = some is1 ∧
      match f with
      | .sym s => ∃ b, Builtin.ofName s = some b ∧ is1 = .callFn b args.length :: rest
      | .lit _ => False
      | .lam ps b => ∃ pc, is1 = .callLam pc ps.length args.length :: rest ∧
          matchLamWith (fun fr js => matchExpr code fr b js) code frame ps pc = true
      | .call g gargs q => matchExpr code frame (.call g gargs q) is1 = some (.callStack args.length :: rest) := by
  rw [matchExpr] at h
  cases hma : matchArgs code frame args is with
  | none => simp [hma] at h
  | some is1 =>
    simp only [hma] at h
    refine ⟨is1, rfl, ?_⟩
    cases f with
    | lit l => cases h
    | sym s =>
      dsimp only at h ⊢
      split at h
      · rename_i b b' n rest' hb
        split at h <;> cases h
        rename_i hc
        simp only [Bool.and_eq_true, beq_iff_eq] at hc
        exact ⟨b, hb, by rw [hc.1, hc.2]⟩
      · cases h
    | lam ps b =>
      dsimp only at h ⊢
      split at h
      · split at h <;> cases h
        rename_i hc
        simp only [Bool.and_eq_true, beq_iff_eq, matchLamAt] at hc
        exact ⟨_, by rw [hc.1, hc.2.1], hc.2.2⟩
      · cases h
    | call g gargs q =>
      dsimp only at h ⊢
      split at h
      · split at h <;> cases h
        rename_i hn hm
        rw [hm, eq_of_beq hn]
      · cases h

end

/-! ### `VR` is one of the relations the builtin table carries -/

theorem VRs_lift : ∀ {as as' : List Val}, VRs code as as' → Builtins.Lift (VR code) as as'
  | _, _, .nil => .nil
  | _, _, .cons h hs => .cons h (VRs_lift hs)

theorem lift_VRs : ∀ {as as' : List Val}, Builtins.Lift (VR code) as as' → VRs code as as'
  | _, _, .nil => .nil
  | _, _, .cons h hs => .cons h (lift_VRs hs)

theorem VR_transports (code : List Instr) : Builtins.TransportsBoth (VR code) where
  int_inv h := by cases h; rfl
  str_inv h := by cases h; rfl
  query_inv h := by cases h; exact ⟨_, rfl⟩
  pair_inv h := by cases h with | pair ha hb => exact ⟨_, _, rfl, ha, hb⟩
  int_inv' h := by cases h; rfl
  str_inv' h := by cases h; rfl
  query_inv' h := by cases h; exact ⟨_, rfl⟩
  pair_inv' h := by cases h with | pair ha hb => exact ⟨_, _, rfl, ha, hb⟩
  callable h := (VR_callable h).1.trans (VR_callable h).2.symm
  arity := VR_arity
  cell h := (VR_obs_cell h).2
  lit := VR_lit
  builtin := .builtin
  pair := .pair
  typed h := by cases h; exact .query _
  inter h1 h2 := by cases h1; cases h2; exact .query _
  union h1 h2 := by cases h1; cases h2; exact .query _

end B6.Lemmas.VMLambda
