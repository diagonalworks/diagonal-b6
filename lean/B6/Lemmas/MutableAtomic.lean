import B6.Lemmas.MutableRoot
import B6.Lemmas.MutableCanary
import B6.Lemmas.MutableRefs
import B6.Lemmas.Basic.MapM
import B6.Lemmas.Basic.Dedup
/-!
C13: the answer of `AddFeature` as a function of geometry and locations alone, given that the
world is valid and that `FindReferences` is complete for what validation reads; completeness of a layered
world's `FindReferences`; preservation of the invariants; the canary is faithful without any run-time
hypothesis.
-/
namespace B6.Model.Mutable

/-! ## what the validation of a geometry reads -/

/-- `id` is named by the geometry, or by a feature the geometry names (an end point of a path of an area) -/
def Dep (v : View) (g : Geom) (id : Id) : Prop :=
  id ∈ geomRefs g ∨ ∃ P ∈ geomRefs g, ∃ gP, geomOf v P = some gP ∧ id ∈ geomRefs gP

/-- `v'` is `v` with the feature under `id` replaced by `f` (the temporary replacement of `AddFeature`,
and the world after the replacement is committed), as far as validation can see -/
structure Ovr (v v' : View) (id : Id) (f : Feature) : Prop where
  loc : ∀ x, v'.loc x = if x = id then pointOfG f.geom else v.loc x
  geom : ∀ x, geomOf v' x = if x = id then some f.geom else geomOf v x

theorem validatePath_located {v : View} {o : Oracle} {ps : List Id} (h : validatePath v o ps = true) :
    ∀ p ∈ ps, (v.loc p).isSome = true := by
  unfold validatePath at h
  split at h
  · cases h
  · cases hm : ps.mapM v.loc with
    | none => simp [hm] at h
    | some pts =>
      intro q hq
      obtain ⟨y, e⟩ := B6.Lemmas.Basic.exists_of_mapM_some hm hq
      rw [e]; rfl

theorem validateArea_paths {v : View} {ps : List Id} (h : validateArea v ps = true) {P : Id} (hP : P ∈ ps) :
    ∃ qs, geomOf v P = some (.path qs) := by
  have hok : areaPathOK v.loc (geomOf v P) = true := List.all_eq_true.1 h P hP
  cases hg : geomOf v P with
  | none => simp [hg, areaPathOK] at hok
  | some g => cases g <;> simp [hg, areaPathOK] at hok ⊢

theorem pathClosesIn_congr {loc loc' : Id → Option Pt} (qs : List Id) (h : ∀ q ∈ qs, loc' q = loc q) :
    pathClosesIn loc' qs = pathClosesIn loc qs := by
  unfold pathClosesIn
  split
  · rfl
  · cases hh : qs.head? with
    | none => rfl
    | some a =>
      cases hl : qs.getLast? with
      | none => rfl
      | some c =>
        simp only [h a (List.mem_of_head? hh), h c (List.mem_of_getLast? hl)]

theorem validateG_unchanged {v v' : View} {id : Id} {f : Feature} (ho : Ovr v v' id f) (o : Oracle) (g : Geom)
    (hd : ¬ Dep v g id) : validateG v' o g = validateG v o g := by
  have hloc : ∀ x, x ≠ id → v'.loc x = v.loc x := fun x hx => by rw [ho.loc]; simp [hx]
  have hgeo : ∀ x, x ≠ id → geomOf v' x = geomOf v x := fun x hx => by rw [ho.geom]; simp [hx]
  cases g with
  | point p => rfl
  | relation ms => rfl
  | collection ks => rfl
  | path ps =>
    have hn : ∀ p ∈ ps, p ≠ id := fun p hp he => hd (Or.inl (by simpa [geomRefs, he] using hp))
    simp only [validateG, validatePath]
    rw [B6.Lemmas.Basic.mapM_congr (fun p hp => hloc p (hn p hp))]
  | area ps =>
    simp only [validateG, validateArea]
    apply B6.Lemmas.Basic.all_congr_mem
    intro P hP
    have hPne : P ≠ id := fun he => hd (Or.inl (by simpa [geomRefs, he] using hP))
    have h1 : (v'.find P).map (·.f.geom) = (v.find P).map (·.f.geom) := hgeo P hPne
    rw [h1]
    cases hg : (v.find P).map (·.f.geom) with
    | none => rfl
    | some gP =>
      cases gP with
      | path qs =>
        simp only [areaPathOK]
        apply pathClosesIn_congr
        intro q hq
        apply hloc
        intro he
        exact hd (Or.inr ⟨P, by simpa [geomRefs] using hP, .path qs, hg, by simpa [geomRefs, he] using hq⟩)
      | point p => rfl
      | area x => rfl
      | relation x => rfl
      | collection x => rfl

/-! ## validity, completeness, and the answer of `AddFeature` -/

/-- every feature the world shows validates in it (C37's invariant) -/
def AllValid (v : View) (o : Oracle) : Prop := ∀ x g, geomOf v x = some g → validateG v o g = true

/-- `FindReferences(id)` returns every feature whose validation reads `id` (half of C15's spec) -/
def RefsComplete (v : View) : Prop := ∀ id x gx, geomOf v x = some gx → Dep v gx id → x ∈ v.refs id

/-- some feature that depends on `f.id` would be invalid once `f` is in place -/
def Bad (v vt : View) (o : Oracle) (id : Id) : Prop :=
  ∃ x g, geomOf v x = some g ∧ Dep v g id ∧ validateG vt o g = false

theorem mem_referrers_of_dep {b : View} {l : Layer} (hrc : RefsComplete (l.view b (l.loc b))) {id x : Id} {g : Geom}
    (hg : geomOf (l.view b (l.loc b)) x = some g) (hd : Dep (l.view b (l.loc b)) g id) :
    ∃ fv ∈ l.referrers b id, l.find b x = some fv ∧ fv.f.geom = g := by
  obtain ⟨fv, hfv, hgeo⟩ := geomOf_eq_some.1 hg
  exact ⟨fv, List.mem_filterMap.2 ⟨x, hrc id x g hg hd, hfv⟩, hfv, hgeo⟩

theorem ovr_of_obs {v v' : View} {f : Feature} (hv : v.LocOK) (hv' : v'.LocOK)
    (h : ∀ i, obs v' i = if i = f.id then some (shownOf f) else obs v i) : Ovr v v' f.id f := by
  have hg : ∀ x, geomOf v' x = if x = f.id then some f.geom else geomOf v x := fun x => by
    rw [geomOf_obs, geomOf_obs, h]; split <;> rfl
  exact ⟨fun x => by rw [hv' x, hg, hv x]; split <;> rfl, hg⟩

theorem tmp_ovr (b : View) (l : Layer) (f : Feature) :
    Ovr (l.view b (l.loc b)) ((l.putTmp f).view b ((l.putTmp f).loc b)) f.id f :=
  ⟨fun x => by
      show (l.putTmp f).loc b x = if x = f.id then _ else l.loc b x
      simp only [Layer.loc, Layer.putTmp, AMap.get_set]
      by_cases hx : x = f.id
      · simp only [hx, ↓reduceIte]; exact pointOf_eq f
      · simp only [hx, ↓reduceIte],
   fun x => by rw [geomOf_obs, obs_view, obs_putTmp, geomOf_obs, obs_view b (l.loc b)]; split <;> rfl⟩

/-- **the answer of `AddFeature` is geometric**: in a valid world with a complete `FindReferences`, it is an
error exactly when `f` is invalid or a feature depending on `f.id` becomes invalid -/
theorem addFeature_err_iff {b : View} {o : Oracle} {l : Layer} {f : Feature}
    (hav : AllValid (l.view b (l.loc b)) o) (hrc : RefsComplete (l.view b (l.loc b))) :
    (l.addFeature b o f).2 ≠ none ↔
      (validateG (l.view b (l.loc b)) o f.geom = false ∨
       Bad (l.view b (l.loc b)) ((l.putTmp f).view b ((l.putTmp f).loc b)) o f.id) := by
  rw [Ne, addFeature_ok_iff]
  constructor
  · intro h
    apply Classical.byContradiction
    intro hn
    simp only [not_or, Bool.not_eq_false] at hn
    refine h ⟨hn.1, fun x _ g hg => ?_⟩
    -- a feature that does not depend on `f.id` stays valid; one that does would be `Bad`
    apply Classical.byContradiction
    intro hinv
    have hd : ¬ Dep (l.view b (l.loc b)) g f.id := fun hd => hn.2 ⟨x, g, hg, hd, by simpa using hinv⟩
    rw [validateG_unchanged (tmp_ovr b l f) o _ hd, hav x g hg] at hinv
    exact hinv rfl
  · rintro (hv | ⟨x, g, hg, hd, hinv⟩) ⟨h1, h2⟩
    · rw [hv] at h1; cases h1
    · rw [h2 x (hrc f.id x g hg hd) g hg] at hinv; cases hinv

/-! ## completeness of `MutableOverlayWorld.FindReferences` -/

theorem mem_dedup (x : Id) : ∀ l : List Id, x ∈ dedup l ↔ x ∈ l := fun l =>
  (B6.Lemmas.Basic.dedup_keepLast (c := fun x xs => xs.contains x = true) (fun _ _ _ => List.contains_iff_mem) rfl
    (fun _ _ => rfl) l).2 x

theorem closure_refDepth_direct {rs : List (Id × List Id)} {s t : Id} (h : s ∈ sources rs t) :
    s ∈ closure rs (refDepth rs) t := by
  simp only [refDepth, closure, List.mem_append]; exact .inl h

/-- two levels are within the depth of any table that has an entry -/
theorem closure_refDepth_two {rs : List (Id × List Id)} {s t u : Id} (h1 : s ∈ sources rs t)
    (h2 : u ∈ sources rs s) : u ∈ closure rs (refDepth rs) t := by
  cases rs with
  | nil => simp [sources] at h1
  | cons a r =>
    simp only [refDepth, List.length_cons, closure, List.mem_append, List.mem_flatMap]
    exact .inr ⟨s, h1, .inl h2⟩

theorem mem_refsOf_of {b : View} {l : Layer} {id x : Id} (hf : (l.find b x).isSome = true)
    (h : (x ∈ b.refs id ∧ AMap.get l.feats x = none) ∨
         (∃ y, y ∈ b.refs id ∧ AMap.get l.feats y = none ∧ x ∈ closure l.refs (refDepth l.refs) y) ∨
         x ∈ closure l.refs (refDepth l.refs) id) : x ∈ l.refsOf b id := by
  simp only [Layer.refsOf, List.mem_filter, mem_dedup, List.mem_append, List.mem_flatMap, AMap.contains,
    Bool.not_eq_true', Option.isSome_eq_false_iff, Option.isNone_iff_eq_none]
  refine ⟨?_, hf⟩
  rcases h with ⟨h1, h2⟩ | ⟨y, h1, h2, h3⟩ | h
  · exact Or.inl (Or.inl ⟨h1, h2⟩)
  · exact Or.inl (Or.inr ⟨y, ⟨h1, h2⟩, h3⟩)
  · exact Or.inr h

/-- the copy discipline that survives `AddTag`: an overlay feature that a base-only feature names has the
references of its base version (it was copied for a tag edit, or is a copied referrer); an overlay feature
whose references changed has had all its referrers copied with it -/
def CopyDisc (b : View) (l : Layer) : Prop :=
  ∀ x gx P g, AMap.get l.feats x = none → geomOf b x = some gx → P ∈ geomRefs gx →
    AMap.get l.feats P = some g → ∃ g0, geomOf b P = some g0 ∧ geomRefs g0 = geomRefs g.geom

/-- **`FindReferences` of a layered world is complete** for everything validation reads, when the base's is,
the reference table is the inverse of the overlay's references, and the copy discipline holds -/
theorem refsComplete_view {b : View} {l : Layer} (hb : RefsComplete b) (hi : RefsInv l) (hcd : CopyDisc b l)
    (ll : Id → Option Pt) : RefsComplete (l.view b ll) := by
  intro id x gx hgx hdep
  show x ∈ l.refsOf b id
  have hfound : (l.find b x).isSome = true := by
    obtain ⟨fv, hfv, _⟩ := geomOf_eq_some.1 hgx
    have hfv : l.find b x = some fv := hfv
    rw [hfv]; rfl
  apply mem_refsOf_of hfound
  rcases hdep with hd | ⟨P, hP, gP, hgP, hidP⟩
  · -- `x` names `id`: the table has it if `x` is in the overlay, the base's `FindReferences` if not
    rcases geomOf_view_cases hgx with ⟨g, hx, rfl⟩ | ⟨hx, hgx⟩
    · exact Or.inr (Or.inr (closure_refDepth_direct ((hi id x).2 ⟨g, hx, hd⟩)))
    · exact Or.inl ⟨hb id x gx hgx (Or.inl hd), hx⟩
  · -- `x` names `P`, which names `id`: by where `x` and `P` live
    rcases geomOf_view_cases hgx with ⟨g, hx, rfl⟩ | ⟨hx, hgx⟩
    · have hxP : x ∈ sources l.refs P := (hi P x).2 ⟨g, hx, hP⟩
      rcases geomOf_view_cases hgP with ⟨gp, hPf, rfl⟩ | ⟨hPf, hgP⟩
      · exact Or.inr (Or.inr (closure_refDepth_two ((hi id P).2 ⟨gp, hPf, hidP⟩) hxP))
      · exact Or.inr (Or.inl ⟨P, hb id P gP hgP (Or.inl hidP), hPf, closure_refDepth_direct hxP⟩)
    · rcases geomOf_view_cases hgP with ⟨gp, hPf, rfl⟩ | ⟨hPf, hgP⟩
      · -- a base feature through an overlay one: the overlay one names what its base version named
        obtain ⟨g0, hg0, hrefs⟩ := hcd x gx P gp hx hgx hP hPf
        exact Or.inl ⟨hb id x gx hgx (Or.inr ⟨P, hP, g0, hg0, by rw [hrefs]; exact hidP⟩), hx⟩
      · exact Or.inl ⟨hb id x gx hgx (Or.inr ⟨P, hP, gP, hgP, hidP⟩), hx⟩

/-! ## the copy discipline is preserved -/

theorem copyDisc_same {b : View} {l l' : Layer} (hs : l.Same l') (h : CopyDisc b l) : CopyDisc b l' := by
  intro x gx P g hx hgx hP hPg
  rw [hs.feats] at hx hPg
  exact h x gx P g hx hgx hP hPg

theorem copyDisc_empty (b : View) : CopyDisc b Layer.empty := by
  intro x gx P g _ _ _ hPg; simp [Layer.empty] at hPg

theorem copyDisc_retag {b : View} {l : Layer} {id : Id} {f : Feature} {tags : List Tag} {ix : List (Token × List Id)}
    (h : CopyDisc b l) (hf : AMap.get l.feats id = some f) :
    CopyDisc b { l with index := ix, feats := AMap.set l.feats id { f with tags := tags } } := by
  intro x gx P g hx hgx hP hPg
  simp only [AMap.get_set] at hx hPg
  have hx' : AMap.get l.feats x = none := by
    by_cases hxi : x = id
    · simp [hxi] at hx
    · simpa [hxi] using hx
  by_cases hPi : P = id
  · simp only [hPi, ↓reduceIte, Option.some.injEq] at hPg
    subst hPg
    rw [hPi]
    exact h x gx id f hx' hgx (hPi ▸ hP) hf
  · simp only [hPi, ↓reduceIte] at hPg
    exact h x gx P g hx' hgx hP hPg

/-- a base feature copied with its base geometry (`AddTag` / `RemoveTag`) -/
theorem copyDisc_adopt {b : View} {l : Layer} {f : Feature} (h : CopyDisc b l)
    (hg : geomOf b f.id = some f.geom) : CopyDisc b (l.adopt f) := by
  intro x gx P g hx hgx hP hPg
  simp only [adopt_feats] at hx hPg
  have hx' : AMap.get l.feats x = none := by
    by_cases hxi : x = f.id
    · simp [hxi] at hx
    · simpa [hxi] using hx
  by_cases hPi : P = f.id
  · simp only [hPi, ↓reduceIte, Option.some.injEq] at hPg
    subst hPg
    exact ⟨f.geom, hPi ▸ hg, rfl⟩
  · simp only [hPi, ↓reduceIte] at hPg
    exact h x gx P g hx' hgx hP hPg

theorem geom_of_find_base {b : View} {l : Layer} {x : Id} {fv : FV} (hx : AMap.get l.feats x = none)
    (hf : l.find b x = some fv) : geomOf b x = some fv.f.geom := by
  rw [← geomOf_base hx (l.loc b)]; simp [geomOf, find_view, hf]

/-- `NewModifiedFeaturesWithCopies` + `Update` keep the copy discipline: every base-only feature naming the
replaced feature is one of its referrers (completeness) and is therefore copied -/
theorem copyDisc_commit {b : View} {l l1 : Layer} {f : Feature} (hb : b.IdsOK) (hl : l.FeatsId) (hs : l.Same l1)
    (hcd : CopyDisc b l) (hrc : RefsComplete (l.view b (l.loc b))) :
    CopyDisc b (l1.commit f (l.referrers b f.id)) := by
  intro x gx P g hx hgx hP hPg
  rw [commit_feats] at hx hPg
  have hxne : x ≠ f.id := by intro he; simp [he] at hx
  simp only [hxne, ↓reduceIte] at hx
  have hxl : AMap.get l.feats x = none := by
    rw [← hs.feats]
    cases h : AMap.get l1.feats x with
    | none => rfl
    | some g' => rw [(copied_feats_iff ..).2 (.inl h)] at hx; cases hx
  by_cases hPi : P = f.id
  · -- impossible: `x` names the replaced feature, so it is a referrer, so it was copied
    exfalso
    have hgV : geomOf (l.view b (l.loc b)) x = some gx := by rw [geomOf_base hxl]; exact hgx
    obtain ⟨fv, hin, hfv, _⟩ := mem_referrers_of_dep hrc hgV (Or.inl (hPi ▸ hP))
    have hfid : fv.f.id = x := find_id hb hl hfv
    have := copied_all (l := l1) hin (by rw [hfid]; exact hxne)
    rw [hfid, hx] at this; cases this
  · simp only [hPi, ↓reduceIte] at hPg
    rcases (copied_feats_iff ..).1 hPg with h | ⟨h1, hcopy, h4⟩
    · rw [hs.feats] at h; exact hcd x gx P g hxl hgx hP h
    · -- a copy is a referrer, with the geometry the world showed for it
      obtain ⟨_, _, r, hr, h3⟩ := copy_spec hcopy
      rw [hs.feats] at h1
      have hfind := referrers_find hb hl f.id r hr
      rw [h3, h4] at hfind
      exact ⟨g.geom, by rw [← h3]; exact (h3 ▸ geom_of_find_base h1 hfind), rfl⟩

/-! ## validity is preserved -/

theorem allValid_congr {v v' : View} {o : Oracle} (hl : v'.loc = v.loc) (hg : ∀ x, geomOf v' x = geomOf v x)
    (h : AllValid v o) : AllValid v' o := fun x g hx => by
  rw [validateG_congr hl hg]; exact h x g (by rw [← hg]; exact hx)

theorem allValid_of_obs {v v' : View} {o : Oracle} (hv : v.LocOK) (hv' : v'.LocOK)
    (h : ∀ i, (obs v' i).map (·.geom) = (obs v i).map (·.geom)) (hav : AllValid v o) : AllValid v' o :=
  have hg : ∀ x, geomOf v' x = geomOf v x := fun x => by rw [geomOf_obs, geomOf_obs, h]
  allValid_congr (funext fun x => by rw [hv' x, hv x, hg]) hg hav

/-- the features of path / area kind that an operation adds do not name themselves (with typed ids this is
automatic: a path's points are point ids, an area's paths are path ids) -/
def selfFree (f : Feature) : Bool :=
  match f.geom with
  | .path ps => !ps.contains f.id
  | .area ps => !ps.contains f.id
  | _ => true

/-- **an accepted `AddFeature` keeps the world valid** — `v'` is the world after it -/
theorem allValid_commit {b : View} {o : Oracle} {l : Layer} {f : Feature} {v' : View}
    (hb : b.LocOK) (hav : AllValid (l.view b (l.loc b)) o) (hrc : RefsComplete (l.view b (l.loc b)))
    (hovr : Ovr (l.view b (l.loc b)) v' f.id f) (hsf : selfFree f = true)
    (hvalid : validateG (l.view b (l.loc b)) o f.geom = true)
    (hrefs : ∀ r ∈ l.referrers b f.id, validateG ((l.putTmp f).view b ((l.putTmp f).loc b)) o r.f.geom = true) :
    AllValid v' o := by
  have htmp := tmp_ovr b l f
  -- `v'` and the temporary world look alike
  have hloc : v'.loc = ((l.putTmp f).view b ((l.putTmp f).loc b)).loc := by
    funext x; rw [hovr.loc, htmp.loc]
  have hgeo : ∀ x, geomOf v' x = geomOf ((l.putTmp f).view b ((l.putTmp f).loc b)) x := by
    intro x; rw [hovr.geom, htmp.geom]
  -- a feature that depends on `f.id` was validated as a referrer
  have hdepvalid : ∀ x g, geomOf (l.view b (l.loc b)) x = some g → Dep (l.view b (l.loc b)) g f.id →
      validateG ((l.putTmp f).view b ((l.putTmp f).loc b)) o g = true := by
    intro x g hg hd
    obtain ⟨fv, hin, _, rfl⟩ := mem_referrers_of_dep hrc hg hd
    exact hrefs fv hin
  intro x g hg
  rw [validateG_congr hloc hgeo]
  by_cases hx : x = f.id
  · -- the new feature itself: valid before it was in place, and it stays so unless it depends on its own id
    subst hx
    rw [hovr.geom] at hg
    simp only [↓reduceIte, Option.some.injEq] at hg
    subst hg
    by_cases hdep : Dep (l.view b (l.loc b)) f.geom f.id
    · -- only a relation or a collection can, and these are always valid
      cases hgm : f.geom with
      | point p => rfl
      | relation ms => rfl
      | collection ks => rfl
      | path ps =>
        rw [hgm] at hdep hvalid
        rcases hdep with hd | ⟨P, hP, gP, hgP, hid⟩
        · simp [selfFree, hgm] at hsf; exact absurd hd hsf
        · -- `P` is an element of the valid path, so it is located, so it is a point: it names nothing
          have hlocP := validatePath_located hvalid P hP
          rw [view_locOK hb l (l.loc b) P, hgP] at hlocP
          cases gP <;> simp [pointOfG, geomRefs] at hlocP hid
      | area ps =>
        rw [hgm] at hdep hvalid
        rcases hdep with hd | ⟨P, hP, gP, hgP, hid⟩
        · simp [selfFree, hgm] at hsf; exact absurd hd hsf
        · -- `P` is a member of the valid area, so a path; it names `f.id`, so it was validated with `f` in
          -- place: `f.id` would be located there, and `f` a point
          obtain ⟨qs, hq⟩ := validateArea_paths hvalid hP
          rw [hq] at hgP; cases hgP
          have h1 := validatePath_located (hdepvalid P _ hq (.inl hid)) f.id hid
          rw [htmp.loc] at h1; simp [hgm, pointOfG] at h1
    · rw [validateG_unchanged htmp o _ hdep]; exact hvalid
  · rw [hovr.geom] at hg
    simp only [hx, ↓reduceIte] at hg
    by_cases hd : Dep (l.view b (l.loc b)) g f.id
    · exact hdepvalid x g hg hd
    · rw [validateG_unchanged htmp o _ hd]; exact hav x g hg

/-! ## the invariants of a reachable world, call by call -/

structure BaseOK (b : View) : Prop where
  ids : b.IdsOK
  loc : b.LocOK
  rc : RefsComplete b

structure Inv (b : View) (o : Oracle) (l : Layer) : Prop where
  feats : l.FeatsId
  refs : RefsInv l
  cd : CopyDisc b l
  av : AllValid (l.view b (l.loc b)) o

theorem Inv.rc {b : View} {o : Oracle} {l : Layer} (hb : BaseOK b) (h : Inv b o l) :
    RefsComplete (l.view b (l.loc b)) := refsComplete_view hb.rc h.refs h.cd _

theorem inv_same {b : View} {o : Oracle} {l l' : Layer} (hs : l.Same l') (h : Inv b o l) : Inv b o l' :=
  ⟨featsId_same hs h.feats, refsInv_same hs h.refs, copyDisc_same hs h.cd,
    allValid_congr (v := l.view b (l.loc b)) (hs.loc b)
      (fun x => geomOf_congr (by rw [obs_view, obs_view, obs_same hs])) h.av⟩

def primOK : Prim → Bool
  | .feat f => selfFree f
  | _ => true

theorem copyDisc_tagStep {b : View} {l l' : Layer} {id : Id} {k : Key} {m : Mod}
    (hb : b.IdsOK) (hl : l.FeatsId) (hcd : CopyDisc b l) (h : TagStep b l id k m l') : CopyDisc b l' := by
  cases h with
  | retag hf => exact copyDisc_retag hcd hf
  | adopt hf hv =>
    apply copyDisc_adopt hcd
    simp only [find_id hb hl hv]
    exact geom_of_find_base hf hv
  | record | skip => exact hcd

theorem inv_tagStep {b : View} {o : Oracle} {l l' : Layer} {id : Id} {k : Key} {m : Mod}
    (hb : BaseOK b) (h : Inv b o l) (hs : TagStep b l id k m l') : Inv b o l' :=
  ⟨featsId_tagStep h.feats hs, refsInv_tagStep hb.ids h.feats h.refs hs, copyDisc_tagStep hb.ids h.feats h.cd hs,
    allValid_of_obs (view_locOK hb.loc _ _) (view_locOK hb.loc _ _) (fun i => by
      -- tag edits do not touch geometry
      rw [obs_view, obs_view, obs_tagStep hb.ids h.feats hs]
      split
      next hi => rw [hi, Option.map_map]; rfl
      next => rfl) h.av⟩

theorem inv_prim {b : View} {o : Oracle} {l : Layer} (p : Prim) (hb : BaseOK b) (h : Inv b o l)
    (hp : primOK p = true) : Inv b o (p.apply b o l).1 := by
  cases prim_cases b o l p with
  | rejected eq _ same => rw [eq]; exact inv_same same h
  | committed f l1 isFeat eq same valid refsValid =>
    subst isFeat
    refine ⟨featsId_prim l (.feat f) h.feats, (refsInv_prim hb.ids l (.feat f) ⟨h.feats, h.refs⟩).2, ?_, ?_⟩
    · rw [eq]; exact copyDisc_commit hb.ids h.feats same h.cd (h.rc hb)
    · rw [eq]
      have hrs : ∀ r ∈ l.referrers b f.id, l1.find b r.f.id = some r := fun r hr => by
        rw [same.find]; exact referrers_find hb.ids h.feats f.id r hr
      exact allValid_commit hb.loc h.av (h.rc hb)
        (ovr_of_obs (view_locOK hb.loc _ _) (view_locOK hb.loc _ _) fun i => by
          rw [obs_view, obs_view, obs_commit hrs, obs_same same])
        hp (validate_eq .. ▸ valid) (fun r hr => validate_eq .. ▸ refsValid r hr)
  | edited _ _ _ eq step => rw [eq]; exact inv_tagStep hb h step

/-! ## the canary is faithful in every world that satisfies the invariants -/

/-- **one `AddFeature` on the canary and on the world: the same answer**, from the invariants alone -/
theorem addFeature_same_verdict_inv {v0 b : View} {o : Oracle} {c l : Layer} {f : Feature}
    (hv0 : BaseOK v0) (hb : BaseOK b) (hs : Sim v0 b c l) (hc : Inv v0 o c) (hl : Inv b o l) :
    (c.addFeature v0 o f).2 = (l.addFeature b o f).2 := by
  have hg := hs.gagree hv0.loc hb.loc
  have ht := hs.gagree_tmp hv0.loc hb.loc f
  apply verdict_eq_of_iff
  apply Decidable.not_iff_not.1
  rw [← Ne, ← Ne, addFeature_err_iff hc.av (hc.rc hv0), addFeature_err_iff hl.av (hl.rc hb)]
  simp only [Bad, Dep, validateG_congr hg.loc hg.geom, validateG_congr ht.loc ht.geom, hg.geom]

theorem prims_faithful_inv {v0 b : View} {o : Oracle} (hv0 : BaseOK v0) (hb : BaseOK b) (ps : List Prim) :
    ∀ (c l : Layer), Sim v0 b c l → Inv v0 o c → Inv b o l → (∀ p ∈ ps, primOK p = true) →
      (applyPrims v0 o c ps).2 = (applyPrims b o l ps).2 := fun c l hs hc hl hok =>
  lockstep (R := fun c l ps => Sim v0 b c l ∧ Inv v0 o c ∧ Inv b o l ∧ ∀ p ∈ ps, primOK p = true)
    (fun _ _ p _ ⟨hs, hc, hl, hok⟩ =>
      have h := prim_step (o := o) p hv0.ids hb.ids hs (fun _ _ => addFeature_same_verdict_inv hv0 hb hs hc hl)
      ⟨h.1, fun _ => ⟨h.2, inv_prim p hv0 hc (hok p List.mem_cons_self), inv_prim p hb hl (hok p List.mem_cons_self),
        fun q hq => hok q (List.mem_cons_of_mem _ hq)⟩⟩)
    ps c l ⟨hs, hc, hl, hok⟩

theorem inv_empty {b : View} {o : Oracle} (hav : AllValid b o) : Inv b o Layer.empty :=
  ⟨fun i f hf => by simp [Layer.empty] at hf, refsInv_empty, copyDisc_empty _,
    allValid_congr (by funext x; simp [Layer.view, Layer.loc, Layer.empty])
      (fun x => geomOf_base (by simp [Layer.empty]) _) hav⟩

theorem canary_init {b : View} {o : Oracle} {l : Layer} (hb : BaseOK b) (h : Inv b o l) :
    BaseOK (l.view b (l.loc b)) ∧ Inv (l.view b (l.loc b)) o Layer.empty :=
  ⟨⟨view_idsOK hb.ids h.feats _, view_locOK hb.loc l _, h.rc hb⟩, inv_empty h.av⟩

def changesOK (cs : List Change) : Prop := ∀ p ∈ cs.flatMap Change.prims, primOK p = true

def opOKsf : Op → Prop
  | .addFeature f => selfFree f = true
  | .merged cs => changesOK cs
  | _ => True

theorem primOK_of_opOKsf {op : Op} (h : opOKsf op) : ∀ p ∈ op.prims, primOK p = true := by
  cases op with
  | addFeature f => intro p hp; cases List.mem_singleton.1 hp; exact h
  | merged cs => exact h
  | _ => intro p hp; cases List.mem_singleton.1 hp; rfl

theorem inv_runOps {b : View} {o : Oracle} (hb : BaseOK b) (ops : List Op) : ∀ l : Layer, Inv b o l →
    (∀ op ∈ ops, opOKsf op) → Inv b o (runOps b o l ops).1 := fun l h hok =>
  runOps_inv (fun _ _ => inv_same) (fun _ p h hp => inv_prim p hb h hp) ops l h
    (fun op hop => primOK_of_opOKsf (hok op hop))

/-! ## the drivers' root world meets the assumptions -/

theorem mem_rootRefs (fs : List Feature) (t s : Id) :
    s ∈ sources (rootRefs fs) t ↔ ∃ f ∈ fs, s = f.id ∧ t ∈ geomRefs f.geom := by
  unfold rootRefs
  rw [mem_addCopies]
  simp [sources]

theorem geomOf_rootView (fs : List Feature) (id : Id) :
    geomOf (rootView fs) id = (AMap.get (rootFeats fs) id).map (·.geom) := by
  rw [geomOf_obs, obs_rootView, Option.map_map]; rfl

theorem rootView_locOK (fs : List Feature) : (rootView fs).LocOK := by
  intro id
  rw [geomOf_rootView]
  show rootLoc (rootFeats fs) id = _
  unfold rootLoc
  cases AMap.get (rootFeats fs) id with
  | none => rfl
  | some f => exact pointOf_eq f

theorem rootView_refsComplete (fs : List Feature) : RefsComplete (rootView fs) := by
  intro id x gx hgx hdep
  have hfeat : ∀ y gy, geomOf (rootView fs) y = some gy → ∃ g ∈ fs, g.id = y ∧ g.geom = gy ∧
      AMap.get (rootFeats fs) y = some g := by
    intro y gy h
    rw [geomOf_rootView] at h
    obtain ⟨g, hg, e⟩ := Option.map_eq_some_iff.1 h
    exact ⟨g, (rootFeats_get hg).2, (rootFeats_get hg).1, e, hg⟩
  obtain ⟨g, hgfs, hgid, hggeo, hget⟩ := hfeat x gx hgx
  show x ∈ (dedup (closure (rootRefs fs) (refDepth (rootRefs fs)) id)).filter
    (fun r => AMap.contains (rootFeats fs) r)
  simp only [List.mem_filter, mem_dedup, AMap.contains, hget, Option.isSome_some, and_true]
  rcases hdep with hd | ⟨P, hP, gP, hgP, hidP⟩
  · exact closure_refDepth_direct ((mem_rootRefs fs id x).2 ⟨g, hgfs, hgid.symm, by rw [hggeo]; exact hd⟩)
  · obtain ⟨p, hpfs, hpid, hpgeo, _⟩ := hfeat P gP hgP
    exact closure_refDepth_two ((mem_rootRefs fs id P).2 ⟨p, hpfs, hpid.symm, by rw [hpgeo]; exact hidP⟩)
      ((mem_rootRefs fs P x).2 ⟨g, hgfs, hgid.symm, by rw [hggeo]; exact hP⟩)

theorem rootView_baseOK (fs : List Feature) : BaseOK (rootView fs) :=
  ⟨rootView_idsOK fs, rootView_locOK fs, rootView_refsComplete fs⟩

/-- validity of a root world is a finite check -/
theorem rootView_allValid (fs : List Feature) (o : Oracle)
    (h : (rootFeats fs).all (fun e => validateG (rootView fs) o e.2.geom) = true) : AllValid (rootView fs) o := by
  intro x g hg
  rw [geomOf_rootView] at hg
  obtain ⟨f, hget, rfl⟩ := Option.map_eq_some_iff.1 hg
  exact List.all_eq_true.1 h (x, f) (AMap.get_some_mem hget)

end B6.Model.Mutable
