import B6.Model.Proto.Feed
import B6.Lemmas.ProtoMeasure
/-! `Feed` (Model/Proto/Feed.lean: `MemoryFeatureSource.Read`, `eachIngestFeature`, `EachModifiedTag`). Nobody leaves before the
channel is closed or the context cancelled (`Inv.live`); what reaches a worker late was in the channel when the producer saw the
cancellation (`Inv.cap`). -/
namespace B6.Model.Proto.Feed
open B6.Model.Proto

theorem mem_step {c : Cfg} {s s' : St} : s' ∈ step c s ↔ s.ret = none ∧
    ( (inLoop c s ∧ s.queue.length < c.g ∧ s' = { s with queue := s.queue ++ [s.next], next := s.next + 1 })
    ∨ (inLoop c s ∧ s.cancelled = true ∧ s' = { s with stopped := true })
    ∨ (s.closed = false ∧ ¬ inLoop c s ∧ s' = { s with closed := true })
    ∨ (s.closed = true ∧ allExited s ∧ s' = { s with ret := some s.cause })
    ∨ (c.ext = true ∧ s.cancelled = false ∧ s' = { s with cancelled := true })
    ∨ (∃ i w, s.ws[i]? = some w ∧ s' ∈ workerStep c s i w)) := by
  unfold step
  cases hr : s.ret with
  | some r => simp only [Option.isSome_some, ↓reduceIte, List.not_mem_nil, reduceCtorEq, false_and]
  | none =>
    simp only [Option.isSome_none, Bool.false_eq_true, ↓reduceIte, List.mem_append, mem_forWorkers, mem_guard, true_and,
      or_assoc, and_assoc]

theorem mem_workerStep {c : Cfg} {s s' : St} {i : Nat} {w : W} (h : s' ∈ workerStep c s i w) :
    (w = W.idle ∧ c.watch = true ∧ s.cancelled = true ∧ s' = { s with ws := s.ws.set i W.exited })
    ∨ (w = W.idle ∧ ∃ k q, s.queue = k :: q ∧
        s' = { s with queue := q, ws := s.ws.set i (W.busy k), late := if s.stopped then s.late + 1 else s.late })
    ∨ (w = W.idle ∧ s.queue = [] ∧ s.closed = true ∧ s' = { s with ws := s.ws.set i W.exited })
    ∨ (∃ k, w = W.busy k ∧ c.fails k = true ∧
        s' = { s with ws := s.ws.set i W.failing, failed := true, calls := s.calls + 1 })
    ∨ (∃ k, w = W.busy k ∧ c.fails k = false ∧ s' = { s with ws := s.ws.set i W.idle, calls := s.calls + 1 })
    ∨ (w = W.failing ∧ s' = { s with ws := s.ws.set i W.exited, cause := true, cancelled := true }) := by
  cases w with
  | idle =>
    rcases List.mem_append.mp h with h | h
    · obtain ⟨⟨h1, h2⟩, h3⟩ := mem_guard.mp h
      exact .inl ⟨rfl, h1, h2, h3⟩
    · revert h
      fun_cases recv s i with
      | case1 k q hq => exact fun h => .inr (.inl ⟨rfl, k, q, hq, List.mem_singleton.mp h⟩)
      | case2 hq => exact fun h => .inr (.inr (.inl ⟨rfl, hq, mem_guard.mp h⟩))
  | busy k =>
    rcases mem_ite.mp h with ⟨hf, h⟩ | ⟨hf, h⟩
    · exact .inr (.inr (.inr (.inl ⟨k, rfl, hf, List.mem_singleton.mp h⟩)))
    · exact .inr (.inr (.inr (.inr (.inl ⟨k, rfl, Bool.eq_false_iff.mpr hf, List.mem_singleton.mp h⟩))))
  | failing => exact .inr (.inr (.inr (.inr (.inr ⟨rfl, List.mem_singleton.mp h⟩))))
  | exited => cases h

theorem workerStep_eq_nil {c : Cfg} {s : St} {i : Nat} {w : W} :
    workerStep c s i w = [] ↔
      w = W.exited ∨ (w = W.idle ∧ ¬ (c.watch = true ∧ s.cancelled = true) ∧ s.queue = [] ∧ s.closed = false) := by
  cases w with
  | idle =>
    have hrecv : recv s i = [] ↔ s.queue = [] ∧ s.closed = false := by
      unfold recv
      cases s.queue with
      | nil => exact guard_eq_nil.trans (by simp)
      | cons k q => exact iff_of_false (List.cons_ne_nil _ _) (by simp)
    exact List.append_eq_nil_iff.trans (by rw [guard_eq_nil, hrecv]; simp)
  | busy k => exact iff_of_false (ite_ne_nil (List.cons_ne_nil _ _) (List.cons_ne_nil _ _)) (by simp)
  | failing => exact iff_of_false (List.cons_ne_nil _ _) (by simp)
  | exited => exact iff_of_true rfl (.inl rfl)

theorem step_eq_nil {c : Cfg} {s : St} (hr : s.ret = none) : step c s = [] ↔
    ¬ (inLoop c s ∧ s.queue.length < c.g) ∧ ¬ (inLoop c s ∧ s.cancelled = true) ∧
    ¬ (s.closed = false ∧ ¬ inLoop c s) ∧ ¬ (s.closed = true ∧ allExited s) ∧ ¬ (c.ext = true ∧ s.cancelled = false) ∧
    ∀ (i : Nat) (w : W), s.ws[i]? = some w →
      w = W.exited ∨ (w = W.idle ∧ ¬ (c.watch = true ∧ s.cancelled = true) ∧ s.queue = [] ∧ s.closed = false) := by
  simp only [step, hr, Option.isSome_none, Bool.false_eq_true, ↓reduceIte, List.append_eq_nil_iff, guard_eq_nil,
    forWorkers_eq_nil, workerStep_eq_nil, and_assoc]

structure Inv (c : Cfg) (s : St) : Prop where
  len : s.ws.length = c.g
  err : s.failed = true → s.cause = true ∨ ∃ i : Nat, s.ws[i]? = some W.failing
  ret : ∀ r, s.ret = some r → r = s.cause ∧ allExited s
  /-- no worker leaves before the channel is closed or the context cancelled -/
  live : s.closed = false → s.cancelled = false → ∀ i : Nat, s.ws[i]? ≠ some W.exited
  /-- promptness: once the producer has seen the cancellation it sends nothing, so an item that reaches a worker late was in
  the channel at that moment; `late` grows only as the queue shrinks, and the queue never holds more than its capacity -/
  cap : s.late + s.queue.length ≤ c.g
  late0 : s.stopped = false → s.late = 0

theorem inv_init (c : Cfg) : Inv c (init c) :=
  ⟨List.length_replicate, nofun, nofun,
    (fun _ _ _ hi => nomatch List.eq_of_mem_replicate (List.mem_of_getElem? hi)), Nat.zero_le _, fun _ => rfl⟩

theorem Inv.workers {c : Cfg} {s : St} (I : Inv c s) : Workers W.failing W.exited c.g s.ws s.failed s.cause s.ret :=
  ⟨I.len, I.err, I.ret⟩

theorem inv_step {c : Cfg} {s s' : St} (I : Inv c s) (h : s' ∈ step c s) : Inv c s' := by
  obtain ⟨hr, h⟩ := mem_step.mp h
  rcases h with ⟨hl, hq, rfl⟩ | ⟨hl, hc, rfl⟩ | ⟨hc, hl, rfl⟩ | ⟨hc, ha, rfl⟩ | ⟨_, _, rfl⟩ | ⟨i, w, hw, h⟩
  · -- send
    refine { I with cap := ?_ }
    have := I.late0 hl.2.1
    simp only [List.length_append, List.length_cons, List.length_nil]; omega
  · -- Done arm
    exact { I with late0 := nofun }
  · -- close
    exact { I with live := nofun }
  · -- return
    exact { I with ret := fun r e => ⟨(Option.some.inj e).symm, ha⟩ }
  · -- the caller cancels its context
    exact { I with live := fun _ => nofun }
  · have live : ∀ x, x ≠ W.exited → s.closed = false → s.cancelled = false →
        ∀ j : Nat, (s.ws.set i x)[j]? ≠ some W.exited :=
      fun x hx h1 h2 j hj => (exists_of_getElem?_set ⟨j, hj⟩ hx).elim (I.live h1 h2)
    rcases mem_workerStep h with ⟨rfl, _, hcan, rfl⟩ | ⟨rfl, k, q, hq, rfl⟩ | ⟨rfl, hq, hc, rfl⟩ |
      ⟨k, rfl, hf, rfl⟩ | ⟨k, rfl, hf, rfl⟩ | ⟨rfl, rfl⟩
    · -- idle worker leaves through ctx.Done() (two sources: a field is taken from the first that has it)
      exact { I.workers.move hr hw nofun, I with live := fun _ h2 => nomatch hcan ▸ h2 }
    · -- idle worker receives item k
      refine { I.workers.move hr hw nofun, I with live := live _ nofun, cap := ?_, late0 := ?_ }
      · have := I.cap; rw [hq, List.length_cons] at this
        show (if s.stopped = true then s.late + 1 else s.late) + q.length ≤ c.g
        split <;> omega
      · intro hs
        show (if s.stopped = true then s.late + 1 else s.late) = 0
        rw [if_neg (by rw [hs]; nofun)]; exact I.late0 hs
    · -- idle worker finds the channel closed and empty
      exact { I.workers.move hr hw nofun, I with live := fun h1 => nomatch hc ▸ h1 }
    · -- the callback fails
      exact { I.workers.fail hr hw, I with live := live _ nofun }
    · -- the callback succeeds
      exact { I.workers.move hr hw nofun, I with live := live _ nofun }
    · -- the failing worker records the error, cancels and returns
      exact { I.workers.record hr i, I with live := fun _ => nofun }

theorem inv_reachable {c : Cfg} {s : St} (h : Reachable (step c) (init c) s) : Inv c s :=
  Reachable.invariant (Inv c) (inv_init c) (fun _ _ I hm => inv_step I hm) s h

def wweight : W → Nat
  | .idle => 1
  | .busy _ => 2
  | .failing => 1
  | .exited => 0

/-- 3 per item not yet sent, 2 per item in the channel, 2 / 1 per worker that is busy / has not left, 1 each for the
producer's Done arm, `close`, `return`, and the cancellation of the context -/
def measure (c : Cfg) (s : St) : Nat :=
  3 * (c.n - s.next) + 2 * s.queue.length + (s.ws.map wweight).sum
    + flag s.stopped + flag s.closed + flag s.ret.isSome + flag s.cancelled

theorem measure_step {c : Cfg} {s s' : St} (h : s' ∈ step c s) : measure c s' < measure c s := by
  obtain ⟨hr, h⟩ := mem_step.mp h
  rcases h with ⟨hl, hq, rfl⟩ | ⟨hl, hc, rfl⟩ | ⟨hc, hl, rfl⟩ | ⟨hc, ha, rfl⟩ | ⟨_, hc, rfl⟩ | ⟨i, w, hw, h⟩
  · -- send: 3 for the item not yet sent becomes 2 for the item in the channel
    have : 3 * (c.n - (s.next + 1)) + 2 * (s.queue ++ [s.next]).length < 3 * (c.n - s.next) + 2 * s.queue.length := by
      have := hl.2.2
      simp only [List.length_append, List.length_cons, List.length_nil]; omega
    exact add_flag (add_flag (add_flag (add_flag (Nat.add_lt_add_right this _))))
  · -- Done arm
    exact add_flag (add_flag (add_flag (Nat.add_lt_add_left (flag_lt hl.2.1) _)))
  · -- close
    exact add_flag (add_flag (Nat.add_lt_add_left (flag_lt hc) _))
  · -- return
    exact add_flag (Nat.add_lt_add_left (flag_lt (congrArg Option.isSome hr)) _)
  · -- the caller cancels
    exact Nat.add_lt_add_left (flag_lt hc) _
  · -- a worker's step changes nothing else the measure looks at, except that it may take an item or cancel
    have key : ∀ (t : St) (x : W), t.ws = s.ws.set i x → t.next = s.next → t.stopped = s.stopped →
        t.closed = s.closed → t.ret = s.ret → flag t.cancelled ≤ flag s.cancelled →
        2 * t.queue.length + wweight x < 2 * s.queue.length + wweight w → measure c t < measure c s := by
      intro t x e1 e2 e3 e4 e5 hc hx
      have := sum_map_set wweight x hw
      rw [measure, measure, e1, e2, e3, e4, e5]
      refine Nat.add_lt_add_of_lt_of_le (add_flag (add_flag (add_flag ?_))) hc
      omega
    rcases mem_workerStep h with ⟨rfl, _, hcan, rfl⟩ | ⟨rfl, k, q, hq, rfl⟩ | ⟨rfl, hq, hc, rfl⟩ |
      ⟨k, rfl, hf, rfl⟩ | ⟨k, rfl, hf, rfl⟩ | ⟨rfl, rfl⟩
    · -- leaves through ctx.Done()
      exact key _ _ rfl rfl rfl rfl rfl (Nat.le_refl _) (Nat.lt_succ_self _)
    · -- receives: 2 for the item in the channel, the worker goes from 1 to 2
      exact key _ _ rfl rfl rfl rfl rfl (Nat.le_refl _) (by rw [hq, List.length_cons]; simp only [wweight]; omega)
    · -- channel closed and empty: leaves
      exact key _ _ rfl rfl rfl rfl rfl (Nat.le_refl _) (Nat.lt_succ_self _)
    · -- the callback fails
      exact key _ _ rfl rfl rfl rfl rfl (Nat.le_refl _) (Nat.lt_succ_self _)
    · -- the callback succeeds
      exact key _ _ rfl rfl rfl rfl rfl (Nat.le_refl _) (Nat.lt_succ_self _)
    · -- records the error, cancels (the flag may drop too) and leaves
      exact key _ _ rfl rfl rfl rfl rfl (Nat.zero_le _) (Nat.lt_succ_self _)

end B6.Model.Proto.Feed
