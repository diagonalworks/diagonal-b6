import B6.Lemmas.VM
import B6.Lemmas.Basic.AssocList
/-!
C21: the layout of the compiled instruction array, part 1.  What one `compileExpr` does (`compileExpr_spec`): on
success, to the compiler state (`Good`), and its instructions, lambda references resolved, match the expression once
the targets it enqueued sit at their entry points (`MatchE`); on failure, an `error` of an ill-formed or oversized
expression.  Resolution is a `List.map` when every reference is in range (`resolveAll_eq_map`), and `MatchE` speaks
of that map.
-/
namespace B6.Lemmas.VMLayout
open B6.Model B6.Model.VM B6.Lemmas.VM

def names (f : Frame) : List String := f.map (·.1)

theorem names_append (a b : Frame) : names (a ++ b) = names a ++ names b := List.map_append

theorem lookup_isSome_names (f : Frame) (s : String) : (f.lookup s).isSome = (names f).contains s := by
  rw [Bool.eq_iff_iff, Option.isSome_iff_ne_none, Ne, B6.Lemmas.Basic.isLookup_lookup.eq_none_iff]
  simp [names]

/-- parameter `i` gets register `n + i`, if the registers last -/
theorem bindParams_eq : ∀ (ps : List String) (n : Nat), bindParams ps n =
    if ps = [] ∨ n + ps.length ≤ maxArgs then .ok (ps.zip (List.range' n ps.length)) else .error .error
  | [], n => by simp [bindParams]
  | p :: ps, n => by
    rw [bindParams, bindParams_eq ps (n + 1)]
    by_cases h : n + (ps.length + 1) ≤ maxArgs
    · have h1 : ¬ n ≥ maxArgs := by omega
      have h2 : n + 1 + ps.length ≤ maxArgs := by omega
      simp [h, h1, h2, List.range'_succ]
    · by_cases h1 : n ≥ maxArgs
      · simp [h, h1]
      · have h2 : ¬ (ps = [] ∨ n + 1 + ps.length ≤ maxArgs) := by
          rintro (rfl | h')
          · simp only [List.length_nil] at h; omega
          · omega
        simp [h, h1, h2]

theorem bindParams_inv {ps : List String} {n : Nat} {own : List (String × Nat)} (h : bindParams ps n = .ok own) :
    own = ps.zip (List.range' n ps.length) ∧ own.map (·.1) = ps ∧ own.map (·.2) = List.range' n ps.length ∧
      (ps ≠ [] → n + ps.length ≤ maxArgs) := by
  rw [bindParams_eq] at h
  split at h
  · cases h
    rename_i hc
    exact ⟨rfl, List.map_fst_zip (by simp), List.map_snd_zip (by simp), hc.resolve_left⟩
  · cases h

mutual
  theorem qbeq_refl : (q : Query) → Query.beq q q = true
    | .keyed _ => by simp [Query.beq]
    | .tagged _ _ => by simp [Query.beq]
    | .typed _ q => by simp [Query.beq, qbeq_refl q]
    | .inter qs => by simp [Query.beq, qbeqs_refl qs]
    | .union qs => by simp [Query.beq, qbeqs_refl qs]
    | .other _ => by simp [Query.beq]
  theorem qbeqs_refl : (qs : List Query) → Query.beqs qs qs = true
    | [] => by simp [Query.beqs]
    | q :: qs => by simp [Query.beqs, qbeq_refl q, qbeqs_refl qs]
end

def lamRef (lo hi : Nat) : Instr → Prop
  | .pushLam t _ => lo ≤ t ∧ t < hi
  | .callLam t _ _ => lo ≤ t ∧ t < hi
  | _ => True

theorem lamRef_mono {lo lo' hi hi' : Nat} (h1 : lo' ≤ lo) (h2 : hi ≤ hi') {i : Instr} (h : lamRef lo hi i) :
    lamRef lo' hi' i := by
  cases i <;> simp_all [lamRef] <;> omega

/-- what `resolveInstr` makes of an instruction whose target is in range -/
def resolveI (en : List Nat) : Instr → Instr
  | .pushLam t n => .pushLam (en[t]?.getD 0) n
  | .callLam t n k => .callLam (en[t]?.getD 0) n k
  | i => i

theorem lamRef_of_lamFree {lo hi : Nat} {i : Instr} (h : isLamFree i = true) : lamRef lo hi i := by
  cases i <;> first | trivial | cases h

/-- `pre`, `post`: a target's `Store`s and `Discard; Return`, or the main target's frame push and `Return` -/
theorem lamRef_wrap {lo hi : Nat} {pre is post : List Instr} (hpre : pre.all isLamFree = true)
    (hpost : post.all isLamFree = true) (h : ∀ i ∈ is, lamRef lo hi i) : ∀ i ∈ pre ++ is ++ post, lamRef lo hi i := by
  exact List.forall_mem_append.2 ⟨List.forall_mem_append.2 ⟨fun i hi => lamRef_of_lamFree (List.all_eq_true.mp hpre i hi), h⟩,
    fun i hi => lamRef_of_lamFree (List.all_eq_true.mp hpost i hi)⟩

theorem resolveAll_eq_map (en : List Nat) : ∀ (a : List Instr), (∀ i ∈ a, lamRef 0 en.length i) →
    resolveAll en a = .ok (a.map (resolveI en))
  | [], _ => rfl
  | i :: a, h => by
    obtain ⟨hi, ha⟩ := List.forall_mem_cons.mp h
    have hi : resolveInstr en i = .ok (resolveI en i) := by
      cases i <;> first
        | rfl
        | simp only [resolveInstr, resolveI, List.getElem?_eq_getElem hi.2, Option.getD_some]
    simp only [resolveAll, hi, resolveAll_eq_map en a ha, List.map_cons]

theorem map_resolveI_lamFree (en : List Nat) : ∀ (is : List Instr), is.all isLamFree = true → is.map (resolveI en) = is
  | [], _ => rfl
  | i :: is, h => by
    rw [List.all_cons, Bool.and_eq_true] at h
    rw [List.map_cons, map_resolveI_lamFree en is h.2]
    cases i <;> first | rfl | cases h.1

theorem takeStores_map : ∀ (rs : List Nat) (is : List Instr),
    takeStores rs.length (rs.map Instr.store ++ is) = some (rs.reverse, is)
  | [], is => by simp [takeStores]
  | r :: rs, is => by
    simp only [List.length_cons, List.map_cons, List.cons_append, takeStores, takeStores_map rs is,
      List.reverse_cons]

theorem takeStores_stores (regs : List Nat) (is : List Instr) :
    takeStores regs.length (regs.reverse.map Instr.store ++ is) = some (regs, is) := by
  have := takeStores_map regs.reverse is
  simpa using this

def sumParams : List Target → Nat
  | [] => 0
  | t :: ts => t.body.numParams + sumParams ts

def sumLams : List Target → Nat
  | [] => 0
  | t :: ts => 1 + t.body.numLambdas + sumLams ts

theorem sumParams_append : ∀ (a b : List Target), sumParams (a ++ b) = sumParams a + sumParams b
  | [], b => by simp [sumParams]
  | t :: a, b => by simp [sumParams, sumParams_append a b]; omega

theorem sumLams_append : ∀ (a b : List Target), sumLams (a ++ b) = sumLams a + sumLams b
  | [], b => by simp [sumLams]
  | t :: a, b => by simp [sumLams, sumLams_append a b]; omega

def wfT (t : Target) : Bool := wfAt (names t.frame) t.body

/-- `np`, `nl`, `wf` are what the compiled expression has: parameters (registers taken now or by `new` later),
lambdas (the fuel `new` will need), well-formedness (of the bodies in `new`); they are indices so that `append` can add
them up, and `cast` rewrites them to the form the expression at hand has -/
structure Good (st st' : CState) (is : List Instr) (new : List Target) (np nl : Nat) (wf : Bool) : Prop where
  queue : st'.queue = st.queue ++ new
  nT : st'.nTargets = st.nTargets + new.length
  nA : st'.numArgs + sumParams new = st.numArgs + np
  nL : sumLams new = nl
  le : st.numArgs ≤ maxArgs → st'.numArgs ≤ maxArgs
  wfEq : wf = new.all wfT
  idx : ∀ i ∈ is, lamRef st.nTargets st'.nTargets i

theorem Good.refl (st : CState) : Good st st [] [] 0 0 true :=
  ⟨by simp, by simp, by simp [sumParams], by simp [sumLams], id, by simp, by simp⟩

theorem Good.cast {st st' is new np nl wf np' nl' wf'} (g : Good st st' is new np nl wf)
    (h1 : np = np') (h2 : nl = nl') (h3 : wf = wf') : Good st st' is new np' nl' wf' := by
  subst h1; subst h2; subst h3; exact g

theorem Good.append {st st1 st2 is1 is2 new1 new2 np1 np2 nl1 nl2 wf1 wf2}
    (g1 : Good st st1 is1 new1 np1 nl1 wf1) (g2 : Good st1 st2 is2 new2 np2 nl2 wf2) :
    Good st st2 (is1 ++ is2) (new1 ++ new2) (np1 + np2) (nl1 + nl2) (wf1 && wf2) where
  queue := by rw [g2.queue, g1.queue, List.append_assoc]
  nT := by rw [g2.nT, g1.nT, List.length_append]; omega
  nA := by
    have := g1.nA; have := g2.nA
    rw [sumParams_append]; omega
  nL := by rw [sumLams_append, g1.nL, g2.nL]
  le := fun h => g2.le (g1.le h)
  wfEq := by rw [g1.wfEq, g2.wfEq, List.all_append]
  idx := by
    intro i hi
    have n1 := g1.nT; have n2 := g2.nT
    rcases List.mem_append.mp hi with hi | hi
    · exact lamRef_mono (Nat.le_refl _) (by omega) (g1.idx i hi)
    · exact lamRef_mono (by omega) (Nat.le_refl _) (g2.idx i hi)

theorem Good.snoc {st st' is new np nl wf} (g : Good st st' is new np nl wf) (i : Instr) (hi : isLamFree i = true) :
    Good st st' (is ++ [i]) new np nl wf where
  queue := g.queue
  nT := g.nT
  nA := g.nA
  nL := g.nL
  le := g.le
  wfEq := g.wfEq
  idx := List.forall_mem_append.2 ⟨g.idx, List.forall_mem_singleton.2 (lamRef_of_lamFree hi)⟩

def afterLam (frame : Frame) (ps : List String) (body : Expr) (own : List (String × Nat)) (st : CState) : CState :=
  { numArgs := st.numArgs + ps.length, nTargets := st.nTargets + 1,
    queue := st.queue ++ [{ body := body, frame := own ++ frame, own := own.map (·.2) }] }

theorem Good.lam {frame : Frame} {ps : List String} {body : Expr} {own : List (String × Nat)} {st : CState}
    (hb : bindParams ps st.numArgs = .ok own) (i : Instr)
    (hi : lamRef st.nTargets (st.nTargets + 1) i) :
    Good st (afterLam frame ps body own st) [i] [{ body := body, frame := own ++ frame, own := own.map (·.2) }]
      (ps.length + body.numParams) (1 + body.numLambdas) (wfAt (ps ++ names frame) body) where
  queue := rfl
  nT := by simp [afterLam]
  nA := by simp [afterLam, sumParams]; omega
  nL := by simp [sumLams]
  le := by
    intro h
    obtain ⟨_, _, _, h6⟩ := bindParams_inv hb
    simp only [afterLam]
    by_cases hps : ps = []
    · subst hps; simpa using h
    · exact h6 hps
  wfEq := by
    obtain ⟨_, h1, _⟩ := bindParams_inv hb
    simp [wfT, names, h1]
  idx := by
    intro j hj
    simp only [List.mem_singleton] at hj; subst hj
    simpa [afterLam] using hi

def LamCode (code : List Instr) (t : Target) (pc : Nat) : Prop :=
  ∃ is tl, code.drop pc = t.own.reverse.map Instr.store ++ is ∧
    matchExpr code t.frame t.body is = some (.discard :: .ret :: tl)

/-- every target of `new` (numbered from `base`) sits at its entry point -/
def Placed (code : List Instr) (entries : List Nat) (base : Nat) (new : List Target) : Prop :=
  ∀ j t, new[j]? = some t → ∃ pc, entries[base + j]? = some pc ∧ LamCode code t pc

def MatchE (code : List Instr) (frame : Frame) (e : Expr) (base : Nat) (is : List Instr) (new : List Target) : Prop :=
  ∀ entries rest, Placed code entries base new →
    matchExpr code frame e (is.map (resolveI entries) ++ rest) = some rest

def MatchA (code : List Instr) (frame : Frame) (as : List Expr) (base : Nat) (is : List Instr) (new : List Target) : Prop :=
  ∀ entries rest, Placed code entries base new →
    matchArgs code frame as (is.map (resolveI entries) ++ rest) = some rest

theorem Placed.left {code entries base new1 new2} (h : Placed code entries base (new1 ++ new2)) :
    Placed code entries base new1 := by
  intro j t hj
  exact h j t (by rw [List.getElem?_append_left (List.getElem?_eq_some_iff.1 hj).1]; exact hj)

theorem Placed.right {code entries base new1 new2} (h : Placed code entries base (new1 ++ new2)) :
    Placed code entries (base + new1.length) new2 := by
  intro j t hj
  have := h (new1.length + j) t (by rw [List.getElem?_append_right (by omega)]; simpa using hj)
  simpa [Nat.add_assoc] using this

theorem matchLam_of {code : List Instr} {frame : Frame} {ps : List String} {b : Expr} {n pc : Nat}
    {own : List (String × Nat)} (hb : bindParams ps n = .ok own)
    (hc : LamCode code { body := b, frame := own ++ frame, own := own.map (·.2) } pc) :
    matchLamWith (fun fr js => matchExpr code fr b js) code frame ps pc = true := by
  obtain ⟨h0, h1, h2, h6⟩ := bindParams_inv hb
  obtain ⟨is, tl, hd, hm⟩ := hc
  simp only at hd hm
  unfold matchLamWith
  have hl : ps.length = (own.map (·.2)).length := by rw [h2, List.length_range']
  rw [hd, hl, takeStores_stores]
  have hz : ps.zip (own.map (·.2)) = own := by rw [h2]; exact h0.symm
  simp only [hz, hm, Bool.and_true, Bool.and_eq_true, List.all_eq_true, decide_eq_true_eq]
  refine ⟨fun r hr => ?_, h2 ▸ List.nodup_range'⟩
  rw [h2, List.mem_range'_1] at hr
  have := h6 fun hps => by subst hps; simp at hr; omega
  omega

theorem compileLambda_cases (frame : Frame) (ps : List String) (b : Expr) (st : CState) :
    (∃ own, bindParams ps st.numArgs = .ok own ∧
      compileLambda frame ps b st = .ok (st.nTargets, afterLam frame ps b own st)) ∨
    (compileLambda frame ps b st = .error .error ∧ maxArgs < st.numArgs + ps.length) := by
  unfold compileLambda
  by_cases h : ps = [] ∨ st.numArgs + ps.length ≤ maxArgs
  · have hb := (bindParams_eq ps st.numArgs).trans (if_pos h)
    refine .inl ⟨_, hb, ?_⟩
    rw [hb]
    rfl
  · rw [bindParams_eq, if_neg h]
    exact .inr ⟨rfl, Nat.lt_of_not_le fun hle => h (.inr hle)⟩

/-- success does what `Good` says and emits instructions satisfying `M`; failure is an `error`, and only of an
expression that is ill-formed or does not fit the register file -/
def Spec (st : CState) (np nl : Nat) (wf : Bool) (M : List Instr → List Target → Prop) :
    Res (List Instr × CState) → Prop
  | .ok (is, st') => ∃ new, Good st st' is new np nl wf ∧ M is new
  | .error err => err = .error ∧ ¬ (wf = true ∧ st.numArgs + np ≤ maxArgs)

mutual
  theorem compileExpr_spec : (e : Expr) → ∀ (frame : Frame) (st : CState),
      Spec st e.numParams e.numLambdas (wfAt (names frame) e)
        (fun is new => ∀ code, MatchE code frame e st.nTargets is new) (compileExpr frame e st)
    | .sym s, frame, st => by
      simp only [compileExpr]
      have hwf := lookup_isSome_names frame s
      cases hl : frame.lookup s with
      | some r =>
        refine ⟨[], (Good.snoc (Good.refl st) (.load r) rfl).cast rfl rfl
          (by rw [hl] at hwf; simp only [Option.isSome_some] at hwf; simp only [wfAt, ← hwf, Bool.true_or]), ?_⟩
        intro code entries rest _
        simp [matchExpr, hl, resolveI]
      | none =>
        rw [hl] at hwf
        cases hb : Builtin.ofName s with
        | none => exact ⟨rfl, fun h => by have := h.1; rw [wfAt, ← hwf, hb] at this; cases this⟩
        | some b =>
          refine ⟨[], (Good.snoc (Good.refl st) (.pushFn b) rfl).cast rfl rfl (by simp [wfAt, hb]), ?_⟩
          intro code entries rest _
          simp [matchExpr, hl, hb, resolveI]
    | .lit l, frame, st => by
      refine ⟨[], (Good.snoc (Good.refl st) (.pushVal l.toVal) rfl).cast rfl rfl rfl, ?_⟩
      intro code entries rest _
      have : litMatches l l.toVal = true := by
        cases l <;> simp [litMatches, Lit.toVal, qbeq_refl]
      simp [matchExpr, this, resolveI]
    | .lam ps b, frame, st => by
      simp only [compileExpr]
      rcases compileLambda_cases frame ps b st with ⟨own, hb, hl⟩ | ⟨hl, hn⟩
      · rw [hl]
        refine ⟨_, (Good.lam hb (.pushLam st.nTargets ps.length) ⟨Nat.le_refl _, Nat.lt_succ_self _⟩).cast
          rfl rfl (by simp [wfAt]), ?_⟩
        intro code entries rest hyp
        obtain ⟨pc, hpc, hlc⟩ := hyp 0 _ rfl
        simp [matchExpr, resolveI, show entries[st.nTargets]? = some pc from hpc, matchLam_of hb hlc]
      · rw [hl]
        exact ⟨rfl, fun h => by simp only [Expr.numParams] at h; omega⟩
    | .call f args p, frame, st => by
      simp only [compileExpr]
      have ha := compileArgs_spec args frame st
      cases hca : compileArgs frame args st with
      | error e =>
        rw [hca] at ha
        refine ⟨ha.1, fun h => ha.2 ⟨?_, ?_⟩⟩
        · have := h.1; simp only [wfAt, Bool.and_eq_true] at this; exact this.1
        · have := h.2; simp only [Expr.numParams] at this; omega
      | ok r =>
        obtain ⟨isa, st1⟩ := r
        rw [hca] at ha
        obtain ⟨new1, g1, m1⟩ := ha
        have gA := g1.nA
        cases f with
        | sym s =>
          dsimp only
          cases hb : Builtin.ofName s with
          | none => exact ⟨rfl, fun h => by simp [wfAt, hb] at h⟩
          | some b =>
            refine ⟨new1, (g1.snoc (.callFn b args.length) rfl).cast (by simp [Expr.numParams])
              (by simp [Expr.numLambdas]) (by simp [wfAt, hb]), ?_⟩
            intro code entries rest hyp
            rw [matchExpr, List.map_append, List.append_assoc, m1 code entries _ hyp]
            simp [hb, resolveI]
        | lit l => exact ⟨rfl, fun h => by simp [wfAt] at h⟩
        | lam ps b =>
          dsimp only
          rcases compileLambda_cases frame ps b st1 with ⟨own, hb, hl⟩ | ⟨hl, hn⟩
          · simp only [hl]
            have g2 := Good.lam (frame := frame) (body := b) hb (.callLam st1.nTargets ps.length args.length)
              ⟨Nat.le_refl _, Nat.lt_succ_self _⟩
            refine ⟨_, (g1.append g2).cast (by simp [Expr.numParams]; omega) (by simp [Expr.numLambdas]; omega)
              (by simp [wfAt, Bool.and_comm]), ?_⟩
            intro code entries rest hyp
            have hyp2 := hyp.right
            rw [← g1.nT] at hyp2
            obtain ⟨pc, hpc, hlc⟩ := hyp2 0 _ rfl
            rw [matchExpr, List.map_append, List.append_assoc, m1 code entries _ hyp.left]
            simp [resolveI, show entries[st1.nTargets]? = some pc from hpc, matchLamAt, matchLam_of hb hlc]
          · simp only [hl]
            exact ⟨rfl, fun h => by have := h.2; simp only [Expr.numParams] at this; omega⟩
        | call g gargs q =>
          dsimp only
          have hf := compileExpr_spec (.call g gargs q) frame st1
          cases hc : compileExpr frame (.call g gargs q) st1 with
          | error e =>
            rw [hc] at hf
            refine ⟨hf.1, fun h => hf.2 ⟨?_, ?_⟩⟩
            · have := h.1; simp only [wfAt, Bool.and_eq_true] at this ⊢; exact this.2
            · have := h.2; simp only [Expr.numParams] at this ⊢; omega
          | ok r =>
            obtain ⟨isf, st2⟩ := r
            rw [hc] at hf
            obtain ⟨new2, g2, m2⟩ := hf
            refine ⟨new1 ++ new2, ((g1.append g2).snoc (.callStack args.length) rfl).cast
              (by simp [Expr.numParams]; omega) (by simp [Expr.numLambdas]; omega) (by simp [wfAt]), ?_⟩
            intro code entries rest hyp
            have hyp2 := hyp.right
            rw [← g1.nT] at hyp2
            rw [matchExpr, List.map_append, List.map_append, List.append_assoc, List.append_assoc,
              m1 code entries _ hyp.left]
            dsimp only
            rw [m2 code entries _ hyp2]
            simp [resolveI]
  theorem compileArgs_spec : (as : List Expr) → ∀ (frame : Frame) (st : CState),
      Spec st (Expr.numParamss as) (Expr.numLambdass as) (wfsAt (names frame) as)
        (fun is new => ∀ code, MatchA code frame as st.nTargets is new) (compileArgs frame as st)
    | [], frame, st => by
      refine ⟨[], Good.refl st, ?_⟩
      intro code entries rest _
      rfl
    | a :: as, frame, st => by
      simp only [compileArgs]
      have ha := compileExpr_spec a frame st
      cases hca : compileExpr frame a st with
      | error e =>
        rw [hca] at ha
        refine ⟨ha.1, fun h => ha.2 ⟨?_, ?_⟩⟩
        · have := h.1; simp only [wfsAt, Bool.and_eq_true] at this; exact this.1
        · have := h.2; simp only [Expr.numParamss] at this; omega
      | ok r =>
        obtain ⟨isa, st1⟩ := r
        rw [hca] at ha
        obtain ⟨new1, g1, m1⟩ := ha
        have gA := g1.nA
        dsimp only
        have hs := compileArgs_spec as frame st1
        cases hcs : compileArgs frame as st1 with
        | error e =>
          rw [hcs] at hs
          refine ⟨hs.1, fun h => hs.2 ⟨?_, ?_⟩⟩
          · have := h.1; simp only [wfsAt, Bool.and_eq_true] at this; exact this.2
          · have := h.2; simp only [Expr.numParamss] at this; omega
        | ok r =>
          obtain ⟨iss, st2⟩ := r
          rw [hcs] at hs
          obtain ⟨new2, g2, m2⟩ := hs
          refine ⟨new1 ++ new2, (g1.append g2).cast rfl rfl (by simp [wfsAt]), ?_⟩
          intro code entries rest hyp
          have hyp2 := hyp.right
          rw [← g1.nT] at hyp2
          rw [matchArgs, List.map_append, List.append_assoc, m1 code entries _ hyp.left]
          exact m2 code entries rest hyp2
end

end B6.Lemmas.VMLayout
