import B6.Lemmas.RefIndex
/-!
Termination and correctness of the explicit-stack `dfs` (the repaired `findReferences`) — C15.
-/
namespace B6.Lemmas.RefDfs
open B6.Model.RefIndex B6.Spec.Referrers B6.Lemmas.RefIndex

inductive ReachE (ix : Index) (id : Id) : Id → Prop where
  | direct {s} : s ∈ srcs ix id → ReachE ix id s
  | step {t s} : ReachE ix id t → s ∈ srcs ix t → ReachE ix id s

/-! ## termination -/

def allKeys (ix : Index) : List Key := ix.flatMap fun p => p.2.map (keyOf p.1)

theorem allKeys_length (ix : Index) : (allKeys ix).length = size ix := by
  induction ix with
  | nil => rfl
  | cons p rest ih =>
    obtain ⟨k, v⟩ := p
    simp only [allKeys, List.flatMap_cons, List.length_append, List.length_map, size] at ih ⊢
    omega

theorem mem_size_le {ix : Index} {t : Id} {rs : List Ref} (h : (t, rs) ∈ ix) : rs.length ≤ size ix := by
  induction ix with
  | nil => cases h
  | cons p rest ih =>
    obtain ⟨k, v⟩ := p
    simp only [size]
    rcases List.mem_cons.mp h with h | h
    · injection h with h1 h2; subst h2; omega
    · have := ih h; omega

theorem entries_length_le (ix : Index) (t : Id) : (entries ix t).length ≤ size ix := by
  unfold entries
  cases h : lookup ix t with
  | none => simp
  | some rs => exact mem_size_le (lookup_mem h)

theorem key_mem_allKeys {ix : Index} {t : Id} {r : Ref} (h : r ∈ entries ix t) : keyOf t r ∈ allKeys ix := by
  unfold entries at h
  cases hl : lookup ix t with
  | none => simp [hl] at h
  | some rs =>
    simp only [hl] at h
    simp only [allKeys, List.mem_flatMap, List.mem_map]
    exact ⟨(t, rs), lookup_mem hl, r, h, rfl⟩

theorem mem_work {ix : Index} {t : Id} {p : Id × Ref} : p ∈ work ix t ↔ p.1 = t ∧ p.2 ∈ entries ix p.1 := by
  simp only [work, List.mem_map]
  constructor
  · rintro ⟨r, hr, rfl⟩; exact ⟨rfl, hr⟩
  · rintro ⟨rfl, hr⟩; exact ⟨p.2, hr, rfl⟩

theorem work_length_le (ix : Index) (t : Id) : (work ix t).length ≤ size ix := by
  rw [work, List.length_map]; exact entries_length_le ix t

/-- number of keys of the index not yet visited -/
def unv (ix : Index) (vis : List Key) : Nat := ((allKeys ix).filter fun k => decide (k ∉ vis)).length

theorem unv_lt {ix : Index} {vis : List Key} {k : Key} (hk : k ∈ allKeys ix) (hv : k ∉ vis) :
    unv ix (k :: vis) < unv ix vis := by
  have e : (allKeys ix).filter (fun x => decide (x ∉ k :: vis)) =
      ((allKeys ix).filter fun x => decide (x ∉ vis)).filter fun x => decide (x ≠ k) := by
    rw [List.filter_filter]
    exact List.filter_congr fun x _ => by simp [List.mem_cons, not_or]
  unfold unv
  rw [e]
  exact List.length_filter_lt_length_iff_exists.mpr
    ⟨k, List.mem_filter.mpr ⟨hk, by simpa using hv⟩, by simp⟩

theorem unv_le_size (ix : Index) (vis : List Key) : unv ix vis ≤ size ix := by
  unfold unv
  rw [← allKeys_length]
  exact List.length_filter_le _ _

theorem dfs_fuel (ix : Index) : ∀ (fuel : Nat) (stack : List (Id × Ref)) (vis : List Key),
    (∀ p ∈ stack, p.2 ∈ entries ix p.1) →
    stack.length + unv ix vis * (size ix + 1) ≤ fuel →
    ∃ ks, dfs ix fuel stack vis = some ks := by
  intro fuel stack vis hst hle
  fun_induction dfs ix fuel stack vis with
  | case1 fuel vis => exact ⟨vis, rfl⟩
  | case2 p rest vis => simp at hle
  | case3 fuel t r rest vis hv ih =>
    refine ih (fun p hp => hst p (List.mem_cons_of_mem _ hp)) ?_
    simp only [List.length_cons] at hle
    omega
  | case4 fuel t r rest vis hv ih =>
    have hr : r ∈ entries ix t := hst (t, r) List.mem_cons_self
    have hlt := unv_lt (key_mem_allKeys hr) hv
    refine ih (fun p hp => ?_) ?_
    · rcases List.mem_append.mp hp with hp | hp
      · exact (mem_work.mp hp).2
      · exact hst p (List.mem_cons_of_mem _ hp)
    · have hw := work_length_le ix r.src
      have hmul : unv ix (keyOf t r :: vis) * (size ix + 1) + (size ix + 1) ≤ unv ix vis * (size ix + 1) := by
        have : (unv ix (keyOf t r :: vis) + 1) * (size ix + 1) ≤ unv ix vis * (size ix + 1) :=
          Nat.mul_le_mul_right _ hlt
        rw [Nat.add_mul, Nat.one_mul] at this
        exact this
      simp only [List.length_cons, List.length_append] at hle ⊢
      omega

theorem dfs_terminates (ix : Index) (id : Id) : ∃ ks, dfs ix (fuelFor ix) (work ix id) [] = some ks := by
  apply dfs_fuel
  · exact fun p hp => (mem_work.mp hp).2
  · have h1 := work_length_le ix id
    have h2 := unv_le_size ix []
    have h3 : unv ix [] * (size ix + 1) ≤ size ix * (size ix + 1) := Nat.mul_le_mul_right _ h2
    unfold fuelFor
    have : (size ix + 1) * (size ix + 1) = size ix * (size ix + 1) + (size ix + 1) := by
      rw [Nat.add_mul, Nat.one_mul]
    omega

/-! ## soundness and completeness -/

theorem keyOf_src (t : Id) (r : Ref) : (keyOf t r).src = r.src := by
  unfold keyOf; split <;> rfl

theorem mem_srcs_of_mem {ix : Index} {t : Id} {r : Ref} (h : r ∈ entries ix t) : r.src ∈ srcs ix t :=
  List.mem_map.mpr ⟨r, h, rfl⟩

/-- every entry of `id` and of every visited source is visited or still on the stack -/
def Closed (ix : Index) (id : Id) (stack : List (Id × Ref)) (vis : List Key) : Prop :=
  (∀ r ∈ entries ix id, keyOf id r ∈ vis ∨ (id, r) ∈ stack) ∧
  (∀ k ∈ vis, ∀ r ∈ entries ix k.src, keyOf k.src r ∈ vis ∨ (k.src, r) ∈ stack)

theorem dfs_inv (ix : Index) (id : Id) : ∀ (fuel : Nat) (stack : List (Id × Ref)) (vis ks : List Key),
    (∀ k ∈ vis, ReachE ix id k.src) →
    (∀ p ∈ stack, p.2 ∈ entries ix p.1 ∧ (p.1 = id ∨ ReachE ix id p.1)) →
    Closed ix id stack vis →
    dfs ix fuel stack vis = some ks → (∀ k ∈ ks, ReachE ix id k.src) ∧ Closed ix id [] ks := by
  intro fuel stack vis ks hv hst hc h
  fun_induction dfs ix fuel stack vis with
  | case1 fuel vis => cases h; exact ⟨hv, hc⟩
  | case2 p rest vis => cases h
  | case3 fuel t r rest vis hvis ih =>
    -- the entry on top was visited: whatever was visited or on the stack still is
    have hk : ∀ (u : Id) (r' : Ref), keyOf u r' ∈ vis ∨ (u, r') ∈ (t, r) :: rest → keyOf u r' ∈ vis ∨ (u, r') ∈ rest := by
      rintro u r' (h | h)
      · exact .inl h
      · rcases List.mem_cons.mp h with h | h
        · injection h with ha hb; rw [ha, hb]; exact .inl hvis
        · exact .inr h
    exact ih hv (fun p hp => hst p (List.mem_cons_of_mem _ hp))
      ⟨fun r' hr' => hk _ _ (hc.1 r' hr'), fun k hk' r' hr' => hk _ _ (hc.2 k hk' r' hr')⟩ h
  | case4 fuel t r rest vis hvis ih =>
    obtain ⟨hr, ht⟩ := hst (t, r) List.mem_cons_self
    have hreach : ReachE ix id r.src := by
      rcases ht with ht | ht
      · simp only at ht; subst ht; exact .direct (mem_srcs_of_mem hr)
      · exact .step ht (mem_srcs_of_mem hr)
    -- it is visited now and its source's entries are pushed
    have hk : ∀ (u : Id) (r' : Ref), keyOf u r' ∈ vis ∨ (u, r') ∈ (t, r) :: rest →
        keyOf u r' ∈ keyOf t r :: vis ∨ (u, r') ∈ work ix r.src ++ rest := by
      rintro u r' (h | h)
      · exact .inl (List.mem_cons_of_mem _ h)
      · rcases List.mem_cons.mp h with h | h
        · injection h with ha hb; rw [ha, hb]; exact .inl List.mem_cons_self
        · exact .inr (List.mem_append_right _ h)
    refine ih (fun k hk' => ?_) (fun p hp => ?_) ⟨fun r' hr' => hk _ _ (hc.1 r' hr'), fun k hk' r' hr' => ?_⟩ h
    · rcases List.mem_cons.mp hk' with rfl | hk'
      · rw [keyOf_src]; exact hreach
      · exact hv k hk'
    · rcases List.mem_append.mp hp with hp | hp
      · obtain ⟨e, hr'⟩ := mem_work.mp hp
        exact ⟨hr', .inr (e ▸ hreach)⟩
      · exact hst p (List.mem_cons_of_mem _ hp)
    · rcases List.mem_cons.mp hk' with rfl | hk'
      · rw [keyOf_src] at hr' ⊢
        exact .inr (List.mem_append_left _ (mem_work.mpr ⟨rfl, hr'⟩))
      · exact hk _ _ (hc.2 k hk' r' hr')

theorem closed_complete {ix : Index} {id : Id} {ks : List Key} (hc : Closed ix id [] ks) :
    ∀ s, ReachE ix id s → ∃ k ∈ ks, k.src = s := by
  intro s hr
  induction hr with
  | direct hs =>
    obtain ⟨r, hr, rfl⟩ := List.mem_map.mp hs
    rcases hc.1 r hr with h | h
    · exact ⟨_, h, keyOf_src _ _⟩
    · cases h
  | step _ hs ih =>
    obtain ⟨k, hk, rfl⟩ := ih
    obtain ⟨r, hr, rfl⟩ := List.mem_map.mp hs
    rcases hc.2 k hk r hr with h | h
    · exact ⟨_, h, keyOf_src _ _⟩
    · cases h

theorem findReferences_spec (ix : Index) (id : Id) (typed : List Nat) :
    ∃ L, findReferences ix id typed = some L ∧ ∀ s, s ∈ L ↔ (ReachE ix id s ∧ typeOk typed s = true) := by
  obtain ⟨ks, hks⟩ := dfs_terminates ix id
  refine ⟨(ks.map Key.src).filter (typeOk typed), by simp [findReferences, hks], ?_⟩
  intro s
  obtain ⟨hsound, hclosed⟩ := dfs_inv ix id _ _ [] ks (by simp)
    (fun p hp => ⟨(mem_work.mp hp).2, Or.inl (mem_work.mp hp).1⟩)
    ⟨fun r hr => Or.inr (mem_work.mpr ⟨rfl, hr⟩), by simp⟩ hks
  simp only [List.mem_filter, List.mem_map]
  constructor
  · rintro ⟨⟨k, hk, rfl⟩, ht⟩
    exact ⟨hsound k hk, ht⟩
  · rintro ⟨hr, ht⟩
    obtain ⟨k, hk, he⟩ := closed_complete hclosed s hr
    exact ⟨⟨k, hk, he⟩, ht⟩

/-! ## from the index to the feature set -/

theorem reachE_iff_reachPlus {ix : Index} {fs : List Feature} (hi : Inv ix fs) (id s : Id) :
    ReachE ix id s ↔ ReachPlus fs id s := by
  constructor
  · intro h
    induction h with
    | direct hs => exact .direct ((hi.mem _ _).mp hs)
    | step _ hs ih => exact .step ih ((hi.mem _ _).mp hs)
  · intro h
    induction h with
    | direct hs => exact .direct ((hi.mem _ _).mpr hs)
    | step _ hs ih => exact .step ih ((hi.mem _ _).mpr hs)

end B6.Lemmas.RefDfs
