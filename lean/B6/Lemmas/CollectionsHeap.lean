import B6.Lemmas.Collections
import B6.Lemmas.DijkstraHeap
/-!
# `goHeap` (the exact port of container/heap used by `top`) satisfies the priority-queue law

The sift lemmas are those of `Lemmas/DijkstraHeap.lean` (property C30), which proves that `Push` and `Pop` keep
heap order (`push_ord`, `pop_ord`, from `up_spec`, `down_spec`) and `root_min` for the `container/heap` model of
`Model/Dijkstra.lean`, which orders queue entries by the distance a table assigns to them.

Here the queue entries are the items themselves, the table assigns each item its numeric value, the two ports are
shown to compute the same arrays (`up_eq`, `down_eq`), and multiset preservation is proved directly from
`Array.swap_perm`.  Result: `goHeapLaw : PQLaw goHeap`, so `top_spec` holds for the heap the driver runs without
assuming container/heap's contract.
-/
namespace B6.Lemmas.CollectionsHeap
open B6.Model.Collections B6.Lemmas.Collections
open B6.Model.Dijkstra hiding Step
open B6.Lemmas.DijkstraHeap

/-- `Less` compares ints / float codes as integers -/
local instance costInt : Cost Int := { zero := 0, decLt := fun a b => Int.decLt a b }

local instance : LawfulCost Int where
  le_refl := Int.le_refl
  le_trans := Int.le_trans
  le_total := Int.le_total
  lt_iff_not_le := by intro a b; exact Int.not_le.symm
  add_le_add_right := by intro a b w h; exact Int.add_le_add_right h w
  le_add_of_nonneg := by intro a w h; have : (0 : Int) ≤ w := h; omega

def num (it : Item) : Int := (valNum it.2).getD 0

abbrev T := Table Item Unit Int

/-- the table that gives every item its own value as "distance" -/
def valueTbl (l : List Item) : T := l.map fun it => (it, ⟨false, num it, none⟩)

def GoodTbl (t : T) : Prop := ∀ it e, tget t it = some e → e.dist = num it

theorem goodTbl_tbl (l : List Item) : GoodTbl (valueTbl l) := fun it e h => by
  obtain ⟨x, _, hx⟩ := List.mem_map.mp (B6.Lemmas.Dijkstra.mem_of_get h); cases hx; rfl

def AllNum (h : Array Item) : Prop := ∀ (k : Nat) (x : Item), h[k]? = some x → Numeric x

theorem itemLess_num {a b : Item} (ha : Numeric a) (hb : Numeric b) : itemLess a b = decide (num a < num b) := by
  obtain ⟨x, hx⟩ := Option.isSome_iff_exists.mp ha
  obtain ⟨y, hy⟩ := Option.isSome_iff_exists.mp hb
  simp only [itemLess, num, hx, hy, Option.getD_some]

theorem allIn_tbl (h : Array Item) : AllIn (valueTbl h.toList) h :=
  fun _ p hk => B6.Lemmas.Dijkstra.get_of_mem (e := ⟨false, num p, none⟩)
    (List.mem_map.mpr ⟨p, Array.mem_toList_iff.mpr (Array.mem_of_getElem? hk), rfl⟩)

/-! ### the two ports compute the same arrays -/

theorem less_eq_aless {t : T} {h : Array Item} {i j : Nat} {lt : Bool} (hg : GoodTbl t) (hn : AllNum h)
    (hl : Heap.less t h i j = some lt) : aless h i j = lt := by
  simp only [Heap.less, Option.bind_eq_bind, Option.bind_eq_some_iff, Option.pure_def, Option.some.injEq] at hl
  obtain ⟨a, ha, b, hb, ea, hea, eb, heb, rfl⟩ := hl
  simp only [aless, ha, hb, itemLess_num (hn i a ha) (hn j b hb), hg a ea hea, hg b eb heb]

theorem swap_inv {h h' : Array Item} {i j : Nat} (hs : Heap.swap h i j = some h') :
    ∃ a b, h[i]? = some a ∧ h[j]? = some b ∧ (h.setIfInBounds i b).setIfInBounds j a = h' := by
  simp only [Heap.swap, Option.bind_eq_bind, Option.bind_eq_some_iff, Option.pure_def, Option.some.injEq] at hs
  obtain ⟨a, ha, b, hb, e⟩ := hs
  exact ⟨a, b, ha, hb, e⟩

theorem swap_eq_aswap {h : Array Item} {i j : Nat} {h' : Array Item} (hs : Heap.swap h i j = some h') :
    aswap h i j = h' := by
  obtain ⟨a, b, ha, hb, e⟩ := swap_inv hs
  simp only [aswap, ha, hb, e]

theorem allNum_swap {h h' : Array Item} {i j : Nat} (hs : Heap.swap h i j = some h') (hn : AllNum h) :
    AllNum h' := by
  obtain ⟨a, b, ha, hb, _⟩ := swap_inv hs
  obtain ⟨h2, e2, _, _, _, _, σ, _, _, _, hk⟩ := swap_spec ha hb
  rw [hs] at e2; cases e2
  exact fun k x hx => hn _ x (hk k ▸ hx)

theorem up_eq {t : T} (hg : GoodTbl t) : ∀ (fuel : Nat) (h : Array Item) (j : Nat) (h' : Array Item),
    AllNum h → Heap.up t fuel h j = some h' → heapUp fuel h j = h' := by
  intro fuel
  induction fuel with
  | zero => intro h j h' _ hu; cases hu
  | succ fuel ih =>
    intro h j h' hn hu
    simp only [Heap.up] at hu
    by_cases hj : j = 0
    · subst hj
      simp only [if_true, Option.some.injEq] at hu
      simp [heapUp, hu]
    · simp only [hj, if_false] at hu
      have hij : ¬ (j - 1) / 2 = j := by omega
      cases hl : Heap.less t h j ((j - 1) / 2) with
      | none => simp [hl] at hu
      | some lt =>
        simp only [hl, Option.bind_eq_bind, Option.bind_some] at hu
        simp only [heapUp, hij, less_eq_aless hg hn hl, decide_false, Bool.false_or]
        cases lt with
        | false => simpa using hu
        | true =>
          cases hs : Heap.swap h ((j - 1) / 2) j with
          | none => simp [hs] at hu
          | some h2 =>
            simp only [hs, Bool.not_true, Bool.false_eq_true, if_false, Option.bind_some] at hu ⊢
            rw [swap_eq_aswap hs]
            exact ih h2 _ h' (allNum_swap hs hn) hu

theorem pickChild_eq {t : T} (hg : GoodTbl t) {h : Array Item} (hn : AllNum h) {j1 n j : Nat}
    (hp : Heap.pickChild t h j1 n = some j) :
    j = if j1 + 1 < n && aless h (j1 + 1) j1 then j1 + 1 else j1 := by
  revert hp
  fun_cases Heap.pickChild t h j1 n with
  | case1 h2 hl => nofun
  | case2 h2 p2 hl => rintro ⟨⟩; simp only [h2, less_eq_aless hg hn hl, decide_true, Bool.true_and]
  | case3 h2 => rintro ⟨⟩; simp [h2]

theorem down_eq {t : T} (hg : GoodTbl t) : ∀ (fuel : Nat) (h : Array Item) (i n : Nat)
    (r : Array Item × Nat), AllNum h → Heap.down t fuel h i n = some r → heapDown fuel h i n = r.1 := by
  intro fuel
  induction fuel with
  | zero => intro h i n r _ hd; cases hd
  | succ fuel ih =>
    intro h i n r hn hd
    simp only [Heap.down] at hd
    by_cases hge : 2 * i + 1 ≥ n
    · simp only [hge, if_true, Option.some.injEq] at hd
      simp [heapDown, hge, ← hd]
    · simp only [hge, if_false] at hd
      cases hp : Heap.pickChild t h (2 * i + 1) n with
      | none => simp [hp] at hd
      | some j =>
        simp only [hp] at hd
        simp only [heapDown, hge, if_false, ← pickChild_eq hg hn hp]
        cases hl : Heap.less t h j i with
        | none => simp [hl] at hd
        | some lt =>
          simp only [hl] at hd
          rw [less_eq_aless hg hn hl]
          cases lt with
          | false => simp at hd; simp [← hd]
          | true =>
            cases hs : Heap.swap h i j with
            | none => simp [hs] at hd
            | some h2 =>
              simp only [hs, Bool.not_true, Bool.false_eq_true, if_false] at hd ⊢
              rw [swap_eq_aswap hs]
              exact ih h2 j n r (allNum_swap hs hn) hd

/-! ### multiset preservation (directly, from `Array.swap_perm`) -/

theorem aswap_perm (h : Array Item) (i j : Nat) : (aswap h i j).toList.Perm h.toList := by
  fun_cases aswap h i j with
  | case1 a b hb ha =>
    obtain ⟨hi, ea⟩ := Array.getElem?_eq_some_iff.mp ha
    obtain ⟨hj, eb⟩ := Array.getElem?_eq_some_iff.mp hb
    have e : (h.setIfInBounds i b).setIfInBounds j a = h.swap i j hi hj := by
      simp [Array.swap_def, Array.setIfInBounds, hi, hj, ea, eb]
    rw [e]
    exact Array.perm_iff_toList_perm.mp (Array.swap_perm hi hj)
  | case2 => exact .refl _

theorem heapUp_perm : ∀ (fuel : Nat) (h : Array Item) (j : Nat), (heapUp fuel h j).toList.Perm h.toList := by
  intro fuel h j
  fun_induction heapUp fuel h j with
  | case1 h j => exact .refl _
  | case2 fuel h j i hstop => exact .refl _
  | case3 fuel h j i hstop ih => exact ih.trans (aswap_perm h _ _)

theorem heapDown_perm : ∀ (fuel : Nat) (h : Array Item) (i n : Nat),
    (heapDown fuel h i n).toList.Perm h.toList := by
  intro fuel h i n
  fun_induction heapDown fuel h i n with
  | case1 h i n => exact .refl _
  | case2 fuel h i n j1 hge => exact .refl _
  | case3 fuel h i n j1 hge j hl => exact .refl _
  | case4 fuel h i n j1 hge j hl ih => exact ih.trans (aswap_perm h _ _)

theorem size_aswap (h : Array Item) (i j : Nat) : (aswap h i j).size = h.size := by
  simpa using (aswap_perm h i j).length_eq

theorem size_heapDown (fuel : Nat) (h : Array Item) (i n : Nat) : (heapDown fuel h i n).size = h.size := by
  simpa using (heapDown_perm fuel h i n).length_eq

/-! ### heap order, table-free -/

/-- no entry is `Less` than its parent -/
def HeapOrd (h : Array Item) : Prop :=
  ∀ (k : Nat) (pa pb : Item), 0 < k → h[par k]? = some pa → h[k]? = some pb → ¬ num pb < num pa

theorem kleIdx_of_num {t : T} (hg : GoodTbl t) {h : Array Item} {a b : Nat}
    (hab : ∀ pa pb, h[a]? = some pa → h[b]? = some pb → ¬ num pb < num pa) : KLeIdx t h a b :=
  fun pa pb ha hb ea eb hea heb => by rw [hg pa ea hea, hg pb eb heb]; exact hab pa pb ha hb

theorem num_of_kleIdx {t : T} (hg : GoodTbl t) {h : Array Item} (hall : AllIn t h) {a b : Nat} {pa pb : Item}
    (hk : KLeIdx t h a b) (ha : h[a]? = some pa) (hb : h[b]? = some pb) : ¬ num pb < num pa := by
  obtain ⟨ea, hea⟩ := hall _ _ ha
  obtain ⟨eb, heb⟩ := hall _ _ hb
  have := hk pa pb ha hb ea eb hea heb
  rw [hg pa ea hea, hg pb eb heb] at this
  exact this

theorem ord_of_heapOrd {t : T} (hg : GoodTbl t) {h : Array Item} (ho : HeapOrd h) (n : Nat) : Ord t h n :=
  fun k hk _ => kleIdx_of_num hg fun pa pb ha hb => ho k pa pb hk ha hb

theorem heapOrd_of_ord {t : T} (hg : GoodTbl t) {h : Array Item} (hall : AllIn t h) (ho : Ord t h h.size) :
    HeapOrd h :=
  fun k _ _ hk ha hb => num_of_kleIdx hg hall (ho k hk (lt_size_of_some hb)) ha hb

theorem allNum_of_list {h : Array Item} (hn : ∀ y ∈ h.toList, Numeric y) : AllNum h :=
  fun _ x hk => hn x (Array.mem_toList_iff.mpr (Array.mem_of_getElem? hk))

theorem toList_of_last {h : Array Item} {n : Nat} {x : Item} (hsz : h.size = n + 1) (hx : h[n]? = some x) :
    h.toList = h.pop.toList ++ [x] := by
  obtain ⟨ys, rfl⟩ := Array.back?_eq_some_iff.mp (by rw [Array.back?_eq_getElem?, hsz]; exact hx)
  rw [Array.pop_push, Array.toList_push]

/-! ### the law -/

theorem heapPush_spec (q : Array Item) (x : Item) (hq : HeapOrd q) (hx : Numeric x)
    (hn : ∀ y ∈ q.toList, Numeric y) :
    HeapOrd (heapPush q x) ∧ (heapPush q x).toList.Perm (x :: q.toList) := by
  have hperm : (heapPush q x).toList.Perm (x :: q.toList) :=
    (heapUp_perm _ _ _).trans (by rw [Array.toList_push]; exact List.perm_append_comm (l₂ := [x]))
  refine ⟨?_, hperm⟩
  have hg : GoodTbl (valueTbl (q.push x).toList) := goodTbl_tbl _
  have hall : AllIn (valueTbl (q.push x).toList) (q.push x) := allIn_tbl _
  have hn1 : AllNum (q.push x) := allNum_of_list fun y hy => by
    rw [Array.toList_push, List.mem_append, List.mem_singleton] at hy
    rcases hy with e | e
    · exact hn y e
    · rw [e]; exact hx
  obtain ⟨h2, hpush, hord, hsh⟩ := push_ord hall (ord_of_heapOrd hg hq q.size)
  rw [show heapPush q x = h2 from up_eq hg _ _ _ _ hn1 hpush]
  exact heapOrd_of_ord hg (hsh.allIn hall) hord

theorem heapPop_spec (q : Array Item) (x : Item) (q' : Array Item) (hq : HeapOrd q)
    (hn : ∀ y ∈ q.toList, Numeric y) (hp : heapPop q = some (x, q')) :
    HeapOrd q' ∧ q.toList.Perm (x :: q'.toList) ∧ ∀ y ∈ q'.toList, ¬ itemLess y x = true := by
  unfold heapPop at hp
  by_cases h0 : q.size = 0
  · simp [h0] at hp
  simp only [h0, if_false] at hp
  have hg : GoodTbl (valueTbl q.toList) := goodTbl_tbl _
  have hall : AllIn (valueTbl q.toList) q := allIn_tbl q
  have hnumq : AllNum q := allNum_of_list hn
  have hord := ord_of_heapOrd hg hq q.size
  obtain ⟨root, h1, r, hroot, hsw, hdown, _, hrsz, hshr, hrn, hordr⟩ := pop_ord hall hord h0
  have hdeq : heapDown (q.size + 1) h1 0 (q.size - 1) = r.1 := down_eq hg _ _ _ _ _ (allNum_swap hsw hnumq) hdown
  simp only [swap_eq_aswap hsw, hdeq, hrn] at hp
  cases hp
  have hrsz' : r.1.size = (q.size - 1) + 1 := by rw [hrsz]; omega
  have hperm : q.toList.Perm (x :: r.1.pop.toList) := by
    have p1 : r.1.toList.Perm q.toList := by
      rw [← hdeq, ← swap_eq_aswap hsw]
      exact (heapDown_perm _ _ _ _).trans (aswap_perm _ _ _)
    rw [toList_of_last hrsz' hrn] at p1
    exact p1.symm.trans List.perm_append_comm
  refine ⟨?_, hperm, ?_⟩
  · exact heapOrd_of_ord hg (fun k p hk => hshr.allIn hall k p (getElem?_pop_some.mp hk).2)
      (hordr.pop (by rw [hrsz]; exact Nat.le_refl _))
  · -- the root of a heap is not above any entry
    intro y hy
    have hyq : y ∈ q.toList := hperm.mem_iff.mpr (List.mem_cons_of_mem _ hy)
    obtain ⟨m, hqm⟩ := List.mem_iff_getElem?.mp hyq
    rw [Array.getElem?_toList] at hqm
    rw [itemLess_num (hn y hyq) (hnumq 0 x hroot)]
    simpa using num_of_kleIdx hg hall (root_min hall (Nat.le_refl _) hord m (lt_size_of_some hqm)) hroot hqm

theorem heapPop_none (q : Array Item) (h : heapPop q = none) : q.toList = [] := by
  revert h
  fun_cases heapPop q with
  | case1 h0 => exact fun _ => List.eq_nil_of_length_eq_zero (by rw [Array.length_toList]; exact h0)
  | case2 => nofun
  | case3 h0 n h1 h2 hx =>
    -- `down` keeps the size, so there is a last entry to return
    obtain ⟨v, hv⟩ := getElem?_lt (h := h2) (k := n) (by rw [size_heapDown, size_aswap]; exact Nat.sub_one_lt h0)
    rw [hv] at hx; cases hx

/-- **The exact port of container/heap satisfies the priority-queue law** (invariant: heap order). -/
def goHeapLaw : PQLaw goHeap where
  elems := fun q => q.toList
  inv := HeapOrd
  inv_empty := by intro k pa pb _ ha _; simp [goHeap] at ha
  empty := rfl
  size := fun (q : Array Item) => (Array.length_toList (xs := q)).symm
  push := fun q x hq hx hn => heapPush_spec q x hq hx hn
  pop_none := heapPop_none
  pop_some := fun q x q' hq hn hp => heapPop_spec q x q' hq hn hp

end B6.Lemmas.CollectionsHeap
