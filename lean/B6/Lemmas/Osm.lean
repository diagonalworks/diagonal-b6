import B6.Model.Osm
import B6.Lemmas.Basic.AssocList
/-!
For C29 (`B6/Props/C29.lean`): `collect` in closed form (`collect_eq`) and the ID sets read off it, the key mapping table, `modifyOrAdd`,
the features of a way and of a multipolygon relation (`assemble_eq`: its loop in closed form, the way members `cut` before every outer one).
-/
namespace B6.Lemmas.Osm
open B6.Model.Pbf (Element Tag Member MType Fail)
open B6.Model.Osm
open B6.Lemmas.Basic (isLookup_find?)

theorem u_inj {a b : Int64} (h : u a = u b) : a = b := by
  unfold u at h
  cases a; cases b; simp_all

/-- what an element adds to `Sets.areaWays` -/
def closedWay? : Element → Option UInt64
  | .way id nodes _ => if wayClosed? nodes = some true then some (u id) else none
  | _ => none

/-- what an element adds to `Sets.areaRels` -/
def areaRel? : Element → Option UInt64
  | .relation id _ tags => if isRelationArea tags then some (u id) else none
  | _ => none

def hasNodes : Element → Bool
  | .way _ [] _ => false
  | _ => true

theorem collect_eq (es : List Element) :
    collect es = if es.all hasNodes then .ok ⟨es.filterMap closedWay?, es.filterMap areaRel?⟩ else .error .panic := by
  fun_induction collect es with
  | case1 => rfl
  | case2 _ _ _ _ es ih => exact ih
  | case3 id nodes tags es h =>
    cases nodes with
    | nil => rfl
    | cons => cases h
  | case4 id nodes tags es c h ih =>
    cases nodes with
    | nil => cases h
    | cons n ns =>
      simp only [ih, List.all_cons, hasNodes, Bool.true_and, List.filterMap_cons, closedWay?, areaRel?, h]
      cases c <;> cases es.all hasNodes <;> rfl
  | case5 id ms tags es ih =>
    simp only [ih, List.all_cons, hasNodes, Bool.true_and, List.filterMap_cons, closedWay?, areaRel?]
    cases isRelationArea tags <;> cases es.all hasNodes <;> rfl

theorem collect_ok_iff (es : List Element) :
    (∃ s, collect es = .ok s) ↔ ∀ id nodes tags, Element.way id nodes tags ∈ es → nodes ≠ [] := by
  have : es.all hasNodes = true ↔ ∀ id nodes tags, Element.way id nodes tags ∈ es → nodes ≠ [] := by
    rw [List.all_eq_true]
    constructor
    · rintro h id nodes tags hm rfl; exact absurd (h _ hm) (by simp [hasNodes])
    · intro h e he
      match e, he with
      | .way id [] tags, he => exact absurd rfl (h _ _ _ he)
      | .way _ (_ :: _) _, _ | .node .., _ | .relation .., _ => rfl
  rw [collect_eq, ← this]
  constructor
  · rintro ⟨s, hs⟩
    split at hs
    · assumption
    · cases hs
  · exact fun h => ⟨_, if_pos h⟩

theorem areaWays_iff {es : List Element} {s : Sets} (h : collect es = .ok s) (i : Int64) :
    s.areaWays.contains (u i) = true ↔ ∃ nodes tags, Element.way i nodes tags ∈ es ∧ wayClosed? nodes = some true := by
  rw [collect_eq] at h
  split at h <;> cases h
  simp only [List.contains_iff_mem, List.mem_filterMap]
  constructor
  · rintro ⟨e, he, hx⟩
    cases e <;> simp only [closedWay?, reduceCtorEq] at hx
    split at hx
    · cases u_inj (Option.some.inj hx)
      exact ⟨_, _, he, ‹_›⟩
    · cases hx
  · rintro ⟨nodes, tags, he, hc⟩
    exact ⟨_, he, by simp [closedWay?, hc]⟩

theorem areaRels_iff {es : List Element} {s : Sets} (h : collect es = .ok s) (i : Int64) :
    s.areaRels.contains (u i) = true ↔ ∃ members tags, Element.relation i members tags ∈ es ∧ isRelationArea tags = true := by
  rw [collect_eq] at h
  split at h <;> cases h
  simp only [List.contains_iff_mem, List.mem_filterMap]
  constructor
  · rintro ⟨e, he, hx⟩
    cases e <;> simp only [areaRel?, reduceCtorEq] at hx
    split at hx
    · cases u_inj (Option.some.inj hx)
      exact ⟨_, _, he, ‹_›⟩
    · cases hx
  · rintro ⟨ms, tags, he, hc⟩
    exact ⟨_, he, by simp [areaRel?, hc]⟩

theorem ite_rule {α : Type} {c p : Prop} [Decidable c] (h : c ↔ p) (a b : α) :
    (p → (if c then a else b) = a) ∧ (¬ p → (if c then a else b) = b) :=
  ⟨fun hp => if_pos (h.mpr hp), fun hp => if_neg (mt h.mp hp)⟩

/-- the OSM keys that become searchable `#key` tokens -/
def hashKeys : List String := ["amenity", "barrier", "boundary", "bridge", "building", "highway", "landuse", "leisure",
  "natural", "network", "place", "railway", "route", "shop", "tourism", "water", "waterway"]

/-- the OSM keys that become searchable `@key` tokens -/
def atKeys : List String := ["fhrs:id", "wikidata", "wikipedia"]

theorem osmTagMapping_eq :
    osmTagMapping = hashKeys.map (fun k => (k, "#" ++ k)) ++ atKeys.map (fun k => (k, "@" ++ k)) := by
  decide +kernel

theorem lookupKey_map_append (k : String) (f : String → String) (ks : List String) (rest : List (String × String)) :
    lookupKey k (ks.map (fun a => (a, f a)) ++ rest) = if k ∈ ks then some (f k) else lookupKey k rest := by
  induction ks with
  | nil => simp
  | cons a ks ih =>
    simp only [List.map_cons, List.cons_append, lookupKey, ih, List.mem_cons]
    by_cases h : a = k
    · subst h; simp
    · simp [h, Ne.symm h]

theorem keyForOSMKey_spec (k : String) :
    keyForOSMKey k = if k ∈ hashKeys then "#" ++ k else if k ∈ atKeys then "@" ++ k
      else if k = "point" ∨ k = "path" then "osm:" ++ k else k := by
  unfold keyForOSMKey
  rw [osmTagMapping_eq, lookupKey_map_append]
  by_cases h1 : k ∈ hashKeys
  · simp [h1]
  · have := lookupKey_map_append k (fun k => "@" ++ k) atKeys []
    simp only [List.append_nil] at this
    rw [if_neg h1, if_neg h1, this]
    by_cases h2 : k ∈ atKeys
    · simp [h2]
    · simp only [h2, if_false, lookupKey]

/-- no OSM key lands on one of the two geometry keys: a mapped key starts with `#`, `@` or `o` -/
theorem keyForOSMKey_not_reserved (k : String) : keyForOSMKey k ≠ "point" ∧ keyForOSMKey k ≠ "path" := by
  have ne (p : String) (hp : p = "#" ∨ p = "@" ∨ p = "osm:") : p ++ k ≠ "point" ∧ p ++ k ≠ "path" := by
    constructor <;> intro h <;> have := congrArg String.toList h <;> rcases hp with rfl | rfl | rfl <;> simp at this
  rw [keyForOSMKey_spec]
  split
  · exact ne _ (.inl rfl)
  split
  · exact ne _ (.inr (.inl rfl))
  split
  · exact ne _ (.inr (.inr rfl))
  · next h => exact ⟨fun e => h (.inl e), fun e => h (.inr e)⟩

theorem modifyOrAdd_lookup (k : String) (v : Value) (ts : List FTag) (k' : String) :
    (modifyOrAdd k v ts).find? (fun t => t.key = k') = if k' = k then some ⟨k, v⟩ else ts.find? (fun t => t.key = k') :=
  (isLookup_find? (fun t : FTag => t.key)).upsert (put := fun ts e => modifyOrAdd e.key e.value ts) (upd := fun _ e => e)
    (fun _ => rfl) (fun _ _ _ => rfl) (fun _ _ _ => ⟨rfl, rfl⟩) ts ⟨k, v⟩ k'

theorem modifyOrAdd_find (k : String) (v : Value) (ts : List FTag) :
    (modifyOrAdd k v ts).find? (fun t => t.key = k) = some ⟨k, v⟩ := (modifyOrAdd_lookup k v ts k).trans (if_pos rfl)

theorem modifyOrAdd_any_ne (k k' : String) (v : Value) (ts : List FTag) (h : k ≠ k') :
    (modifyOrAdd k v ts).any (fun t => t.key = k') = ts.any (fun t => t.key = k') := by
  rw [Bool.eq_iff_iff, List.any_eq_true, List.any_eq_true, ← List.find?_isSome, ← List.find?_isSome, modifyOrAdd_lookup,
    if_neg (Ne.symm h)]

theorem modifyOrAdd_keeps (k : String) (v : Value) (ts : List FTag) (t : FTag) (ht : t ∈ ts) (hk : t.key ≠ k) :
    t ∈ modifyOrAdd k v ts := by
  induction ts with
  | nil => cases ht
  | cons a ts ih =>
    simp only [modifyOrAdd]
    rcases List.mem_cons.mp ht with rfl | ht
    · simp [hk]
    · split
      · exact List.mem_cons_of_mem _ ht
      · exact List.mem_cons_of_mem _ (ih ht)

theorem featuresOf_way_closed (s : Sets) (id : Int64) {nodes : List Int64} (tags : List Tag)
    (h : wayClosed? nodes = some true) : featuresOf s (.way id nodes tags) =
      [.generic (pathID id) [⟨"path", .ids (nodes.map pointID)⟩], .area (wayAreaID id) (mapTags tags) [[pathID id]]] := by
  simp [featuresOf, h, modifyOrAdd]

theorem featuresOf_way_open (s : Sets) (id : Int64) {nodes : List Int64} (tags : List Tag)
    (h : wayClosed? nodes ≠ some true) : featuresOf s (.way id nodes tags) =
      [.generic (pathID id) (modifyOrAdd "path" (.ids (nodes.map pointID)) (mapTags tags))] := by
  simp [featuresOf, h]

def wayIds (ms : List Member) : List Int64 := (ms.filter (fun m => m.type = .way)).map (·.id)

/-- a way member with role `outer` or no role starts a new polygon -/
def isOuter (m : Member) : Bool := m.role = "outer" ∨ m.role = ""

theorem isOuter_iff (m : Member) : (m.role = "outer" ∨ m.role = "") ↔ isOuter m = true := by simp [isOuter]

/-- the polygons once the open loop is closed off -/
def flush (P : List (List Int64)) (L : List Int64) : List (List Int64) := if L.isEmpty then P else P ++ [L]

theorem flush_concat (P : List (List Int64)) (A : List Int64) (a : Int64) : flush P (A ++ [a]) = P ++ [A ++ [a]] := by
  cases A <;> rfl

/-! With `flush` the code's test on the open loop disappears: when the loop is empty both branches agree. -/

theorem assemble_nil (aw : List UInt64) (P : List (List Int64)) (L : List Int64) :
    assemble aw P L [] = some (flush P L) := rfl

theorem assemble_skip (aw : List UInt64) (P : List (List Int64)) (L : List Int64) {m : Member} (ms : List Member)
    (h : m.type ≠ .way) : assemble aw P L (m :: ms) = assemble aw P L ms := by
  simp only [assemble, h, if_false]

theorem assemble_way (aw : List UInt64) (P : List (List Int64)) (L : List Int64) {m : Member} (ms : List Member)
    (h : m.type = .way) : assemble aw P L (m :: ms) =
      if aw.contains (u m.id) then
        if isOuter m then assemble aw (flush P L) [m.id] ms else assemble aw P (L ++ [m.id]) ms
      else none := by
  simp only [assemble, h, if_true, isOuter_iff]
  cases L <;> cases isOuter m <;> simp [flush]

theorem assemble_filter (aw : List UInt64) (P : List (List Int64)) (L : List Int64) (ms : List Member) :
    assemble aw P L ms = assemble aw P L (ms.filter (fun m => m.type = .way)) := by
  induction ms generalizing P L with
  | nil => rfl
  | cons m ms ih =>
    by_cases hw : m.type = .way
    · rw [List.filter_cons_of_pos (by simpa using hw), assemble_way aw P L _ hw, assemble_way aw P L _ hw, ih, ih]
    · rw [List.filter_cons_of_neg (by simpa using hw), assemble_skip aw P L _ hw, ih]

/-- the way members cut before every outer member -/
def cut : List Member → List (List Member)
  | [] => []
  | [m] => [[m]]
  | m :: m' :: ms =>
    if isOuter m' then [m] :: cut (m' :: ms)
    else match cut (m' :: ms) with
      | p :: ps => (m :: p) :: ps
      | [] => [[m]]

def ids (ps : List (List Member)) : List (List Int64) := ps.map (·.map (·.id))

theorem cut_cons_ne (m : Member) (ms : List Member) : ∃ p ps, cut (m :: ms) = (m :: p) :: ps := by
  induction ms generalizing m with
  | nil => exact ⟨[], [], rfl⟩
  | cons m' ms ih =>
    simp only [cut]
    split
    · exact ⟨[], _, rfl⟩
    · obtain ⟨p, ps, h⟩ := ih m'
      rw [h]
      exact ⟨_, _, rfl⟩

theorem cut_outer (m : Member) {x : Member} (W : List Member) (ho : isOuter x = true) :
    cut (m :: x :: W) = [m] :: cut (x :: W) := by
  rw [cut, if_pos ho]

theorem cut_inner (m : Member) {x : Member} {W p : List Member} {ps : List (List Member)} (ho : ¬ isOuter x = true)
    (hp : cut (x :: W) = p :: ps) : cut (m :: x :: W) = (m :: p) :: ps := by
  rw [cut, if_neg ho, hp]

/-- the open loop `A` goes in front of the first polygon -/
def prepend (A : List Int64) : List (List Int64) → List (List Int64)
  | [] => []
  | p :: ps => (A ++ p) :: ps

theorem prepend_nil (l : List (List Int64)) : prepend [] l = l := by cases l <;> rfl

/-- the loop over way members once a first way `m` is in the open loop: nothing unless all are closed ways of the
input; then the polygons still to come are the cut of `m :: W`, the first of them continuing the open loop -/
theorem assemble_run (aw : List UInt64) (W : List Member) (hW : ∀ x ∈ W, x.type = .way)
    (P : List (List Int64)) (A : List Int64) (m : Member) :
    assemble aw P (A ++ [m.id]) W =
      if W.all (fun x => aw.contains (u x.id)) then some (P ++ prepend A (ids (cut (m :: W)))) else none := by
  induction W generalizing P A m with
  | nil => rw [assemble_nil, flush_concat]; rfl
  | cons x W ih =>
    have ih := ih fun y hy => hW y (List.mem_cons_of_mem _ hy)
    obtain ⟨p, ps, hp⟩ := cut_cons_ne x W
    rw [assemble_way aw P _ W (hW x List.mem_cons_self), List.all_cons]
    cases aw.contains (u x.id)
    · rfl
    rw [if_pos rfl, Bool.true_and]
    by_cases ho : isOuter x = true
    · rw [if_pos ho, flush_concat, show [x.id] = [] ++ [x.id] from rfl, ih _ [] x, prepend_nil, cut_outer m W ho,
        List.append_assoc]
      rfl
    · rw [if_neg ho, ih P (A ++ [m.id]) x, cut_inner m ho hp, hp]
      simp only [ids, List.map_cons, prepend, List.append_assoc, List.cons_append, List.nil_append]

/-- `reassembleMultiPolygon` in closed form: nothing unless every way member is a closed way of the input; then the
way members cut before every outer (or role-less) one -/
theorem assemble_eq (aw : List UInt64) (ms : List Member) :
    assemble aw [] [] ms =
      if (ms.filter (fun m => m.type = .way)).all (fun m => aw.contains (u m.id)) then
        some (ids (cut (ms.filter (fun m => m.type = .way))))
      else none := by
  rw [assemble_filter]
  have hW : ∀ x ∈ ms.filter (fun m => m.type = .way), x.type = .way := fun x hx => by simpa using (List.mem_filter.mp hx).2
  generalize ms.filter (fun m => m.type = .way) = W at hW
  cases W with
  | nil => rfl
  | cons m W =>
    -- the first way member opens the first loop, outer or not
    rw [assemble_way aw [] [] W (hW m List.mem_cons_self), List.all_cons]
    have h1 : assemble aw (flush [] []) [m.id] W = assemble aw [] ([] ++ [m.id]) W := rfl
    rw [h1, ite_self, assemble_run aw W (fun y hy => hW y (List.mem_cons_of_mem _ hy)), prepend_nil, List.nil_append]
    cases aw.contains (u m.id) <;> rfl

theorem featuresOf_multipolygon (s : Sets) (id : Int64) (members : List Member) {tags : List Tag}
    (ha : isRelationArea tags = true) :
    featuresOf s (.relation id members tags) =
      if ∀ m ∈ members, m.type = .way → s.areaWays.contains (u m.id) = true then
        [.area (relAreaID id) (mapTags tags) ((ids (cut (members.filter (fun m => m.type = .way)))).map (·.map pathID))]
      else [] := by
  simp only [featuresOf, ha, if_true, assemble_eq, List.all_eq_true, List.mem_filter, decide_eq_true_eq, and_imp]
  by_cases h : ∀ m ∈ members, m.type = .way → s.areaWays.contains (u m.id) = true
  · rw [if_pos h, if_pos h]
  · rw [if_neg h, if_neg h]

theorem cut_spec (W : List Member) :
    (cut W).flatten = W ∧ (∀ p ∈ cut W, p ≠ [] ∧ ∀ m ∈ p.tail, isOuter m = false) ∧
    (∀ p ∈ (cut W).tail, ∃ m t, p = m :: t ∧ isOuter m = true) := by
  induction W with
  | nil => simp [cut]
  | cons m W ih =>
    cases W with
    | nil => simp [cut]
    | cons m' W' =>
      obtain ⟨p, ps, hp⟩ := cut_cons_ne m' W'
      obtain ⟨ih1, ih2, ih3⟩ := ih
      rw [hp] at ih1 ih2 ih3
      by_cases ho' : isOuter m' = true
      · rw [cut_outer m W' ho', hp]
        refine ⟨by simpa using ih1, ?_, ?_⟩
        · intro q hq
          rcases List.mem_cons.mp hq with rfl | hq
          · simp
          · exact ih2 q hq
        · intro q hq
          simp only [List.tail_cons] at hq
          rcases List.mem_cons.mp hq with rfl | hq
          · exact ⟨m', p, rfl, ho'⟩
          · exact ih3 q (by simpa using hq)
      · rw [cut_inner m ho' hp]
        refine ⟨by simpa using ih1, ?_, ?_⟩
        · intro q hq
          rcases List.mem_cons.mp hq with rfl | hq
          · refine ⟨by simp, ?_⟩
            intro x hx
            simp only [List.tail_cons] at hx
            rcases List.mem_cons.mp hx with rfl | hx
            · simpa using ho'
            · exact (ih2 (m' :: p) (by simp)).2 x (by simpa using hx)
          · exact ih2 q (by simp [hq])
        · intro q hq
          exact ih3 q (by simpa using hq)

end B6.Lemmas.Osm
