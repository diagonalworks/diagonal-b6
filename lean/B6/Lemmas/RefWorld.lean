import B6.Lemmas.RefOverlay
import B6.Lemmas.Basic.List
/-!
C15, the UPDATES of both worlds (their queries are in `RefOverlay.lean`): `BasicMutableWorld.AddFeature` and
`MutableOverlayWorld.AddFeature` / `Snapshot` / copy-ups keep the reference index the inverse of the features (and the
overlay's copy discipline `UpClosed`), for every history.
-/
namespace B6.Lemmas.RefWorld
open B6.Model.RefIndex B6.Spec.Referrers B6.Lemmas.RefIndex B6.Lemmas.RefDfs B6.Lemmas.RefOverlay

/-! ## feature lists with distinct IDs -/

def Uniq (fs : List Feature) : Prop := (fs.map (·.id)).Nodup

theorem uniq_eq {fs : List Feature} (hu : Uniq fs) {g h : Feature} (hg : g ∈ fs) (hh : h ∈ fs) (e : g.id = h.id) :
    g = h :=
  Basic.eq_of_nodup_map (fun g : Feature => g.id) hu hg hh e

theorem findFeature_some {fs : List Feature} {id : Id} {f : Feature} (h : findFeature fs id = some f) :
    f ∈ fs ∧ f.id = id := by
  unfold findFeature at h
  exact ⟨List.mem_of_find?_eq_some h, by simpa using List.find?_some h⟩

theorem findFeature_of_mem {fs : List Feature} (hu : Uniq fs) {f : Feature} (hf : f ∈ fs) :
    findFeature fs f.id = some f :=
  (Basic.isLookup_find? (fun g : Feature => g.id)).of_mem hu hf

theorem hasFeature_false_iff (fs : List Feature) (id : Id) : hasFeature fs id = false ↔ ∀ g ∈ fs, g.id ≠ id := by
  rw [hasFeature, Option.isSome_eq_false_iff, Option.isNone_iff_eq_none]
  exact (Basic.isLookup_find? (fun g : Feature => g.id)).eq_none_iff

theorem mem_put {fs : List Feature} (hu : Uniq fs) {f g : Feature} :
    g ∈ putFeature fs f ↔ (g = f ∨ (g ∈ fs ∧ g.id ≠ f.id)) :=
  Basic.mem_upsert (key := fun g : Feature => g.id) (put := putFeature) (upd := fun _ e => e) (fun _ => rfl)
    (fun _ _ _ => rfl) (fun _ _ _ => rfl) hu

theorem uniq_put {fs : List Feature} (hu : Uniq fs) (f : Feature) : Uniq (putFeature fs f) :=
  Basic.nodup_upsert (key := fun g : Feature => g.id) (put := putFeature) (upd := fun _ e => e) (fun _ => rfl)
    (fun _ _ _ => rfl) (fun _ _ _ => rfl) hu f

theorem uniq_append {fs L : List Feature} (hu : Uniq fs) (hL : Uniq L) (hno : ∀ c ∈ L, hasFeature fs c.id = false) :
    Uniq (fs ++ L) := by
  exact List.pairwise_map.2 (List.pairwise_append.2 ⟨List.pairwise_map.1 hu, List.pairwise_map.1 hL,
    fun g hg c hc => (hasFeature_false_iff _ _).mp (hno c hc) g hg⟩)

theorem uniq_merged (o : Overlay) (hu : Uniq o.feats) (hb : Uniq o.base) : Uniq o.merged :=
  uniq_append hu (List.Nodup.sublist (List.Sublist.map _ List.filter_sublist) hb)
    fun c hc => by simpa using (List.mem_filter.mp hc).2

/-! ## BasicMutableWorld.AddFeature -/

theorem removeAll_inv : ∀ (R : List Feature) (ix : Index) (S : List Feature), Inv ix S →
    (∀ g ∈ R, ∀ h ∈ S, h.id = g.id → h = g) →
    ∃ ix', removeAll ix R = some ix' ∧ Inv ix' (S.filter fun h => decide (h.id ∉ R.map (·.id))) := by
  intro R
  induction R with
  | nil => intro ix S hi _; exact ⟨ix, rfl, Inv_congr (by intro g; simp) hi⟩
  | cons g R ih =>
    intro ix S hi hR
    obtain ⟨ix1, h1, hi1⟩ := Inv_remove hi g (fun h hh e => hR g List.mem_cons_self h hh e)
    obtain ⟨ix2, h2, hi2⟩ := ih ix1 _ hi1 (fun g' hg' h hh e =>
      hR g' (List.mem_cons_of_mem _ hg') h (List.mem_filter.mp hh).1 e)
    refine ⟨ix2, by simp only [removeAll, h1]; exact h2, Inv_congr (fun x => ?_) hi2⟩
    simp only [List.mem_filter, List.map_cons, List.mem_cons, decide_eq_true_eq, not_or, and_assoc]

theorem mem_current {fs : List Feature} (hu : Uniq fs) {ids : List Id} {g : Feature} :
    g ∈ current fs ids ↔ g ∈ fs ∧ g.id ∈ ids := by
  unfold current
  rw [List.mem_filterMap]
  constructor
  · rintro ⟨i, hi, hf⟩
    obtain ⟨h1, h2⟩ := findFeature_some hf
    exact ⟨h1, h2 ▸ hi⟩
  · rintro ⟨hg, hi⟩
    exact ⟨g.id, hi, findFeature_of_mem hu hg⟩

theorem toList_append_current (fs : List Feature) (id : Id) (ids : List Id) :
    (findFeature fs id).toList ++ current fs ids = current fs (id :: ids) := by
  unfold current
  rw [List.filterMap_cons]
  cases findFeature fs id <;> rfl

/-- `ModifiedFeatures.Update`: the references of the stored versions of `ids` are removed, those of `A` added -/
theorem reindex {ix : Index} {S : List Feature} (hi : Inv ix S) (hu : Uniq S) (ids : List Id)
    (A S' : List Feature) (hS' : ∀ g, g ∈ S' ↔ (g ∈ A ∨ (g ∈ S ∧ g.id ∉ ids))) :
    ∃ ix1, removeAll ix (current S ids) = some ix1 ∧ Inv (A.foldl addFeature ix1) S' := by
  obtain ⟨ix1, h1, hi1⟩ := removeAll_inv (current S ids) ix S hi
    (fun g hg h hh e => uniq_eq hu hh ((mem_current hu).mp hg).1 e)
  refine ⟨ix1, h1, Inv_congr ?_ (Inv_foldl_add A ix1 _ hi1)⟩
  intro g
  rw [hS' g, List.mem_append, List.mem_reverse, List.mem_filter, decide_eq_true_eq]
  have : g ∈ S → (g.id ∈ (current S ids).map (·.id) ↔ g.id ∈ ids) := fun hg =>
    ⟨fun hm => by
      obtain ⟨x, hx, hxid⟩ := List.mem_map.mp hm
      exact hxid ▸ ((mem_current hu).mp hx).2,
     fun hm => List.mem_map.mpr ⟨g, (mem_current hu).mpr ⟨hg, hm⟩, rfl⟩⟩
  exact or_congr_right (and_congr_right fun hg => not_congr (this hg))

def WInv (w : World) : Prop := Inv w.ix w.feats ∧ Uniq w.feats

theorem WInv.inv {w : World} (h : WInv w) : Inv w.ix w.feats := h.1

/-- **`BasicMutableWorld.AddFeature` (`ModifiedFeatures.Update`) keeps the index the inverse of the
features** — and never panics in `RemoveFeature`. -/
theorem world_add_inv (w : World) (f : Feature) (hw : WInv w) :
    ∃ w', w.add f = some w' ∧ WInv w' ∧ w'.feats = putFeature w.feats f := by
  obtain ⟨hi, hu⟩ := hw
  obtain ⟨refIds, hfind, _, _⟩ := basicFind_spec hi f.id []
  have hu' := uniq_put hu f
  obtain ⟨ix1, h1, hi1⟩ := reindex hi hu (f.id :: refIds) (f :: current (putFeature w.feats f) refIds)
    (putFeature w.feats f) (by
      intro g
      rw [List.mem_cons, mem_current hu', mem_put hu, List.mem_cons, not_or]
      by_cases hr : g.id ∈ refIds <;> simp only [hr, and_true, and_false, or_false, not_true, not_false_eq_true, or_self_left])
  unfold World.add
  simp only [hfind, toList_append_current, h1]
  exact ⟨_, rfl, ⟨hi1, hu'⟩, rfl⟩

/-! ## MutableOverlayWorld.AddFeature -/

theorem putFeature_fresh {fs : List Feature} {f : Feature} (h : hasFeature fs f.id = false) :
    putFeature fs f = fs ++ [f] := by
  rw [hasFeature_false_iff] at h
  induction fs with
  | nil => rfl
  | cons g fs ih =>
    rw [putFeature, if_neg (h g List.mem_cons_self), ih fun g' hg' => h g' (List.mem_cons_of_mem _ hg')]; rfl

theorem hasFeature_append (fs gs : List Feature) (id : Id) :
    hasFeature (fs ++ gs) id = (hasFeature fs id || hasFeature gs id) := by
  simp [hasFeature, findFeature, List.find?_append]

theorem fold_put (L : List Feature) : ∀ (fs : List Feature), Uniq L → (∀ c ∈ L, hasFeature fs c.id = false) →
    L.foldl putFeature fs = fs ++ L := by
  induction L with
  | nil => intro fs _ _; simp
  | cons c L ih =>
    intro fs hL hno
    have hL' := List.nodup_cons.mp (show (c.id :: L.map (·.id)).Nodup from hL)
    rw [List.foldl_cons, putFeature_fresh (hno c List.mem_cons_self), ih _ hL'.2, List.append_assoc]; rfl
    intro c' hc'
    rw [hasFeature_append, hno c' (List.mem_cons_of_mem _ hc'), Bool.false_or, hasFeature_false_iff]
    intro g hg e
    rw [List.mem_singleton.mp hg] at e
    exact hL'.1 (List.mem_map.mpr ⟨c', hc', e.symm⟩)

theorem filterMap_ids_sublist (base : List Feature) : ∀ (l : List Id),
    ((l.filterMap (findFeature base)).map (·.id)).Sublist l := by
  intro l
  induction l with
  | nil => exact List.Sublist.refl _
  | cons r l ih =>
    simp only [List.filterMap_cons]
    cases h : findFeature base r with
    | none => exact ih.cons _
    | some c =>
      simp only [List.map_cons]
      rw [(findFeature_some h).2]
      exact ih.cons_cons _

theorem uniq_current (fs : List Feature) {ids : List Id} (hnd : ids.Nodup) : Uniq (current fs ids) :=
  List.Nodup.sublist (filterMap_ids_sublist fs ids) hnd

def OInv (o : Overlay) : Prop := Inv o.ix o.feats ∧ Uniq o.feats ∧ Uniq o.base ∧ UpClosed o

theorem OInv.inv {o : Overlay} (h : OInv o) : Inv o.ix o.feats := h.1
theorem OInv.uniq {o : Overlay} (h : OInv o) : Uniq o.feats := h.2.1
theorem OInv.uniqBase {o : Overlay} (h : OInv o) : Uniq o.base := h.2.2.1
theorem OInv.upClosed {o : Overlay} (h : OInv o) : UpClosed o := h.2.2.2

theorem oinv_init (base : List Feature) (hb : Uniq base) : OInv ⟨base, [], []⟩ :=
  ⟨Inv_empty, by simp [Uniq], hb, by intro y _ _ t _; rfl⟩

theorem overlay_add_shape (o : Overlay) (f : Feature) (hi : Inv o.ix o.feats) (hu : Uniq o.feats)
    (hub : Uniq o.base) {refIds : List Id} (hfind : o.find f.id [] = some refIds) (hnd : refIds.Nodup) :
    ∃ o', o.add f = some o' ∧ Inv o'.ix o'.feats ∧ Uniq o'.feats ∧ o'.base = o.base ∧
      ∀ g, g ∈ o'.feats ↔ (g = f ∨ ((g ∈ o.feats ∨
        (g ∈ o.base ∧ g.id ∈ refIds ∧ hasFeature o.feats g.id = false)) ∧ g.id ≠ f.id)) := by
  unfold Overlay.add
  simp only [hfind, toList_append_current]
  generalize refIds.filter (hasFeature o.feats) = inOverlay
  generalize hcp : (refIds.filter (fun r => !hasFeature o.feats r && decide (r ≠ f.id))).filterMap (findFeature o.base) = copies
  -- the copies are the stored base versions of the referrers that are neither in the overlay nor `f` itself
  have hcopy : ∀ c, c ∈ copies ↔ (c ∈ o.base ∧ c.id ∈ refIds ∧ hasFeature o.feats c.id = false ∧ c.id ≠ f.id) := by
    intro c
    rw [← hcp]
    show c ∈ current o.base _ ↔ _
    rw [mem_current hub, List.mem_filter, Bool.and_eq_true, Bool.not_eq_true', decide_eq_true_eq]
  have hcopies_uniq : Uniq copies := hcp ▸ uniq_current o.base (List.Nodup.sublist List.filter_sublist hnd)
  have hno : ∀ c ∈ copies, hasFeature o.feats c.id = false := fun c hc => ((hcopy c).mp hc).2.2.1
  rw [fold_put copies o.feats hcopies_uniq hno]
  have hu1 := uniq_append hu hcopies_uniq hno
  have hu' := uniq_put hu1 f
  have hmem' : ∀ g, g ∈ putFeature (o.feats ++ copies) f ↔
      (g = f ∨ ((g ∈ o.feats ∨ g ∈ copies) ∧ g.id ≠ f.id)) := by
    intro g; rw [mem_put hu1, List.mem_append]
  obtain ⟨ix1, h1, hi1⟩ := reindex hi hu (f.id :: inOverlay)
    (f :: (current (putFeature (o.feats ++ copies) f) inOverlay ++ copies))
    (putFeature (o.feats ++ copies) f) (by
      intro g
      have hc : g ∈ copies → g.id ≠ f.id := fun h => ((hcopy g).mp h).2.2.2
      rw [List.mem_cons, List.mem_append, mem_current hu', hmem' g, List.mem_cons, not_or]
      by_cases hr : g.id ∈ inOverlay <;> by_cases hg : g ∈ copies <;>
        simp only [hr, hg, hc, and_true, and_false, or_false, or_true, not_true, not_false_eq_true,
          or_self_left, true_or, ne_eq])
  simp only [h1]
  refine ⟨_, rfl, hi1, hu', rfl, fun g => ?_⟩
  rw [hmem' g, hcopy g]
  exact or_congr_right ⟨fun ⟨h, c⟩ => ⟨h.imp_right fun ⟨a, b, d, _⟩ => ⟨a, b, d⟩, c⟩,
    fun ⟨h, c⟩ => ⟨h.imp_right fun ⟨a, b, d⟩ => ⟨a, b, d, c⟩, c⟩⟩

/-- the reference maintenance of `MutableOverlayWorld.AddFeature` keeps the overlay's index the inverse
of the overlay's features in EVERY state (no copy discipline needed for this part) -/
theorem overlay_add_index (o : Overlay) (f : Feature) (hi : Inv o.ix o.feats) (hu : Uniq o.feats)
    (hub : Uniq o.base) :
    ∃ o', o.add f = some o' ∧ Inv o'.ix o'.feats ∧ Uniq o'.feats ∧ o'.base = o.base := by
  obtain ⟨refIds, hfind, hnd⟩ := find_terminates o f.id []
  obtain ⟨o', h1, h2, h3, h4, _⟩ := overlay_add_shape o f hi hu hub hfind hnd
  exact ⟨o', h1, h2, h3, h4⟩

/-- `AddTag` / `RemoveTag` copying a base-only feature into the overlay (searchable tag): the copy is
indexed, so the overlay's index stays the inverse of the overlay's features -/
theorem copyUp_index (o : Overlay) (id : Id) (hi : Inv o.ix o.feats) (hu : Uniq o.feats) :
    Inv (o.copyUp id).ix (o.copyUp id).feats ∧ Uniq (o.copyUp id).feats ∧ (o.copyUp id).base = o.base := by
  fun_cases Overlay.copyUp o id with
  | case2 => exact ⟨hi, hu, rfl⟩  -- nothing to copy
  | case1 f h2 h1 =>  -- only in the base: copied
    refine ⟨?_, uniq_put hu f, rfl⟩
    apply Inv_congr _ (Inv_add hi f)
    intro g
    rw [mem_put hu]
    have hfid := (findFeature_some h2).2
    constructor
    · intro hg
      rcases List.mem_cons.mp hg with rfl | hg
      · exact Or.inl rfl
      · refine Or.inr ⟨hg, ?_⟩
        intro e
        have := findFeature_of_mem hu hg
        rw [e, hfid, h1] at this; cases this
    · rintro (rfl | ⟨hg, _⟩)
      · exact List.mem_cons_self
      · exact List.mem_cons_of_mem _ hg

/-- **`MutableOverlayWorld.AddFeature` keeps the overlay's index the inverse of the overlay's
features and the copy discipline `UpClosed`.** -/
theorem overlay_add_inv (o : Overlay) (f : Feature) (ho : OInv o) :
    ∃ o', o.add f = some o' ∧ OInv o' ∧ o'.base = o.base := by
  obtain ⟨hi, hu, hub, hup⟩ := ho
  obtain ⟨refIds, hfind, hnd, hspec⟩ := overlay_find_spec o hi hup f.id []
  have hspec' : ∀ s, s ∈ refIds ↔ ReachPlus o.merged f.id s := by
    intro s; rw [hspec s]; simp [typeOk]
  obtain ⟨o', hadd, hi', hu', hb', hmem'⟩ := overlay_add_shape o f hi hu hub hfind hnd
  refine ⟨o', hadd, ⟨hi', hu', hb' ▸ hub, ?_⟩, hb'⟩
  -- the copy discipline
  intro y hy hysh t ht
  rw [hb'] at hy
  rw [hasFeature_false_iff] at hysh ⊢
  have hy_feats : hasFeature o.feats y.id = false := by
    rw [hasFeature_false_iff]
    intro g hg e
    by_cases hgf : g.id = f.id
    · exact hysh f ((hmem' f).mpr (Or.inl rfl)) (by rw [← hgf]; exact e)
    · exact hysh g ((hmem' g).mpr (Or.inr ⟨Or.inl hg, hgf⟩)) e
  have hy_merged : y ∈ o.merged := (mem_merged o y).mpr (Or.inr ⟨hy, hy_feats⟩)
  have hy_notf : y.id ≠ f.id := fun e => hysh f ((hmem' f).mpr (Or.inl rfl)) e.symm
  -- if `y` were a referrer of `f.id` in the layered world it would have been copied
  have hnotref : ¬ ReachPlus o.merged f.id y.id := fun hr =>
    hysh y ((hmem' y).mpr (Or.inr ⟨Or.inr ⟨hy, (hspec' y.id).mpr hr, hy_feats⟩, hy_notf⟩)) rfl
  intro g hg e
  rcases (hmem' g).mp hg with rfl | ⟨hg' | hg', _⟩
  · -- t = f.id: y references the new feature's ID directly
    exact hnotref (.direct ⟨y, hy_merged, rfl, by rw [e]; exact ht⟩)
  · -- t already lived in the overlay
    exact (hasFeature_false_iff _ _).mp (hup y hy hy_feats t ht) g hg' e
  · -- t is one of the copied referrers
    exact hnotref (.step ((hspec' g.id).mp hg'.2.1) ⟨y, hy_merged, rfl, by rw [e]; exact ht⟩)

/-! ## histories

`runAdds` is `runOOps` on `.add`s only and `runOOps` is `runTOps` without `.copyUp`; C15 states its theorems over
`runOOps` and `runTOps`. -/

def runAdds : Overlay → List Feature → Option Overlay
  | o, [] => some o
  | o, f :: fs => match o.add f with
    | some o' => runAdds o' fs
    | none => none

theorem runAdds_inv : ∀ (fs : List Feature) (o : Overlay), OInv o → ∃ o', runAdds o fs = some o' ∧ OInv o' := by
  intro fs o ho
  fun_induction runAdds o fs with
  | case1 o => exact ⟨o, rfl, ho⟩
  | case2 o f fs o1 h1 ih => obtain ⟨o', e, ho', _⟩ := overlay_add_inv o f ho; cases h1 ▸ e; exact ih ho'
  | case3 o f fs h1 => obtain ⟨o1, e, _⟩ := overlay_add_inv o f ho; cases h1 ▸ e

def runWorldAdds : World → List Feature → Option World
  | w, [] => some w
  | w, f :: fs => match w.add f with
    | some w' => runWorldAdds w' fs
    | none => none

theorem runWorldAdds_inv : ∀ (fs : List Feature) (w : World), WInv w → ∃ w', runWorldAdds w fs = some w' ∧ WInv w' := by
  intro fs w hw
  fun_induction runWorldAdds w fs with
  | case1 w => exact ⟨w, rfl, hw⟩
  | case2 w f fs w1 h1 ih => obtain ⟨w', e, hw', _⟩ := world_add_inv w f hw; cases h1 ▸ e; exact ih hw'
  | case3 w f fs h1 => obtain ⟨w1, e, _⟩ := world_add_inv w f hw; cases h1 ▸ e

/-- edits of a mutable overlay world: `AddFeature` and `Snapshot` -/
inductive OOp where
  | add (f : Feature)
  | snap

def runOOps : Overlay → List OOp → Option Overlay
  | o, [] => some o
  | o, .add f :: ops => match o.add f with
    | some o' => runOOps o' ops
    | none => none
  | o, .snap :: ops => runOOps o.snapshot ops

theorem runOOps_inv : ∀ (ops : List OOp) (o : Overlay), OInv o → ∃ o', runOOps o ops = some o' ∧ OInv o' := by
  intro ops o ho
  fun_induction runOOps o ops with
  | case1 o => exact ⟨o, rfl, ho⟩
  | case2 o f ops o1 h1 ih => obtain ⟨o', e, ho', _⟩ := overlay_add_inv o f ho; cases h1 ▸ e; exact ih ho'
  | case3 o f ops h1 => obtain ⟨o1, e, _⟩ := overlay_add_inv o f ho; cases h1 ▸ e
  | case4 o ops ih => exact ih (oinv_init _ (uniq_merged o ho.uniq ho.uniqBase))

/-- edits of a mutable overlay world including the tag edits that copy a base feature up -/
inductive TOp where
  | add (f : Feature)
  | snap
  | copyUp (id : Id)

def runTOps : Overlay → List TOp → Option Overlay
  | o, [] => some o
  | o, .add f :: ops => match o.add f with
    | some o' => runTOps o' ops
    | none => none
  | o, .snap :: ops => runTOps o.snapshot ops
  | o, .copyUp id :: ops => runTOps (o.copyUp id) ops

theorem runTOps_index : ∀ (ops : List TOp) (o : Overlay), Inv o.ix o.feats → Uniq o.feats → Uniq o.base →
    ∃ o', runTOps o ops = some o' ∧ Inv o'.ix o'.feats ∧ Uniq o'.feats ∧ Uniq o'.base := by
  intro ops o h1 h2 h3
  fun_induction runTOps o ops with
  | case1 o => exact ⟨o, rfl, h1, h2, h3⟩
  | case2 o f ops o1 e ih =>
    obtain ⟨o', e1, i1, u1, b1⟩ := overlay_add_index o f h1 h2 h3
    cases e ▸ e1; exact ih i1 u1 (b1 ▸ h3)
  | case3 o f ops e => obtain ⟨o', e1, _⟩ := overlay_add_index o f h1 h2 h3; cases e ▸ e1
  | case4 o ops ih => exact ih Inv_empty (by simp [Uniq, Overlay.snapshot]) (uniq_merged o h2 h3)
  | case5 o id ops ih =>
    obtain ⟨i1, u1, b1⟩ := copyUp_index o id h1 h2
    exact ih i1 u1 (b1 ▸ h3)

end B6.Lemmas.RefWorld
