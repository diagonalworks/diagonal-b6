import B6.Model.Pbf
import B6.Lemmas.Basic.List
/-!
For C27: what the writer of `Model/Pbf.lean` (osm/pbf.go) writes, the reader reads back.  The writer keeps `Inv w done`: the blocks
written so far and the group being assembled read, block by block (`chunks`), as `done`.  A `Write…` call enters the group kind
(`enter_Inv`), appends one element (`append…_Inv`) and may flush.  The string table of a block only grows (`<+:`), so what was encoded
against an earlier table still decodes (`Reads`, the `mono` lemmas).
-/
namespace B6.Lemmas.Pbf
open B6.Model.Pbf
open B6.Lemmas.Basic (getElem?_append_of_some lt_length_of_getElem?)

theorem deltaDec_deltaEnc (l : Int64) (xs : List Int64) : deltaDec l (deltaEnc l xs) = xs := by
  induction xs generalizing l with
  | nil => rfl
  | cons x xs ih => simp [deltaEnc, deltaDec, Int64.sub_add_cancel, ih]

theorem deltaEnc_length (l : Int64) (xs : List Int64) : (deltaEnc l xs).length = xs.length := by
  induction xs generalizing l with
  | nil => rfl
  | cons x xs ih => simp [deltaEnc, ih]

theorem add_sub_cancel_left' (a b : Int64) : a + (b - a) = b := by
  rw [Int64.add_comm, Int64.sub_add_cancel]

theorem getElem?_of_prefix {α : Type} {S T : List α} {i : Nat} {x : α} (h : S <+: T) (hx : S[i]? = some x) :
    T[i]? = some x := by
  obtain ⟨X, rfl⟩ := h
  exact getElem?_append_of_some hx X

theorem indexOf_some {s : Str} {S : List Str} {i : Nat} (h : indexOf s S = some i) : S[i]? = some s := by
  fun_induction indexOf s S generalizing i with
  | case1 => cases h
  | case2 xs =>
    cases h
    rfl
  | case3 x xs hx ih =>
    obtain ⟨j, hj, rfl⟩ := Option.map_eq_some_iff.mp h
    exact ih hj

theorem lookup_spec (S : List Str) (s : Str) :
    S <+: (lookup S s).2 ∧ ("" :: (lookup S s).2)[(lookup S s).1]? = some s ∧ (lookup S s).1 ≠ 0 := by
  fun_cases lookup S s with
  | case1 i h => exact ⟨List.prefix_refl S, by simpa using indexOf_some h, by simp⟩
  | case2 h => exact ⟨List.prefix_append S [s], by simp, by simp⟩

inductive All2 {α β : Type} (R : α → β → Prop) : List α → List β → Prop
  | nil : All2 R [] []
  | cons {a b as bs} : R a b → All2 R as bs → All2 R (a :: as) (b :: bs)

theorem All2.append {α β : Type} {R : α → β → Prop} {as bs as' bs'} (h : All2 R as bs) (h' : All2 R as' bs') :
    All2 R (as ++ as') (bs ++ bs') := by
  induction h with
  | nil => exact h'
  | cons h _ ih => exact .cons h ih

theorem All2.imp {α β : Type} {R R' : α → β → Prop} {as bs} (f : ∀ a b, R a b → R' a b) (h : All2 R as bs) :
    All2 R' as bs := by
  induction h with
  | nil => exact .nil
  | cons h _ ih => exact .cons (f _ _ h) ih

theorem All2.length_eq {α β : Type} {R : α → β → Prop} {as bs} (h : All2 R as bs) : as.length = bs.length := by
  induction h with
  | nil => rfl
  | cons _ _ ih => simp [ih]

def PairOK (T : List Str) (p : Nat × Nat) (t : Tag) : Prop :=
  T[p.1]? = some t.key ∧ T[p.2]? = some t.value ∧ p.1 ≠ 0

def PairsOK (T : List Str) (ps : List (Nat × Nat)) (ts : List Tag) : Prop := All2 (PairOK T) ps ts

theorem PairOK.mono {T T' p t} (hT : T <+: T') (h : PairOK T p t) : PairOK T' p t :=
  ⟨getElem?_of_prefix hT h.1, getElem?_of_prefix hT h.2.1, h.2.2⟩

theorem PairsOK.mono {T T' ps ts} (hT : T <+: T') (h : PairsOK T ps ts) : PairsOK T' ps ts :=
  All2.imp (fun _ _ h => h.mono hT) h

theorem table_prefix {S S' : List Str} (h : S <+: S') : ("" :: S) <+: ("" :: S') := (List.prefix_cons_inj "").mpr h

theorem encTags_spec (S : List Str) (tags : List Tag) :
    S <+: (encTags S tags).2 ∧ PairsOK ("" :: (encTags S tags).2) (encTags S tags).1 tags := by
  induction tags generalizing S with
  | nil => exact ⟨List.prefix_refl S, All2.nil⟩
  | cons t ts ih =>
    obtain ⟨h1, hk, hk0⟩ := lookup_spec S t.key
    obtain ⟨h2, hv, _⟩ := lookup_spec (lookup S t.key).2 t.value
    obtain ⟨h3, hps⟩ := ih (lookup (lookup S t.key).2 t.value).2
    simp only [encTags]
    exact ⟨h1.trans (h2.trans h3), All2.cons ⟨getElem?_of_prefix (table_prefix (h2.trans h3)) hk,
      getElem?_of_prefix (table_prefix h3) hv, hk0⟩ hps⟩

theorem fillTagsGo_of_pairsOK {T ps ts} (h : PairsOK T ps ts) :
    fillTagsGo T (ps.map (·.1)) (ps.map (·.2)) = .ok ts := by
  induction h with
  | nil => rfl
  | cons h _ ih =>
    simp only [List.map_cons, fillTagsGo, h.1, h.2.1, ih]
    rfl

theorem fillTags_of_pairsOK {T ps ts} (h : PairsOK T ps ts) :
    fillTags T (ps.map (·.1)) (ps.map (·.2)) = .ok ts := by
  simp [fillTags, fillTagsGo_of_pairsOK h]

theorem takeTags_of_pairsOK {T ps ts} (rest : List Nat) (h : PairsOK T ps ts) :
    takeTags T (kvOf ps ++ 0 :: rest) = .ok (ts, rest) := by
  induction h with
  | nil => simp [kvOf, takeTags]
  | @cons p t ps ts h _ ih =>
    obtain ⟨k, v⟩ := p
    have hk : k ≠ 0 := h.2.2
    obtain ⟨k', rfl⟩ : ∃ k', k = k' + 1 := ⟨k - 1, by omega⟩
    have h1 := h.1; have h2 := h.2.1
    dsimp only at h1 h2
    simp only [kvOf, List.cons_append, takeTags, h1, h2, ih]
    rfl

def RolesOK (T : List Str) (rs : List Nat) (ms : List Member) : Prop :=
  All2 (fun r (m : Member) => T[r]? = some m.role) rs ms

theorem RolesOK.mono {T T' rs ms} (hT : T <+: T') (h : RolesOK T rs ms) : RolesOK T' rs ms :=
  All2.imp (fun _ _ h => getElem?_of_prefix hT h) h

theorem encRoles_spec (S : List Str) (ms : List Member) :
    S <+: (encRoles S ms).2 ∧ RolesOK ("" :: (encRoles S ms).2) (encRoles S ms).1 ms := by
  induction ms generalizing S with
  | nil => exact ⟨List.prefix_refl S, All2.nil⟩
  | cons m ms ih =>
    obtain ⟨h1, hr, _⟩ := lookup_spec S m.role
    obtain ⟨h2, hrs⟩ := ih (lookup S m.role).2
    simp only [encRoles]
    exact ⟨h1.trans h2, All2.cons (getElem?_of_prefix (table_prefix h2) hr) hrs⟩

theorem memberType?_typeCode (t : MType) : memberType? (typeCode t) = some t := by
  cases t <;> rfl

theorem fillMembers_of_rolesOK {T rs ms} (l : Int64) (h : RolesOK T rs ms) :
    fillMembers T l (deltaEnc l (ms.map (·.id))) (ms.map (typeCode ·.type)) rs = .ok ms := by
  induction h generalizing l with
  | nil => rfl
  | @cons r m rs ms h _ ih =>
    simp only [List.map_cons, deltaEnc, fillMembers, memberType?_typeCode, h, Int64.sub_add_cancel, ih]
    rfl

/-! ### ways and relations as encoded by the writer decode under every extension of the string table -/

def Reads {α : Type} (fill : Opts → Block → α → Except Fail Element) (T : List Str) (x : α) (e : Element) : Prop :=
  ∀ b : Block, T <+: b.strings → fill {} b x = .ok e

theorem Reads.mono {α : Type} {fill : Opts → Block → α → Except Fail Element} {T T' x e} (hT : T <+: T')
    (h : Reads fill T x e) : Reads fill T' x e :=
  fun b hb => h b (hT.trans hb)

theorem Reads.snoc {α : Type} {fill : Opts → Block → α → Except Fail Element} {T T' xs es x e} (hT : T <+: T')
    (h : All2 (Reads fill T) xs es) (hx : Reads fill T' x e) : All2 (Reads fill T') (xs ++ [x]) (es ++ [e]) :=
  (All2.imp (fun _ _ h => h.mono hT) h).append (.cons hx .nil)

theorem emitEach_reads {α : Type} {fill : Opts → Block → α → Except Fail Element} {xs es} (b : Block)
    (h : All2 (Reads fill b.strings) xs es) : emitEach (fill {} b) xs = ⟨es, none⟩ := by
  induction h with
  | nil => rfl
  | cons h _ ih => simp [emitEach, h b (List.prefix_refl _), ih, Res.cons]

theorem reads_way {T ps tags} (id : Int64) (nodes : List Int64) (h : PairsOK T ps tags) :
    Reads fillWay T { id := id, refs := deltaEnc 0 nodes, keys := ps.map (·.1), vals := ps.map (·.2) } (.way id nodes tags) := by
  intro b hb
  simp [fillWay, tagsOrSkip, fillTags_of_pairsOK (h.mono hb), deltaDec_deltaEnc]
  rfl

theorem reads_rel {T rs ps tags} (id : Int64) (ms : List Member) (hr : RolesOK T rs ms) (h : PairsOK T ps tags) :
    Reads fillRelation T
      { id := id, memids := deltaEnc 0 (ms.map (·.id)), types := ms.map (typeCode ·.type), roles := rs,
        keys := ps.map (·.1), vals := ps.map (·.2) } (.relation id ms tags) := by
  intro b hb
  have hl : rs.length = ms.length := All2.length_eq hr
  simp [fillRelation, tagsOrSkip, fillTags_of_pairsOK (h.mono hb), deltaEnc_length, hl,
    fillMembers_of_rolesOK 0 (hr.mono hb)]
  rfl

/-- a node as the writer sees it after the string lookups: coordinates in granularity units, tag index pairs -/
structure INode where
  id : Int64
  qlat : Int64
  qlon : Int64
  ps : List (Nat × Nat)
  tags : List Tag

def seg (n : INode) : List Nat := kvOf n.ps ++ [0]

/-- the dense arrays for a run of nodes, front to back, starting from the delta bases `lid llat llon` -/
def encDense (lid llat llon : Int64) : List INode → Dense
  | [] => {}
  | n :: ns =>
    let d := encDense n.id n.qlat n.qlon ns
    { id := (n.id - lid) :: d.id, lat := (n.qlat - llat) :: d.lat, lon := (n.qlon - llon) :: d.lon,
      keysVals := seg n ++ d.keysVals }

def lastOf (lid llat llon : Int64) : List INode → Int64 × Int64 × Int64
  | [] => (lid, llat, llon)
  | n :: ns => lastOf n.id n.qlat n.qlon ns

theorem encDense_snoc (lid llat llon : Int64) (ns : List INode) (n : INode) :
    encDense lid llat llon (ns ++ [n]) =
      { id := (encDense lid llat llon ns).id ++ [n.id - (lastOf lid llat llon ns).1],
        lat := (encDense lid llat llon ns).lat ++ [n.qlat - (lastOf lid llat llon ns).2.1],
        lon := (encDense lid llat llon ns).lon ++ [n.qlon - (lastOf lid llat llon ns).2.2],
        keysVals := (encDense lid llat llon ns).keysVals ++ seg n } := by
  induction ns generalizing lid llat llon with
  | nil => simp [encDense, lastOf]
  | cons m ms ih => simp [encDense, lastOf, ih]

theorem lastOf_snoc (lid llat llon : Int64) (ns : List INode) (n : INode) :
    lastOf lid llat llon (ns ++ [n]) = (n.id, n.qlat, n.qlon) := by
  induction ns generalizing lid llat llon with
  | nil => rfl
  | cons m ms ih => simp [lastOf, ih]

theorem encDense_keysVals (lid llat llon : Int64) (ns : List INode) :
    (encDense lid llat llon ns).keysVals = (ns.map seg).flatten := by
  induction ns generalizing lid llat llon with
  | nil => rfl
  | cons m ms ih => simp [encDense, ih]

theorem encDense_id_length (lid llat llon : Int64) (ns : List INode) :
    (encDense lid llat llon ns).id.length = ns.length := by
  induction ns generalizing lid llat llon with
  | nil => rfl
  | cons m ms ih => simp [encDense, ih]

def nodeOf (b : Block) (n : INode) : Element :=
  .node n.id (decodeAngle n.qlat b.latOffset b.granularity) (decodeAngle n.qlon b.lonOffset b.granularity) n.tags

theorem readDense_encDense (b : Block) (lid llat llon : Int64) (ns : List INode)
    (h : ∀ n ∈ ns, PairsOK b.strings n.ps n.tags) :
    readDense {} b lid llat llon (encDense lid llat llon ns).id (encDense lid llat llon ns).lat
      (encDense lid llat llon ns).lon (encDense lid llat llon ns).keysVals = ⟨ns.map (nodeOf b), none⟩ := by
  induction ns generalizing lid llat llon with
  | nil => rfl
  | cons n ns ih =>
    have hn : PairsOK b.strings n.ps n.tags := h n (by simp)
    have ih' := ih n.id n.qlat n.qlon (fun m hm => h m (by simp [hm]))
    simp only [encDense, readDense, seg, List.append_assoc, List.singleton_append,
      takeTags_of_pairsOK _ hn, Int64.sub_add_cancel]
    simp [ih', Res.cons, nodeOf]

theorem restAfter_segs (T : List Str) (ns : List INode) (h : ∀ n ∈ ns, PairsOK T n.ps n.tags) (k : Nat)
    (hk : k ≤ ns.length) :
    restAfter T k (ns.map seg).flatten = .ok ((ns.drop k).map seg).flatten := by
  induction k generalizing ns with
  | zero => rfl
  | succ k ih =>
    match ns, hk with
    | n :: ns, hk =>
      have hn : PairsOK T n.ps n.tags := h n (by simp)
      simp only [List.map_cons, List.flatten_cons, seg, List.append_assoc, List.singleton_append, restAfter,
        takeTags_of_pairsOK _ hn, List.drop_succ_cons]
      exact ih ns (fun m hm => h m (by simp [hm])) (by simpa using hk)

theorem andThen_of_ok {r : Res} (h : r.fail = none) (k : Unit → Res) :
    r.andThen k = ⟨r.out ++ (k ()).out, (k ()).fail⟩ := by
  rw [Res.andThen, h]

def AlignedBlock (b : Block) : Prop :=
  ∀ g ∈ b.groups, ∀ d, g.dense = some d →
    ∃ ns : List INode, d = encDense 0 0 0 ns ∧ ∀ n ∈ ns, PairsOK b.strings n.ps n.tags

def chunks (bs : List Block) : List Element := (bs.map fun b => (readBlock {} b).out).flatten

def BlocksOK (bs : List Block) : Prop := ∀ b ∈ bs, (readBlock {} b).fail = none ∧ AlignedBlock b

theorem readAll_ok {bs : List Block} (h : ∀ b ∈ bs, (readBlock {} b).fail = none) : readAll {} bs = ⟨chunks bs, none⟩ := by
  induction bs with
  | nil => rfl
  | cons b bs ih =>
    rw [readAll, andThen_of_ok (h b List.mem_cons_self), ih fun x hx => h x (List.mem_cons_of_mem _ hx)]
    simp [chunks]

/-- what the group being assembled will read as -/
def Pending (w : Writer) (d2 : List Element) : Prop :=
  match w.state with
  | .new => d2 = []
  | .dense => ∃ ns : List INode, w.dense = encDense 0 0 0 ns ∧ (w.lastID, w.lastLat, w.lastLon) = lastOf 0 0 0 ns ∧
      (∀ n ∈ ns, PairsOK ("" :: w.strings) n.ps n.tags) ∧ d2 = ns.map (nodeOf w.block)
  | .ways => All2 (Reads fillWay ("" :: w.strings)) w.waysRev.reverse d2
  | .rels => All2 (Reads fillRelation ("" :: w.strings)) w.relsRev.reverse d2

def Inv (w : Writer) (done : List Element) : Prop :=
  ∃ d2, Pending w d2 ∧ done = chunks w.out ++ d2 ∧ BlocksOK w.out

theorem readBlock_single (b : Block) (g : Group) (hg : b.groups = [g]) :
    readBlock {} b = ⟨(readGroup {} b g).out, (readGroup {} b g).fail⟩ := by
  simp only [readBlock, hg, readGroups, Res.andThen]
  cases (readGroup {} b g).fail <;> simp

theorem pending_read {w : Writer} {d2 : List Element} (h : Pending w d2) (hs : w.state ≠ .new) :
    readBlock {} w.block = ⟨d2, none⟩ := by
  rw [readBlock_single w.block w.group rfl]
  unfold Pending at h
  cases hst : w.state with
  | new => exact absurd hst hs
  | dense =>
    rw [hst] at h
    obtain ⟨ns, hd, _, hok, rfl⟩ := h
    have := readDense_encDense w.block 0 0 0 ns hok
    simp [readGroup, Writer.group, hst, emitEach, Res.andThen, hd, this]
  | ways =>
    rw [hst] at h
    simp [readGroup, Writer.group, hst, emitEach, Res.andThen, emitEach_reads w.block h]
  | rels =>
    rw [hst] at h
    simp [readGroup, Writer.group, hst, emitEach, Res.andThen, emitEach_reads w.block h]

theorem pending_aligned {w : Writer} {d2 : List Element} (h : Pending w d2) : AlignedBlock w.block := by
  intro g hg d hd
  simp only [Writer.block, List.mem_singleton] at hg
  subst hg
  unfold Pending at h
  cases hst : w.state with
  | dense =>
    rw [hst] at h
    obtain ⟨ns, hd', _, hok, _⟩ := h
    simp only [Writer.group, hst, Option.some.injEq] at hd
    exact ⟨ns, by rw [← hd, hd'], hok⟩
  | new => simp [Writer.group, hst] at hd
  | ways => simp [Writer.group, hst] at hd
  | rels => simp [Writer.group, hst] at hd

theorem flush_spec {w : Writer} {done : List Element} (h : Inv w done) :
    chunks w.flush.out = done ∧ BlocksOK w.flush.out ∧ w.flush.state = .new := by
  obtain ⟨d2, hp, rfl, ha⟩ := h
  by_cases hst : w.state = .new
  · have : d2 = [] := by simpa [Pending, hst] using hp
    subst this
    simp only [Writer.flush, hst, Writer.out, List.append_nil] at *
    exact ⟨trivial, ha, trivial⟩
  · have hr := pending_read hp hst
    unfold Writer.flush
    split
    · exact absurd ‹_› hst
    simp only [Writer.out, List.reverse_cons] at *
    refine ⟨by simp [chunks, hr], ?_, trivial⟩
    exact List.forall_mem_append.mpr ⟨ha, List.forall_mem_singleton.mpr ⟨by rw [hr], pending_aligned hp⟩⟩

theorem flush_Inv {w : Writer} {done : List Element} (h : Inv w done) : Inv w.flush done := by
  obtain ⟨h1, h2, h3⟩ := flush_spec h
  exact ⟨[], by simp [Pending, h3], by simp [h1], h2⟩

/-- a change of element type: unless the writer is in state `st` already it flushes and goes on with a fresh group `w'` -/
theorem enter_Inv {w w' : Writer} {done : List Element} (st : WState) (h : Inv w done)
    (hout : w'.outRev = w.flush.outRev) (hst : w'.state = st) (hp : Pending w' []) :
    Inv (if w.state = st then w else w') done ∧ (if w.state = st then w else w').state = st := by
  split
  · exact ⟨h, ‹_›⟩
  · obtain ⟨h1, h2, -⟩ := flush_spec h
    exact ⟨⟨[], hp, by simp [Writer.out, hout, ← h1], by simpa [Writer.out, hout] using h2⟩, hst⟩

theorem ite_flush_Inv {w : Writer} {done : List Element} (c : Prop) [Decidable c] (h : Inv w done) :
    Inv (if c then w.flush else w) done := by
  split
  · exact flush_Inv h
  · exact h

/-- a step that leaves the blocks alone and lets the pending group read one element more -/
theorem Inv.append {w w' : Writer} {done : List Element} {e : Element} (h : Inv w done) (hout : w'.outRev = w.outRev)
    (hp : ∀ d2, Pending w d2 → Pending w' (d2 ++ [e])) : Inv w' (done ++ [e]) := by
  obtain ⟨d2, h1, rfl, h3⟩ := h
  exact ⟨d2 ++ [e], hp d2 h1, by simp [Writer.out, hout], by simpa [Writer.out, hout] using h3⟩

def enterDense (w : Writer) : Writer :=
  if w.state = .dense then w else
    { w.flush with state := .dense, idRev := [], latRev := [], lonRev := [], kvRev := [],
                   lastID := 0, lastLat := 0, lastLon := 0 }

def appendNode (w : Writer) (id lat lon : Int64) (tags : List Tag) : Writer :=
  let dLat := encodeAngle lat 0 defaultGranularity - w.lastLat
  let dLon := encodeAngle lon 0 defaultGranularity - w.lastLon
  { w with
    idRev := (id - w.lastID) :: w.idRev, latRev := dLat :: w.latRev, lonRev := dLon :: w.lonRev,
    kvRev := 0 :: ((kvOf (encTags w.strings tags).1).reverse ++ w.kvRev),
    lastID := id, lastLat := w.lastLat + dLat, lastLon := w.lastLon + dLon, strings := (encTags w.strings tags).2 }

theorem writeNode_eq (w : Writer) (id lat lon : Int64) (tags : List Tag) :
    w.writeNode id lat lon tags =
      if (appendNode (enterDense w) id lat lon tags).idRev.length ≥ elementsPerGroup
      then (appendNode (enterDense w) id lat lon tags).flush else appendNode (enterDense w) id lat lon tags := rfl

theorem appendNode_Inv {w : Writer} {done : List Element} (h : Inv w done) (hs : w.state = .dense)
    (id lat lon : Int64) (tags : List Tag) :
    Inv (appendNode w id lat lon tags) (done ++ [quantise (.node id lat lon tags)]) := by
  refine h.append rfl fun d2 hp => ?_
  have hst : (appendNode w id lat lon tags).state = .dense := hs
  simp only [Pending, hs, hst] at hp ⊢
  obtain ⟨ns, hd, hl, hok, rfl⟩ := hp
  obtain ⟨hX, hps⟩ := encTags_spec w.strings tags
  let n : INode := ⟨id, encodeAngle lat 0 defaultGranularity, encodeAngle lon 0 defaultGranularity,
    (encTags w.strings tags).1, tags⟩
  refine ⟨ns ++ [n], ?_, ?_, ?_, by simp [nodeOf, Writer.block, quantise, quantCoord, n]⟩
  · rw [encDense_snoc, ← hd, ← hl]
    simp [appendNode, Writer.dense, seg, n]
  · rw [lastOf_snoc]
    simp [appendNode, add_sub_cancel_left', n]
  · exact List.forall_mem_append.2 ⟨fun m hm => (hok m hm).mono (table_prefix hX), List.forall_mem_singleton.2 hps⟩

def enterWays (w : Writer) : Writer :=
  if w.state = .ways then w else { w.flush with state := .ways, waysRev := [] }

def appendWay (w : Writer) (id : Int64) (nodes : List Int64) (tags : List Tag) : Writer :=
  { w with
    waysRev := { id := id, refs := deltaEnc 0 nodes, keys := (encTags w.strings tags).1.map (·.1),
                 vals := (encTags w.strings tags).1.map (·.2) } :: w.waysRev,
    strings := (encTags w.strings tags).2 }

theorem writeWay_eq (w : Writer) (id : Int64) (nodes : List Int64) (tags : List Tag) :
    w.writeWay id nodes tags =
      if (appendWay (enterWays w) id nodes tags).waysRev.length ≥ elementsPerGroup
      then (appendWay (enterWays w) id nodes tags).flush else appendWay (enterWays w) id nodes tags := rfl

theorem appendWay_Inv {w : Writer} {done : List Element} (h : Inv w done) (hs : w.state = .ways)
    (id : Int64) (nodes : List Int64) (tags : List Tag) :
    Inv (appendWay w id nodes tags) (done ++ [quantise (.way id nodes tags)]) := by
  refine h.append rfl fun d2 hp => ?_
  have hst : (appendWay w id nodes tags).state = .ways := hs
  simp only [Pending, hs, hst] at hp ⊢
  obtain ⟨hX, hps⟩ := encTags_spec w.strings tags
  simp only [appendWay, List.reverse_cons]
  exact Reads.snoc (table_prefix hX) hp (reads_way id nodes hps)

def enterRels (w : Writer) : Writer :=
  if w.state = .rels then w else { w.flush with state := .rels, relsRev := [] }

def appendRel (w : Writer) (id : Int64) (members : List Member) (tags : List Tag) : Writer :=
  let S1 := (encRoles w.strings members).2
  { w with
    relsRev := { id := id, memids := deltaEnc 0 (members.map (·.id)), types := members.map (typeCode ·.type),
                 roles := (encRoles w.strings members).1, keys := (encTags S1 tags).1.map (·.1),
                 vals := (encTags S1 tags).1.map (·.2) } :: w.relsRev,
    strings := (encTags S1 tags).2 }

theorem writeRelation_eq (w : Writer) (id : Int64) (members : List Member) (tags : List Tag) :
    w.writeRelation id members tags =
      if (appendRel (enterRels w) id members tags).relsRev.length ≥ elementsPerGroup
      then (appendRel (enterRels w) id members tags).flush else appendRel (enterRels w) id members tags := rfl

theorem appendRel_Inv {w : Writer} {done : List Element} (h : Inv w done) (hs : w.state = .rels)
    (id : Int64) (members : List Member) (tags : List Tag) :
    Inv (appendRel w id members tags) (done ++ [quantise (.relation id members tags)]) := by
  refine h.append rfl fun d2 hp => ?_
  have hst : (appendRel w id members tags).state = .rels := hs
  simp only [Pending, hs, hst] at hp ⊢
  obtain ⟨hX1, hrs⟩ := encRoles_spec w.strings members
  obtain ⟨hX2, hps⟩ := encTags_spec (encRoles w.strings members).2 tags
  simp only [appendRel, List.reverse_cons]
  exact Reads.snoc (table_prefix (hX1.trans hX2)) hp (reads_rel id members (hrs.mono (table_prefix hX2)) hps)

theorem write_Inv {w : Writer} {done : List Element} (h : Inv w done) (e : Element) :
    Inv (w.write e) (done ++ [quantise e]) := by
  cases e with
  | node id lat lon tags =>
    rw [Writer.write, writeNode_eq]
    have e : Inv (enterDense w) done ∧ _ := enter_Inv .dense h rfl rfl ⟨[], rfl, rfl, by simp, rfl⟩
    exact ite_flush_Inv _ (appendNode_Inv e.1 e.2 id lat lon tags)
  | way id nodes tags =>
    rw [Writer.write, writeWay_eq]
    have e : Inv (enterWays w) done ∧ _ := enter_Inv .ways h rfl rfl All2.nil
    exact ite_flush_Inv _ (appendWay_Inv e.1 e.2 id nodes tags)
  | relation id members tags =>
    rw [Writer.write, writeRelation_eq]
    have e : Inv (enterRels w) done ∧ _ := enter_Inv .rels h rfl rfl All2.nil
    exact ite_flush_Inv _ (appendRel_Inv e.1 e.2 id members tags)

theorem foldl_Inv {w : Writer} {done : List Element} (h : Inv w done) (es : List Element) :
    Inv (es.foldl Writer.write w) (done ++ es.map quantise) := by
  induction es generalizing w done with
  | nil => simpa using h
  | cons e es ih =>
    have := ih (write_Inv h e)
    simpa using this

theorem init_Inv : Inv {} [] := ⟨[], rfl, rfl, by simp [Writer.out, BlocksOK]⟩

theorem writeAll_blocks (es : List Element) : chunks (writeAll es) = es.map quantise ∧ BlocksOK (writeAll es) := by
  have h := flush_spec (foldl_Inv init_Inv es)
  simp only [List.nil_append] at h
  exact ⟨h.1, h.2.1⟩

theorem tdiv100 (x : Int) :
    (x - 100 < 100 * x.tdiv 100 ∧ 100 * x.tdiv 100 < x + 100) ∧
      (x ≤ 100 * x.tdiv 100 ∨ 0 ≤ 100 * x.tdiv 100) ∧ (100 * x.tdiv 100 ≤ x ∨ 100 * x.tdiv 100 ≤ 0) := by
  -- the remainder is below 100 in absolute value and has the sign of `x`
  have h := Int.mul_tdiv_add_tmod x 100
  have h1 := Int.tmod_lt_of_pos x (b := 100) (by decide)
  have h2 := Int.lt_tmod_of_pos x (b := 100) (by decide)
  have h3 : 0 ≤ x → 0 ≤ x.tmod 100 := Int.tmod_nonneg 100
  have h4 : x ≤ 0 → x.tmod 100 ≤ 0 := fun hx => by
    have := Int.tmod_nonneg 100 (a := -x) (by omega)
    rw [Int.neg_tmod] at this; omega
  omega

theorem quantCoord_toInt (n : Int64) : (quantCoord n).toInt = 100 * (n.toInt.tdiv 100) := by
  have hlo := Int64.le_toInt n
  have hhi := Int64.toInt_lt n
  have h100 : (100 : Int64).toInt = 100 := by decide
  have hb (y : Int) (h1 : n.toInt ≤ y ∨ 0 ≤ y) (h2 : y ≤ n.toInt ∨ y ≤ 0) : y.bmod (2^64) = y :=
    Int.bmod_eq_of_le (m := 2^64) (by omega) (by omega)
  obtain ⟨_, h1, h2⟩ := tdiv100 n.toInt
  unfold quantCoord decodeAngle encodeAngle defaultGranularity
  rw [Int64.sub_zero, Int64.zero_add, Int64.toInt_mul, Int64.toInt_div, h100,
    hb (n.toInt.tdiv 100) (by omega) (by omega), hb _ h1 h2]

theorem shuffle_single {α : Type} {ss : List (List α)} {glob : List α} (k0 : Nat)
    (h : Shuffle ss glob) (hothers : ∀ k s, k ≠ k0 → ss[k]? = some s → s = []) :
    glob = (ss[k0]?).getD [] := by
  induction h with
  | @nil ss hall =>
    cases hk : ss[k0]? with
    | none => rfl
    | some s => simp [hall s (List.mem_of_getElem? hk)]
  | @cons ss k x rest out hk _ ih =>
    have hk0 : k = k0 := by
      by_cases hne : k = k0
      · exact hne
      · have := hothers k _ hne hk
        cases this
    subst hk0
    have := ih (by
      intro k' s hne hs
      rw [List.getElem?_set_ne (Ne.symm hne)] at hs
      exact hothers k' s hne hs)
    rw [this, hk]
    simp [List.getElem?_set_self (lt_length_of_getElem? hk)]

/-- the stream of goroutine `k`: the body of `readCores` -/
def streamOf (bs : List Block) (assign : List Nat) (k : Nat) : List Element :=
  ((bs.zip assign).filter (fun p => p.2 == k)).flatMap (fun p => (readBlock {} p.1).out)

theorem readCores_get (bs : List Block) (assign : List Nat) (g k : Nat) :
    (readCores {} bs assign g)[k]? = if k < g then some (streamOf bs assign k) else none := by
  unfold readCores streamOf
  by_cases h : k < g
  · simp [h]
  · simp [h]

theorem streamOf_all (bs : List Block) (assign : List Nat) (k : Nat) (hlen : assign.length = bs.length)
    (hall : ∀ a ∈ assign, a = k) :
    streamOf bs assign k = chunks bs := by
  unfold streamOf chunks
  induction bs generalizing assign with
  | nil => simp
  | cons b bs ih =>
    cases assign with
    | nil => simp at hlen
    | cons a as =>
      have ha : a = k := hall a (by simp)
      have := ih as (by simpa using hlen) (fun x hx => hall x (by simp [hx]))
      simp [ha, this]

theorem streamOf_other (bs : List Block) {assign : List Nat} {k0 k : Nat} (hall : ∀ a ∈ assign, a = k0) (hk : k ≠ k0) :
    streamOf bs assign k = [] := by
  unfold streamOf
  rw [List.filter_eq_nil_iff.mpr, List.flatMap_nil]
  intro p hp
  have := hall p.2 (List.of_mem_zip hp).2
  simp only [beq_iff_eq]
  omega

/-- outside the class all blocks go to one goroutine `k0`: the other streams are empty, and the shuffle is the
stream of `k0`, which is the blocks in order -/
theorem total_order_of_single (bs : List Block) (g : Nat) (assign : List Nat) (glob : List Element)
    (hlen : assign.length = bs.length) (hlt : ∀ a ∈ assign, a < g) (hc : crossBlockClass g bs.length = false)
    (h : Shuffle (readCores {} bs assign g) glob) : glob = chunks bs := by
  simp only [crossBlockClass, Bool.and_eq_false_iff, decide_eq_false_iff_not, Nat.not_lt] at hc
  obtain ⟨k0, hall⟩ : ∃ k0, ∀ a ∈ assign, a = k0 := by
    rcases hc with hg | hb
    · exact ⟨0, fun a ha => by have := hlt a ha; omega⟩
    · match assign, hlen ▸ hb with
      | [], _ => exact ⟨0, by simp⟩
      | [a], _ => exact ⟨a, by simp⟩
  rw [shuffle_single k0 h, readCores_get]
  · split
    · rw [Option.getD_some, streamOf_all bs assign k0 hlen hall]
    · next hk0 =>
      have : assign = [] := List.eq_nil_iff_forall_not_mem.mpr fun a ha => hk0 (hall a ha ▸ hlt a ha)
      subst this
      rw [List.length_eq_zero_iff.mp hlen.symm]; rfl
  · intro k s hk hs
    rw [readCores_get] at hs
    split at hs <;> cases hs
    exact streamOf_other bs hall hk

end B6.Lemmas.Pbf
