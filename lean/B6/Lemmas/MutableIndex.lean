import B6.Lemmas.Mutable
import B6.Lemmas.Basic.Sorted
import B6.Lemmas.Basic.List
/-!
Posting lists and tokens of `MutableOverlayWorld`'s search index, the index invariant and its preservation
(C12 `index_inv_step`), and what `FindFeatures` returns given the invariant.
-/
namespace B6.Model.Mutable
open B6.Lemmas.Basic (mem_look_foldl_or mem_look_foldl_and_not exists_mem_key)

/-! ## Sorted id lists, postings -/

/-- strictly increasing (what the AVL posting lists are, C07) -/
def Sorted (l : List Id) : Prop := l.Pairwise (· < ·)

theorem insertSorted_isSort : B6.Lemmas.Basic.IsInsertSet (fun a b : Id => a < b) (fun a b : Id => a = b) insertSorted
    (fun l => l.foldr insertSorted []) := ⟨fun _ => rfl, fun _ _ _ => rfl, id, rfl, fun _ _ => rfl⟩

theorem mem_insertSorted (x y : Id) (l : List Id) : y ∈ insertSorted x l ↔ y = x ∨ y ∈ l := insertSorted_isSort.mem_ins

theorem sorted_insertSorted (x : Id) (l : List Id) (h : Sorted l) : Sorted (insertSorted x l) :=
  insertSorted_isSort.ins_pairwise (fun h1 h2 => Nat.lt_of_le_of_ne (Nat.le_of_not_lt h1) (Ne.symm h2)) Nat.lt_trans x h

theorem postings_set (ix : List (Token × List Id)) (t : Token) (l : List Id) (t' : Token) :
    postings (AMap.set ix t l) t' = if t' = t then l else postings ix t' := by
  unfold postings
  rw [AMap.get_set]
  by_cases h : t' = t <;> simp [h]

theorem postings_indexAdd (id : Id) (ts : List Token) (ix : List (Token × List Id)) (t : Token) (y : Id) :
    y ∈ postings (indexAdd ix id ts) t ↔ (t ∈ ts ∧ y = id) ∨ y ∈ postings ix t :=
  (mem_look_foldl_or (look := postings) (D := fun a t y => t = a ∧ y = id) (fun ix a t y => by
    rw [postings_set]
    by_cases h : t = a
    · subst h; simp [mem_insertSorted, or_comm]
    · simp [h]) ts ix t y).trans ((or_congr_right exists_mem_key).trans or_comm)

theorem sorted_indexAdd (id : Id) (ts : List Token) (ix : List (Token × List Id)) (h : ∀ t, Sorted (postings ix t)) :
    ∀ t, Sorted (postings (indexAdd ix id ts) t) :=
  ts.foldlRecOn (motive := fun ix => ∀ t, Sorted (postings ix t)) _ h fun ix h a _ t => by
    rw [postings_set]
    split
    · exact sorted_insertSorted _ _ (h a)
    · exact h t

theorem indexRemove_step_postings (ix : List (Token × List Id)) (id : Id) (a t : Token) :
    postings (indexRemoveStep id ix a) t =
    if t = a then (postings ix a).filter (fun y => decide (y ≠ id)) else postings ix t := by
  unfold indexRemoveStep
  cases h : AMap.get ix a with
  | some l =>
    simp only [postings_set]
    by_cases ht : t = a
    · simp [ht, postings, h]
    · simp [ht]
  | none =>
    by_cases ht : t = a
    · simp [ht, postings, h]
    · simp [ht]

theorem postings_indexRemove (id : Id) (ts : List Token) (ix : List (Token × List Id)) (t : Token) (y : Id) :
    y ∈ postings (indexRemove ix id ts) t ↔ y ∈ postings ix t ∧ ¬ (t ∈ ts ∧ y = id) :=
  (mem_look_foldl_and_not (look := postings) (D := fun a t y => t = a ∧ y = id) (fun ix a t y => by
    rw [indexRemove_step_postings]
    by_cases h : t = a
    · subst h; simp
    · simp [h]) ts ix t y).trans (and_congr_right fun _ => not_congr exists_mem_key)

theorem sorted_indexRemove (id : Id) (ts : List Token) (ix : List (Token × List Id)) (h : ∀ t, Sorted (postings ix t)) :
    ∀ t, Sorted (postings (indexRemove ix id ts) t) :=
  ts.foldlRecOn (motive := fun ix => ∀ t, Sorted (postings ix t)) _ h fun ix h a _ t => by
    rw [indexRemove_step_postings]
    split
    · exact List.Pairwise.filter _ (h a)
    · exact h t

/-! ## Tokens determine keys (for keys without `=`) -/

/-- the keys the token argument needs: no `=` inside (true of every OSM-style key) -/
def keyOK (k : Key) : Prop := '=' ∉ k.toList

instance (k : Key) : Decidable (keyOK k) := inferInstanceAs (Decidable ('=' ∉ k.toList))

theorem tokenForTag_some {t : Tag} {tok : Token} (h : tokenForTag t = some tok) :
    (∃ r, t.1.toList = '#' :: r ∧ tok = String.ofList (r ++ '=' :: t.2.str.toList)) ∨
    (∃ r, t.1.toList = '@' :: r ∧ tok = String.ofList r) := by
  unfold tokenForTag at h
  split at h
  next r hr => exact .inl ⟨r, hr, (Option.some.inj h).symm⟩
  next r hr => exact .inr ⟨r, hr, (Option.some.inj h).symm⟩
  next => cases h

theorem token_key_inj {t1 t2 : Tag} {tok : Token} (h1 : tokenForTag t1 = some tok) (h2 : tokenForTag t2 = some tok)
    (k1 : keyOK t1.1) (k2 : keyOK t2.1) : t1.1 = t2.1 := by
  have hl : t1.1.toList = t2.1.toList := by
    unfold keyOK at k1 k2
    rcases tokenForTag_some h1 with ⟨r1, e1, rfl⟩ | ⟨r1, e1, rfl⟩ <;>
      rcases tokenForTag_some h2 with ⟨r2, e2, e⟩ | ⟨r2, e2, e⟩ <;>
      rw [e1] at k1 ⊢ <;> rw [e2] at k2 ⊢ <;> have e := String.ofList_injective e <;>
      simp only [List.mem_cons, not_or] at k1 k2
    · rw [(B6.Lemmas.Basic.append_cons_inj_of_not_mem k1.2 k2.2 e).1]
    · exact absurd (by rw [← e]; simp) k2.2
    · exact absurd (by rw [e]; simp) k1.2
    · rw [e]
  rw [← String.ofList_toList (s := t1.1), ← String.ofList_toList (s := t2.1), hl]

/-! ## The index invariant, call by call -/

/-- `index[t]` = the strictly increasing list of the overlay features whose current tags produce `t` -/
structure IndexInv (l : Layer) : Prop where
  sorted : ∀ t, Sorted (postings l.index t)
  mem : ∀ t id, id ∈ postings l.index t ↔ ∃ f, AMap.get l.feats id = some f ∧ t ∈ tokensFor f

/-- tag lists as OSM has them: one tag per key, no `=` inside keys -/
def TagsOK (ts : List Tag) : Prop := (ts.map (·.1)).Nodup ∧ ∀ tg ∈ ts, keyOK tg.1

instance (ts : List Tag) : Decidable (TagsOK ts) := inferInstanceAs (Decidable (_ ∧ _))

def Layer.TagsOK (l : Layer) : Prop := ∀ id f, AMap.get l.feats id = some f → Mutable.TagsOK f.tags

theorem mem_tokensFor (f : Feature) (t : Token) : t ∈ tokensFor f ↔ ∃ tg ∈ f.tags, tokenForTag tg = some t := by
  simp [tokensFor, List.mem_filterMap]

theorem mem_tagSet (ts : List Tag) (tag tg : Tag) (hn : (ts.map (·.1)).Nodup) :
    tg ∈ tagSet ts tag ↔ tg = tag ∨ (tg ∈ ts ∧ tg.1 ≠ tag.1) :=
  B6.Lemmas.Basic.mem_upsert (key := Prod.fst) (put := tagSet) (upd := fun a e => (a.1, e.2)) (fun _ => rfl)
    (fun _ _ _ => rfl) (fun _ _ h => Prod.ext h rfl) hn

theorem get_none_of_keys {ts : List Tag} {k : Key} (h : AMap.get ts k = none) : ∀ tg ∈ ts, tg.1 ≠ k :=
  AMap.isLookup.eq_none_iff.mp h

theorem tagsOK_tagSet {ts : List Tag} {tag : Tag} (h : TagsOK ts) (hk : keyOK tag.1) : TagsOK (tagSet ts tag) := by
  refine ⟨B6.Lemmas.Basic.nodup_upsert (key := Prod.fst) (put := tagSet) (upd := fun a e => (a.1, e.2)) (fun _ => rfl)
    (fun _ _ _ => rfl) (fun _ _ h => h) h.1 tag, fun tg htg => ?_⟩
  rcases (mem_tagSet ts tag tg h.1).1 htg with he | ⟨hm, _⟩
  · rw [he]; exact hk
  · exact h.2 tg hm

theorem tagsOK_tagRemove {ts : List Tag} {k : Key} (h : TagsOK ts) : TagsOK (tagRemove ts k) := by
  refine ⟨?_, fun tg htg => h.2 tg (List.mem_filter.1 htg).1⟩
  unfold tagRemove
  exact List.Nodup.sublist (List.Sublist.map _ List.filter_sublist) h.1

theorem tagsOK_modOn {m : Mod} {k : Key} {ts : List Tag} (h : TagsOK ts) (hk : keyOK k ∨ m = .del) :
    TagsOK (m.on k ts) := by
  cases m with
  | set v => exact tagsOK_tagSet h (hk.resolve_right nofun)
  | del => exact tagsOK_tagRemove h

/-- a well-formed tag list produces every token once (repeated tokens, which `sortAndDiffTokens` counted before
`fixes/C12-diff-tokens-as-sets.patch`, come from cell tokens only) -/
theorem tokens_nodup {ts : List Tag} (h : TagsOK ts) : (ts.filterMap tokenForTag).Nodup := by
  induction ts with
  | nil => simp
  | cons e r ih =>
    have hn := h.1
    simp only [List.map_cons, List.nodup_cons] at hn
    have hr : TagsOK r := ⟨hn.2, fun tg htg => h.2 tg (List.mem_cons_of_mem _ htg)⟩
    simp only [List.filterMap_cons]
    cases ht : tokenForTag e with
    | none => exact ih hr
    | some t =>
      simp only [List.nodup_cons]
      refine ⟨fun hm => ?_, ih hr⟩
      obtain ⟨tg, htg, htok⟩ := List.mem_filterMap.1 hm
      have := token_key_inj htok ht (h.2 tg (List.mem_cons_of_mem _ htg)) (h.2 e List.mem_cons_self)
      exact hn.1 (by rw [← this]; exact List.mem_map_of_mem (f := (·.1)) htg)

theorem reindex_self {ix : List (Token × List Id)} {id : Id} {before after : List Token}
    (H : ∀ t, id ∈ postings ix t ↔ t ∈ before) (t : Token) :
    id ∈ postings (reindex ix id before after) t ↔ t ∈ after := by
  simp only [reindex, postings_indexAdd, postings_indexRemove, H, diffTokens, List.mem_filter,
    List.contains_eq_mem, Bool.not_eq_true', decide_eq_false_iff_not, and_true]
  by_cases h0 : t ∈ before <;> by_cases h1 : t ∈ after <;> simp [h0, h1]

theorem reindex_other {ix : List (Token × List Id)} {id y : Id} {before after : List Token} (hy : y ≠ id) (t : Token) :
    y ∈ postings (reindex ix id before after) t ↔ y ∈ postings ix t := by
  simp [reindex, postings_indexAdd, postings_indexRemove, hy]

theorem reindex_sorted {ix : List (Token × List Id)} {id : Id} {before after : List Token}
    (h : ∀ t, Sorted (postings ix t)) : ∀ t, Sorted (postings (reindex ix id before after) t) :=
  sorted_indexAdd _ _ _ (sorted_indexRemove _ _ _ h)

theorem IndexInv.self {l : Layer} (h : IndexInv l) {id : Id} {f : Feature} (hf : AMap.get l.feats id = some f) (t : Token) :
    id ∈ postings l.index t ↔ t ∈ tokensFor f := by
  rw [h.mem]
  constructor
  · rintro ⟨g, hg, ht⟩; rw [hf] at hg; cases hg; exact ht
  · intro ht; exact ⟨f, hf, ht⟩

theorem IndexInv.absent {l : Layer} (h : IndexInv l) {id : Id} (hf : AMap.get l.feats id = none) (t : Token) :
    id ∉ postings l.index t := by
  rw [h.mem]
  rintro ⟨g, hg, _⟩; rw [hf] at hg; cases hg

theorem indexInv_adopt {l : Layer} {f : Feature} (h : IndexInv l) (hf : AMap.get l.feats f.id = none) :
    IndexInv (l.adopt f) := by
  refine ⟨sorted_indexAdd _ _ _ h.sorted, fun t y => ?_⟩
  simp only [adopt_index, adopt_feats, postings_indexAdd]
  by_cases hy : y = f.id
  · subst hy
    have := h.absent hf t
    simp [this]
  · simp only [hy, and_false, false_or, ↓reduceIte]
    exact h.mem t y

theorem indexInv_same {l l' : Layer} (hs : l.Same l') (h : IndexInv l) : IndexInv l' := by
  refine ⟨fun t => by rw [hs.index]; exact h.sorted t, fun t y => ?_⟩
  rw [hs.index, hs.feats]; exact h.mem t y

theorem indexInv_retag {l : Layer} {id : Id} {f : Feature} {tags : List Tag} (hl : l.FeatsId) (hi : IndexInv l)
    (hf : AMap.get l.feats id = some f) :
    IndexInv { l with index := reindex l.index f.id (tokensFor f) (tokensFor { f with tags := tags }),
                      feats := AMap.set l.feats id { f with tags := tags } } := by
  have hfid : f.id = id := hl id f hf
  refine ⟨reindex_sorted hi.sorted, fun t y => ?_⟩
  simp only [AMap.get_set]
  by_cases hy : y = id
  · subst hy
    simp only [↓reduceIte, Option.some.injEq, exists_eq_left']
    rw [hfid]
    exact reindex_self (fun t => hi.self hf t) t
  · simp only [hy, ↓reduceIte]
    rw [reindex_other (by rw [hfid]; exact hy)]
    exact hi.mem t y

theorem indexInv_tagStep {b : View} {l l' : Layer} {id : Id} {k : Key} {m : Mod}
    (hb : b.IdsOK) (hl : l.FeatsId) (hi : IndexInv l) (h : TagStep b l id k m l') : IndexInv l' := by
  cases h with
  | retag hf => exact indexInv_retag hl hi hf
  | adopt hf hv => exact indexInv_adopt hi (by simp only [find_id hb hl hv]; exact hf)
  | record => exact ⟨hi.sorted, hi.mem⟩
  | skip => exact hi

/-! ### `AddFeature` -/

theorem mem_foldCopies (cs : List Feature) (ix : List (Token × List Id)) (t : Token) (y : Id) :
    y ∈ postings (cs.foldl (fun ix c => indexAdd ix c.id (tokensFor c)) ix) t ↔
      y ∈ postings ix t ∨ ∃ c ∈ cs, c.id = y ∧ t ∈ tokensFor c :=
  mem_look_foldl_or (D := fun (c : Feature) t y => c.id = y ∧ t ∈ tokensFor c)
    (fun ix c t y => by rw [postings_indexAdd, or_comm, and_comm, eq_comm]) cs ix t y

theorem sorted_foldCopies (cs : List Feature) (ix : List (Token × List Id)) (h : ∀ t, Sorted (postings ix t)) :
    ∀ t, Sorted (postings (cs.foldl (fun ix c => indexAdd ix c.id (tokensFor c)) ix) t) :=
  cs.foldlRecOn _ h fun ix h _ _ => sorted_indexAdd _ _ ix h

theorem existingTokens_spec {l : Layer} (hi : IndexInv l) (id : Id) (t : Token) :
    id ∈ postings l.index t ↔ t ∈ existingTokens l id := by
  unfold existingTokens
  cases he : AMap.get l.feats id with
  | some e => exact hi.self he t
  | none => simp [hi.absent he t]

theorem indexInv_commit {l : Layer} {f : Feature} {rs : List FV} (hi : IndexInv l) : IndexInv (l.commit f rs) := by
  refine ⟨?_, fun t y => ?_⟩
  · intro t
    rw [commit_index]
    apply sorted_foldCopies
    exact reindex_sorted hi.sorted
  · simp only [commit_index, commit_feats, mem_foldCopies]
    by_cases hy : y = f.id
    · subst hy
      simp only [↓reduceIte, Option.some.injEq, exists_eq_left']
      have hcopy : ¬ ∃ c ∈ (copyReferrers f.id l rs).2, c.id = f.id ∧ t ∈ tokensFor c := by
        rintro ⟨c, hcm, he, _⟩; exact (copy_spec hcm).1 he
      simp only [hcopy, or_false]
      exact reindex_self (fun t => existingTokens_spec hi f.id t) t
    · simp only [hy, ↓reduceIte, reindex_other hy, copied_feats_iff, hi.mem t y]
      constructor
      · rintro (⟨g, hg, ht⟩ | ⟨c, hcm, he, ht⟩)
        · exact ⟨g, .inl hg, ht⟩
        · exact ⟨c, .inr ⟨he ▸ (copy_spec hcm).2.1, hcm, he⟩, ht⟩
      · rintro ⟨g, hg | ⟨_, hmem, h4⟩, ht⟩
        · exact .inl ⟨g, hg, ht⟩
        · exact .inr ⟨g, hmem, h4, ht⟩

theorem indexInv_addFeature {b : View} {o : Oracle} {l l' : Layer} {f : Feature} {r : Option Err}
    (hi : IndexInv l) (h : l.addFeature b o f = (l', r)) : IndexInv l' := by
  rcases addFeature_cases b o l f with ⟨l1, h1, hs, _⟩ | ⟨l1, h1, hs, _⟩ <;> rw [h1] at h <;> cases h
  · exact indexInv_same hs hi
  · exact indexInv_commit (indexInv_same hs hi)

/-! ### well-formed tag lists are preserved (membership in `applyMods m ts`; reading it by key is `get_applyMods`) -/

theorem filterMap_keys_sublist {α : Type} (l : List (Key × α)) (g : Key × α → Option Tag)
    (hg : ∀ e tg, g e = some tg → tg.1 = e.1) : ((l.filterMap g).map (·.1)).Sublist (l.map (·.1)) := by
  induction l with
  | nil => simp
  | cons e r ih =>
    simp only [List.filterMap_cons, List.map_cons]
    cases h : g e with
    | none => exact List.Sublist.cons _ ih
    | some tg =>
      simp only [List.map_cons]
      rw [hg e tg h]
      exact List.Sublist.cons_cons _ ih

theorem modExisting_key (mods : Mods) (e tg : Tag) (h : modExisting mods e = some tg) : tg.1 = e.1 := by
  revert h
  fun_cases modExisting mods e with
  | case1 | case3 => rintro ⟨⟩; rfl
  | case2 => nofun

theorem modNew_key (mods : Mods) (orig : List Tag) (e : Key × Mod) (tg : Tag) (h : modNew mods orig e = some tg) :
    tg.1 = e.1 ∧ (AMap.get orig e.1).isNone = true := by
  revert h
  fun_cases modNew mods orig e with
  | case1 v _ hn => rintro ⟨⟩; exact ⟨rfl, hn⟩
  | case2 | case3 => nofun

def ModsOK1 (m : Mods) : Prop := (m.map (·.1)).Nodup ∧ ∀ e ∈ m, keyOK e.1 ∧ indexedKey e.1 = false

theorem tagsOK_applyMods {m : Mods} {ts : List Tag} (hm : ModsOK1 m) (ht : TagsOK ts) : TagsOK (applyMods m ts) := by
  unfold applyMods
  refine ⟨?_, fun tg htg => ?_⟩
  · refine List.pairwise_map.2 (List.pairwise_append.2 ⟨List.pairwise_map.1
        (List.Nodup.sublist (filterMap_keys_sublist ts _ (modExisting_key m)) ht.1), List.pairwise_map.1
        (List.Nodup.sublist (filterMap_keys_sublist m _ (fun e tg h => (modNew_key m ts e tg h).1)) hm.1),
      fun tga htga tgb htgb hab => ?_⟩)
    obtain ⟨e1, he1, h1⟩ := List.mem_filterMap.1 htga
    obtain ⟨e2, he2, h2⟩ := List.mem_filterMap.1 htgb
    have k1 := modExisting_key m e1 tga h1
    have k2 := modNew_key m ts e2 tgb h2
    have : e1.1 ∈ AMap.keys ts := List.mem_map_of_mem (f := (·.1)) he1
    rw [AMap.mem_keys_iff] at this
    rw [← k1, hab, k2.1] at this
    rw [Option.isNone_iff_eq_none] at k2
    rw [k2.2] at this
    simp at this
  · rcases List.mem_append.1 htg with h | h
    · obtain ⟨e, he, h1⟩ := List.mem_filterMap.1 h
      rw [modExisting_key m e tg h1]; exact ht.2 e he
    · obtain ⟨e, he, h1⟩ := List.mem_filterMap.1 h
      rw [(modNew_key m ts e tg h1).1]; exact (hm.2 e he).1

theorem modsOK1_set {m : Mods} {k : Key} {v : Mod} (hm : ModsOK1 m) (hk : keyOK k) (hp : indexedKey k = false) :
    ModsOK1 (AMap.set m k v) := by
  refine ⟨AMap.nodup_set _ _ _ hm.1, fun e he => ?_⟩
  rcases List.mem_cons.1 he with rfl | he
  · exact ⟨hk, hp⟩
  · exact hm.2 e (List.mem_filter.1 he).1

theorem modsOK1_nil : ModsOK1 [] := ⟨by simp, by simp⟩

def Layer.ModsOK (l : Layer) : Prop := ∀ id, ModsOK1 (modsOf l.mods id)

def View.TagsOK (v : View) : Prop := ∀ id fv, v.find id = some fv → Mutable.TagsOK fv.f.tags

theorem find_tagsOK {b : View} {l : Layer} (hb : b.TagsOK) (hl : l.TagsOK) (hm : l.ModsOK) :
    ∀ id fv, l.find b id = some fv → Mutable.TagsOK fv.f.tags := by
  intro id fv h
  rcases find_eq_some_iff.1 h with ⟨f, hf, rfl⟩ | ⟨_, fv0, h0, rfl⟩
  · exact hl id f hf
  · exact tagsOK_applyMods (hm id) (hb id fv0 h0)

/-- everything the index and search theorems need about one world object (the base `b` occurs in no field: the
four facts are about the layer's own tables) -/
structure Layer.WF (b : View) (l : Layer) : Prop where
  featsId : l.FeatsId
  index : IndexInv l
  tags : l.TagsOK
  mods : l.ModsOK

theorem wf_empty (b : View) : Layer.empty.WF b :=
  ⟨fun id f h => by simp [Layer.empty] at h,
   ⟨fun t => by simp [Layer.empty, postings, Sorted], fun t id => by simp [Layer.empty, postings]⟩,
   fun id f h => by simp [Layer.empty] at h,
   fun id => by simp [Layer.empty, modsOf]; exact modsOK1_nil⟩

theorem modsOK_adopt {l : Layer} {f : Feature} (hm : l.ModsOK) : (l.adopt f).ModsOK := by
  intro id
  simp only [adopt_mods, modsOf_erase]
  split
  · exact modsOK1_nil
  · exact hm id

theorem keyOK_of_get {ts : List Tag} {k : Key} (ht : TagsOK ts) (h : (AMap.get ts k).isSome = true) : keyOK k := by
  obtain ⟨v, hg⟩ := Option.isSome_iff_exists.1 h
  exact ht.2 (k, v) (AMap.get_some_mem hg)

theorem wf_same {b : View} {l l' : Layer} (hs : l.Same l') (hw : l.WF b) : l'.WF b :=
  ⟨featsId_same hs hw.featsId, indexInv_same hs hw.index,
   fun id g hg => hw.tags id g (by rw [← hs.feats]; exact hg),
   fun id => by rw [hs.mods]; exact hw.mods id⟩

theorem wf_tagStep {b : View} {l l' : Layer} {id : Id} {k : Key} {m : Mod}
    (hb : b.IdsOK) (hbt : b.TagsOK) (hw : l.WF b) (hk : keyOK k ∨ m = .del)
    (h : TagStep b l id k m l') : l'.WF b := by
  refine ⟨featsId_tagStep hw.featsId h, indexInv_tagStep hb hw.featsId hw.index h, ?_, ?_⟩
  · cases h with
    | retag hf => exact AMap.forall_set hw.tags (tagsOK_modOn (hw.tags _ _ hf) hk)
    | adopt hf hv => exact AMap.forall_set hw.tags (tagsOK_modOn (find_tagsOK hbt hw.tags hw.mods _ _ hv) hk)
    | record | skip => exact hw.tags
  · cases h with
    | retag | skip => exact hw.mods
    | adopt => exact modsOK_adopt hw.mods
    | record hf hv hpl hkey =>
      -- the key is one the feature has or gets, so it is `=`-free like all of them
      have hfv := find_tagsOK hbt hw.tags hw.mods _ _ hv
      have hkk : keyOK k := hkey.elim (keyOK_of_get (tagsOK_modOn hfv hk)) (keyOK_of_get hfv)
      intro id'
      simp only [modsOf_modsSet]
      split
      · exact modsOK1_set (hw.mods id) hkk hpl
      · exact hw.mods id'

theorem wf_commit {b : View} {l : Layer} {f : Feature} {rs : List FV}
    (hw : l.WF b) (hf : TagsOK f.tags) (hrs : ∀ r ∈ rs, TagsOK r.f.tags) : (l.commit f rs).WF b := by
  refine ⟨featsId_commit hw.featsId, indexInv_commit hw.index, fun id g hg => ?_, fun id => ?_⟩
  · rcases commit_entry hg with ⟨_, rfl⟩ | ⟨_, h | ⟨_, r, hr, h3, _⟩⟩
    · exact hf
    · exact hw.tags id g h
    · rw [← h3]; exact hrs r hr
  · rw [commit_mods, modsOf_erase]
    split
    · exact modsOK1_nil
    · exact hw.mods id

def changeOK : Change → Prop
  | .addFeatures fs => ∀ f ∈ fs, TagsOK f.tags
  | .addTags ts => ∀ e ∈ ts, keyOK e.2.1
  | .removeTags _ => True

def opOK : Op → Prop
  | .addFeature f => TagsOK f.tags
  | .addTag _ t => keyOK t.1
  | .removeTag _ _ => True
  | .merged cs => ∀ c ∈ cs, changeOK c

def primTagsOK : Prim → Prop
  | .feat f => TagsOK f.tags
  | .tag _ t => keyOK t.1
  | .untag _ _ => True

theorem primTagsOK_of_opOK {op : Op} (h : opOK op) : ∀ p ∈ op.prims, primTagsOK p := by
  intro p hp
  cases op with
  | merged cs =>
    obtain ⟨c, hc, hpc⟩ := List.mem_flatMap.1 hp
    have hok := h c hc
    cases c with
    | addFeatures fs => obtain ⟨f, hf, rfl⟩ := List.mem_map.1 hpc; exact hok f hf
    | addTags ts => obtain ⟨e, he, rfl⟩ := List.mem_map.1 hpc; exact hok e he
    | removeTags ts => obtain ⟨e, he, rfl⟩ := List.mem_map.1 hpc; trivial
  | _ => cases List.mem_singleton.1 hp; exact h

theorem wf_prim {b : View} {o : Oracle} (hb : b.IdsOK) (hbt : b.TagsOK) (l : Layer) (p : Prim)
    (hw : l.WF b) (hp : primTagsOK p) : (p.apply b o l).1.WF b := by
  cases prim_cases b o l p with
  | rejected eq _ same => rw [eq]; exact wf_same same hw
  | committed f _ isFeat eq same =>
    subst isFeat; rw [eq]
    exact wf_commit (wf_same same hw) hp fun r hr =>
      find_tagsOK hbt hw.tags hw.mods r.f.id r (referrers_find hb hw.featsId f.id r hr)
  | edited k m edits eq step =>
    rw [eq]
    have hk : keyOK k ∨ m = .del := by
      cases edits with
      | tag => exact .inl hp
      | untag => exact .inr rfl
    exact wf_tagStep hb hbt hw hk step

theorem wf_step {b : View} {o : Oracle} {l : Layer} {op : Op}
    (hb : b.IdsOK) (hbt : b.TagsOK) (hw : l.WF b) (hok : opOK op) : (l.step b o op).1.WF b :=
  step_inv (fun _ _ => wf_same) (wf_prim hb hbt) hw (primTagsOK_of_opOK hok)

theorem wf_runOps {b : View} {o : Oracle} (hb : b.IdsOK) (hbt : b.TagsOK) (ops : List Op) (l : Layer)
    (hw : l.WF b) (hok : ∀ op ∈ ops, opOK op) : (runOps b o l ops).1.WF b :=
  runOps_inv (fun _ _ => wf_same) (wf_prim hb hbt) ops l hw (fun op h => primTagsOK_of_opOK (hok op h))

/-! ## What `FindFeatures` and `EachFeature` return -/

theorem mem_foldInsert (xs : List Id) (acc : List Id) (y : Id) :
    y ∈ xs.foldl (fun acc id => insertSorted id acc) acc ↔ y ∈ xs ∨ y ∈ acc :=
  (mem_look_foldl_or (look := fun (l : List Id) (_ : Unit) => l) (D := fun (x : Id) _ y => y = x)
    (fun l x _ y => by rw [mem_insertSorted, or_comm]) xs acc () y).trans ((or_congr_right exists_eq_right').trans or_comm)

theorem sorted_foldInsert (xs : List Id) (acc : List Id) (h : Sorted acc) :
    Sorted (xs.foldl (fun acc id => insertSorted id acc) acc) :=
  xs.foldlRecOn _ h fun _ h a _ => sorted_insertSorted a _ h

theorem tokens_applyMods {m : Mods} (hm : ModsOK1 m) (ts : List Tag) (t : Token) :
    t ∈ (applyMods m ts).filterMap tokenForTag ↔ t ∈ ts.filterMap tokenForTag := by
  have hplain : ∀ k, indexedKey k = true → AMap.get m k = none := by
    intro k hk
    cases h : AMap.get m k with
    | none => rfl
    | some v =>
      have := (hm.2 (k, v) (AMap.get_some_mem h)).2
      simp only at this
      rw [hk] at this; cases this
  simp only [List.mem_filterMap]
  constructor
  · rintro ⟨tg, htg, ht⟩
    have hidx : indexedKey tg.1 = true := by rw [← tokenForTag_isSome, ht]; rfl
    unfold applyMods at htg
    rcases List.mem_append.1 htg with h | h
    · obtain ⟨e, he, h1⟩ := List.mem_filterMap.1 h
      have hk := modExisting_key m e tg h1
      unfold modExisting at h1
      rw [hplain e.1 (by rw [← hk]; exact hidx)] at h1
      simp only [Option.some.injEq] at h1
      subst h1
      exact ⟨e, he, ht⟩
    · obtain ⟨e, he, h1⟩ := List.mem_filterMap.1 h
      have hk := (modNew_key m ts e tg h1).1
      have := (hm.2 e he).2
      rw [← hk, hidx] at this; cases this
  · rintro ⟨tg, htg, ht⟩
    have hidx : indexedKey tg.1 = true := by rw [← tokenForTag_isSome, ht]; rfl
    refine ⟨tg, ?_, ht⟩
    unfold applyMods
    apply List.mem_append_left
    apply List.mem_filterMap.2
    exact ⟨tg, htg, by simp [modExisting, hplain tg.1 hidx]⟩

def View.SearchOK (v : View) : Prop :=
  ∀ t, Sorted (v.search t) ∧ ∀ id, id ∈ v.search t ↔ ∃ fv, v.find id = some fv ∧ t ∈ tokensFor fv.f

theorem search_ok {b : View} {l : Layer} (hb : b.SearchOK) (hw : l.WF b) (ll : Id → Option Pt) :
    (l.view b ll).SearchOK := by
  intro t
  show Sorted (l.search b t) ∧ ∀ id, id ∈ l.search b t ↔ ∃ fv, l.find b id = some fv ∧ t ∈ tokensFor fv.f
  unfold Layer.search
  refine ⟨sorted_foldInsert _ _ (List.Pairwise.filter _ (hb t).1), fun id => ?_⟩
  rw [mem_foldInsert]
  simp only [List.mem_filter, AMap.contains, Bool.not_eq_true', Option.isSome_eq_false_iff, Option.isNone_iff_eq_none]
  constructor
  · rintro (h | ⟨h1, h2⟩)
    · obtain ⟨f, hf, ht⟩ := (hw.index.mem t id).1 h
      exact ⟨_, find_overlay hf, ht⟩
    · obtain ⟨fv0, hf0, ht⟩ := ((hb t).2 id).1 h1
      refine ⟨l.wrap id fv0, by rw [find_base h2, hf0]; rfl, ?_⟩
      simp only [tokensFor, Layer.wrap] at ht ⊢
      exact (tokens_applyMods (hw.mods id) _ t).2 ht
  · rintro ⟨fv, hfv, ht⟩
    rcases find_eq_some_iff.1 hfv with ⟨f, hf, rfl⟩ | ⟨hf, fv0, h0, rfl⟩
    · exact Or.inl ((hw.index.mem t id).2 ⟨f, hf, ht⟩)
    · simp only [tokensFor, Layer.wrap] at ht
      exact Or.inr ⟨((hb t).2 id).2 ⟨fv0, h0, (tokens_applyMods (hw.mods id) _ t).1 ht⟩, hf⟩

def View.IdsExact (v : View) : Prop := ∀ id, id ∈ v.ids ↔ (v.find id).isSome = true

theorem ids_exact {b : View} {l : Layer} (hb : b.IdsExact) (ll : Id → Option Pt) : (l.view b ll).IdsExact := by
  intro id
  show id ∈ l.ids b ↔ (l.find b id).isSome = true
  simp only [Layer.ids, List.mem_append, AMap.mem_keys_iff, List.mem_filter, AMap.contains, hb id]
  cases hf : AMap.get l.feats id with
  | some f => simp [find_overlay hf]
  | none => simp [find_base hf]

end B6.Model.Mutable
