import B6.Lemmas.Collections
import B6.Lemmas.Basic.Sorted
/-!
Soundness of the executable check `isTopOfB` the C24 driver applies to the implementation's `top` answers:
whenever it accepts, the relational specification `IsTopOf` holds (for numeric values — ints or floats —
which is the only case in which `top` returns a collection).
-/
namespace B6.Lemmas.Collections
open B6.Model.Collections B6.Spec.Collections

theorem eraseFirst_perm (x : Item) : ∀ (l rest : List Item), eraseFirst x l = some rest → l.Perm (x :: rest) := by
  intro l rest h
  fun_induction eraseFirst x l generalizing rest with
  | case1 => cases h
  | case2 ys => cases h; exact .refl _
  | case3 y ys e ih =>
    obtain ⟨r, hr, rfl⟩ := Option.map_eq_some_iff.mp h
    exact (List.Perm.cons y (ih r hr)).trans (List.Perm.swap ..)

theorem eraseAll_perm : ∀ (out input rest : List Item), eraseAll out input = some rest →
    (out ++ rest).Perm input := by
  intro out input rest h
  fun_induction eraseAll out input with
  | case1 input => cases h; exact .refl _
  | case2 x xs input he => cases h
  | case3 x xs input input' he ih => exact (List.Perm.cons x (ih h)).trans (eraseFirst_perm x input input' he).symm

theorem sortedDesc_pairwise : ∀ (l : List Item), (∀ x ∈ l, Numeric x) → sortedDesc l = true →
    l.Pairwise (fun a b => ¬ itemLess a b = true) :=
  fun _ hn h => B6.Lemmas.Basic.pairwise_of_chain (t := fun a b => !itemLess a b) (fun _ _ _ => rfl)
    (fun h => by simpa using h) (fun a ha b hb c hc => itemLess_trans_le (hn a ha) (hn b hb) (hn c hc)) h

/-- what the driver accepts for `top` is a top selection -/
theorem isTopOfB_sound (n : Int) (input out : List Item) (hnum : ∀ x ∈ input, Numeric x)
    (h : isTopOfB n input out = true) : IsTopOf n input out := by
  revert h
  fun_cases isTopOfB n input out with
  | case1 => nofun
  | case2 rest he =>
    simp only [Bool.and_eq_true, beq_iff_eq, List.all_eq_true, Bool.not_eq_true']
    rintro ⟨⟨hlen, hsort⟩, hrest⟩
    have hperm := eraseAll_perm out input rest he
    have hnumOut : ∀ x ∈ out, Numeric x := fun x hx =>
      hnum x (hperm.mem_iff.mp (List.mem_append_left _ hx))
    refine ⟨rest, hperm, hlen, sortedDesc_pairwise out hnumOut hsort, ?_⟩
    intro r hr o ho
    simp [hrest r hr o ho]

end B6.Lemmas.Collections
