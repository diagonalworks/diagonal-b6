import B6.Model.Search
import B6.Lemmas.Basic.Sorted
/-!
# Refinement lemmas for the search iterators (C06)

Every combinator theorem has the shape: if the children refine spec cursors, the combinator refines the
spec cursor of the list it denotes — for every sequence of `next`/`advance k` calls (`Refines`).  Leaf, key range, union
and intersection are proved through the section "where a call lands" (`At`, `Lands`, `refinesAt_of_lands`).
-/
namespace B6.Lemmas.Search
open B6.Spec.Cursor B6.Spec.SearchQuery B6.Model.Search

/-- `Cursor.advance_cur_isSome` (Spec/Cursor) is this without `hw` -/
theorem cur_isSome_of_true_advance {c : Cursor} (hw : c.WF) {k : Nat} (h : (c.advance k).1 = true) :
    (c.advance k).2.cur.isSome := by
  obtain ⟨_, _, _, x, hx, _⟩ := (Cursor.advance_spec hw k).1 h
  rw [hx]; rfl

theorem empty_refines : Refines emptyOps () [] := by
  refine ⟨fun _ c => c = start [], ?_, rfl⟩
  constructor
  · intro _ c h; subst h; unfold Cursor.WF StrictSorted; simp [Cursor.xs, start]
  · intro _ c h hc; subst h; simp at hc
  · intro _ c h; subst h; exact ⟨(), rfl, by simp [Cursor.next, start]⟩
  · intro k _ c h _; subst h; exact ⟨(), rfl, by simp [Cursor.advance, Cursor.seek, Cursor.cur, start]⟩

theorem refinesAt_embed {τ σ : Type} {opsT : IterOps τ} {opsS : IterOps σ} (emb : τ → σ)
    (hnext : ∀ t, opsS.next (emb t) = liftRes emb (opsT.next t))
    (hadv : ∀ k t, opsS.advance k (emb t) = liftRes emb (opsT.advance k t))
    (hval : ∀ t, opsS.value (emb t) = opsT.value t)
    (hdom : ∀ k, opsS.dom k → opsT.dom k)
    {t : τ} {c : Cursor} (h : RefinesAt opsT t c) : RefinesAt opsS (emb t) c := by
  refine ⟨fun s c => ∃ t, s = emb t ∧ RefinesAt opsT t c, ?_, t, rfl, h⟩
  constructor
  · rintro _ c ⟨t, rfl, ht⟩; exact ht.wf
  · rintro _ c ⟨t, rfl, ht⟩ hc; rw [hval]; exact ht.value hc
  · rintro _ c ⟨t, rfl, ht⟩
    obtain ⟨t', h1, h2⟩ := ht.next
    exact ⟨emb t', by rw [hnext, h1]; rfl, fun hb => ⟨t', rfl, h2 hb⟩⟩
  · rintro k _ c ⟨t, rfl, ht⟩ hk
    obtain ⟨t', h1, h2⟩ := ht.advance k (hdom k hk)
    exact ⟨emb t', by rw [hadv, h1]; rfl, fun hb => ⟨t', rfl, h2 hb⟩⟩

/-! ## where a call lands

Every call of the spec cursor moves to the least element at or above a target (`next`: just above the current
element; `advance k`: `k`, or the current element if larger), or reports that there is none (`LeastGE`,
`Cursor.MovesTo`, `Cursor.next_movesTo`, `Cursor.advance_movesTo` in Spec/Cursor).  An implementation whose calls land
the same way refines the cursor (`refinesAt_of_lands`).  A combinator proof states what its state keeps as a `V`, uses
`At.next`, `At.advance`, `At.advance_of_le`, `At.value`, `At.mem` on its children, and closes with `refinesAt_of_lands`. -/

/-- `Cursor.lo` for a current element given without its cursor: the target of `next` (`after c.cur = c.lo` by `rfl`) -/
def after : Option Nat → Nat
  | none => 0
  | some v => v + 1

section lands
variable {σ : Type}

/-- `s` refines some spec cursor over `xs` standing on `cu`; the `V` of `refinesAt_of_lands` is a combinator's own invariant
in this shape -/
def At (o : IterOps σ) (s : σ) (xs : List Nat) (cu : Option Nat) : Prop :=
  ∃ c, RefinesAt o s c ∧ c.xs = xs ∧ c.cur = cu

/-- the answer `r` to a call with target `t` over `xs`: `false` when nothing is `≥ t`, otherwise `true` in a state
`V` accepts for the least such element.  Nothing is said of the state returned with `false`: histories end there. -/
def Lands (V : σ → List Nat → Option Nat → Prop) (r : Res σ) (xs : List Nat) (t : Nat) : Prop :=
  ∃ s', (r = .ok (false, s') ∧ ∀ y ∈ xs, y < t) ∨ ∃ x, r = .ok (true, s') ∧ LeastGE xs t x ∧ V s' xs (some x)

theorem Lands.retarget {V : σ → List Nat → Option Nat → Prop} {r : Res σ} {xs : List Nat} {t t' : Nat}
    (he : ∀ y ∈ xs, t ≤ y ↔ t' ≤ y) (h : Lands V r xs t) : Lands V r xs t' := by
  obtain ⟨s', ⟨hr, hall⟩ | ⟨x, hr, hx, hV⟩⟩ := h
  · refine ⟨s', Or.inl ⟨hr, fun y hy => ?_⟩⟩
    exact Nat.lt_of_not_le fun h => Nat.lt_irrefl _ (Nat.lt_of_lt_of_le (hall y hy) ((he y hy).2 h))
  · exact ⟨s', Or.inr ⟨x, hr, hx.retarget he, hV⟩⟩

theorem Lands.agrees {V : σ → List Nat → Option Nat → Prop} {r : Res σ} {c : Cursor} {t : Nat} {m : Bool × Cursor}
    (hi : Lands V r c.xs t) (hm : c.MovesTo t m) :
    ∃ s', r = .ok (m.1, s') ∧ (m.1 = true → m.2.WF ∧ V s' m.2.xs m.2.cur) := by
  obtain ⟨s', hi⟩ := hi
  refine ⟨s', ?_⟩
  rcases hi with ⟨hr, hall⟩ | ⟨x, hr, hx, hV⟩ <;> rcases hm with ⟨hb, hall'⟩ | ⟨hb, hw, hxs, x', hx', hl'⟩
  · exact ⟨by rw [hr, hb], fun h => by rw [hb] at h; cases h⟩
  · exact absurd (hall x' hl'.1) (Nat.not_lt.2 hl'.2.1)
  · exact absurd (hall' x hx.1) (Nat.not_lt.2 hx.2.1)
  · have := hx.unique hl'; subst this
    exact ⟨by rw [hr, hb], fun _ => ⟨hw, by rw [hxs, hx']; exact hV⟩⟩

theorem Lands.of_movesTo {o : IterOps σ} {r : Res σ} {c : Cursor} {t : Nat} {m : Bool × Cursor}
    (hm : c.MovesTo t m) (h : ∃ s', r = .ok (m.1, s') ∧ (m.1 = true → RefinesAt o s' m.2)) :
    Lands (At o) r c.xs t := by
  obtain ⟨s', hr, hs⟩ := h
  refine ⟨s', ?_⟩
  rcases hm with ⟨hb, hall⟩ | ⟨hb, _, hxs, x, hx, hl⟩
  · exact Or.inl ⟨by rw [hr, hb], hall⟩
  · exact Or.inr ⟨x, by rw [hr, hb], hl, m.2, hs hb, hxs, hx⟩

variable {o : IterOps σ} {s : σ} {xs : List Nat} {cu : Option Nat}

theorem At.of_refines (h : Refines o s xs) : At o s xs none := ⟨start xs, h, rfl, rfl⟩

theorem At.mem {u : Nat} (h : At o s xs (some u)) : u ∈ xs := by
  obtain ⟨c, _, rfl, hc⟩ := h; exact Cursor.cur_mem hc

theorem At.value {u : Nat} (h : At o s xs (some u)) : o.value s = some u := by
  obtain ⟨c, hr, _, hc⟩ := h
  rw [hr.value (by rw [hc]; rfl), hc]

theorem At.next (h : At o s xs cu) : Lands (At o) (o.next s) xs (after cu) := by
  obtain ⟨c, hr, rfl, rfl⟩ := h
  exact Lands.of_movesTo (Cursor.next_movesTo hr.wf) hr.next

theorem At.advance (h : At o s xs cu) {k : Nat} (hk : o.dom k) :
    Lands (At o) (o.advance k s) xs (max k (cu.getD 0)) := by
  obtain ⟨c, hr, rfl, rfl⟩ := h
  exact Lands.of_movesTo (Cursor.advance_movesTo hr.wf k) (hr.advance k hk)

theorem At.advance_of_le (h : At o s xs cu) {k : Nat} (hk : o.dom k) (hle : ∀ w, cu = some w → w ≤ k) :
    Lands (At o) (o.advance k s) xs k := by
  have := h.advance hk
  rwa [show max k (cu.getD 0) = k by
    cases cu with
    | none => exact Nat.max_zero k
    | some v => exact Nat.max_eq_left (hle v rfl)] at this

theorem refinesAt_of_lands {V : σ → List Nat → Option Nat → Prop}
    (hval : ∀ s xs u, u ∈ xs → V s xs (some u) → o.value s = some u)
    (hstep : ∀ s xs cu, StrictSorted xs → (∀ u, cu = some u → u ∈ xs) → V s xs cu →
      Lands V (o.next s) xs (after cu) ∧ ∀ k, o.dom k → Lands V (o.advance k s) xs (max k (cu.getD 0)))
    {c : Cursor} (hw : c.WF) (h : V s c.xs c.cur) : RefinesAt o s c := by
  refine ⟨fun s c => c.WF ∧ V s c.xs c.cur, ⟨fun _ _ h => h.1, ?_, ?_, ?_⟩, hw, h⟩
  · intro s c ⟨_, hV⟩ hc
    obtain ⟨u, hu⟩ := Option.isSome_iff_exists.1 hc
    rw [hu] at hV ⊢; exact hval s c.xs u (Cursor.cur_mem hu) hV
  · intro s c ⟨hw, hV⟩
    exact (hstep s c.xs c.cur hw (fun u => Cursor.cur_mem) hV).1.agrees (Cursor.next_movesTo hw)
  · intro k s c ⟨hw, hV⟩ hk
    exact ((hstep s c.xs c.cur hw (fun u => Cursor.cur_mem) hV).2 k hk).agrees (Cursor.advance_movesTo hw k)

end lands

theorem takeWhile_length_spec {α : Type} (p : α → Bool) : ∀ (d : List α),
    (∀ i a, i < (d.takeWhile p).length → d[i]? = some a → p a = true) ∧
    (∀ a, d[(d.takeWhile p).length]? = some a → p a = false)
  | [] => ⟨fun _ _ h => absurd h (Nat.not_lt_zero _), fun _ h => nomatch h⟩
  | b :: d => by
    obtain ⟨ihA, ihB⟩ := takeWhile_length_spec p d
    rw [List.takeWhile_cons]
    cases hb : p b with
    | true =>
      simp only [↓reduceIte, List.length_cons, List.getElem?_cons_succ]
      refine ⟨fun i a hi ha => ?_, ihB⟩
      cases i with
      | zero => cases ha; exact hb
      | succ i => exact ihA i a (Nat.lt_of_succ_lt_succ hi) ha
    | false =>
      exact ⟨fun _ _ h => absurd h (Nat.not_lt_zero _), fun a ha => by cases ha; exact hb⟩

theorem lands_at_index {xs : List Nat} (hs : StrictSorted xs) {t j : Nat}
    (hlt : ∀ i a, i < j → xs[i]? = some a → a < t) (hge : ∀ a, xs[j]? = some a → t ≤ a) :
    (∀ x, xs[j]? = some x → LeastGE xs t x) ∧ (xs.length ≤ j → ∀ y ∈ xs, y < t) := by
  refine ⟨fun x hx => ⟨List.mem_of_getElem? hx, hge x hx, fun y hy hty => ?_⟩, fun hj y hy => ?_⟩
  · obtain ⟨i, hi⟩ := List.mem_iff_getElem?.1 hy
    rcases Nat.lt_trichotomy i j with h | rfl | h
    · exact absurd (hlt i y h hi) (Nat.not_lt.2 hty)
    · rw [hi] at hx; cases hx; exact Nat.le_refl _
    · exact Nat.le_of_lt (hs.rel_of_getElem? hx hi h)
  · obtain ⟨i, hi⟩ := List.mem_iff_getElem?.1 hy
    exact hlt i y (Nat.lt_of_lt_of_le (Basic.lt_length_of_getElem? hi) hj) hi

def LeafAt (l : Leaf) (xs : List Nat) (cu : Option Nat) : Prop :=
  l.xs = xs ∧ l.pos ≤ xs.length ∧ l.value = cu

/-- a call that answers "index `j` is inside the list" and, if so, moves there, lands on the target `t` when everything
before `j` is `< t` and the element at `j` is `≥ t`; the state after a `false` is not constrained -/
theorem leaf_jump {l : Leaf} {t j : Nat} (hs : StrictSorted l.xs)
    (hlt : ∀ i a, i < j → l.xs[i]? = some a → a < t) (hge : ∀ a, l.xs[j]? = some a → t ≤ a) (l' : Leaf)
    (hl' : j < l.xs.length → l' = { l with pos := j + 1 }) :
    Lands LeafAt (.ok (decide (j < l.xs.length), l')) l.xs t := by
  obtain ⟨h1, h2⟩ := lands_at_index hs hlt hge
  by_cases hj : j < l.xs.length
  · refine ⟨l', Or.inr ⟨l.xs[j], by rw [decide_eq_true hj], h1 _ (List.getElem?_eq_getElem hj), ?_⟩⟩
    rw [hl' hj]
    refine ⟨rfl, Nat.succ_le_of_lt hj, ?_⟩
    show (if j + 1 = 0 then none else l.xs[j + 1 - 1]?) = _
    rw [if_neg (Nat.succ_ne_zero j), Nat.add_sub_cancel, List.getElem?_eq_getElem hj]
  · exact ⟨l', Or.inl ⟨by rw [decide_eq_false hj], h2 (Nat.le_of_not_lt hj)⟩⟩

theorem Leaf.next_eq (l : Leaf) :
    l.next = (decide (l.pos < l.xs.length), if l.pos < l.xs.length then { l with pos := l.pos + 1 } else l) := by
  fun_cases Leaf.next l with
  | case1 h => rw [if_neg (Nat.not_lt.2 h), decide_eq_false (Nat.not_lt.2 h)]
  | case2 h => rw [if_pos (Nat.lt_of_not_le h), decide_eq_true (Nat.lt_of_not_le h)]

theorem lowerBound_spec (xs : List Nat) (m k : Nat) :
    (∀ i a, m ≤ i → i < lowerBound xs m k → xs[i]? = some a → a < k) ∧
    (∀ a, xs[lowerBound xs m k]? = some a → k ≤ a) := by
  obtain ⟨hA, hB⟩ := takeWhile_length_spec (fun x => decide (x < k)) (xs.drop m)
  simp only [List.getElem?_drop, decide_eq_true_eq, decide_eq_false_iff_not, Nat.not_lt] at hA hB
  refine ⟨fun i a hmi hi ha => ?_, hB⟩
  obtain ⟨i', rfl⟩ := Nat.exists_eq_add_of_le hmi
  exact hA i' a (Nat.lt_of_add_lt_add_left hi) ha

theorem le_lowerBound (xs : List Nat) (m k : Nat) : m ≤ lowerBound xs m k := Nat.le_add_right _ _

theorem leaf_lands (l : Leaf) (xs : List Nat) (cu : Option Nat) (hs : StrictSorted xs) (h : LeafAt l xs cu) :
    Lands LeafAt (.ok l.next) xs (after cu) ∧ ∀ k, Lands LeafAt (.ok (l.advance k)) xs (max k (cu.getD 0)) := by
  obtain ⟨rfl, hp, rfl⟩ := h
  obtain ⟨kind, xs, pos⟩ := l
  cases pos with
  | zero =>
    refine ⟨?_, fun k => ?_⟩
    · rw [Leaf.next_eq]
      exact leaf_jump (l := ⟨kind, xs, 0⟩) hs (fun i a hi _ => absurd hi (Nat.not_lt_zero _))
        (fun a _ => Nat.zero_le _) _ (fun h => if_pos h)
    · obtain ⟨hA, hB⟩ := lowerBound_spec xs 0 k
      exact leaf_jump (l := ⟨kind, xs, 0⟩) (t := max k 0) (j := lowerBound xs 0 k) hs
        (fun i a hi ha => Nat.lt_of_lt_of_le (hA i a (Nat.zero_le _) hi ha) (Nat.le_max_left _ _))
        (fun a ha => Nat.max_le.2 ⟨hB a ha, Nat.zero_le _⟩) _ (fun _ => rfl)
  | succ m =>
    have hm : m < xs.length := hp
    have hv : xs[m]? = some xs[m] := List.getElem?_eq_getElem hm
    have hbefore : ∀ i a, i < m + 1 → xs[i]? = some a → a ≤ xs[m] := fun i a hi ha => by
      rcases Nat.lt_or_eq_of_le (Nat.le_of_lt_succ hi) with h | rfl
      · exact Nat.le_of_lt (hs.rel_of_getElem? ha hv h)
      · rw [hv] at ha; cases ha; exact Nat.le_refl _
    have hval : (Leaf.mk kind xs (m + 1)).value = some xs[m] := hv
    rw [hval]
    refine ⟨?_, fun k => ?_⟩
    · rw [Leaf.next_eq]
      exact leaf_jump (l := ⟨kind, xs, m + 1⟩) (t := after (some xs[m])) hs
        (fun i a hi ha => Nat.lt_succ_of_le (hbefore i a hi ha))
        (fun a ha => hs.rel_of_getElem? hv ha (Nat.lt_succ_self m)) _ (fun h => if_pos h)
    · obtain ⟨hA, hB⟩ := lowerBound_spec xs m k
      exact leaf_jump (l := ⟨kind, xs, m + 1⟩) (t := max k xs[m]) (j := lowerBound xs m k) hs
        (fun i a hi ha => by
          rcases Nat.lt_or_ge i m with h | h
          · exact Nat.lt_of_lt_of_le (hs.rel_of_getElem? ha hv h) (Nat.le_max_right _ _)
          · exact Nat.lt_of_lt_of_le (hA i a h hi ha) (Nat.le_max_left _ _))
        (fun a ha => Nat.max_le.2 ⟨hB a ha, by
          -- the search stopped on `m` itself, or beyond it
          rcases Nat.eq_or_lt_of_le (le_lowerBound xs m k) with h | h
          · rw [← h, hv] at ha; cases ha; exact Nat.le_refl _
          · exact Nat.le_of_lt (hs.rel_of_getElem? hv ha h)⟩)
        _ (fun _ => rfl)

theorem leaf_refines (kind : LeafKind) (xs : List Nat) (h : StrictSorted xs) :
    Refines Leaf.ops ⟨kind, xs, 0⟩ xs :=
  refinesAt_of_lands (V := LeafAt) (fun _ _ _ _ hV => hV.2.2)
    (fun l xs cu hs _ hV => (leaf_lands l xs cu hs hV).imp_right fun h k _ => h k)
    h ⟨rfl, Nat.zero_le _, rfl⟩

section range
variable {σ : Type} (o : IterOps σ)

theorem mem_rangeList {b e x : Nat} {xs : List Nat} : x ∈ rangeList b e xs ↔ x ∈ xs ∧ b ≤ x ∧ x < e := by
  simp [rangeList]

theorem rangeList_sorted {b e : Nat} {xs : List Nat} (h : StrictSorted xs) : StrictSorted (rangeList b e xs) := by
  unfold StrictSorted rangeList at *; exact h.filter _

/-- what `keyRange` keeps: its child is over some `ys` and on the same current element, the list is `ys` clamped;
the lazy `Advance(begin)` is still due exactly while there is no current element -/
def RangeAt (st : RangeState σ) (xs : List Nat) (cu : Option Nat) : Prop :=
  ∃ ys, At o st.it ys cu ∧ o.dom st.b ∧ xs = rangeList st.b st.e ys ∧ st.started = cu.isSome

theorem range_finish {st : RangeState σ} {r : Res σ} {ys : List Nat} {t : Nat} (hd : o.dom st.b)
    (hb : st.b ≤ t) (h : Lands (At o) r ys t) :
    Lands (RangeAt o) (Range.finish o st r) (rangeList st.b st.e ys) t := by
  obtain ⟨it', ⟨hr, hall⟩ | ⟨x, hr, hx, hat⟩⟩ := h
  · exact ⟨{ st with it := it', started := true }, Or.inl ⟨by rw [hr]; rfl,
      fun y hy => hall y (mem_rangeList.1 hy).1⟩⟩
  · refine ⟨{ st with it := it', started := true }, ?_⟩
    have hfin : Range.finish o st r = .ok (decide (x < st.e), { st with it := it', started := true }) := by
      rw [hr]; simp only [Range.finish, hat.value]
    by_cases hxe : x < st.e
    · refine Or.inr ⟨x, by rw [hfin, decide_eq_true hxe], ⟨mem_rangeList.2 ⟨hx.1, Nat.le_trans hb hx.2.1, hxe⟩,
        hx.2.1, fun y hy => hx.2.2 y (mem_rangeList.1 hy).1⟩, ys, hat, hd, rfl, rfl⟩
    · refine Or.inl ⟨by rw [hfin, decide_eq_false hxe], fun y hy => ?_⟩
      obtain ⟨hy, _, hye⟩ := mem_rangeList.1 hy
      exact Nat.lt_of_not_le fun hty => hxe (Nat.lt_of_le_of_lt (hx.2.2 y hy hty) hye)

theorem range_lands : ∀ (st : RangeState σ) (xs : List Nat) (cu : Option Nat), RangeAt o st xs cu →
    (∀ u, cu = some u → u ∈ xs) →
    Lands (RangeAt o) (Range.next o st) xs (after cu) ∧
    ∀ k, o.dom k → Lands (RangeAt o) (Range.advance o k st) xs (max k (cu.getD 0)) := by
  rintro st _ cu ⟨ys, hat, hd, rfl, hst⟩ hmem
  unfold Range.next Range.advance
  rw [hst]
  cases cu with
  | some v =>
    have hbv : st.b ≤ v := (mem_rangeList.1 (hmem v rfl)).2.1
    exact ⟨range_finish o hd (Nat.le_succ_of_le hbv) hat.next,
      fun k hk => range_finish o hd (Nat.le_trans hbv (Nat.le_max_right k v)) (hat.advance hk)⟩
  | none =>
    -- the lazy `Advance(begin)` first (`h0`), then the call from where it landed
    have h0 := hat.advance hd
    simp only [Option.getD_none, Nat.max_zero] at h0
    have hge : ∀ y ∈ rangeList st.b st.e ys, st.b ≤ y := fun y hy => (mem_rangeList.1 hy).2.1
    refine ⟨(range_finish o hd (Nat.le_refl _) h0).retarget (fun y hy => ⟨fun _ => Nat.zero_le _, fun _ => hge y hy⟩),
      fun k hk => ?_⟩
    simp only [Option.isSome_none, Bool.false_eq_true, ↓reduceIte, Option.getD_none, Nat.max_zero]
    obtain ⟨it1, ⟨hr, hall⟩ | ⟨x, hr, hx, hat1⟩⟩ := h0
    · rw [hr]
      exact ⟨{ st with it := it1, started := true }, Or.inl ⟨rfl, fun y hy =>
        absurd (hall y (mem_rangeList.1 hy).1) (Nat.not_lt.2 (hge y hy))⟩⟩
    · rw [hr]
      refine (range_finish o hd (t := max k x) (Nat.le_trans hx.2.1 (Nat.le_max_right k x)) (hat1.advance hk)).retarget ?_
      exact fun y hy => ⟨fun h => Nat.le_trans (Nat.le_max_left k x) h,
        fun h => Nat.max_le.2 ⟨h, hx.2.2 y (mem_rangeList.1 hy).1 (hge y hy)⟩⟩

theorem range_refines {it : σ} {xs : List Nat} (b e : Nat) (h : Refines o it xs) (hb : o.dom b) :
    Refines (Range.ops o) ⟨it, b, e, false⟩ (rangeList b e xs) :=
  refinesAt_of_lands (V := RangeAt o) (fun _ _ _ _ ⟨_, hat, _⟩ => hat.value)
    (fun st xs cu _ hm hV => range_lands o st xs cu hV hm)
    (rangeList_sorted h.wf) ⟨xs, At.of_refines h, hb, rfl, rfl⟩

end range

end B6.Lemmas.Search
