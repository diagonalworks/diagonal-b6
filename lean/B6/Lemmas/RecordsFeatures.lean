import B6.Lemmas.RecordsTags
import B6.Lemmas.Basic.Sorted
/-!
# Round-trip lemmas, part 4: the records made of the earlier parts

Every record is `RT.andThen` of its fields.  The three area geometries share their header through `GeometryWord`;
`UnmarshalAreaGeometry` reads the same word and dispatches on the encoding (`RT.geometryFields`).  The mixed geometry is
proved twice, for the plain decoder and for a reused receiver.  Three records sort reference lists while marshalling,
hence the `sortRefs` facts.
-/
namespace B6.Model.Records
open B6.Model.Varint

/-! ## AreaGeometryReferences -/

theorem rt_areaGeomRefsBody (p : BitVec 16) (a : AreaGeomRefs) (h : References.ok a.paths = true) :
    RT (DeltaInts.enc a.polygons ++ References.enc p a.paths) (AreaGeomRefs.decBody p a.polygons.length) a :=
  RT.andThen (rt_deltaInts a.polygons) (RT.map _ (rt_references p a.paths h))

theorem AreaGeomRefs.ok_iff (a : AreaGeomRefs) :
    a.ok = true ↔ a.polygons.length < 2 ^ 63 ∧ References.ok a.paths = true := by
  simp only [AreaGeomRefs.ok, Bool.and_eq_true, decide_eq_true_eq]

theorem rt_areaGeomRefs (p : BitVec 16) (a : AreaGeomRefs) (h : a.ok = true) :
    RT (a.enc p) (AreaGeomRefs.dec p) a := by
  obtain ⟨hl, hp⟩ := (AreaGeomRefs.ok_iff a).1 h
  unfold AreaGeomRefs.enc
  rw [List.append_assoc]
  exact RT.geometryWord (geometryWord_refs a.polygons.length hl) (rt_areaGeomRefsBody p a hp)

/-! ## PolygonGeometryLatLngs, AreaGeometryLatLngs -/

theorem PolygonLL.ok_iff (q : PolygonLL) : q.ok = true ↔ q.loops.length < 2 ^ 63 ∧ LatLngs.ok q.points = true := by
  simp only [PolygonLL.ok, Bool.and_eq_true, decide_eq_true_eq]

theorem rt_polygonLL (q : PolygonLL) (h : q.ok = true) : RT q.enc PolygonLL.dec q := by
  obtain ⟨hl, hp⟩ := (PolygonLL.ok_iff q).1 h
  unfold PolygonLL.enc PolygonLL.dec
  rw [List.append_assoc]
  exact RT.andThen (rt_count _ hl) (RT.andThen (rt_deltaInts q.loops) (RT.map _ (rt_latlngs q.points hp)))

theorem rt_areaGeomLLBody (ps : List PolygonLL) (h : ∀ q ∈ ps, q.ok = true) :
    RT (encEach (fun (_ : Unit) q => (PolygonLL.enc q, ())) () ps) (AreaGeomLL.decBody ps.length) ps :=
  RT.list PolygonLL.enc PolygonLL.dec ps fun q hq => rt_polygonLL q (h q hq)

theorem AreaGeomLL.ok_iff (ps : List PolygonLL) :
    AreaGeomLL.ok ps = true ↔ ps.length < 2 ^ 62 ∧ ∀ q ∈ ps, q.ok = true := by
  simp only [AreaGeomLL.ok, Bool.and_eq_true, decide_eq_true_eq, List.all_eq_true]

theorem rt_areaGeomLL (ps : List PolygonLL) (h : AreaGeomLL.ok ps = true) : RT (AreaGeomLL.enc ps) AreaGeomLL.dec ps := by
  obtain ⟨hl, hq⟩ := (AreaGeomLL.ok_iff ps).1 h
  exact RT.geometryWord (geometryWord_spec 1 ps.length (by omega) hl) (rt_areaGeomLLBody ps hq)

/-! ## AreaGeometryMixed -/

theorem rt_polygonMixedInto (p : BitVec 16) (q slot : PolygonMixed) (hok : q.ok = true) :
    RT (q.enc p) (PolygonMixed.decInto p q.isRef slot)
      (if q.isRef then ⟨q.paths, slot.ll⟩ else ⟨slot.paths, q.ll⟩ : PolygonMixed) := by
  unfold PolygonMixed.enc PolygonMixed.decInto
  unfold PolygonMixed.ok at hok
  cases hr : q.isRef <;> rw [hr] at hok
  · exact RT.map _ (rt_polygonLL q.ll hok)
  · exact RT.map _ (rt_references p q.paths hok)

theorem rt_polygonMixed (p : BitVec 16) (q : PolygonMixed) (hok : q.ok = true) (hc : q.canonical = true) :
    RT (q.enc p) (PolygonMixed.dec p q.isRef) q := by
  refine (rt_polygonMixedInto p q PolygonMixed.zero hok).value ?_
  obtain ⟨paths, ll⟩ := q
  cases paths with
  | nil => rfl
  | cons r rs => exact congrArg (PolygonMixed.mk _) (eq_of_beq (show (ll == PolygonLL.zero) = true from hc)).symm

theorem rt_areaGeomMixedBody (p : BitVec 16) (ps : List PolygonMixed) (hl : ps.length < 2 ^ 62)
    (hok : ∀ q ∈ ps, q.ok = true) (hc : ∀ q ∈ ps, q.canonical = true) :
    RT (Bits.enc (ps.map PolygonMixed.isRef) ++ encEach (fun (_ : Unit) q => (PolygonMixed.enc p q, ())) () ps)
      (AreaGeomMixed.decBody p ps.length) ps :=
  RT.flagged (loop := fun fl => Dec.forEach (fun isRef (_ : Unit) => (PolygonMixed.dec p isRef).map fun q => (q, ())) fl ())
    (ps.map PolygonMixed.isRef) ps.length (List.length_map ..) (by omega) <|
    RT.forEach (fun q => q.ok = true ∧ q.canonical = true) PolygonMixed.isRef _ _
      (fun _ q hq => RT.map (fun q => (q, ())) (rt_polygonMixed p q hq.1 hq.2)) ps () (fun q hq => ⟨hok q hq, hc q hq⟩)

theorem AreaGeomMixed.ok_iff (ps : List PolygonMixed) :
    AreaGeomMixed.ok ps = true ↔ ps.length < 2 ^ 62 ∧ ∀ q ∈ ps, q.ok = true := by
  simp only [AreaGeomMixed.ok, Bool.and_eq_true, decide_eq_true_eq, List.all_eq_true]

theorem rt_areaGeomMixed (p : BitVec 16) (ps : List PolygonMixed) (h : AreaGeomMixed.ok ps = true)
    (hc : ∀ q ∈ ps, q.canonical = true) : RT (AreaGeomMixed.enc p ps) (AreaGeomMixed.dec p) ps := by
  obtain ⟨hl, hq⟩ := (AreaGeomMixed.ok_iff ps).1 h
  unfold AreaGeomMixed.enc
  rw [List.append_assoc]
  exact RT.geometryWord (geometryWord_spec 2 ps.length (by omega) hl) (rt_areaGeomMixedBody p ps hl hq hc)

/-! The receiver version.  Unlike `rt_refLLs`, the plain round trip above is *not* obtained from it; the two share the
step (`rt_polygonMixed` is `rt_polygonMixedInto` at a zero slot). -/

theorem rt_areaGeomMixedLoopInto (p : BitVec 16) (ps : List PolygonMixed) : ∀ (old : List PolygonMixed),
    (∀ q ∈ ps, q.ok = true) →
    RT (encEach (fun (_ : Unit) q => (PolygonMixed.enc p q, ())) () ps)
      (AreaGeomMixed.decLoopInto p (ps.map PolygonMixed.isRef) old) (AreaGeomMixed.overlay old ps) := by
  intro old hok
  fun_induction AreaGeomMixed.overlay old ps with
  | case1 old => exact RT.pure _
  | case2 old x xs ih =>
    obtain ⟨hx, hxs⟩ := List.forall_mem_cons.mp hok
    exact RT.andThen (rt_polygonMixedInto p x (splitSlot PolygonMixed.zero old).1 hx) (RT.map (_ :: ·) (ih hxs))

theorem rt_areaGeomMixedInto (old : List PolygonMixed) (p : BitVec 16) (ps : List PolygonMixed)
    (h : AreaGeomMixed.ok ps = true) :
    RT (AreaGeomMixed.enc p ps) (AreaGeomMixed.decInto old p) (AreaGeomMixed.overlay old ps) := by
  obtain ⟨hl, hq⟩ := (AreaGeomMixed.ok_iff ps).1 h
  unfold AreaGeomMixed.enc
  rw [List.append_assoc]
  exact RT.geometryWord (geometryWord_spec 2 ps.length (by omega) hl) <|
    RT.flagged (loop := fun fl => AreaGeomMixed.decLoopInto p fl old)
      (ps.map PolygonMixed.isRef) ps.length (List.length_map ..) (by omega) (rt_areaGeomMixedLoopInto p ps old hq)

/-! ## `UnmarshalAreaGeometry` -/

theorem rt_areaGeometry (p : BitVec 16) (g : AreaGeometry) (hok : g.ok = true) (hc : g.canonical = true) :
    RT (g.enc p) (AreaGeometry.dec p) g := by
  let body (e l : Nat) : Dec AreaGeometry :=
    if e = 0 then (AreaGeomRefs.decBody p l).map AreaGeometry.refs
    else if e = 1 then (AreaGeomLL.decBody l).map AreaGeometry.latlngs
    else (AreaGeomMixed.decBody p l).map AreaGeometry.mixed
  cases g with
  | refs a =>
    obtain ⟨hl, hp⟩ := (AreaGeomRefs.ok_iff a).1 hok
    simp only [AreaGeometry.enc, AreaGeomRefs.enc]
    rw [List.append_assoc]
    exact RT.geometryFields (geometryWord_refs a.polygons.length hl) body
      (RT.map AreaGeometry.refs (rt_areaGeomRefsBody p a hp))
  | latlngs ps =>
    obtain ⟨hl, hq⟩ := (AreaGeomLL.ok_iff ps).1 hok
    exact RT.geometryFields (geometryWord_spec 1 ps.length (by omega) hl) body
      (RT.map AreaGeometry.latlngs (rt_areaGeomLLBody ps hq))
  | mixed ps =>
    obtain ⟨hl, hq⟩ := (AreaGeomMixed.ok_iff ps).1 hok
    simp only [AreaGeometry.canonical, List.all_eq_true] at hc
    simp only [AreaGeometry.enc, AreaGeomMixed.enc]
    rw [List.append_assoc]
    exact RT.geometryFields (geometryWord_spec 2 ps.length (by omega) hl) body
      (RT.map AreaGeometry.mixed (rt_areaGeomMixedBody p ps hl hq hc))

/-! ## sorting: `sortRefs` permutes (so the length and `ok` are preserved) and sorts -/

theorem sortRefs_isSort : Lemmas.Basic.IsInsertSort (fun a b => Reference.le a b = true) insertRef sortRefs :=
  ⟨fun _ => rfl, fun _ _ _ => rfl, rfl, fun _ _ => rfl⟩

theorem sortRefs_perm (l : List Reference) : (sortRefs l).Perm l := sortRefs_isSort.perm l

theorem referencesOk_sort (l : List Reference) : References.ok (sortRefs l) = References.ok l := by
  rw [References.ok, (sortRefs_perm l).length_eq]; rfl

theorem Reference.le_total (a b : Reference) : Reference.le a b = true ∨ Reference.le b a = true := by
  simp only [Reference.le]
  by_cases h : a.tn = b.tn
  · simp only [h, if_true, decide_eq_true_eq]; omega
  · have h' : ¬ b.tn = a.tn := fun e => h e.symm
    have hn : a.tn.toNat ≠ b.tn.toNat := fun e => h (BitVec.eq_of_toNat_eq e)
    simp only [h, h', if_false, decide_eq_true_eq]; omega

theorem Reference.le_trans (a b c : Reference) (h1 : Reference.le a b = true) (h2 : Reference.le b c = true) :
    Reference.le a c = true := by
  simp only [Reference.le, ← BitVec.toNat_inj] at h1 h2 ⊢
  split at h1 <;> split at h2 <;> split <;> simp only [decide_eq_true_eq] at h1 h2 ⊢ <;> omega

/-- sorted by `References.Less`; with `sortRefs_perm`: `sortRefs l` is *the* result of `sort.Sort`. -/
theorem sortRefs_sorted (l : List Reference) : (sortRefs l).Pairwise (fun a b => Reference.le a b = true) :=
  sortRefs_isSort.pairwise (fun h => (Reference.le_total _ _).resolve_left h) (Reference.le_trans _ _ _) l

/-! ## feature records -/

theorem rt_commonPoint (n : Namespaces) (c : CommonPoint) (hok : c.ok = true) (hc : Tags.canonical c.tags = true) :
    RT (c.enc n) (CommonPoint.dec n) c := by
  unfold CommonPoint.enc CommonPoint.dec
  exact RT.andThen (rt_tags 0#16 c.tags (show Tags.ok c.tags = true from hok) hc) (RT.map _ (rt_reference (tnPath n) c.path))

theorem rt_pointReferences (n : Namespaces) (p : PointReferences) (hok : p.ok = true) :
    RT (p.enc n) (PointReferences.dec n) p.sorted := by
  simp only [PointReferences.ok, Bool.and_eq_true] at hok
  unfold PointReferences.enc PointReferences.dec
  exact RT.andThen (rt_references _ _ (by rw [referencesOk_sort]; exact hok.1))
    (RT.map _ (rt_references _ _ (by rw [referencesOk_sort]; exact hok.2)))

theorem rt_fullPoint (n : Namespaces) (p : FullPoint) (hok : p.ok = true) (hc : Tags.canonical p.tags = true) :
    RT (p.enc n) (FullPoint.dec n) p.sorted := by
  simp only [FullPoint.ok, Bool.and_eq_true] at hok
  unfold FullPoint.enc FullPoint.dec
  exact RT.andThen (rt_tags 0#16 p.tags hok.1 hc) (RT.map _ (rt_pointReferences n p.refs hok.2))

theorem Path.ok_iff (p : Path) :
    p.ok = true ↔ Tags.ok p.tags = true ∧ References.ok p.areas = true ∧ References.ok p.relations = true := by
  simp only [Path.ok, Bool.and_eq_true, and_assoc]

theorem rt_path (n : Namespaces) (p : Path) (hok : p.ok = true) (hc : Tags.canonical p.tags = true) :
    RT (p.enc n) (Path.dec n) p.sorted := by
  obtain ⟨ht, ha, hr⟩ := (Path.ok_iff p).1 hok
  unfold Path.enc Path.dec
  rw [List.append_assoc]
  exact RT.andThen (rt_tags _ p.tags ht hc)
    (RT.andThen (rt_references _ _ (by rw [referencesOk_sort]; exact ha)) (RT.map _ (rt_references _ _ hr)))

theorem Area.ok_iff (a : Area) :
    a.ok = true ↔ Tags.ok a.tags = true ∧ a.polygons.ok = true ∧ References.ok a.relations = true := by
  simp only [Area.ok, Bool.and_eq_true, and_assoc]

theorem rt_area (n : Namespaces) (a : Area) (hok : a.ok = true) (hc : Tags.canonical a.tags = true)
    (hg : a.polygons.canonical = true) : RT (a.enc n) (Area.dec n) a := by
  obtain ⟨ht, hp, hr⟩ := (Area.ok_iff a).1 hok
  unfold Area.enc Area.dec
  rw [List.append_assoc]
  exact RT.andThen (rt_tags _ a.tags ht hc)
    (RT.andThen (rt_areaGeometry _ a.polygons hp hg) (RT.map _ (rt_references _ _ hr)))

theorem Relation.ok_iff (r : Relation) :
    r.ok = true ↔ Tags.ok r.tags = true ∧ Members.ok r.members = true ∧ References.ok r.relations = true := by
  simp only [Relation.ok, Bool.and_eq_true, and_assoc]

theorem rt_relationWith (mp : BitVec 16) (n : Namespaces) (r : Relation) (hok : r.ok = true)
    (hc : Tags.canonical r.tags = true) :
    RT (r.enc mp n) (Relation.decWith mp n) r := by
  obtain ⟨ht, hm, hr⟩ := (Relation.ok_iff r).1 hok
  unfold Relation.enc Relation.decWith
  rw [List.append_assoc]
  exact RT.andThen (rt_tags _ r.tags ht hc)
    (RT.andThen (rt_members mp r.members hm) (RT.map _ (rt_references _ _ hr)))

/-! ## Namespaces, strings, search index headers -/

theorem rt_namespaces (n : Namespaces) : RT n.enc Namespaces.dec n := by
  unfold Namespaces.enc Namespaces.dec
  rw [List.append_assoc, List.append_assoc]
  exact RT.andThen (rt_u16 n.point) (RT.andThen (rt_u16 n.path) (RT.andThen (rt_u16 n.area) (RT.map _ (rt_u16 n.relation))))

theorem rt_str (s : Bytes) (h : Str.ok s = true) : RT (Str.enc s) Str.dec s := by
  simp only [Str.ok, decide_eq_true_eq] at h
  unfold Str.enc Str.dec
  refine RT.andThen (rt_count _ h) ?_
  intro rest
  simp only [List.length_append]
  rw [if_neg (by omega), List.take_append_of_le_length (by omega), List.take_of_length_le (by omega)]

theorem rt_namespaceIndex (x : NamespaceIndex) : RT x.enc NamespaceIndex.dec x := by
  unfold NamespaceIndex.enc NamespaceIndex.dec
  have := x.tn.isLt
  refine (RT.andThen (rt_uvarint x.tn.toNat (by omega)) (RT.map _ (rt_uvarint _ x.index.isLt))).value ?_
  cases x; simp

theorem rt_namespaceIndices (xs : List NamespaceIndex) (h : NamespaceIndices.ok xs = true) :
    RT (NamespaceIndices.enc xs) NamespaceIndices.dec xs :=
  RT.counted NamespaceIndex.enc NamespaceIndex.dec xs (of_decide_eq_true h) fun x _ => rt_namespaceIndex x

theorem rt_postingListHeader (h : PostingListHeader) (hok : h.ok = true) : RT h.enc PostingListHeader.dec h := by
  simp only [PostingListHeader.ok, Bool.and_eq_true] at hok
  unfold PostingListHeader.enc PostingListHeader.dec
  rw [List.append_assoc]
  refine (RT.andThen (rt_str h.token hok.1) (RT.andThen (rt_uvarint _ h.features.isLt)
    (RT.map _ (rt_namespaceIndices h.namespaces hok.2)))).value ?_
  cases h; simp

end B6.Model.Records
