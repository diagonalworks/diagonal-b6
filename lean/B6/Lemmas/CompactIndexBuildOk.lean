import B6.Lemmas.CompactIndexFind
/-!
# C01 lemmas: the build does not panic on an accepted source

Every `orPanic` of `build` succeeds under `Accepts`: every string is in the table, every namespace in the
namespace table, every length fits its word, every list value fits the path's geometry encoding, and every point a
relation lists lies in a namespace that has a point block.
-/
namespace B6.Model.CompactIndex
open B6.Model.Varint B6.Model.Records B6.Lemmas.Basic B6.Lemmas.Basic.Except

/-- `Basic.mapM_some_of_forall` without the length -/
theorem mapM_some_of_forall {α β : Type} (f : α → Option β) : ∀ xs : List α, (∀ x ∈ xs, ∃ y, f x = some y) →
    ∃ ys, xs.mapM f = some ys :=
  fun xs h => (B6.Lemmas.Basic.mapM_some_of_forall f xs h).imp fun _ h => h.1

theorem strId_of_mem (strs : List Str) (s : Str) (h : strs.contains s = true) :
    ∃ i, strId strs s = some i ∧ i < strs.length := by
  have hm : s ∈ strs := by simpa using h
  obtain ⟨i, hi⟩ := findIdx?_of_mem s strs hm
  exact ⟨i, hi, findIdx?_lt _ strs i hi⟩

theorem mkRef_of_mem (nt : List Str) (id : FID) (h : id.ns ∈ nt) : ∃ r, mkRef nt id = some r := by
  obtain ⟨n, hn⟩ := nsEncode_of_mem nt id.ns h
  simp [mkRef, hn]

theorem lenOk_of_small (e l : Nat) (hl : l < 2 ^ 48) : lenOk e l = true :=
  (lenOk_iff_lt e l).2 (by split <;> omega)

theorem geomEncoding_cases (xs : List Elem) :
    (geomEncoding xs = 2) ∨ (geomEncoding xs = 0 ∧ ∀ x ∈ xs, x.isValidRef = true) ∨
      (geomEncoding xs = 1 ∧ ∀ x ∈ xs, x.isValidRef = false) := by
  unfold geomEncoding
  simp only
  by_cases hr : xs.any Elem.isValidRef = true
  · by_cases hl : (xs.any fun e => !e.isValidRef) = true
    · simp [hr, hl]
    · refine Or.inr (Or.inl ⟨by simp [hr, hl], ?_⟩)
      intro x hx
      cases hv : x.isValidRef with
      | true => rfl
      | false =>
        exfalso
        apply hl
        exact List.any_eq_true.mpr ⟨x, hx, by simp [hv]⟩
  · refine Or.inr (Or.inr ⟨by simp [hr], ?_⟩)
    intro x hx
    cases hv : x.isValidRef with
    | false => rfl
    | true => exact absurd (List.any_eq_true.mpr ⟨x, hx, hv⟩) hr

/-- an element the writer can encode: a reference needs an id that fits and a namespace of the table -/
def Elem.fits (c : Ctx) : Elem → Prop
  | .ref id => id.ok = true ∧ id.ns ∈ c.nt
  | .ll _ => True

/-- a list value whose elements all occur in the path's geometry fits the path's encoding -/
theorem listValue_total (c : Ctx) (xs ys : List Elem) (hsub : ∀ y ∈ ys, y ∈ xs)
    (hok : ∀ x ∈ xs, x.fits c)
    (hlen : ys.length < 2 ^ 48) :
    ∃ cv, toCompactValue c (some (geomEncoding xs)) (.list ys) = some cv ∧ cv.ok = true := by
  have hrefs : ∀ id, Elem.ref id ∈ ys → (∃ r, mkRef c.nt id = some r) ∧ (Elem.ref id).isValidRef = true := by
    intro id hy
    have : id.ok = true ∧ id.ns ∈ c.nt := hok _ (hsub _ hy)
    simp only [FID.ok, Bool.and_eq_true] at this
    exact ⟨mkRef_of_mem c.nt id this.2, this.1.2⟩
  -- in each encoding: every element is written, and the value is as long as `ys`
  have hdone : ∀ {β : Type} (g : Elem → Option β) (mk : List β → Value) (e : Nat),
      (∀ y ∈ ys, ∃ b, g y = some b) → (∀ l : List β, (mk l).ok = lenOk e l.length) →
      ∃ cv, (ys.mapM g).map mk = some cv ∧ cv.ok = true := by
    intro β g mk e hg hmk
    obtain ⟨l, hl⟩ := mapEq_exists ys hg
    exact ⟨mk l, by rw [(mapM_some_iff g ys l).mpr hl]; rfl, by
      rw [hmk, mapEq_length hl]; exact lenOk_of_small e _ hlen⟩
  unfold toCompactValue
  rcases geomEncoding_cases xs with h2 | ⟨h0, hall⟩ | ⟨h1, hall⟩
  · simp only [h2]
    refine hdone _ Value.mixed 2 (fun y hy => ?_) (fun l => rfl)
    cases y with
    | ll p => exact ⟨_, rfl⟩
    | ref id => obtain ⟨r, hr⟩ := (hrefs id hy).1; exact ⟨⟨r, LatLng.zero⟩, by simp [hr]⟩
  · simp only [h0]
    refine hdone _ Value.refs 0 (fun y hy => ?_) (fun l => rfl)
    cases y with
    | ll p => have := hall _ (hsub _ hy); simp [Elem.isValidRef] at this
    | ref id => exact (hrefs id hy).1
  · simp only [h1]
    refine hdone _ Value.latlngs 1 (fun y hy => ?_) (fun l => rfl)
    cases y with
    | ll p => exact ⟨p, rfl⟩
    | ref id => have := hall _ (hsub _ hy); rw [(hrefs id hy).2] at this; cases this

theorem plainValue_total (c : Ctx) (hs : c.strs.length < 2 ^ 48) (e : Option Nat) (v : Val) (hv : v.plain = true)
    (hstr : ∀ s, v = .str s → c.strs.contains s = true) :
    ∃ cv, toCompactValue c e v = some cv ∧ cv.ok = true := by
  cases v with
  | str s =>
    obtain ⟨i, hi, hlt⟩ := strId_of_mem c.strs s (hstr s rfl)
    refine ⟨.int (BitVec.ofNat 64 i), by simp [toCompactValue, hi], ?_⟩
    simp only [Value.ok, valueTypeOk_iff, BitVec.toNat_ofNat]
    omega
  | pt p => exact ⟨.point p, rfl, latlng_ok p⟩
  | fid i => simp [Val.plain] at hv
  | list xs => simp [Val.plain] at hv

theorem tags_total (c : Ctx) (f : Feature) (hlen : f.tags.length < 2 ^ 48)
    (hval : ∀ t ∈ f.tags, (∃ i, strId c.strs t.key = some i) ∧
      ∃ cv, toCompactValue c (tagEncoding f) t.val = some cv ∧ cv.ok = true) :
    ∃ ts, toCompactTags c f = some ts ∧ Tags.ok ts = true := by
  obtain ⟨ts, hts⟩ : ∃ ts : List Tag, f.tags.map (compactTag c f) = ts.map some := mapEq_exists f.tags fun t ht => by
    obtain ⟨⟨i, hi⟩, cv, hcv, _⟩ := hval t ht
    exact ⟨_, (compactTag_eq_some c f t _).mpr ⟨i, cv, hi, hcv, rfl⟩⟩
  refine ⟨ts, (toCompactTags_iff c f ts).mpr hts, ?_⟩
  have hl := mapEq_length hts
  refine (Tags.ok_iff ts).2 ⟨by omega, fun y hy => ?_⟩
  obtain ⟨t, ht, hty⟩ := mapEq_of_mem_right hts hy
  obtain ⟨k, v, _, hv, rfl⟩ := (compactTag_eq_some c f t y).mp hty
  obtain ⟨_, cv, hcv, hok⟩ := hval t ht
  exact Option.some.inj (hv.symm.trans hcv) ▸ hok

theorem strings_in_table (c : Ctx) (f : Feature) (hstr : ∀ s ∈ stringsOf f, c.strs.contains s = true) :
    ∀ t ∈ f.tags, c.strs.contains t.key = true ∧ ∀ s, t.val = .str s → c.strs.contains s = true := by
  intro t ht
  constructor
  · apply hstr
    unfold stringsOf
    exact List.mem_append_left _ (List.mem_flatMap.mpr ⟨t, ht, by simp⟩)
  · intro s hsv
    apply hstr
    unfold stringsOf
    exact List.mem_append_left _ (List.mem_flatMap.mpr ⟨t, ht, by simp [hsv]⟩)

theorem tags_total_plain (c : Ctx) (hs : c.strs.length < 2 ^ 48) (f : Feature) (hlen : f.tags.length < 2 ^ 48)
    (hplain : ∀ t ∈ f.tags, t.val.plain = true) (hstr : ∀ s ∈ stringsOf f, c.strs.contains s = true) :
    ∃ ts, toCompactTags c f = some ts ∧ Tags.ok ts = true := by
  refine tags_total c f hlen ?_
  intro t ht
  have hst := strings_in_table c f hstr t ht
  obtain ⟨i, hi, _⟩ := strId_of_mem c.strs t.key hst.1
  exact ⟨⟨i, hi⟩, plainValue_total c hs _ t.val (hplain t ht) hst.2⟩

/-! ## the tags of a (validated) path -/

/-- what writing the tags of a path needs, in a form the validator's inversion preserves (`pathTagsOK_validated`) -/
structure PathTagsOK (c : Ctx) (g : Feature) : Prop where
  nopoint : getTag g.tags kPoint = none
  haspath : (getTag g.tags kPath).isSome = true
  vals : ∀ t ∈ g.tags, t.val.ok = true
  lists : ∀ t ∈ g.tags, ∀ ys, t.val = .list ys → (∀ y ∈ ys, y ∈ pathElems g) ∧ ys.length < 2 ^ 48
  elems : ∀ x ∈ pathElems g, x.fits c
  strs : ∀ t ∈ g.tags, c.strs.contains t.key = true ∧ ∀ s, t.val = .str s → c.strs.contains s = true
  len : g.tags.length < 2 ^ 48

theorem geomElems_of_nopoint (g : Feature) (h : getTag g.tags kPoint = none) : geomElems g = pathElems g := by
  unfold geomElems geometryLen
  simp [h]

theorem path_tags_total (c : Ctx) (hs : c.strs.length < 2 ^ 48) (g : Feature) (h : PathTagsOK c g) :
    ∃ ts, toCompactTags c g = some ts ∧ Tags.ok ts = true := by
  refine tags_total c g h.len ?_
  intro t ht
  obtain ⟨i, hi, _⟩ := strId_of_mem c.strs t.key (h.strs t ht).1
  refine ⟨⟨i, hi⟩, ?_⟩
  have henc : tagEncoding g = some (geomEncoding (pathElems g)) := by
    unfold tagEncoding
    simp [h.haspath, geomElems_of_nopoint g h.nopoint]
  cases hv : t.val with
  | str s => exact plainValue_total c hs _ _ rfl (fun s' hs' => (h.strs t ht).2 s' (by rw [hv, hs']))
  | pt p => exact plainValue_total c hs _ _ rfl (fun s' hs' => by simp at hs')
  | fid i =>
    have := h.vals t ht
    rw [hv] at this
    simp [Val.ok] at this
  | list ys =>
    rw [henc]
    have ⟨hsub, hlen⟩ := h.lists t ht ys hv
    exact listValue_total c (pathElems g) ys hsub h.elems hlen

theorem pathTagsOK_validated (c : Ctx) (fs : List Feature) (f : Feature) (h : PathTagsOK c f) :
    PathTagsOK c (validated fs f) := by
  unfold validated
  split
  · have hel := pathElems_invertTags f
    refine ⟨?_, ?_, ?_, ?_, fun x hx => h.elems x ((hel x).mp hx), ?_, ?_⟩
    · show getTag (invertTags f.tags) kPoint = none
      rw [getTag_invertTags, if_neg (by decide)]
      exact h.nopoint
    · show (getTag (invertTags f.tags) kPath).isSome = true
      rw [getTag_invertTags, if_pos rfl]
      simpa using h.haspath
    · exact forall_mem_invertTags h.vals fun t ht => invVal_ok _ (h.vals t ht)
    · refine forall_mem_invertTags (fun t ht ys hys => ?_) fun t ht ys hys => ?_
      · have := h.lists t ht ys hys
        exact ⟨fun y hy => (hel y).mpr (this.1 y hy), this.2⟩
      · have := h.lists t ht _ (invVal_eq_list _ _ hys)
        exact ⟨fun y hy => (hel y).mpr (this.1 y (List.mem_reverse.mpr hy)), by simpa using this.2⟩
    · exact forall_mem_invertTags h.strs fun t ht =>
        ⟨(h.strs t ht).1, fun s hs => (h.strs t ht).2 s (invVal_eq_str _ _ hs)⟩
    · show (invertTags f.tags).length < 2 ^ 48
      rw [invertTags_length]
      exact h.len
  · exact h

theorem getTag_mem (ts : List FTag) (k : Str) (v : Val) (h : getTag ts k = some v) : ∃ t ∈ ts, t.val = v := by
  unfold getTag at h
  obtain ⟨t, ht, rfl⟩ := Option.map_eq_some_iff.mp h
  exact ⟨t, List.mem_of_find?_eq_some ht, rfl⟩

theorem pathTagsOK_of_accepts (fs : List Feature) (c : Ctx) (hnt : c.nt = nsTable fs)
    (f : Feature) (hf : f ∈ fs) (h1 : f.id.typ = 1) (hF : FeatureFacts fs f)
    (hstr : ∀ s ∈ stringsOf f, c.strs.contains s = true) : PathTagsOK c f := by
  have hnopoint := hF.noPoint h1
  have hgeo := geomElems_of_nopoint f hnopoint
  have hlen2 : 2 ≤ (pathElems f).length := by
    have := hF.kept
    simp only [kept, h1, pathValid, Bool.and_eq_true, decide_eq_true_eq] at this
    simpa [geometryLen, hnopoint] using this.1.1.2
  obtain ⟨xs, hgx, hpx⟩ : ∃ xs, getTag f.tags kPath = some (.list xs) ∧ pathElems f = xs := by
    unfold pathElems at hlen2 ⊢
    cases hg : getTag f.tags kPath with
    | none => simp [hg] at hlen2
    | some v => cases v <;> simp_all
  obtain ⟨tp, htp, htpv⟩ := getTag_mem f.tags kPath _ hgx
  refine ⟨hnopoint, by simp [hgx], hF.pathVals h1, ?_, ?_, strings_in_table c f hstr, hF.tagsLen⟩
  · intro t ht ys hys
    exact ⟨fun y hy => hF.pathLists h1 t ht ys hys ▸ hy, hF.listLen t ht ys hys⟩
  · intro x hx
    cases x with
    | ll p => trivial
    | ref id =>
      have hok := hF.pathVals h1 tp htp
      rw [htpv, ← hpx] at hok
      simp only [Val.ok, List.all_eq_true] at hok
      have hidok := hok _ hx
      simp only at hidok
      refine ⟨hidok, hnt ▸ mem_nsTable fs f hf id.ns ?_⟩
      simp only [mentioned, h1, List.mem_cons, List.mem_filterMap]
      refine Or.inr ⟨Elem.ref id, by rw [hgeo]; exact hx, ?_⟩
      simp only [FID.ok, Bool.and_eq_true] at hidok
      simp [hidok.2]

theorem refsOf_total (c : Ctx) (ids : List FID) (h : ∀ id ∈ ids, id.ns ∈ c.nt) :
    ∃ rs, refsOf c ids = .ok rs ∧ rs.length = ids.length :=
  mapM_ok_of_forall (fun id => orPanic "reference namespace" (mkRef c.nt id)) ids fun id hid => by
    obtain ⟨r, hr⟩ := mkRef_of_mem c.nt id (h id hid)
    exact ⟨r, by simp [hr]⟩

/-- `insertFID` in the form of `B6.Lemmas.Basic.Sorted`: the order test first (an id is not below itself) -/
theorem insertFID_cons (x y : FID) (ys : List FID) : insertFID x (y :: ys) =
    if FID.lt x y = true then x :: y :: ys else if (x == y) = true then y :: ys else y :: insertFID x ys :=
  ite_eq_first (fun e h => by rw [eq_of_beq e] at h; simp [FID.lt] at h) _ _ _

theorem sortDedupFIDs_isSort : IsInsertSet (fun a b => FID.lt a b = true) (fun a b : FID => (a == b) = true) insertFID
    sortDedupFIDs :=
  ⟨fun _ => rfl, insertFID_cons, eq_of_beq, rfl, fun _ _ => rfl⟩

/-- the ids `FillReferences` returns for a feature are ids of features of the source: their namespaces are in
the table and there are fewer than 2^48 of them -/
theorem related_total (c : Ctx) (fs : List Feature) (hnt : c.nt = nsTable fs) (hlen : fs.length < 2 ^ 48)
    (p : Feature → Bool) :
    ∃ rs, refsOf c (sortDedupFIDs ((fs.filter p).map (·.id))) = .ok rs ∧ References.ok rs = true := by
  have hl := sortDedupFIDs_isSort.length_le ((fs.filter p).map (·.id))
  obtain ⟨rs, hrs, hlen'⟩ := refsOf_total c (sortDedupFIDs ((fs.filter p).map (·.id))) (by
    intro id hid
    obtain ⟨a, ha, rfl⟩ := List.mem_map.mp (sortDedupFIDs_isSort.mem.mp hid)
    rw [hnt]
    exact mem_nsTable fs a (List.mem_filter.mp ha).1 a.id.ns (by simp [mentioned]))
  refine ⟨rs, hrs, ?_⟩
  unfold References.ok
  apply lenOk_of_small 0 _
  have : ((fs.filter p).map (·.id)).length ≤ fs.length := by
    simp only [List.length_map]
    exact List.length_filter_le _ _
  omega

theorem pathRecord_total (c : Ctx) (fs : List Feature) (hnt : c.nt = nsTable fs) (hlen : fs.length < 2 ^ 48)
    (hs : c.strs.length < 2 ^ 48) (g : Feature) (hg : PathTagsOK c g) : ∃ d, pathRecord c fs g = .ok d := by
  obtain ⟨ts, hts, htok⟩ := path_tags_total c hs g hg
  obtain ⟨as, has, haok⟩ := related_total c fs hnt hlen _
  obtain ⟨rs, hrs, hrok⟩ := related_total c fs hnt hlen _
  exact ⟨_, (pathRecord_ok_iff c fs g _).mpr
    ⟨ts, hts, as, has, rs, hrs, (Path.ok_iff _).2 ⟨htok, haok, hrok⟩, rfl⟩⟩

theorem member_fits (t i : Nat) (ref : Reference) (ht : t < 4) (hi : i < 2 ^ 48) :
    (⟨BitVec.ofNat 64 t, BitVec.ofNat 64 i, ref⟩ : Member).fits = true := by
  refine (Member.fits_iff _).2 ⟨?_, ?_⟩
  · show (BitVec.ofNat 64 i).toNat < 2 ^ 62
    rw [BitVec.toNat_ofNat]
    omega
  · show (BitVec.ofNat 64 t).toNat < 4
    rw [BitVec.toNat_ofNat]
    omega

theorem relationRecord_total (c : Ctx) (fs : List Feature) (hnt : c.nt = nsTable fs) (hlen : fs.length < 2 ^ 48)
    (hs : c.strs.length < 2 ^ 48) (r : Feature) (hr : r ∈ fs) (h3 : r.id.typ = 3) (hF : FeatureFacts fs r)
    (hstr : ∀ s ∈ stringsOf r, c.strs.contains s = true) : ∃ d, relationRecord c fs r = .ok d := by
  have hml := hF.membersLen
  obtain ⟨ts, hts, htok⟩ := tags_total_plain c hs r hF.tagsLen (hF.plain (by omega)) hstr
  obtain ⟨rs, hrs, hrok⟩ := related_total c fs hnt hlen _
  have hmem : ∀ s ∈ mentioned r, s ∈ c.nt := fun s hs => hnt ▸ mem_nsTable fs r hr s hs
  -- every member is written, with a type and a role that fit
  have hFok : ∀ m ∈ r.members, ∃ y, compactMember c m = .ok y ∧ y.fits = true := by
    intro m hm
    obtain ⟨ref, href⟩ := mkRef_of_mem c.nt m.id (hmem _ (by
      simp only [mentioned, h3, List.mem_cons, List.mem_map]
      exact Or.inr ⟨m, hm, rfl⟩))
    obtain ⟨i, hi, hilt⟩ := strId_of_mem c.strs m.role (hstr _ (by
      unfold stringsOf
      exact List.mem_append_right _ (List.mem_map.mpr ⟨m, hm, rfl⟩)))
    exact ⟨_, (compactMember_ok_iff c m _).mpr ⟨ref, href, i, hi, rfl⟩, member_fits _ i ref (hF.members h3 m hm).1 (by omega)⟩
  obtain ⟨ms, hms⟩ : ∃ ms : List Member, r.members.map (compactMember c) = ms.map .ok :=
    mapEq_exists r.members fun m hm => (hFok m hm).imp fun _ h => h.1
  have hmsok : Members.ok ms = true := by
    have hl := mapEq_length hms
    refine (Members.ok_iff ms).2 ⟨by omega, fun y hy => ?_⟩
    obtain ⟨m, hm, hy⟩ := mapEq_of_mem_right hms hy
    obtain ⟨y', hy', hok⟩ := hFok m hm
    exact Except.ok.inj (hy.symm.trans hy') ▸ hok
  obtain ⟨n, hn⟩ := nsEncode_of_mem c.nt r.id.ns (hmem _ (by simp [mentioned]))
  exact ⟨_, (relationRecord_ok_iff c fs r _).mpr
    ⟨ts, hts, ms, hms, rs, hrs, n, hn, (Relation.ok_iff _).2 ⟨htok, hmsok, hrok⟩, rfl⟩⟩

/-- what the writer needs of one polygon: sizes a Go slice can have, and the namespaces of its path ids in the table -/
def polySmall (c : Ctx) : Poly → Prop
  | .paths ids => ids.length < 2 ^ 48 ∧ ∀ id ∈ ids, id.ns ∈ c.nt
  | .loops ls => ls.length < 2 ^ 48 ∧ ls.flatten.length < 2 ^ 48

theorem polygonLL_ok (ls : List (List LatLng)) (h1 : ls.length < 2 ^ 48) (h2 : ls.flatten.length < 2 ^ 48) :
    (polygonLL ls).ok = true := by
  have := bounds_length_le ls 0
  simp only [PolygonLL.ok_iff, polygonLL, List.length_map]
  exact ⟨by omega, lenOk_of_small 1 _ h2⟩

theorem mixedF_total (c : Ctx) (p : Poly) (hp : polySmall c p) :
    ∃ q, mixedF c p = .ok q ∧ ∀ q', q = some q' → q'.ok = true := by
  cases p with
  | paths ids =>
    obtain ⟨rs, hrs, hl⟩ := refsOf_total c ids hp.2
    refine ⟨some ⟨rs, PolygonLL.zero⟩, by simp only [mixedF, bind_ok_iff, pure_ok_iff]; exact ⟨rs, hrs, rfl⟩, ?_⟩
    intro q' hq'
    cases hq'
    unfold PolygonMixed.ok PolygonMixed.isRef
    split
    · simp only [References.ok]
      exact lenOk_of_small 0 _ (by have := hp.1; omega)
    · show PolygonLL.zero.ok = true
      decide
  | loops ls =>
    refine ⟨_, rfl, ?_⟩
    intro q' hq'
    split at hq'
    · cases hq'
      simp only [PolygonMixed.ok, PolygonMixed.isRef, List.isEmpty_nil, Bool.not_true, Bool.false_eq_true, if_false]
      exact polygonLL_ok ls hp.1 hp.2
    · simp at hq'

theorem areaGeometry_total (c : Ctx) (a : Feature) (hpl : a.polys.length < 2 ^ 48)
    (hflat : (a.polys.filterMap pathsOf).flatten.length < 2 ^ 48) (hp : ∀ p ∈ a.polys, polySmall c p) :
    ∃ g, areaGeometry c a = .ok g ∧ g.ok = true := by
  fun_cases areaGeometry c a with
  | case1 => -- mixed
    obtain ⟨qs, hqs⟩ : ∃ qs : List (Option PolygonMixed), a.polys.map (mixedF c) = qs.map .ok :=
      mapEq_exists a.polys fun p hpm => (mixedF_total c p (hp p hpm)).imp fun _ h => h.1
    refine ⟨.mixed (qs.filterMap id), by simp only [bind_ok_iff, mapM_ok_iff, pure_ok_iff]; exact ⟨qs, hqs, rfl⟩, ?_⟩
    have hl := mapEq_length hqs
    have hfl : (qs.filterMap id).length ≤ qs.length := List.length_filterMap_le _ _
    refine (AreaGeomMixed.ok_iff _).2 ⟨by omega, fun q' hq' => ?_⟩
    simp only [List.mem_filterMap, id] at hq'
    obtain ⟨_, hoq, rfl⟩ := hq'
    obtain ⟨p, hpm, hfp⟩ := mapEq_of_mem_right hqs hoq
    obtain ⟨q, hq, hqok⟩ := mixedF_total c p (hp p hpm)
    exact hqok q' (Except.ok.inj (hq.symm.trans hfp))
  | case2 => -- references
    obtain ⟨rs, hrs, hl⟩ := refsOf_total c (a.polys.filterMap pathsOf).flatten
      (List.forall_mem_flatten.2 fun ids hids => (hp _ ((mem_filterMap_pathsOf _ _).mp hids)).2)
    refine ⟨_, by simp only [bind_ok_iff, pure_ok_iff]; exact ⟨rs, hrs, rfl⟩, ?_⟩
    have h1 := refStarts_length_le (a.polys.filterMap pathsOf) 0
    have h2 : (a.polys.filterMap pathsOf).length ≤ a.polys.length := List.length_filterMap_le _ _
    simp +zetaDelta only [AreaGeometry.ok, AreaGeomRefs.ok_iff, List.length_map]
    exact ⟨by omega, lenOk_of_small 0 _ (by omega)⟩
  | case3 => -- explicit loops
    refine ⟨_, rfl, ?_⟩
    have h1 : (((a.polys.filterMap loopsOf).map polygonLL).filter polygonValid).length ≤ a.polys.length := by
      refine Nat.le_trans (List.length_filter_le _ _) ?_
      simp only [List.length_map]
      exact List.length_filterMap_le _ _
    refine (AreaGeomLL.ok_iff _).2 ⟨by omega, fun q hq => ?_⟩
    obtain ⟨ls, hls, rfl⟩ := List.mem_map.mp (List.mem_filter.mp hq).1
    have := hp _ ((mem_filterMap_loopsOf _ _).mp hls)
    exact polygonLL_ok _ this.1 this.2

theorem areaRecord_total (c : Ctx) (fs : List Feature) (hnt : c.nt = nsTable fs) (hlen : fs.length < 2 ^ 48)
    (hs : c.strs.length < 2 ^ 48) (a : Feature) (ha : a ∈ fs) (h2 : a.id.typ = 2) (hF : FeatureFacts fs a)
    (hstr : ∀ s ∈ stringsOf a, c.strs.contains s = true) : ∃ d, areaRecord c fs a = .ok d := by
  obtain ⟨ts, hts, htok⟩ := tags_total_plain c hs a hF.tagsLen (hF.plain (by omega)) hstr
  have hp : ∀ p ∈ a.polys, polySmall c p := by
    intro p hp
    cases p with
    | paths ids =>
      refine ⟨hF.pathsLen ids hp, fun id hid => hnt ▸ mem_nsTable fs a ha _ ?_⟩
      simp only [mentioned, h2, List.mem_cons, List.mem_flatMap]
      exact Or.inr ⟨Poly.paths ids, hp, List.mem_map.mpr ⟨id, hid, rfl⟩⟩
    | loops ls => exact hF.loopsLen ls hp
  obtain ⟨g, hg, hgok⟩ := areaGeometry_total c a hF.polysLen hF.flatLen hp
  obtain ⟨rs, hrs, hrok⟩ := related_total c fs hnt hlen _
  exact ⟨_, (areaRecord_ok_iff c fs a _).mpr
    ⟨ts, hts, g, hg, rs, hrs, (Area.ok_iff _).2 ⟨htok, hgok, hrok⟩, rfl⟩⟩

/-! ## the point scratch pass -/

theorem scratchOf_total (c : Ctx) (fs : List Feature) (hnt : c.nt = nsTable fs) (hs : c.strs.length < 2 ^ 48)
    (f : Feature) (hf : f ∈ fs) (hF : FeatureFacts fs f) (hstr : ∀ s ∈ stringsOf f, c.strs.contains s = true) :
    ∃ l, scratchOf c fs f = .ok l := by
  have hidns : f.id.ns ∈ c.nt := hnt ▸ mem_nsTable fs f hf f.id.ns (by simp [mentioned])
  by_cases h0 : f.id.typ = 0
  · -- point
    obtain ⟨ts, hts, htok⟩ := tags_total_plain c hs f hF.tagsLen (hF.plain (by omega)) hstr
    exact ⟨_, (scratchOf_point_ok_iff c fs f h0 _).mpr ⟨ts, hts, htok, rfl⟩⟩
  obtain ⟨r, hr⟩ := mkRef_of_mem c.nt f.id hidns
  fun_cases scratchOf c fs f with
  | case1 h => exact absurd h h0
  | case2 => -- path
    simp only [bind_ok_iff, orPanic_ok, pure_ok_iff]
    exact ⟨_, r, hr, rfl⟩
  | case3 h3 => -- relation: every point member lies in a namespace that has a point block
    simp only [bind_ok_iff, orPanic_ok]
    suffices h : ∃ l, List.mapM _ _ = Except.ok l from h.imp fun l hl => ⟨r, hr, hl⟩
    refine (mapM_ok_of_forall _ _ fun m hm => ?_).imp fun _ h => h.1
    have ⟨hmm, hm0⟩ := List.mem_filter.mp hm
    have hne : ¬ blockCount fs m.id.ns 0 = 0 := by
      have := (hF.members h3 m hmm).2 (by simpa using hm0)
      omega
    exact ⟨_, by rw [if_neg hne]; rfl⟩
  | case4 => exact ⟨[], rfl⟩

/-! ## the feature blocks and the build -/

theorem entryOf_total (strs : List Str) (fs : List Feature) (c : Ctx) (hnt : c.nt = nsTable fs) (hst : c.strs = strs)
    (hA : AcceptsFacts strs fs) (t : Nat) (ht : t = 1 ∨ t = 2 ∨ t = 3) (ns : Str) (g : Feature) (hg : g ∈ keptOf fs t ns) :
    ∃ e, entryOf c fs t g = .ok e := by
  unfold keptOf at hg
  obtain ⟨f, hf, rfl⟩ := List.mem_map.mp hg
  have ⟨hfm, hfp⟩ := List.mem_filter.mp hf
  simp only [Bool.and_eq_true, beq_iff_eq] at hfp
  obtain ⟨⟨rfl, _⟩, _⟩ := hfp
  have hF := hA.facts hfm
  have hs : c.strs.length < 2 ^ 48 := hst ▸ hA.strs
  have hstrs : ∀ s ∈ stringsOf f, c.strs.contains s = true :=
    fun s hsm => hst ▸ hA.strings s (List.mem_flatMap.mpr ⟨f, hfm, hsm⟩)
  obtain ⟨d, hd⟩ : ∃ d, recordOf c fs f.id.typ (validated fs f) = .ok d := by
    rcases ht with h | h | h <;> simp only [h, recordOf]
    · exact pathRecord_total c fs hnt hA.len hs _
        (pathTagsOK_validated c fs f (pathTagsOK_of_accepts fs c hnt f hfm h hF hstrs))
    · rw [validated_of_not_path fs f (by omega)]
      exact areaRecord_total c fs hnt hA.len hs f hfm h hF hstrs
    · rw [validated_of_not_path fs f (by omega)]
      exact relationRecord_total c fs hnt hA.len hs f hfm h hF hstrs
  exact ⟨_, (entryOf_ok_iff c fs _ _ _).mpr ⟨d, hd, rfl⟩⟩

theorem featureBlock_total (strs : List Str) (fs : List Feature) (c : Ctx) (hnt : c.nt = nsTable fs) (hst : c.strs = strs)
    (hA : AcceptsFacts strs fs) (t : Nat) (ht : t = 1 ∨ t = 2 ∨ t = 3) (n : Nat) (ns : Str) :
    ∃ ob, featureBlock c fs t n ns = .ok ob := by
  by_cases hk : keptOf fs t ns = []
  · exact ⟨none, (featureBlock_ok_iff c fs t n ns none).mpr (by rw [if_pos hk])⟩
  · obtain ⟨es, hes⟩ := mapEq_exists (c := Except.ok) (keptOf fs t ns)
      (fun g hg => entryOf_total strs fs c hnt hst hA t ht ns g hg)
    exact ⟨_, (featureBlock_ok_iff c fs t n ns _).mpr (by rw [if_neg hk]; exact ⟨es, hes, rfl⟩)⟩

end B6.Model.CompactIndex
