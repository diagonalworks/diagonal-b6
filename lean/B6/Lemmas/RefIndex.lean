import B6.Model.RefIndex
import B6.Spec.Referrers
import B6.Lemmas.Basic.AssocList
/-!
The reference index of C15 is read through `srcs ix t`, the sources recorded under a target. `addFeature` and
`removeFeature` are described by what they do to `srcs` (`srcs_addFeature`, `srcs_removeFeature`); `Inv ix fs` says that
`srcs ix` is the inverse of `Refers fs`, one entry each. The slice deletion of `removeFrom` is a filter only on a list of
distinct sources, which is why `Inv` carries the `Nodup` half.
-/
namespace B6.Lemmas.RefIndex
open B6.Model.RefIndex B6.Spec.Referrers

theorem lookupL : Basic.IsLookup (Prod.fst : Id × List Ref → Id) Prod.snd lookup := ⟨fun _ => rfl, fun _ _ _ => rfl⟩

theorem lookup_setKey (ix : Index) (t t' : Id) (rs : List Ref) :
    lookup (setKey ix t rs) t' = if t' = t then some rs else lookup ix t' :=
  lookupL.upsert (put := fun ix e => setKey ix e.1 e.2) (upd := fun a e => (a.1, e.2)) (fun _ => rfl)
    (fun _ _ _ => rfl) (fun _ _ h => ⟨h, rfl⟩) ix (t, rs) t'

theorem entries_setKey (ix : Index) (t t' : Id) (rs : List Ref) :
    entries (setKey ix t rs) t' = if t' = t then rs else entries ix t' := by
  simp only [entries, lookup_setKey]
  by_cases h : t' = t <;> simp [h]

theorem lookup_mem {ix : Index} {t : Id} {rs : List Ref} (h : lookup ix t = some rs) : (t, rs) ∈ ix := by
  obtain ⟨⟨_, _⟩, he, rfl, rfl⟩ := lookupL.exists_mem_of_eq_some h
  exact he

theorem entries_none {ix : Index} {t : Id} (h : lookup ix t = none) : entries ix t = [] := by
  simp [entries, h]

theorem entries_some {ix : Index} {t : Id} {rs : List Ref} (h : lookup ix t = some rs) : entries ix t = rs := by
  simp [entries, h]

abbrev srcs (ix : Index) (t : Id) : List Id := (entries ix t).map (·.src)

theorem mkRef_src (fid : Id) (i : Nat) : (mkRef fid i).src = fid := by
  unfold mkRef; split <;> rfl

theorem any_src_iff (rs : List Ref) (fid : Id) : rs.any (fun r => decide (r.src = fid)) = true ↔ fid ∈ rs.map (·.src) := by
  simp only [List.any_eq_true, decide_eq_true_eq, List.mem_map]

theorem srcs_addRef (ix : Index) (fid : Id) (i : Nat) (t t' : Id) :
    srcs (addRef ix fid i t) t' =
      if t' = t ∧ fid ∉ srcs ix t then srcs ix t ++ [fid] else srcs ix t' := by
  by_cases h : t' = t
  · subst h
    unfold addRef srcs
    cases hl : lookup ix t' with
    | none => simp [entries_setKey, entries_none hl, mkRef_src]
    | some rs =>
      simp only [entries_some hl]
      by_cases hmem : fid ∈ rs.map (·.src)
      · simp only [(any_src_iff rs fid).mpr hmem, ↓reduceIte, entries_setKey, true_and, hmem, not_true_eq_false, List.map_map]
        apply List.map_congr_left
        intro r _
        simp only [Function.comp]
        split <;> rfl
      · simp [mt (any_src_iff rs fid).mp hmem, entries_setKey, hmem, mkRef_src]
  · -- every branch of `addRef` stores under the key `t` only
    have he : entries (addRef ix fid i t) t' = entries ix t' := by
      unfold addRef
      split
      · rw [entries_setKey, if_neg h]
      · split <;> rw [entries_setKey, if_neg h]
    unfold srcs
    rw [he, if_neg (fun c => h c.1)]

theorem srcs_addRefs (fid : Id) (ts : List Id) : ∀ (ix : Index) (i : Nat) (t' : Id),
    srcs (addRefs ix fid i ts) t' =
      if t' ∈ ts ∧ fid ∉ srcs ix t' then srcs ix t' ++ [fid] else srcs ix t' := by
  intro ix i t'
  fun_induction addRefs ix fid i ts with
  | case1 ix i => simp
  | case2 ix i t ts ih =>
    rw [ih, srcs_addRef]
    by_cases h : t' = t
    · subst h
      by_cases hm : fid ∈ srcs ix t'
      · simp [hm]
      · simp [hm]
    · have : ¬ (t' = t ∧ fid ∉ srcs ix t) := fun c => h c.1
      rw [if_neg this]
      simp only [List.mem_cons, h, false_or]

theorem srcs_addFeature (ix : Index) (f : Feature) (t : Id) :
    srcs (addFeature ix f) t = if t ∈ f.refs ∧ f.id ∉ srcs ix t then srcs ix t ++ [f.id] else srcs ix t := by
  unfold addFeature; exact srcs_addRefs f.id f.refs ix 0 t

/-- the index is the inverse of the `References()` relation of the feature set `fs`, one entry per
(target, source). -/
def Inv (ix : Index) (fs : List Feature) : Prop :=
  (∀ t s, s ∈ srcs ix t ↔ Refers fs t s) ∧ (∀ t, (srcs ix t).Nodup)

theorem Inv.mem {ix : Index} {fs : List Feature} (h : Inv ix fs) (t s : Id) : s ∈ srcs ix t ↔ Refers fs t s := h.1 t s

theorem Inv.nodup {ix : Index} {fs : List Feature} (h : Inv ix fs) (t : Id) : (srcs ix t).Nodup := h.2 t

theorem Inv_empty : Inv [] [] := by
  constructor
  · intro t s; simp [srcs, entries, lookup, Refers]
  · intro t; simp [srcs, entries, lookup]

theorem Inv_congr {ix : Index} {fs fs' : List Feature} (h : ∀ g, g ∈ fs ↔ g ∈ fs') (hi : Inv ix fs) : Inv ix fs' := by
  refine ⟨fun t s => ?_, hi.2⟩
  rw [hi.mem t s]
  constructor
  · rintro ⟨f, hf, h1, h2⟩; exact ⟨f, (h f).mp hf, h1, h2⟩
  · rintro ⟨f, hf, h1, h2⟩; exact ⟨f, (h f).mpr hf, h1, h2⟩

theorem refers_cons (f : Feature) (fs : List Feature) (t s : Id) :
    Refers (f :: fs) t s ↔ Refers fs t s ∨ (t ∈ f.refs ∧ s = f.id) := by
  constructor
  · rintro ⟨g, hg, h1, h2⟩
    rcases List.mem_cons.mp hg with rfl | hg
    · exact Or.inr ⟨h2, h1.symm⟩
    · exact Or.inl ⟨g, hg, h1, h2⟩
  · rintro (⟨g, hg, h1, h2⟩ | ⟨h2, h1⟩)
    · exact ⟨g, List.mem_cons_of_mem _ hg, h1, h2⟩
    · exact ⟨f, List.mem_cons_self, h1.symm, h2⟩

theorem mem_srcs_addFeature (ix : Index) (f : Feature) (t s : Id) :
    s ∈ srcs (addFeature ix f) t ↔ s ∈ srcs ix t ∨ (t ∈ f.refs ∧ s = f.id) := by
  rw [srcs_addFeature]
  by_cases hc : t ∈ f.refs ∧ f.id ∉ srcs ix t
  · rw [if_pos hc, List.mem_append, List.mem_singleton]
    exact or_congr_right ⟨fun h => ⟨hc.1, h⟩, fun h => h.2⟩
  · rw [if_neg hc]
    refine ⟨Or.inl, fun h => h.elim (fun h => h) fun ⟨ht, hs⟩ => ?_⟩
    subst hs
    exact Decidable.byContradiction fun hm => hc ⟨ht, hm⟩

theorem Inv_add {ix : Index} {fs : List Feature} (hi : Inv ix fs) (f : Feature) :
    Inv (addFeature ix f) (f :: fs) := by
  refine ⟨fun t s => by rw [mem_srcs_addFeature, hi.mem, refers_cons], fun t => ?_⟩
  rw [srcs_addFeature]
  by_cases hc : t ∈ f.refs ∧ f.id ∉ srcs ix t
  · rw [if_pos hc, List.nodup_append]
    refine ⟨hi.nodup t, by simp, ?_⟩
    intro a ha b hb
    rw [List.mem_singleton.mp hb]
    exact fun e => hc.2 (e ▸ ha)
  · rw [if_neg hc]; exact hi.nodup t

theorem Inv_foldl_add (L : List Feature) : ∀ (ix : Index) (S : List Feature), Inv ix S →
    Inv (L.foldl addFeature ix) (L.reverse ++ S) := by
  induction L with
  | nil => intro ix S h; simpa using h
  | cons f L ih =>
    intro ix S h
    simp only [List.foldl_cons, List.reverse_cons, List.append_assoc, List.singleton_append]
    exact ih _ _ (Inv_add h f)

theorem Inv_fill (fs : List Feature) : Inv (fill fs) fs := by
  have := Inv_foldl_add fs [] [] Inv_empty
  exact Inv_congr (by intro g; simp) this

/-! ## removeFeature (the in-loop slice deletion) -/

theorem removeLoop_skip (fid : Id) (n d : Nat) : ∀ (k : Nat) (arr : List Ref) (len : Nat),
    k + d ≤ n → n ≤ arr.length →
    (∀ i r, n - (k + d) ≤ i → i < n - d → arr[i]? = some r → r.src ≠ fid) →
    removeLoop fid n (k + d) arr len = removeLoop fid n d arr len := by
  intro k
  induction k with
  | zero => intro arr len _ _ _; rw [Nat.zero_add]
  | succ k ih =>
    intro arr len hk hn h
    rw [Nat.add_right_comm k 1 d] at hk h ⊢
    have hd : d < k + d + 1 := Nat.lt_succ_of_le (Nat.le_add_left d k)
    have hi : n - (k + d + 1) < arr.length :=
      Nat.lt_of_lt_of_le (Nat.sub_lt (Nat.lt_of_lt_of_le (Nat.succ_pos _) hk) (Nat.succ_pos _)) hn
    have hne : (arr[n - (k + d + 1)]).src ≠ fid :=
      h _ _ (Nat.le_refl _) (Nat.sub_lt_sub_left (Nat.lt_of_lt_of_le hd hk) hd) (List.getElem?_eq_getElem hi)
    simp only [removeLoop, List.getElem?_eq_getElem hi, hne, ↓reduceIte]
    exact ih arr len (Nat.le_of_succ_le hk) hn
      (fun i r h1 h2 => h i r (Nat.le_trans (Nat.sub_le_sub_left (Nat.le_succ _) n) h1) h2)

def keep (fid : Id) : Ref → Bool := fun r => decide (r.src ≠ fid)

/-- With one entry per source the in-loop deletion is a filter: the iteration that meets the entry of `fid`
shifts the tail down inside the backing array (whose last cell keeps a stale copy); all others change nothing. -/
theorem removeFrom_spec (fid : Id) (rs : List Ref) (hn : (rs.map (·.src)).Nodup) :
    removeFrom fid rs = some (rs.filter (keep fid)) := by
  have hkeep : ∀ l : List Ref, (∀ r ∈ l, r.src ≠ fid) → l.filter (keep fid) = l := fun l h =>
    List.filter_eq_self.mpr (fun r hr => by simpa [keep] using h r hr)
  unfold removeFrom
  by_cases hex : ∃ x ∈ rs, x.src = fid
  · obtain ⟨x, hxm, hx⟩ := hex
    obtain ⟨s, t, rfl⟩ := List.append_of_mem hxm
    simp only [List.map_append, List.map_cons] at hn
    have hn' := List.nodup_append.mp hn
    have hs : ∀ r ∈ s, r.src ≠ fid := fun r hr e =>
      hn'.2.2 r.src (List.mem_map.mpr ⟨r, hr, rfl⟩) x.src List.mem_cons_self (by rw [e, hx])
    have ht : ∀ r ∈ t, r.src ≠ fid := fun r hr e =>
      (List.nodup_cons.mp hn'.2.1).1 (by rw [hx, ← e]; exact List.mem_map.mpr ⟨r, hr, rfl⟩)
    have hfilter : (s ++ x :: t).filter (keep fid) = s ++ t := by
      rw [List.filter_append, List.filter_cons, hkeep s hs, hkeep t ht, if_neg (by simp [keep, hx])]
    have hlen : (s ++ x :: t).length = s.length + (t.length + 1) := by rw [List.length_append, List.length_cons]
    rw [hfilter, hlen, removeLoop_skip fid _ (t.length + 1) s.length _ _ (Nat.le_refl _) (by rw [hlen]; exact Nat.le_refl _)
      (fun i r _ h2 hr => hs r (by
        rw [List.getElem?_append_left (by rwa [Nat.add_sub_cancel] at h2)] at hr
        exact List.mem_of_getElem? hr))]
    have hget : (s ++ x :: t)[s.length + (t.length + 1) - (t.length + 1)]? = some x := by
      rw [Nat.add_sub_cancel, List.getElem?_append_right (Nat.le_refl _), Nat.sub_self]; rfl
    simp only [removeLoop, hget, hx, ↓reduceIte]
    cases t with
    | nil => simp [removeLoop]
    | cons p t =>
      have h1 : ¬ s.length = s.length + ((p :: t).length + 1) - 1 :=
        Nat.ne_of_lt (Nat.lt_add_of_pos_right (Nat.succ_pos t.length))
      have h2 : s.length + 1 ≤ s.length + ((p :: t).length + 1) := Nat.add_le_add_left (Nat.le_add_left 1 _) _
      have e3 : s.length + ((p :: t).length + 1) - (s.length + 1) = (p :: t).length :=
        (Nat.add_sub_add_left _ _ _).trans (Nat.add_sub_cancel _ _)
      have e4 : s.length + ((p :: t).length + 1) - 1 = (s.length + 1) + t.length :=
        show s.length + t.length + 1 = s.length + 1 + t.length from Nat.add_right_comm _ _ _
      have e1 : (s ++ x :: p :: t).take s.length = s := List.take_left' rfl
      have e2 : (s ++ x :: p :: t).drop (s.length + 1) = p :: t := by simp
      simp only [Nat.add_sub_cancel, h1, h2, ↓reduceIte, e1, e2, e3, List.take_length]
      rw [e4, ← List.drop_drop, e2]
      -- the backing array after the deletion: `s`, the tail, and a stale copy `tl` of the last entry
      generalize htl : (p :: t).drop t.length = tl
      have htl_len : tl.length = 1 := by rw [← htl]; simp
      have htl_mem : ∀ r ∈ tl, r.src ≠ fid := fun r hr => ht r (List.mem_of_mem_drop (htl ▸ hr))
      have hskip := removeLoop_skip fid (s.length + ((p :: t).length + 1)) 0 (p :: t).length
        (s ++ (p :: t) ++ tl) (s.length + 1 + t.length)
        (Nat.le_trans (Nat.le_add_right _ 1) (Nat.le_add_left _ _))
        (by simp only [List.length_append, List.length_cons, htl_len, Nat.add_assoc]; exact Nat.le_refl _)
        (fun i r h1 _ hr => by
          rw [List.append_assoc, List.getElem?_append_right
            (Nat.le_trans (Nat.le_sub_of_add_le (Nat.add_le_add_left (Nat.le_succ _) _)) h1)] at hr
          rcases List.mem_append.mp (List.mem_of_getElem? hr) with h | h
          · exact ht r h
          · exact htl_mem r h)
      rw [show (p :: t).length + 0 = (p :: t).length from rfl] at hskip
      rw [hskip]
      simp only [removeLoop]
      have hpre : (s ++ p :: t).length = s.length + 1 + t.length := by
        simp only [List.length_append, List.length_cons]
        exact (Nat.add_assoc _ _ _).symm.trans (Nat.add_right_comm _ _ _)
      rw [List.take_left' hpre]
  · have hall : ∀ r ∈ rs, r.src ≠ fid := fun r hr e => hex ⟨r, hr, e⟩
    have := removeLoop_skip fid rs.length 0 rs.length rs rs.length (Nat.le_refl _) (Nat.le_refl _)
      (fun i r _ _ hr => hall r (List.mem_of_getElem? hr))
    simp only [Nat.add_zero] at this
    rw [this, hkeep rs hall]
    simp [removeLoop]

theorem removeRefs_spec (fid : Id) (ts : List Id) : ∀ (ix : Index), (∀ t, (srcs ix t).Nodup) →
    ∃ ix', removeRefs ix fid ts = some ix' ∧
      ∀ t', entries ix' t' = if t' ∈ ts then (entries ix t').filter (keep fid) else entries ix t' := by
  induction ts with
  | nil => intro ix _; exact ⟨ix, rfl, by simp⟩
  | cons t ts ih =>
    intro ix hn
    simp only [removeRefs]
    cases hl : lookup ix t with
    | none =>
      obtain ⟨ix', h1, h2⟩ := ih ix hn
      refine ⟨ix', h1, ?_⟩
      intro t'
      rw [h2 t']
      by_cases ht : t' = t
      · subst ht
        simp [entries_none hl]
      · simp [ht]
    | some rs =>
      have hrs : entries ix t = rs := entries_some hl
      have hnr : (rs.map (·.src)).Nodup := by have := hn t; simpa [srcs, hrs] using this
      simp only [removeFrom_spec fid rs hnr]
      have hn2 : ∀ t', (srcs (setKey ix t (rs.filter (keep fid))) t').Nodup := by
        intro t'
        simp only [srcs, entries_setKey]
        by_cases ht : t' = t
        · simp only [ht, ↓reduceIte]; exact Basic.nodup_map_filter _ hnr
        · simp only [ht, ↓reduceIte]; exact hn t'
      obtain ⟨ix', h1, h2⟩ := ih _ hn2
      refine ⟨ix', h1, ?_⟩
      intro t'
      rw [h2 t', entries_setKey]
      by_cases ht : t' = t
      · subst ht
        simp only [↓reduceIte, List.mem_cons, true_or, hrs, List.filter_filter, Bool.and_self]
        split <;> rfl
      · simp [ht]

theorem refers_filter_ne {fs : List Feature} (f : Feature) (huniq : ∀ g ∈ fs, g.id = f.id → g = f) (t s : Id) :
    Refers (fs.filter fun g => decide (g.id ≠ f.id)) t s ↔ Refers fs t s ∧ ¬ (t ∈ f.refs ∧ s = f.id) := by
  constructor
  · rintro ⟨g, hg, h1, h2⟩
    obtain ⟨hg, hne⟩ := List.mem_filter.mp hg
    exact ⟨⟨g, hg, h1, h2⟩, fun c => of_decide_eq_true hne (h1.trans c.2)⟩
  · rintro ⟨⟨g, hg, h1, h2⟩, hn⟩
    refine ⟨g, List.mem_filter.mpr ⟨hg, decide_eq_true fun e => hn ?_⟩, h1, h2⟩
    rw [huniq g hg e] at h1 h2
    exact ⟨h2, h1.symm⟩

theorem srcs_removeFeature (ix : Index) (f : Feature) (hn : ∀ t, (srcs ix t).Nodup) :
    ∃ ix', removeFeature ix f = some ix' ∧
      ∀ t, srcs ix' t = if t ∈ f.refs then (srcs ix t).filter (fun s => decide (s ≠ f.id)) else srcs ix t := by
  obtain ⟨ix', h1, h2⟩ := removeRefs_spec f.id f.refs ix hn
  refine ⟨ix', h1, fun t => ?_⟩
  simp only [srcs, h2 t]
  split
  · rw [List.filter_map]; rfl
  · rfl

theorem Inv_remove {ix : Index} {fs : List Feature} (hi : Inv ix fs) (f : Feature)
    (huniq : ∀ g ∈ fs, g.id = f.id → g = f) :
    ∃ ix', removeFeature ix f = some ix' ∧ Inv ix' (fs.filter fun g => decide (g.id ≠ f.id)) := by
  obtain ⟨ix', h1, hsr⟩ := srcs_removeFeature ix f hi.nodup
  refine ⟨ix', h1, fun t s => ?_, fun t => ?_⟩
  · rw [refers_filter_ne f huniq, ← hi.mem, hsr]
    by_cases ht : t ∈ f.refs
    · rw [if_pos ht, List.mem_filter, decide_eq_true_eq]
      exact and_congr_right fun _ => ⟨fun h c => h c.2, fun h c => h ⟨ht, c⟩⟩
    · rw [if_neg ht]
      exact ⟨fun h => ⟨h, fun c => ht c.1⟩, fun h => h.1⟩
  · rw [hsr]
    split
    · exact List.Nodup.sublist List.filter_sublist (hi.nodup t)
    · exact hi.nodup t

end B6.Lemmas.RefIndex
