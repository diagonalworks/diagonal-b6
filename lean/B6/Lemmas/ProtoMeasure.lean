import B6.Model.Proto.Basic
import B6.Lemmas.Basic.List
/-! What the lemma files of the protocol models share (like them in namespace `B6.Model.Proto`, beside the models they speak of):
the worker clauses of the callback pipelines' invariants (`Workers`), and the termination measures: sums of `pending` items,
worker weights and `flag`s; a schedule is no longer than the measure of its first state. -/
namespace B6.Model.Proto

/-! ### the worker clauses of the pipelines' invariants (and of `P_worker_stops`) -/

theorem exists_of_getElem?_set {α : Type} {l : List α} {i : Nat} {x a : α}
    (h : ∃ j : Nat, (l.set i x)[j]? = some a) (hne : x ≠ a) : ∃ j : Nat, l[j]? = some a := by
  obtain ⟨j, hj⟩ := h
  rcases getElem?_set_some hj with ⟨_, e⟩ | ⟨_, e⟩
  · exact (hne e.symm).elim
  · exact ⟨j, e⟩

theorem getElem?_set_stays {α : Type} {l : List α} {i j : Nat} {w x a b : α} (hw : l[j]? = some w)
    (hab : w = a → x = b) (hb : w ≠ b) (hi : l[i]? = some a ∨ l[i]? = some b) :
    (l.set j x)[i]? = some a ∨ (l.set j x)[i]? = some b := by
  by_cases hj : j = i
  · subst hj
    rw [hw] at hi
    rcases hi with e | e
    · exact .inr (hab (Option.some.inj e) ▸ getElem?_set_self' hw)
    · exact (hb (Option.some.inj e)).elim
  · rw [List.getElem?_set_ne hj]; exact hi

/-- what the invariants of `EachItem`, `Feed` and `Pbf` say about the worker list, the history flag `failed`, the recorded error
`cause` and the result; `failing` is a worker about to record its error, `exited` one that has left -/
structure Workers {α : Type} (failing exited : α) (g : Nat) (ws : List α) (failed cause : Bool) (returned : Option Bool) :
    Prop where
  len : ws.length = g
  /-- an error that was returned by a callback is recorded, or its worker is about to record it -/
  err : failed = true → cause = true ∨ ∃ i : Nat, ws[i]? = some failing
  /-- the function returns the recorded error, after every worker has left -/
  ret : ∀ r, returned = some r → r = cause ∧ ∀ w ∈ ws, w = exited

section
variable {α : Type} {failing exited : α} {g : Nat} {ws : List α} {failed cause : Bool} {returned : Option Bool} {i : Nat}
  {w x : α}

/-! A worker's own step, taken while nothing has been returned (`ret` holds vacuously before and after): the worker was not
about to record an error; its callback fails; it records the error. -/

theorem Workers.move (h : Workers failing exited g ws failed cause returned) (hr : returned = none) (hw : ws[i]? = some w)
    (hne : w ≠ failing) : Workers failing exited g (ws.set i x) failed cause returned := by
  refine ⟨List.length_set.trans h.len, fun hf => (h.err hf).imp_right fun ⟨j, hj⟩ => ⟨j, ?_⟩, fun _ e => nomatch hr ▸ e⟩
  rw [List.getElem?_set_ne]
  · exact hj
  · -- the worker that moved is not the one about to record the error
    rintro rfl; exact hne (Option.some.inj (hw.symm.trans hj))

theorem Workers.fail (h : Workers failing exited g ws failed cause returned) (hr : returned = none) (hw : ws[i]? = some w) :
    Workers failing exited g (ws.set i failing) true cause returned :=
  ⟨List.length_set.trans h.len, fun _ => .inr ⟨i, getElem?_set_self' hw⟩, fun _ e => nomatch hr ▸ e⟩

theorem Workers.record (h : Workers failing exited g ws failed cause returned) (hr : returned = none) (i : Nat) :
    Workers failing exited g (ws.set i exited) failed true returned :=
  ⟨List.length_set.trans h.len, fun _ => .inl rfl, fun _ e => nomatch hr ▸ e⟩

theorem Workers.reported (h : Workers failing exited g ws failed cause returned) (hne : failing ≠ exited) {r : Bool}
    (hr : returned = some r) (hf : failed = true) : r = true :=
  (h.ret r hr).1.trans ((h.err hf).elim id fun ⟨_, hi⟩ => (hne ((h.ret r hr).2 _ (List.mem_of_getElem? hi))).elim)

end

/-! ### termination measures -/

theorem sum_map_set {α : Type} (f : α → Nat) {l : List α} {i : Nat} {a : α} (b : α) (h : l[i]? = some a) :
    ((l.set i b).map f).sum + f a = (l.map f).sum + f b := by
  obtain ⟨p, q, rfl, e⟩ := B6.Lemmas.Basic.set_split b h
  simp only [e, List.map_append, List.map_cons, List.sum_append, List.sum_cons]; omega

theorem sum_map_set_lt {α : Type} (f : α → Nat) {l : List α} {i : Nat} {a b : α} (h : l[i]? = some a)
    (hlt : f b < f a) : ((l.set i b).map f).sum < (l.map f).sum := by
  have := sum_map_set f b h; omega

/-- weight of the items `next … n-1` that the feeder has not handed out yet -/
def pending (w : Nat → Nat) (n next : Nat) : Nat := ((List.range (n - next)).map fun i => w (next + i)).sum

theorem pending_succ (w : Nat → Nat) {n next : Nat} (h : next < n) :
    pending w n next = w next + pending w n (next + 1) := by
  have e : n - next = (n - (next + 1)) + 1 := by omega
  rw [pending, pending, e, List.range_succ_eq_map, List.map_cons, List.sum_cons, List.map_map]
  simp only [Function.comp_def, Nat.succ_eq_add_one, Nat.add_zero, Nat.add_assoc, Nat.add_comm 1]

def flag (b : Bool) : Nat := if b then 0 else 1

theorem flag_lt {b : Bool} (h : b = false) : flag true < flag b := h ▸ Nat.zero_lt_one

/-- the measures end in flags: a step that leaves a flag alone decreases the sum in front of it -/
theorem add_flag {a b : Nat} {f : Bool} (h : a < b) : a + flag f < b + flag f := Nat.add_lt_add_right h _

theorem runSched_bounded {σ : Type} (step : σ → List σ) (m : σ → Nat)
    (hdec : ∀ s s', s' ∈ step s → m s' < m s) : ∀ (sched : List Nat) (s s' : σ),
    runSched step s sched = some s' → sched.length + m s' ≤ m s := by
  intro sched s s' h
  fun_induction runSched step s sched with
  | case1 s => cases h; simp
  | case2 s c cs s1 hs1 ih =>
    have h1 := hdec s s1 (List.mem_of_getElem? hs1)
    have h2 := ih h
    simp only [List.length_cons]; omega
  | case3 s c cs hs1 => cases h

end B6.Model.Proto
