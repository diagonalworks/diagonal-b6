import B6.Model.RecordsTokenMap
import B6.Lemmas.Varint
import B6.Lemmas.Containers
import B6.Lemmas.Basic.List
/-!
# TokenMap lemmas: the hash-bucket invariant of `TokenMapEncoder` through `Add` and its resize, and the
bucket byte strings read back by the iterator; `Write` / `Unmarshal` / `Item` agree with the `ByteArrays` of
`Model/Containers`, whose round trips (`Lemmas/Containers`) give `FindPossibleIndices`.
-/
namespace B6.Model.RecordsTokenMap
open B6.Model.Varint

/-- every entry sits in the bucket its token hashes to (nothing to do with the `Inv` of `Lemmas/Containers`) -/
def Inv (e : Encoder) : Prop :=
  0 < e.buckets.length ∧ ∀ (b : Nat) (hb : b < e.buckets.length), ∀ x ∈ e.buckets[b], hashString x.1 % e.buckets.length = b

theorem addRaw_length (e : Encoder) (t : Bytes) (i : BitVec 64) : (addRaw e t i).buckets.length = e.buckets.length := by
  simp [addRaw]

theorem addRaw_getElem (e : Encoder) (t : Bytes) (i : BitVec 64) (b : Nat) (hb : b < e.buckets.length) :
    (addRaw e t i).buckets[b]'(by rw [addRaw_length]; exact hb) =
      if hashString t % e.buckets.length = b then e.buckets[b] ++ [(t, i)] else e.buckets[b] := by
  simp only [addRaw, List.getElem_modify]

theorem addRaw_inv (e : Encoder) (t : Bytes) (i : BitVec 64) (h : Inv e) : Inv (addRaw e t i) := by
  obtain ⟨hpos, hb⟩ := h
  refine ⟨by rw [addRaw_length]; exact hpos, ?_⟩
  intro b hb' x hx
  rw [addRaw_length] at hb' ⊢
  rw [addRaw_getElem e t i b hb'] at hx
  split at hx
  · rename_i heq
    rcases List.mem_append.mp hx with hx | hx
    · exact hb b hb' x hx
    · simp only [List.mem_singleton] at hx
      rw [hx]; exact heq
  · exact hb b hb' x hx

theorem addRaw_mem (e : Encoder) (t : Bytes) (i : BitVec 64) (hpos : 0 < e.buckets.length) (y : Entry) :
    y ∈ (addRaw e t i).buckets.flatten ↔ y ∈ e.buckets.flatten ∨ y = (t, i) := by
  simp only [List.mem_flatten, List.mem_iff_getElem (a := (_ : List Entry))]
  constructor
  · rintro ⟨_, ⟨b, hb, rfl⟩, hy⟩
    have hb' : b < e.buckets.length := by rw [addRaw_length] at hb; exact hb
    rw [addRaw_getElem e t i b hb'] at hy
    split at hy
    · rcases List.mem_append.mp hy with hy | hy
      · exact Or.inl ⟨_, ⟨b, hb', rfl⟩, hy⟩
      · exact Or.inr (List.mem_singleton.mp hy)
    · exact Or.inl ⟨_, ⟨b, hb', rfl⟩, hy⟩
  · rintro (⟨_, ⟨b, hb, rfl⟩, hy⟩ | rfl)
    · refine ⟨_, ⟨b, by rw [addRaw_length]; exact hb, rfl⟩, ?_⟩
      rw [addRaw_getElem e t i b hb]
      split
      · exact List.mem_append_left _ hy
      · exact hy
    · have hlt : hashString t % e.buckets.length < e.buckets.length := Nat.mod_lt _ hpos
      refine ⟨_, ⟨hashString t % e.buckets.length, by rw [addRaw_length]; exact hlt, rfl⟩, ?_⟩
      rw [addRaw_getElem e t i _ hlt, if_pos rfl]
      exact List.mem_append_right _ (List.mem_singleton.mpr rfl)

theorem foldl_inv_mem (step : Encoder → Entry → Encoder)
    (hstep : ∀ e x, Inv e → Inv (step e x) ∧ ∀ y, y ∈ (step e x).buckets.flatten ↔ y ∈ e.buckets.flatten ∨ y = x) (l : List Entry) :
    ∀ e, Inv e → Inv (l.foldl step e) ∧ ∀ y, y ∈ (l.foldl step e).buckets.flatten ↔ y ∈ e.buckets.flatten ∨ y ∈ l := by
  intro e h
  obtain ⟨h1, h2⟩ := B6.Lemmas.Basic.look_foldl_or (look := fun (e : Encoder) (_ : Unit) => e.buckets.flatten)
    (D := fun x _ y => y = x) (fun e x h => ⟨(hstep e x h).1, fun _ => (hstep e x h).2⟩) l e h
  exact ⟨h1, fun y => (h2 () y).trans (or_congr_right exists_eq_right')⟩

theorem empty_inv (n : Nat) (hn : 0 < n) : Inv ⟨List.replicate n [], 0⟩ := by
  refine ⟨by simpa using hn, ?_⟩
  intro b hb x hx
  simp at hx

theorem grow_spec (e : Encoder) (h : Inv e) : Inv (grow e) ∧ ∀ y, y ∈ (grow e).buckets.flatten ↔ y ∈ e.buckets.flatten := by
  obtain ⟨a, b⟩ := foldl_inv_mem (fun acc x => addRaw acc x.1 x.2)
    (fun e x h => ⟨addRaw_inv e x.1 x.2 h, addRaw_mem e x.1 x.2 h.1⟩) e.buckets.flatten
    ⟨List.replicate (2 * e.buckets.length) [], 0⟩ (empty_inv _ (by have := h.1; omega))
  refine ⟨a, fun y => ?_⟩
  unfold grow
  rw [b y, or_iff_right (by simp)]

theorem add_spec (e : Encoder) (t : Bytes) (i : BitVec 64) (h : Inv e) :
    Inv (add e t i) ∧ ∀ y, y ∈ (add e t i).buckets.flatten ↔ y ∈ e.buckets.flatten ∨ y = (t, i) := by
  unfold add
  split
  · obtain ⟨a, b⟩ := grow_spec e h
    exact ⟨addRaw_inv _ t i a, fun y => by rw [addRaw_mem _ t i a.1 y, b y]⟩
  · exact ⟨addRaw_inv _ t i h, addRaw_mem e t i h.1⟩

theorem addAll_spec (adds : List Entry) : Inv (addAll adds) ∧ ∀ y, y ∈ (addAll adds).buckets.flatten ↔ y ∈ adds := by
  obtain ⟨a, b⟩ := foldl_inv_mem (fun e x => add e x.1 x.2) (fun e x => add_spec e x.1 x.2) adds
    Encoder.new (empty_inv 1 (by omega))
  exact ⟨a, fun y => (b y).trans (or_iff_right (by simp [Encoder.new]))⟩

theorem added_in_hash_bucket (adds : List Entry) (y : Entry) (hy : y ∈ adds) :
    ∃ hb : hashString y.1 % (addAll adds).buckets.length < (addAll adds).buckets.length,
      y ∈ (addAll adds).buckets[hashString y.1 % (addAll adds).buckets.length] := by
  obtain ⟨⟨hpos, hinv⟩, hmem⟩ := addAll_spec adds
  obtain ⟨_, hl, hin⟩ := List.mem_flatten.mp ((hmem y).mpr hy)
  obtain ⟨b, hb, rfl⟩ := List.mem_iff_getElem.mp hl
  have := hinv b hb y hin
  refine ⟨Nat.mod_lt _ hpos, ?_⟩
  simp only [this]
  exact hin

/-! ## draining a bucket's bytes -/

theorem itemBytes_cons (x : Entry) (xs : List Entry) : itemBytes (x :: xs) = putUvarint x.2.toNat ++ itemBytes xs := by
  simp [itemBytes]

/-- one turn of the iterator eats one varint -/
theorem drain_putUvarint (f v : Nat) (hv : v < 2 ^ 64) (rest : Bytes) :
    drain (f + 1) (putUvarint v ++ rest) = (drain f rest).map (BitVec.ofNat 64 v :: ·) := by
  have hu := uvarint_putUvarint_append v hv rest
  cases hp : putUvarint v with
  | nil => exact absurd hp (putUvarint_ne_nil v)
  | cons b bs =>
    rw [hp] at hu
    simp only [List.cons_append] at hu ⊢
    rw [drain, hu]
    simp only [List.length_cons, List.drop_succ_cons, List.drop_left]

theorem drain_itemBytes (l : List Entry) : ∀ (f : Nat), (itemBytes l).length ≤ f →
    drain f (itemBytes l) = some (l.map (·.2)) := by
  induction l with
  | nil => intro f _; cases f <;> rfl
  | cons x xs ih =>
    intro f hf
    have hpos := putUvarint_length_pos x.2.toNat
    rw [itemBytes_cons, List.length_append] at hf
    obtain ⟨f, rfl⟩ : ∃ g, f = g + 1 := ⟨f - 1, by omega⟩
    rw [itemBytes_cons, drain_putUvarint f _ x.2.isLt, ih f (by omega), Option.map_some, List.map_cons, BitVec.ofNat_toNat,
      BitVec.setWidth_eq]

/-! ## the ByteArrays serialisation

`encode`, `item`, `decodeLength` unfold to `baEncode`, `baItem`, `baLength` of `Model/Containers`. -/

def items (e : Encoder) : List Bytes := e.buckets.map itemBytes
def lens (e : Encoder) : List Nat := (items e).map List.length
def total (e : Encoder) : Nat := (lens e).sum

/-- the table sizes the format can hold: `Items` is a `uint32`, offsets are `uint64` -/
def Fits (e : Encoder) : Prop := e.buckets.length < 2 ^ 32 ∧ total e < 2 ^ 64

theorem prefixSums_eq_starts (l : List Nat) : ∀ a, prefixSums a l = Containers.starts l a := by
  induction l with
  | nil => intro a; rfl
  | cons x xs ih => intro a; rw [prefixSums, Containers.starts, ih]

theorem encode_eq_baEncode (e : Encoder) : encode e = Containers.baEncode (items e) := by
  simp only [encode, Containers.baEncode, Containers.baHeader, Containers.total, items, ← List.sum_eq_foldl_nat,
    prefixSums_eq_starts, List.length_map, List.flatMap_def]
  rfl

theorem rd32_eq (data : Bytes) (off : Nat) :
    rd32 data off = (Containers.goFrom data off).bind Containers.readLe32 := by
  unfold rd32 Containers.goFrom Containers.readLe32
  by_cases h : off ≤ data.length
  · rw [if_pos h, Option.bind_some, List.length_drop]
    by_cases h4 : data.length < off + 4
    · rw [if_pos h4, if_pos (by omega)]
    · rw [if_neg h4, if_neg (by omega)]
  · rw [if_neg h, if_pos (by omega)]; rfl

theorem layout_eq (data : Bytes) :
    layout data = (Containers.baReadLayout data).map fun l => ⟨l.items, l.offsetBytes, l.maxItemLength⟩ := by
  have h0 : rd32 data 0 = Containers.readLe32 data := by
    rw [rd32_eq, Containers.goFrom, if_pos (Nat.zero_le _)]; rfl
  simp only [layout, Containers.baReadLayout, h0, rd32_eq, Option.bind_eq_bind, Option.pure_def]
  cases Containers.readLe32 data with
  | none => rfl
  | some a =>
    cases (Containers.goFrom data 4).bind Containers.readLe32 with
    | none => rfl
    | some b => cases (Containers.goFrom data 8).bind Containers.readLe32 <;> rfl

theorem pointerAt_eq (data : Bytes) (l : Layout) (i : Nat) :
    pointerAt data l i
      = (Containers.goFrom data (12 + l.offsetBytes * i)).bind (unmarshalUint64 l.offsetBytes) := by
  unfold pointerAt Containers.goFrom
  by_cases h : 12 + l.offsetBytes * i ≤ data.length
  · rw [if_neg (by omega), if_pos h]; rfl
  · rw [if_pos (by omega), if_neg h]; rfl

theorem item_eq_baItem (data : Bytes) (i : Nat) : item data i = Containers.baItem data i := by
  simp only [item, Containers.baItem, layout_eq, pointerAt_eq, Option.bind_eq_bind, Containers.baLayoutLength]
  cases Containers.baReadLayout data with
  | none => rfl
  | some l =>
    simp only [Option.map_some, Option.bind_some]
    split
    · rfl
    · congr 1; funext p; congr 1; funext q
      unfold Containers.goSlice
      by_cases h : p > q ∨ data.length < 12 + l.offsetBytes * (l.items + 1) + q
      · rw [if_pos h, if_neg (by omega)]
      · rw [if_neg h, if_pos (by omega), Nat.add_sub_add_left]; rfl

theorem decodeLength_eq_baLength (data : Bytes) : decodeLength data = Containers.baLength data := by
  simp only [decodeLength, Containers.baLength, layout_eq, pointerAt_eq, Option.bind_eq_bind,
    Containers.baLayoutLength]
  cases Containers.baReadLayout data <;> rfl

theorem layout_encode (e : Encoder) (hf : Fits e) (rest : Bytes) :
    ∃ ob m, layout (encode e ++ rest) = some ⟨e.buckets.length, ob, m⟩ := by
  have := Lemmas.Containers.baReadLayout_header (lens e) ((items e).flatten ++ rest)
    (by simpa [lens, items] using hf.1) hf.2
  refine ⟨uint64Length (Containers.total (lens e)), Containers.maxItem (lens e) % 2 ^ 32, ?_⟩
  rw [layout_eq, encode_eq_baEncode, Containers.baEncode, List.append_assoc, ← lens, this, Option.map_some]
  simp [lens, items]

theorem item_encode (e : Encoder) (hf : Fits e) (rest : Bytes) (i : Nat) (hi : i < e.buckets.length) :
    item (encode e ++ rest) i = some (itemBytes e.buckets[i]) := by
  rw [item_eq_baItem, encode_eq_baEncode, Lemmas.Containers.bytearrays_encode_item (items e) rest i
    (by simpa [items] using hi) (by simpa [items] using hf.1) hf.2]
  simp only [items, List.getElem_map]

theorem findPossibleIndices_encode (e : Encoder) (hinv : Inv e) (hf : Fits e) (rest tok : Bytes) :
    findPossibleIndices (encode e ++ rest) tok =
      some ((e.buckets[hashString tok % e.buckets.length]'(Nat.mod_lt _ hinv.1)).map (·.2)) := by
  obtain ⟨ob, m, hl⟩ := layout_encode e hf rest
  have hpos := hinv.1
  have hi := item_encode e hf rest (hashString tok % e.buckets.length) (Nat.mod_lt _ hpos)
  simp only [findPossibleIndices, hl]
  simp only [Option.bind_eq_bind, Option.bind_some]
  rw [if_neg (by omega), hi]
  simp only [Option.bind_some]
  exact drain_itemBytes _ _ (Nat.le_refl _)

theorem tokenmap_find (adds : List Entry) (hf : Fits (addAll adds)) (rest : Bytes) (y : Entry) (hy : y ∈ adds) :
    ∃ l, findPossibleIndices (encode (addAll adds) ++ rest) y.1 = some l ∧ y.2 ∈ l := by
  obtain ⟨hinv, _⟩ := addAll_spec adds
  obtain ⟨hb, hin⟩ := added_in_hash_bucket adds y hy
  refine ⟨_, findPossibleIndices_encode (addAll adds) hinv hf rest y.1, ?_⟩
  exact List.mem_map.mpr ⟨y, hin, rfl⟩

end B6.Model.RecordsTokenMap
