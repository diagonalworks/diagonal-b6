import B6.Lemmas.MutableIndex
/-!
The concrete root world of the drivers (`rootView`: a `BasicMutableWorld` filled with features) meets
the standing assumptions of the C12–C14 theorems (those of C13, `rootView_baseOK` …, at the end of MutableAtomic); and the per-feature map's side of C12 `search_refines_map`:
key-distinct tag maps (`KeysNodup`) and what `matching` returns (`mem_matching`, `sorted_matching`).
-/
namespace B6.Model.Mutable

theorem rootFeats_fold (fs : List Feature) :
    ∀ (acc : List (Id × Feature)), (∀ id f, AMap.get acc id = some f → f.id = id) →
      ∀ id f, AMap.get (fs.foldl (fun m f => AMap.set m f.id f) acc) id = some f →
        f.id = id ∧ (f ∈ fs ∨ AMap.get acc id = some f) := by
  intro acc hacc
  refine fs.foldlRecOn
    (motive := fun m => ∀ id f, AMap.get m id = some f → f.id = id ∧ (f ∈ fs ∨ AMap.get acc id = some f)) _
    (fun id f h => ⟨hacc id f h, .inr h⟩) fun m hm g hg id f h => ?_
  rw [AMap.get_set] at h
  split at h
  · next hid => cases h; exact ⟨hid.symm, .inl hg⟩
  · exact hm id f h

theorem rootFeats_get {fs : List Feature} {id : Id} {f : Feature} (h : AMap.get (rootFeats fs) id = some f) :
    f.id = id ∧ f ∈ fs := by
  have := rootFeats_fold fs [] (by intro id f h; simp at h) id f h
  refine ⟨this.1, ?_⟩
  rcases this.2 with h | h
  · exact h
  · simp at h

theorem rootView_find (fs : List Feature) (id : Id) :
    (rootView fs).find id =
      (AMap.get (rootFeats fs) id).map fun f => ⟨f, resolve (rootLoc (rootFeats fs)) f.geom⟩ := rfl

theorem rootView_find_some {fs : List Feature} {id : Id} {fv : FV} (h : (rootView fs).find id = some fv) :
    AMap.get (rootFeats fs) id = some fv.f := by
  rw [rootView_find] at h
  obtain ⟨f, hg, rfl⟩ := Option.map_eq_some_iff.1 h
  exact hg

theorem obs_rootView (fs : List Feature) (id : Id) : obs (rootView fs) id = (AMap.get (rootFeats fs) id).map shownOf := by
  unfold obs; rw [rootView_find, Option.map_map]; rfl

theorem rootView_idsOK (fs : List Feature) : (rootView fs).IdsOK :=
  fun _ _ h => (rootFeats_get (rootView_find_some h)).1

theorem rootView_tagsOK (fs : List Feature) (h : ∀ f ∈ fs, TagsOK f.tags) : (rootView fs).TagsOK :=
  fun _ _ hf => h _ (rootFeats_get (rootView_find_some hf)).2

theorem rootView_idsExact (fs : List Feature) : (rootView fs).IdsExact := by
  intro id
  rw [rootView_find, Option.isSome_map]
  exact AMap.mem_keys_iff _ id

theorem mem_rootSearchStep (feats : List (Id × Feature)) (t : Token) (acc : List Id) (k y : Id) :
    y ∈ rootSearchStep feats t acc k ↔ y ∈ acc ∨ (y = k ∧ ∃ f, AMap.get feats k = some f ∧ t ∈ tokensFor f) := by
  unfold rootSearchStep
  cases hg : AMap.get feats k with
  | none => simp
  | some f => by_cases hc : t ∈ tokensFor f <;> simp [hc, mem_insertSorted, or_comm]

theorem sorted_rootSearchStep (feats : List (Id × Feature)) (t : Token) {acc : List Id} (k : Id) (h : Sorted acc) :
    Sorted (rootSearchStep feats t acc k) := by
  fun_cases rootSearchStep feats t acc k with
  | case1 => exact sorted_insertSorted _ _ h
  | case2 | case3 => exact h

theorem rootSearch_fold (feats : List (Id × Feature)) (t : Token) (ks : List Id) (acc : List Id) (h : Sorted acc) :
    Sorted (ks.foldl (rootSearchStep feats t) acc) ∧
      ∀ y, (y ∈ ks.foldl (rootSearchStep feats t) acc ↔
        y ∈ acc ∨ (y ∈ ks ∧ ∃ f, AMap.get feats y = some f ∧ t ∈ tokensFor f)) := by
  obtain ⟨h1, h2⟩ := B6.Lemmas.Basic.look_foldl_or (look := fun (l : List Id) (_ : Unit) => l) (I := Sorted)
    (D := fun k _ y => y = k ∧ ∃ f, AMap.get feats k = some f ∧ t ∈ tokensFor f)
    (fun acc k h => ⟨sorted_rootSearchStep feats t k h, fun _ => mem_rootSearchStep feats t acc k⟩) ks acc h
  exact ⟨h1, fun y => (h2 () y).trans (or_congr_right
    ⟨fun ⟨_, hk, e, hf⟩ => e ▸ ⟨hk, hf⟩, fun ⟨hk, hf⟩ => ⟨y, hk, rfl, hf⟩⟩)⟩

theorem rootView_searchOK (fs : List Feature) : (rootView fs).SearchOK := by
  intro t
  have := rootSearch_fold (rootFeats fs) t (AMap.keys (rootFeats fs)) [] (by simp [Sorted])
  refine ⟨this.1, fun id => ?_⟩
  show id ∈ (AMap.keys (rootFeats fs)).foldl (rootSearchStep (rootFeats fs) t) [] ↔ _
  rw [this.2]
  simp only [List.not_mem_nil, false_or]
  constructor
  · rintro ⟨_, f, hf, ht⟩
    exact ⟨_, by rw [rootView_find, hf]; rfl, ht⟩
  · rintro ⟨fv, hfv, ht⟩
    have hg := rootView_find_some hfv
    exact ⟨(AMap.mem_keys_iff _ id).2 (by rw [hg]; rfl), fv.f, hg, ht⟩

end B6.Model.Mutable

/-! ## the per-feature map: key-distinct tag maps, and search / enumeration -/
namespace B6.Spec.World
open B6.Model.Mutable

def KeysNodup (w : World) : Prop := ∀ id m, find w id = some m → (m.map (·.1)).Nodup

theorem keysNodup_addFeature {w : World} {id : Id} {tags : List Tag} (hw : KeysNodup w) (ht : (tags.map (·.1)).Nodup) :
    KeysNodup (addFeature w id tags) := AMap.forall_set hw ht

theorem keysNodup_addTag {w : World} {id : Id} {t : Tag} (hw : KeysNodup w) : KeysNodup (addTag w id t) := by
  unfold addTag
  cases hf : find w id with
  | none => exact hw
  | some m0 => exact AMap.forall_set hw (AMap.nodup_set _ _ _ (hw id m0 hf))

theorem keysNodup_removeTag {w : World} {id : Id} {k : Key} (hw : KeysNodup w) : KeysNodup (removeTag w id k) := by
  unfold removeTag
  cases hf : find w id with
  | none => exact hw
  | some m0 => exact AMap.forall_set hw (AMap.nodup_erase m0 k (hw id m0 hf))

theorem keysNodup_applyPrim {w : World} {p : Prim} (hw : KeysNodup w) (hp : primTagsOK p) :
    KeysNodup (applyPrim w p) := by
  cases p with
  | feat f => exact keysNodup_addFeature hw hp.1
  | tag id t => exact keysNodup_addTag hw
  | untag id k => exact keysNodup_removeTag hw

theorem keysNodup_step {w : World} {op : Op} {r : Option Err} (hw : KeysNodup w) (hop : opOK op) :
    KeysNodup (step w op r) := by
  cases r with
  | some e => exact hw
  | none =>
    rw [step, ← foldl_applyPrim_op]
    exact op.prims.foldlRecOn _ hw fun w hw p hp => keysNodup_applyPrim hw (primTagsOK_of_opOK hop p hp)

theorem keysNodup_run (ops : List Op) : ∀ (w : World) (rs : List (Option Err)), KeysNodup w →
    (∀ op ∈ ops, opOK op) → KeysNodup (run w ops rs) := by
  intro w rs hw hok
  fun_induction run w ops rs with
  | case1 w op ops r rs ih =>
    exact ih (keysNodup_step hw (hok op List.mem_cons_self)) fun g hg => hok g (List.mem_cons_of_mem _ hg)
  | case2 w ops rs _ => exact hw

theorem mem_matching (w : World) (t : Token) (id : Id) :
    id ∈ matching w t ↔ id ∈ ids w ∧ produces w id t = true := by
  unfold matching
  rw [mem_foldInsert]
  simp [List.mem_filter]

theorem sorted_matching (w : World) (t : Token) : Sorted (matching w t) :=
  sorted_foldInsert _ _ (by simp [Sorted])

end B6.Spec.World
