import B6.Model.Interp
import B6.Lemmas.Basic.MapM
/-!
The builtin table of `Model/Interp`, which the interpreter and the VM share: Go's `ConvertWithContext` (`convert`,
`convertAll`) and the Go bodies (`Builtin.step`).  Both open an argument only to see a given int or string, a query, a
pair, a callable of some arity, a literal (`apply`) or what a collection shows of it (`cellToks`).  So they carry any
relation `R` on values with `Transports R` from arguments to result as far as they succeed (`convert_mono`, `step_mono`:
clause by clause, the `_inv` fields give the second argument list the shape of the first); if the converse has
`Transports` too (`TransportsBoth`), failure is preserved as well (`TransportsBoth.convertAll`, `step_cases`).
The statements are made with `Lift R` (two argument lists, elementwise), `Follows` (two outcomes: the same error, or
related results) and `StepLe` (two `Step`s: the second does what the first does, unless the first fails).  The value
relations of C21 (`VR`) and C22 (`Sim`) are instances, and so is the unary `FO` of `Lemmas/VM` read as a relation on the
diagonal.
-/
namespace B6.Lemmas.Builtins
open B6.Model

theorem convertAll_cons_ok {t : Ty} {ts : List Ty} {v : Val} {vs cs : List Val}
    (h : convertAll (t :: ts) (v :: vs) = .ok cs) :
    ∃ c cs', convert t v = .ok c ∧ convertAll ts vs = .ok cs' ∧ cs = c :: cs' := by
  simp only [convertAll, Basic.Except.bind_ok_iff, Basic.Except.pure_ok_iff] at h
  obtain ⟨c, hc, cs', hcs, rfl⟩ := h
  exact ⟨c, cs', hc, hcs, rfl⟩

theorem convert_func_eq (n : Nat) (v : Val) :
    convert (.func n) v = if (v.isCallable && v.arity == some n) = true then .ok v else .error .error := by
  cases v <;> rfl

theorem convert_callable_eq {v : Val} (h : v.isCallable = true) : convert .callable v = .ok v := by
  cases v <;> first | rfl | cases h

theorem convert_err {t : Ty} {v : Val} {e : Fail} (h : convert t v = .error e) : e = .error := by
  unfold convert at h
  split at h <;> (try split at h) <;> cases h <;> rfl

theorem convertAll_err : ∀ {ts : List Ty} {vs : List Val} {e : Fail}, convertAll ts vs = .error e → e = .error
  | [], [], _, h => by cases h
  | [], _ :: _, _, h | _ :: _, [], _, h => by cases h; rfl
  | t :: ts, v :: vs, e, h => by
    simp only [convertAll, bind, Except.bind] at h
    cases hc : convert t v with
    | error e' => rw [hc] at h; cases h; exact convert_err hc
    | ok c =>
      rw [hc] at h
      cases hs : convertAll ts vs with
      | error e' => rw [hs] at h; cases h; exact convertAll_err hs
      | ok cs => rw [hs] at h; cases h

theorem higherOrder_param : ∀ {b : Builtin}, b.higherOrder = true → ∀ (n : Nat),
    ∃ t ts, b.paramsAt n = t :: ts ∧ (t = .callable ∨ ∃ k, t = .func k)
  | .call1, _, _ | .call2, _, _ | .call, _, _ => ⟨_, _, rfl, .inl rfl⟩
  | .apply, _, _ | .force, _, _ => ⟨_, _, rfl, .inr ⟨_, rfl⟩⟩

theorem convert_isCallable {t : Ty} {v c : Val} (ht : t = .callable ∨ ∃ k, t = .func k) (h : convert t v = .ok c) :
    c.isCallable = true := by
  revert h
  fun_cases convert t v with
  | case7 => rintro ⟨⟩; rfl  -- a query as `Callable`: the builtin `matchq`
  | case8 v _ hv => rintro ⟨⟩; exact hv
  | case10 n v hv => rintro ⟨⟩; exact (Bool.and_eq_true _ _ ▸ hv).1
  | case9 | case11 | case12 => nofun
  | _ => rcases ht with ht | ⟨_, ht⟩ <;> cases ht  -- the other parameter types

/-! `Builtin.step` on a given builtin reduces by itself, except on `collection` and `call`, whose clauses take a list of any
length: the three equations below say what it does there (those on `call` have no user in the proofs).  `step_tail`: what
a hand-over `.tail g xs` tells about the arguments and the builtin. -/

theorem step_collection (ps : List Val) :
    Builtin.step .collection ps =
      if ps.all isPairVal then .value (.other "coll" ("_".intercalate (collText ps))) else .fail := by
  cases ps <;> simp [Builtin.step]

theorem step_call_cons (f : Val) (xs : List Val) : Builtin.step .call (f :: xs) = .tail f xs := by
  simp [Builtin.step]

theorem step_call_nil : Builtin.step .call [] = .fail := by simp [Builtin.step]

theorem step_tail {b : Builtin} {cs : List Val} {g : Val} {xs : List Val} (h : b.step cs = .tail g xs) :
    cs = g :: xs ∧ b.higherOrder = true := by
  unfold Builtin.step at h
  split at h <;> (try split at h) <;> cases h <;> exact ⟨rfl, rfl⟩

theorem step_tail_isCallable {b : Builtin} {args cs : List Val} {g : Val} {xs : List Val}
    (hc : convertAll (b.paramsAt args.length) args = .ok cs) (h : b.step cs = .tail g xs) : g.isCallable = true := by
  obtain ⟨rfl, hho⟩ := step_tail h
  obtain ⟨t, ts, hp, ht⟩ := higherOrder_param hho args.length
  rw [hp] at hc
  cases args with
  | nil => cases hc
  | cons a as =>
    obtain ⟨_, _, h1, _, h3⟩ := convertAll_cons_ok hc
    cases h3
    exact convert_isCallable ht h1

inductive Lift (R : Val → Val → Prop) : List Val → List Val → Prop
  | nil : Lift R [] []
  | cons {a a' : Val} {as as' : List Val} : R a a' → Lift R as as' → Lift R (a :: as) (a' :: as')

theorem Lift.flip {R : Val → Val → Prop} : ∀ {as as' : List Val}, Lift R as as' → Lift (fun v' v => R v v') as' as
  | _, _, .nil => .nil
  | _, _, .cons h hs => .cons h hs.flip

/-- what `convert` and the Go bodies need of a relation `R` on values to carry it from arguments to result: first what a
related pair lets one read off the second value (an int, string, query or pair on the left is one on the right; callability,
arity and cell text agree), then, after the blank line, what `R` is closed under (literals, builtins, pairing, the query
builders) -/
structure Transports (R : Val → Val → Prop) : Prop where
  int_inv : ∀ {i v'}, R (.int i) v' → v' = .int i
  str_inv : ∀ {s v'}, R (.str s) v' → v' = .str s
  query_inv : ∀ {q v'}, R (.query q) v' → ∃ q', v' = .query q'
  pair_inv : ∀ {a b v'}, R (.pair a b) v' → ∃ a' b', v' = .pair a' b' ∧ R a a' ∧ R b b'
  callable : ∀ {v v'}, R v v' → v.isCallable = v'.isCallable
  arity : ∀ {v v'}, R v v' → v.arity = v'.arity
  cell : ∀ {v v'}, R v v' → v.cellToks = v'.cellToks

  lit : ∀ l : Lit, R l.toVal l.toVal
  builtin : ∀ b : Builtin, R (.builtin b) (.builtin b)
  pair : ∀ {a a' b b'}, R a a' → R b b' → R (.pair a b) (.pair a' b')
  typed : ∀ {t q q'}, R (.query q) (.query q') → R (.query (.typed t q)) (.query (.typed t q'))
  inter : ∀ {a a' b b'}, R (.query a) (.query a') → R (.query b) (.query b') →
    R (.query (.inter [a, b])) (.query (.inter [a', b']))
  union : ∀ {a a' b b'}, R (.query a) (.query a') → R (.query b) (.query b') →
    R (.query (.union [a, b])) (.query (.union [a', b']))

/-- `R` and its converse both have `Transports`: the fields that read right to left are the four inversions -/
structure TransportsBoth (R : Val → Val → Prop) : Prop extends Transports R where
  int_inv' : ∀ {i v}, R v (.int i) → v = .int i
  str_inv' : ∀ {s v}, R v (.str s) → v = .str s
  query_inv' : ∀ {q v}, R v (.query q) → ∃ q', v = .query q'
  pair_inv' : ∀ {a b v}, R v (.pair a b) → ∃ a' b', v = .pair a' b' ∧ R a' a ∧ R b' b

theorem TransportsBoth.flip {R : Val → Val → Prop} (T : TransportsBoth R) : Transports (fun v' v => R v v') where
  int_inv := T.int_inv'
  str_inv := T.str_inv'
  query_inv := T.query_inv'
  pair_inv := T.pair_inv'
  callable h := (T.callable h).symm
  arity h := (T.arity h).symm
  cell h := (T.cell h).symm
  lit := T.lit
  builtin := T.builtin
  pair := T.pair
  typed := T.typed
  inter := T.inter
  union := T.union

/-- the second outcome is the first's: the same error, or a related result -/
def Follows {α β : Type} (R : α → β → Prop) (r : Res α) (r' : Res β) : Prop :=
  match r with
  | .ok a => ∃ a', r' = .ok a' ∧ R a a'
  | .error e => r' = .error e

theorem Follows.inv {α β : Type} {R : α → β → Prop} {r : Res α} {r' : Res β} (h : Follows R r r') :
    (∃ e, r = .error e ∧ r' = .error e) ∨ ∃ a a', r = .ok a ∧ r' = .ok a' ∧ R a a' := by
  cases r with
  | error e => exact .inl ⟨e, rfl, h⟩
  | ok a =>
    obtain ⟨a', e, ha⟩ := h
    exact .inr ⟨a, a', rfl, e, ha⟩

/-- the second step does whatever the first does, unless the first fails -/
def StepLe (R : Val → Val → Prop) : Step → Step → Prop
  | .value v, .value v' => R v v'
  | .tail g xs, .tail g' xs' => R g g' ∧ Lift R xs xs'
  | .fail, _ => True
  | _, _ => False

section
variable {R : Val → Val → Prop}

theorem Transports.literalable (T : Transports R) {v v' : Val} (h : R v v') (hl : v.literalable = true) :
    v'.literalable = true := by
  cases v <;> first | (cases T.int_inv h; rfl) | (cases T.str_inv h; rfl) | cases hl

theorem Transports.collText (T : Transports R) : ∀ {ps ps' : List Val}, Lift R ps ps' → ps.all isPairVal = true →
    ps'.all isPairVal = true ∧ collText ps = collText ps'
  | _, _, .nil, _ => ⟨rfl, rfl⟩
  | p :: _, _, .cons h hs, hp => by
    rw [List.all_cons, Bool.and_eq_true] at hp
    obtain ⟨h1, h2⟩ := T.collText hs hp.2
    cases p <;> first | cases hp.1 | skip
    obtain ⟨a', b', rfl, ha, hb⟩ := T.pair_inv h
    exact ⟨by rw [List.all_cons, h1]; rfl, by simp only [B6.Model.collText, T.cell ha, T.cell hb, h2]⟩

theorem convert_mono (T : Transports R) {t : Ty} {v v' c : Val} (h : R v v') (hc : convert t v = .ok c) :
    ∃ c', convert t v' = .ok c' ∧ R c c' := by
  revert hc
  -- `c` is what the clause of `convert` returns; the three failing leaves (9, 11, 12) go by the same `rintro`
  fun_cases convert t v <;> rintro ⟨⟩
  case case1 => exact ⟨v', rfl, h⟩
  case case2 => cases T.int_inv h; exact ⟨_, rfl, h⟩
  case case3 => cases T.str_inv h; exact ⟨_, rfl, h⟩
  case case4 => cases T.int_inv h; exact ⟨_, rfl, T.lit (.str _)⟩
  case case5 => obtain ⟨a', b', rfl, _, _⟩ := T.pair_inv h; exact ⟨_, rfl, h⟩
  case case6 => obtain ⟨q', rfl⟩ := T.query_inv h; exact ⟨_, rfl, h⟩
  case case7 => obtain ⟨q', rfl⟩ := T.query_inv h; exact ⟨_, rfl, T.builtin _⟩
  case case8 hv => exact ⟨v', convert_callable_eq (T.callable h ▸ hv), h⟩  -- `Callable`, not a query
  case case10 hv => rw [convert_func_eq, ← T.callable h, ← T.arity h]; exact ⟨v', if_pos hv, h⟩  -- a func type

theorem convertAll_mono (T : Transports R) : ∀ {ts : List Ty} {vs vs' cs : List Val}, Lift R vs vs' →
    convertAll ts vs = .ok cs → ∃ cs', convertAll ts vs' = .ok cs' ∧ Lift R cs cs'
  | [], _, _, _, .nil, h => by cases h; exact ⟨[], rfl, .nil⟩
  | [], _, _, _, .cons _ _, h | _ :: _, _, _, _, .nil, h => by cases h
  | t :: ts, _, _, _, .cons h1 h2, h => by
    obtain ⟨c, cs, e1, e2, rfl⟩ := convertAll_cons_ok h
    obtain ⟨c', e1', hc⟩ := convert_mono T h1 e1
    obtain ⟨cs', e2', hcs⟩ := convertAll_mono T h2 e2
    exact ⟨c' :: cs', by simp only [convertAll, e1', e2', bind, Except.bind, pure, Except.pure], .cons hc hcs⟩

theorem TransportsBoth.convertAll (T : TransportsBoth R) {ts : List Ty} {vs vs' : List Val} (h : Lift R vs vs') :
    Follows (Lift R) (Model.convertAll ts vs) (Model.convertAll ts vs') := by
  cases hc : Model.convertAll ts vs with
  | ok cs => exact convertAll_mono T.toTransports h hc
  | error e =>
    cases convertAll_err hc
    cases hc' : Model.convertAll ts vs' with
    | error e' => cases convertAll_err hc'; rfl
    | ok cs' =>
      obtain ⟨_, e, _⟩ := convertAll_mono T.flip h.flip hc'
      rw [hc] at e; cases e

theorem step_mono (T : Transports R) {b : Builtin} {cs cs' : List Val} (h : Lift R cs cs') :
    StepLe R (b.step cs) (b.step cs') := by
  generalize hs : b.step cs = s
  unfold Builtin.step at hs
  split at hs <;> subst hs
  · cases h; exact T.lit (.int 0)
  · obtain _ | ⟨h1, _ | ⟨h2, _ | _⟩⟩ := h
    cases T.int_inv h1; cases T.int_inv h2; exact T.lit (.int _)
  · obtain _ | ⟨h1, _ | ⟨h2, _ | _⟩⟩ := h
    cases T.int_inv h1; cases T.int_inv h2; exact T.lit (.int _)
  · obtain _ | ⟨h1, _ | ⟨h2, _ | _⟩⟩ := h
    cases T.int_inv h1; cases T.int_inv h2
    show StepLe R (if _ then _ else _) (if _ then _ else _)
    split
    · trivial
    · exact T.lit (.int _)
  · obtain _ | ⟨h1, _ | ⟨h2, _ | ⟨h3, _ | _⟩⟩⟩ := h
    cases T.int_inv h1; cases T.int_inv h2; cases T.int_inv h3; exact T.lit (.int _)
  · obtain _ | ⟨h1, _ | ⟨h2, _ | _⟩⟩ := h
    exact T.pair h1 h2
  · obtain _ | ⟨h1, _ | _⟩ := h
    obtain ⟨_, _, rfl, ha, _⟩ := T.pair_inv h1
    exact ha
  · obtain _ | ⟨h1, _ | _⟩ := h
    obtain ⟨_, _, rfl, _, hb⟩ := T.pair_inv h1
    exact hb
  · obtain _ | ⟨h1, h2⟩ := h
    -- a copy of `h2` is taken apart to give the second list its length; `h2` itself is the result
    obtain _ | ⟨_, _ | _⟩ := id h2
    exact ⟨h1, h2⟩
  · obtain _ | ⟨h1, h2⟩ := h
    obtain _ | ⟨_, _ | ⟨_, _ | _⟩⟩ := id h2
    exact ⟨h1, h2⟩
  · obtain _ | ⟨h1, h2⟩ := h
    obtain _ | ⟨hx, _ | _⟩ := id h2
    show StepLe R (if _ then _ else _) (if _ then _ else _)
    split
    · rw [if_pos (T.literalable hx ‹_›)]; exact ⟨h1, h2⟩
    · trivial
  · obtain _ | ⟨h1, h2⟩ := h
    cases id h2
    exact ⟨h1, h2⟩
  · obtain _ | ⟨h1, _ | _⟩ := h
    cases T.str_inv h1; exact T.lit (.query _)
  · obtain _ | ⟨h1, _ | ⟨h2, _ | _⟩⟩ := h
    cases T.str_inv h1; cases T.str_inv h2; exact T.lit (.query _)
  · obtain _ | ⟨h1, _ | ⟨h2, _ | _⟩⟩ := h
    cases T.str_inv h1
    obtain ⟨_, rfl⟩ := T.query_inv h2
    exact T.typed h2
  · obtain _ | ⟨h1, _ | ⟨h2, _ | _⟩⟩ := h
    obtain ⟨_, rfl⟩ := T.query_inv h1
    obtain ⟨_, rfl⟩ := T.query_inv h2
    exact T.inter h1 h2
  · obtain _ | ⟨h1, _ | ⟨h2, _ | _⟩⟩ := h
    obtain ⟨_, rfl⟩ := T.query_inv h1
    obtain ⟨_, rfl⟩ := T.query_inv h2
    exact T.union h1 h2
  · rw [step_collection cs']
    split
    · obtain ⟨hp, e⟩ := T.collText h ‹_›
      rw [if_pos hp, e]; exact T.lit (.other _ _)
    · trivial
  · obtain _ | ⟨h1, h2⟩ := h
    exact ⟨h1, h2⟩
  · trivial

theorem step_cases (T : TransportsBoth R) {b : Builtin} {cs cs' : List Val} (h : Lift R cs cs') :
    (∃ v v', b.step cs = .value v ∧ b.step cs' = .value v' ∧ R v v') ∨ (b.step cs = .fail ∧ b.step cs' = .fail) ∨
      ∃ g xs g' xs', b.step cs = .tail g xs ∧ b.step cs' = .tail g' xs' ∧ R g g' ∧ Lift R xs xs' := by
  have h1 := step_mono T.toTransports (b := b) h
  have h2 := step_mono T.flip (b := b) h.flip
  cases hs : b.step cs <;> cases hs' : b.step cs' <;> simp only [hs, hs', StepLe] at h1 h2
  · exact .inl ⟨_, _, rfl, rfl, h1⟩
  · exact .inr (.inr ⟨_, _, _, _, rfl, rfl, h1.1, h1.2⟩)
  · exact .inr (.inl ⟨rfl, rfl⟩)

end

end B6.Lemmas.Builtins
