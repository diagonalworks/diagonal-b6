import B6.Model.Service
import B6.Spec.ChangeSpec
import B6.Lemmas.Basic.AssocList
/-! For C26 (`Model/Service.lean` against `Spec/ChangeSpec.lean`): the three element operations are instances of ONE loop lemma
(`tagLoop_of`; `AddFeatures` differs in its ID set, `addFeatures_loop`) and ONE frame lemma (`frame_of`), stated for any functions
with the two defining equations of such a loop and instantiated by `rfl` and the `…_cons` equations. -/
namespace B6.Lemmas.Service
open B6.Model.Service B6.Spec.ChangeSpec

theorem find_isLookup : Basic.IsLookup (·.id) id find := ⟨fun _ => rfl, fun _ _ _ => rfl⟩

theorem find_put (w : World) (f : Feature) (id : FId) :
    find (put w f) id = if f.id = id then some f else find w id :=
  (find_isLookup.upsert (put := put) (upd := fun _ e => e) (fun _ => rfl) (fun _ _ _ => rfl) (fun _ _ _ => ⟨rfl, rfl⟩)
    w f id).trans (ite_congr (propext eq_comm) (fun _ => rfl) (fun _ => rfl))

theorem find_id {w : World} {id : FId} {f : Feature} (h : find w id = some f) : f.id = id := by
  obtain ⟨e, _, hk, rfl⟩ := find_isLookup.exists_mem_of_eq_some h
  exact hk

theorem put_keeps (w : World) (f : Feature) (id : FId) (h : (find w id).isSome) :
    (find (put w f) id).isSome := by
  rw [find_put]; split <;> simp [h]

theorem addFeaturesSpec_cons (w : World) (f : Feature) (rest : List Feature) :
    addFeaturesSpec w (f :: rest) = (addFeature w f).bind (addFeaturesSpec · rest) := by
  rw [addFeaturesSpec]; cases addFeature w f <;> rfl

theorem addTagsSpec_cons (w : World) (t : FId × String × String) (rest : List (FId × String × String)) :
    addTagsSpec w (t :: rest) = (addTag w t.1 t.2.1 t.2.2).bind (addTagsSpec · rest) := by
  rw [addTagsSpec]; cases addTag w t.1 t.2.1 t.2.2 <;> rfl

theorem removeTagsSpec_cons (w : World) (t : FId × String) (rest : List (FId × String)) :
    removeTagsSpec w (t :: rest) = (removeTag w t.1 t.2).bind (removeTagsSpec · rest) := by
  rw [removeTagsSpec]; cases removeTag w t.1 t.2 <;> rfl

theorem applyAddTags_cons (w : World) (t : FId × String × String) (rest : List (FId × String × String))
    (acc : List FId) : applyAddTags w (t :: rest) acc =
      (addTag w t.1 t.2.1 t.2.2).elim ⟨w, acc, false⟩ (fun w' => applyAddTags w' rest (acc ++ [t.1])) := by
  rw [applyAddTags]; cases addTag w t.1 t.2.1 t.2.2 <;> rfl

theorem applyRemoveTags_cons (w : World) (t : FId × String) (rest : List (FId × String)) (acc : List FId) :
    applyRemoveTags w (t :: rest) acc =
      (removeTag w t.1 t.2).elim ⟨w, acc, false⟩ (fun w' => applyRemoveTags w' rest (acc ++ [t.1])) := by
  rw [applyRemoveTags]; cases removeTag w t.1 t.2 <;> rfl

theorem addFeatures_loop (fs : List Feature) (w : World) (seen : List FId) :
    (∀ w', addFeaturesSpec w fs = some w' → (applyAddFeatures w fs seen).ok = true ∧
      (applyAddFeatures w fs seen).world = w' ∧
      ∀ id, id ∈ (applyAddFeatures w fs seen).ids ↔ id ∈ seen ∨ id ∈ fs.map (·.id)) ∧
    (addFeaturesSpec w fs = none → (applyAddFeatures w fs seen).ok = false) := by
  fun_induction applyAddFeatures w fs seen with
  | case1 w seen => exact ⟨fun w' h => by cases h; exact ⟨rfl, rfl, fun id => by simp⟩, nofun⟩
  | case2 w seen f rest hf => rw [addFeaturesSpec_cons, hf]; exact ⟨nofun, fun _ => rfl⟩
  | case3 w seen f rest w1 hf ih =>
    rw [addFeaturesSpec_cons, hf]
    refine ⟨fun w' hw' => ?_, ih.2⟩
    obtain ⟨a, b, c⟩ := ih.1 w' hw'
    refine ⟨a, b, fun id => ?_⟩
    rw [c id, List.map_cons, List.mem_cons]
    by_cases hm : f.id ∈ seen
    · simp only [hm, ↓reduceIte]
      constructor
      · rintro (h | h) <;> simp [h]
      · rintro (h | rfl | h) <;> simp [*]
    · simp only [hm, ↓reduceIte, List.mem_append, List.mem_cons, List.not_mem_nil, or_false, or_assoc]

/-- `AddTags.Apply` and `RemoveTags.Apply` are one loop; stated for any functions with its two defining equations,
since the model has a recursive function per element type -/
theorem tagLoop_of {ε : Type} {op : World → ε → Option World} {key : ε → FId}
    {sp : World → List ε → Option World} (sp_nil : ∀ w, sp w [] = some w)
    (sp_cons : ∀ w t rest, sp w (t :: rest) = (op w t).bind (sp · rest))
    {ap : World → List ε → List FId → Res} (ap_nil : ∀ w acc, ap w [] acc = ⟨w, acc, true⟩)
    (ap_cons : ∀ w t rest acc, ap w (t :: rest) acc =
      (op w t).elim ⟨w, acc, false⟩ (fun w' => ap w' rest (acc ++ [key t]))) (ts : List ε) :
    ∀ (w : World) (acc : List FId),
      (∀ w', sp w ts = some w' → ap w ts acc = ⟨w', acc ++ ts.map key, true⟩) ∧
      (sp w ts = none → (ap w ts acc).ok = false) := by
  induction ts with
  | nil => intro w acc; simp [sp_nil, ap_nil]
  | cons t rest ih =>
    intro w acc
    rw [sp_cons, ap_cons]
    cases op w t with
    | none => simp
    | some w1 => simpa using ih w1 (acc ++ [key t])

theorem addTags_loop (ts : List (FId × String × String)) (w : World) (acc : List FId) :
    (∀ w', addTagsSpec w ts = some w' → applyAddTags w ts acc = ⟨w', acc ++ ts.map (·.1), true⟩) ∧
    (addTagsSpec w ts = none → (applyAddTags w ts acc).ok = false) :=
  tagLoop_of (op := fun w t => addTag w t.1 t.2.1 t.2.2) (fun _ => rfl) addTagsSpec_cons (fun _ _ => rfl)
    applyAddTags_cons ts w acc

theorem removeTags_loop (ts : List (FId × String)) (w : World) (acc : List FId) :
    (∀ w', removeTagsSpec w ts = some w' → applyRemoveTags w ts acc = ⟨w', acc ++ ts.map (·.1), true⟩) ∧
    (removeTagsSpec w ts = none → (applyRemoveTags w ts acc).ok = false) :=
  tagLoop_of (op := fun w t => removeTag w t.1 t.2) (fun _ => rfl) removeTagsSpec_cons (fun _ _ => rfl)
    applyRemoveTags_cons ts w acc

/-- what an element operation does to `find`: only its own feature is touched, and that one exists afterwards -/
def Touches {ε : Type} (op : World → ε → Option World) (key : ε → FId) : Prop :=
  ∀ w t w', op w t = some w' → (∀ id, key t ≠ id → find w' id = find w id) ∧ (find w' (key t)).isSome

theorem frame_of {ε : Type} {op : World → ε → Option World} {key : ε → FId} (hop : Touches op key)
    {sp : World → List ε → Option World} (sp_nil : ∀ w, sp w [] = some w)
    (sp_cons : ∀ w t rest, sp w (t :: rest) = (op w t).bind (sp · rest)) (ts : List ε) :
    ∀ (w w' : World), sp w ts = some w' →
      (∀ id, id ∉ ts.map key → find w' id = find w id) ∧
      (∀ id, (find w id).isSome ∨ id ∈ ts.map key → (find w' id).isSome) := by
  induction ts with
  | nil => intro w w' h; cases (sp_nil w).symm.trans h; simp
  | cons t rest ih =>
    intro w w' h
    rw [sp_cons] at h
    obtain ⟨w1, h1, h⟩ := Option.bind_eq_some_iff.mp h
    obtain ⟨fr, ex⟩ := ih w1 w' h
    obtain ⟨fr1, ex1⟩ := hop w t w1 h1
    simp only [List.map_cons, List.mem_cons, not_or]
    constructor
    · intro id hid
      rw [fr id hid.2, fr1 id (Ne.symm hid.1)]
    · intro id hid
      apply ex
      by_cases e : key t = id
      · exact Or.inl (e ▸ ex1)
      · rcases hid with hid | hid | hid
        · exact Or.inl (fr1 id e ▸ hid)
        · exact absurd hid.symm e
        · exact Or.inr hid

theorem addFeature_touches : Touches addFeature (·.id) := by
  intro w f w' h
  unfold addFeature at h
  split at h
  · cases h
    exact ⟨fun id hne => by rw [find_put, if_neg hne], by rw [find_put, if_pos rfl]; rfl⟩
  · cases h

/-- `AddTag`/`RemoveTag`: the feature is looked up and stored back with its tags changed -/
theorem retag_touches {w w' : World} {t : FId} (g : Tags → Tags)
    (h : (match find w t with | none => none | some f => some (put w { f with tags := g f.tags })) = some w') :
    (∀ id, t ≠ id → find w' id = find w id) ∧ (find w' t).isSome := by
  split at h
  · cases h
  · next f hf =>
    cases h
    have hid : f.id = t := find_id hf
    exact ⟨fun id hne => by rw [find_put, if_neg (hid ▸ hne)], by rw [find_put, if_pos hid]; rfl⟩

theorem addTag_touches : Touches (fun w (t : FId × String × String) => addTag w t.1 t.2.1 t.2.2) (·.1) :=
  fun _ t _ h => retag_touches (setTag · t.2.1 t.2.2) h

theorem removeTag_touches : Touches (fun w (t : FId × String) => removeTag w t.1 t.2) (·.1) :=
  fun _ t _ h => retag_touches (delTag · t.2) h

end B6.Lemmas.Service
