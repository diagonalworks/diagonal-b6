import B6.Spec.ShortestPath
import B6.Lemmas.Basic.AssocList
/-!
# Lemmas for C30: the loop invariant of `ExpandSearch` (graph.go) and what follows from it

The search is abstracted to `Reach`: any sequence of `expand` steps, each at some queued minimum; the heap only has to
return one (Lemmas/DijkstraHeap).  One case analysis says what a relaxation does (`relaxK_spec`), and `Touched` what it
can do to any one entry.  The invariant `Core` / `Inv` / `Mid` (always / between outer iterations / inside the inner
loop) is kept by both table updates the loop makes (`Core.put`), over any set `J` of points that may carry the `+Inf`
placeholder of `ExpandSearchTo`.  From it: an entry not behind the queue holds the true distance (`walk_exit`,
`front_final`), and back-pointers lead to points settled earlier, so `BuildRoute` returns a walk and ends (`Ranked`).
-/
namespace B6.Lemmas.Dijkstra
open B6.Model.Dijkstra B6.Spec.ShortestPath

section order
variable {α : Type} [Cost α] [LawfulCost α]

theorem le_rfl (a : α) : a ≤ a := LawfulCost.le_refl a
theorem le_trans {a b c : α} (h1 : a ≤ b) (h2 : b ≤ c) : a ≤ c := LawfulCost.le_trans h1 h2
theorem le_of_not_lt {a b : α} (h : ¬ a < b) : b ≤ a :=
  Classical.byContradiction fun hn => h (LawfulCost.lt_iff_not_le.mpr hn)
theorem not_lt_of_le {a b : α} (h : b ≤ a) : ¬ a < b := fun hl => (LawfulCost.lt_iff_not_le.mp hl) h
theorem le_of_lt {a b : α} (h : a < b) : a ≤ b :=
  (LawfulCost.le_total a b).resolve_right (LawfulCost.lt_iff_not_le.mp h)
theorem lt_of_le_of_lt {a b c : α} (h1 : a ≤ b) (h2 : b < c) : a < c :=
  LawfulCost.lt_iff_not_le.mpr fun h => (LawfulCost.lt_iff_not_le.mp h2) (LawfulCost.le_trans h h1)
theorem lt_of_lt_of_le {a b c : α} (h1 : a < b) (h2 : b ≤ c) : a < c :=
  LawfulCost.lt_iff_not_le.mpr fun h => (LawfulCost.lt_iff_not_le.mp h1) (LawfulCost.le_trans h2 h)
end order

section table
variable {P S α : Type} [DecidableEq P]

theorem tget_isLookup : Basic.IsLookup (Prod.fst : P × Entry P S α → P) Prod.snd tget := ⟨fun _ => rfl, fun _ _ _ => rfl⟩

theorem get_put (t : Table P S α) (p q : P) (e : Entry P S α) :
    tget (tput t p e) q = if q = p then some e else tget t q :=
  tget_isLookup.upsert (put := fun t x => tput t x.1 x.2) (upd := fun a x => (a.1, x.2)) (fun _ => rfl) (fun _ _ _ => rfl)
    (fun _ _ h => ⟨h, rfl⟩) t (p, e) q

theorem get_put_self (t : Table P S α) (p : P) (e : Entry P S α) : tget (tput t p e) p = some e := by
  simp [get_put]

theorem get_put_ne (t : Table P S α) {p q : P} (e : Entry P S α) (h : q ≠ p) : tget (tput t p e) q = tget t q := by
  simp [get_put, h]

theorem get_put_some {t : Table P S α} {p q : P} {e x : Entry P S α} (h : tget (tput t p e) q = some x) :
    (q = p ∧ x = e) ∨ (q ≠ p ∧ tget t q = some x) := by
  rw [get_put] at h
  by_cases hq : q = p
  · rw [if_pos hq] at h; exact Or.inl ⟨hq, (Option.some.inj h).symm⟩
  · rw [if_neg hq] at h; exact Or.inr ⟨hq, h⟩

theorem forall_get_put {t : Table P S α} {p : P} {e : Entry P S α} {Q : P → Entry P S α → Prop}
    (hnew : Q p e) (hold : ∀ q x, tget t q = some x → Q q x) : ∀ q x, tget (tput t p e) q = some x → Q q x := by
  intro q x hx
  rcases get_put_some hx with ⟨rfl, rfl⟩ | ⟨_, hxo⟩
  · exact hnew
  · exact hold q x hxo

theorem mem_of_get {t : Table P S α} {p : P} {e : Entry P S α} (h : tget t p = some e) : (p, e) ∈ t := by
  obtain ⟨⟨_, _⟩, he, rfl, rfl⟩ := tget_isLookup.exists_mem_of_eq_some h; exact he

theorem get_of_mem {t : Table P S α} {p : P} {e : Entry P S α} (h : (p, e) ∈ t) : ∃ e', tget t p = some e' :=
  Option.ne_none_iff_exists'.mp fun hn => tget_isLookup.eq_none_iff.mp hn _ h rfl

theorem markVisited_some {t t1 : Table P S α} {p : P} {r : Entry P S α} (h : markVisited t p = some (t1, r)) :
    tget t p = some r ∧ t1 = tput t p { r with visited := true } := by
  revert h
  fun_cases markVisited t p with
  | case1 => nofun
  | case2 r' hg => rintro ⟨⟩; exact ⟨hg, rfl⟩

theorem markVisited_of_get {t : Table P S α} {p : P} {r : Entry P S α} (hp : tget t p = some r) :
    markVisited t p = some (tput t p { r with visited := true }, r) := by
  rw [markVisited, hp]

/-- Between `t` and `t'` the entry of `q` is unchanged, or an unvisited entry that came in over one of the segments
`es` stands in place of none or of an unvisited one. -/
def Touched (es : List (Edge P S α)) (t t' : Table P S α) (q : P) : Prop :=
  tget t' q = tget t q ∨
    ∃ e ne, e ∈ es ∧ q = e.last ∧ tget t' q = some ne ∧ ne.visited = false ∧ ne.back = some e ∧
      ∀ n, tget t q = some n → n.visited = false

theorem Touched.trans {es₁ es₂ : List (Edge P S α)} {t t₁ t₂ : Table P S α} {q : P}
    (h₁ : Touched es₁ t t₁ q) (h₂ : Touched es₂ t₁ t₂ q) : Touched (es₁ ++ es₂) t t₂ q := by
  rcases h₂ with h | ⟨e, ne, he, hq, a, b, c, d⟩
  · rcases h₁ with hf | ⟨e, ne, he, hq, a, b, c, d⟩
    · exact Or.inl (h.trans hf)
    · exact Or.inr ⟨e, ne, List.mem_append_left _ he, hq, h.trans a, b, c, d⟩
  · refine Or.inr ⟨e, ne, List.mem_append_right _ he, hq, a, b, c, fun n hn => ?_⟩
    rcases h₁ with hf | ⟨_, _, _, _, _, _, _, d'⟩
    · exact d n (hf.trans hn)
    · exact d' n hn

def isOpen (t : Table P S α) (q : P) : Bool :=
  match tget t q with
  | some e => !e.visited
  | none => true

theorem Touched.frozen {es : List (Edge P S α)} {t t' : Table P S α} {q : P} {x : Entry P S α}
    (h : Touched es t t' q) (hx : tget t q = some x) (hv : x.visited = true) : tget t' q = some x := by
  rcases h with h | ⟨_, _, _, _, _, _, _, h⟩
  · exact h.trans hx
  · exact absurd (h x hx) (by simp [hv])

theorem Touched.isOpen_eq {es : List (Edge P S α)} {t t' : Table P S α} {q : P} (h : Touched es t t' q) :
    isOpen t' q = isOpen t q := by
  unfold isOpen
  rcases h with h | ⟨_, ne, _, _, h1, h2, _, h4⟩
  · rw [h]
  · rw [h1]
    cases hg : tget t q with
    | none => simp [h2]
    | some n => simp [h2, h4 n hg]

theorem Touched.queued {es : List (Edge P S α)} {t t' : Table P S α} {q : P} (h : Touched es t t' q)
    (hq : ∃ x, tget t q = some x ∧ x.visited = false) : ∃ x, tget t' q = some x ∧ x.visited = false := by
  rcases h with h | ⟨_, ne, _, _, h1, h2, _⟩
  · rw [h]; exact hq
  · exact ⟨ne, h1, h2⟩

theorem Touched.key {es : List (Edge P S α)} {t t' : Table P S α} {q : P} {x : Entry P S α}
    (h : Touched es t t' q) (hx : tget t' q = some x) : tget t q = some x ∨ ∃ e, e ∈ es ∧ q = e.last := by
  rcases h with h | ⟨e, _, he, hq, _⟩
  · exact Or.inl (h ▸ hx)
  · exact Or.inr ⟨e, he, hq⟩

theorem Touched.back {es : List (Edge P S α)} {t t' : Table P S α} {q : P} {x : Entry P S α} {b : Edge P S α}
    (h : Touched es t t' q) (hx : tget t' q = some x) (hb : x.back = some b) :
    (∃ x0, tget t q = some x0 ∧ x0.back = some b) ∨ b ∈ es := by
  rcases h with h | ⟨e, ne, he, _, h1, _, h3, _⟩
  · exact Or.inl ⟨x, h ▸ hx, hb⟩
  · rw [hx] at h1; cases h1
    rw [hb] at h3; cases h3
    exact Or.inr he

variable [Cost α]

theorem _root_.B6.Model.Dijkstra.IsMin.at {t : Table P S α} {p : P} {e : Entry P S α} (hmin : IsMin t p) (hp : tget t p = some e) :
    e.visited = false ∧ ∀ q eq, tget t q = some eq → eq.visited = false → ¬ eq.dist < e.dist := by
  obtain ⟨e', hp', hv, hm⟩ := hmin
  rw [hp] at hp'; cases hp'
  exact ⟨hv, hm⟩

/-- Either the table is unchanged (and if the segment was usable and ends below the limit, its end point has an entry
that is visited or not farther), or the end point gets the unvisited entry `ne` at the new distance with the segment
as back-pointer, in place of no entry or of an unvisited, farther one; `k` says which of the two it was (`Push` or
`Fix` in the queue).  Push and decrease are one case on purpose: the invariant treats them alike. -/
theorem relaxK_spec (max d : α) (t : Table P S α) (e : Edge P S α) :
    (relaxK max d t e = (t, Touch.nothing) ∧
      (e.usable = true → d + e.weight < max →
        ∃ n, tget t e.last = some n ∧ (n.visited = true ∨ ¬ d + e.weight < n.dist))) ∨
    (e.usable = true ∧ d + e.weight < max ∧
      ∃ (ne : Entry P S α) (k : Touch), relaxK max d t e = (tput t e.last ne, k) ∧ ne.visited = false ∧
        ne.dist = d + e.weight ∧ ne.back = some e ∧
        (∀ n, tget t e.last = some n → n.visited = false ∧ d + e.weight < n.dist) ∧
        k = match tget t e.last with
          | none => Touch.pushed
          | some _ => Touch.decreased) := by
  unfold relaxK addOrUpdateK
  by_cases hu : e.usable = true
  · by_cases hm : d + e.weight < max
    · cases hg : tget t e.last with
      | none =>
        exact Or.inr ⟨hu, hm, ⟨false, d + e.weight, some e⟩, .pushed, by simp [hu, hm], rfl, rfl, rfl,
          (fun _ hn => nomatch hn), rfl⟩
      | some n =>
        by_cases hv : n.visited = true
        · exact Or.inl ⟨by simp [hv], fun _ _ => ⟨n, rfl, Or.inl hv⟩⟩
        · have hv' : n.visited = false := by simpa using hv
          by_cases hl : d + e.weight < n.dist
          · exact Or.inr ⟨hu, hm, { n with dist := d + e.weight, back := some e }, .decreased,
              by simp [hv', hu, hm, hl], hv', rfl, rfl, (fun _ hn => by cases hn; exact ⟨hv', hl⟩), rfl⟩
          · exact Or.inl ⟨by simp [hv', hu, hm, hl], fun _ _ => ⟨n, rfl, Or.inr hl⟩⟩
    · exact Or.inl ⟨by simp [hu, hm], fun _ h => absurd h hm⟩
  · exact Or.inl ⟨by simp [hu], fun h => absurd h hu⟩

theorem relax_touched (max d : α) (t : Table P S α) (e : Edge P S α) (q : P) :
    Touched [e] t (relax max d t e) q := by
  rcases relaxK_spec max d t e with ⟨heq, _⟩ | ⟨_, _, ne, _, heq, hnv, _, hnb, hold, _⟩
  · rw [relax, heq]; exact Or.inl rfl
  · rw [relax, heq]
    by_cases hq : q = e.last
    · exact Or.inr ⟨e, ne, List.mem_cons_self, hq, by rw [hq, get_put_self], hnv, hnb,
        fun n hn => (hold n (hq ▸ hn)).1⟩
    · exact Or.inl (get_put_ne _ _ hq)

theorem foldl_relax_touched (max d : α) (es : List (Edge P S α)) (t : Table P S α) (q : P) :
    Touched es t (es.foldl (relax max d) t) q := by
  induction es generalizing t with
  | nil => exact Or.inl rfl
  | cons e rest ih => exact (relax_touched max d t e q).trans (ih _)

variable {g : Graph P S α} {max : α}

theorem expand_eq {t : Table P S α} {p : P} {r : Entry P S α} (hp : tget t p = some r) :
    expand g max t p = some ((g.adj p).foldl (relax max r.dist) (tput t p { r with visited := true })) := by
  rw [expand, markVisited_of_get hp]

theorem expand_touched {t t' : Table P S α} {p : P} (hexp : expand g max t p = some t') :
    ∃ r, tget t p = some r ∧ tget t' p = some { r with visited := true } ∧
      ∀ q, q ≠ p → Touched (g.adj p) t t' q := by
  cases hp : tget t p with
  | none => simp [expand, markVisited, hp] at hexp
  | some r =>
    rw [expand_eq hp] at hexp
    cases hexp
    have hmark : ∀ q, q ≠ p → Touched [] t (tput t p { r with visited := true }) q :=
      fun q hq => Or.inl (get_put_ne _ _ hq)
    exact ⟨r, rfl, (foldl_relax_touched ..).frozen (get_put_self _ _ _) rfl,
      fun q hq => (hmark q hq).trans (foldl_relax_touched ..)⟩

theorem expand_frozen {t t' : Table P S α} {p q : P} {x : Entry P S α}
    (hexp : expand g max t p = some t') (hx : tget t q = some x) (hv : x.visited = true) :
    tget t' q = some x := by
  obtain ⟨r, hr, hself, hoth⟩ := expand_touched hexp
  by_cases hq : q = p
  · subst hq
    rw [hx] at hr; cases hr
    rw [hself, ← hv]
  · exact (hoth q hq).frozen hx hv

theorem expand_self {t t' : Table P S α} {p : P} {r : Entry P S α}
    (hexp : expand g max t p = some t') (hp : tget t p = some r) :
    tget t' p = some { r with visited := true } := by
  obtain ⟨r', hr, hself, _⟩ := expand_touched hexp
  rw [hp] at hr; cases hr; exact hself

theorem expand_back {t t' : Table P S α} {p q : P} {x : Entry P S α} {b : Edge P S α}
    (hexp : expand g max t p = some t') (hx : tget t' q = some x) (hb : x.back = some b) :
    (∃ x0, tget t q = some x0 ∧ x0.back = some b) ∨ b ∈ g.adj p := by
  obtain ⟨r, hr, hself, hoth⟩ := expand_touched hexp
  by_cases hq : q = p
  · subst hq
    rw [hself] at hx; cases hx
    exact Or.inl ⟨r, hr, hb⟩
  · exact (hoth q hq).back hx hb

def cnt (V : List P) (t : Table P S α) : Nat := (V.filter (isOpen t)).length

theorem expand_cnt_lt {t t' : Table P S α} {p : P} {V : List P}
    (hexp : expand g max t p = some t') (hp : p ∈ V) (ho : isOpen t p = true) : cnt V t' < cnt V t := by
  obtain ⟨r, hr, hself, hoth⟩ := expand_touched hexp
  have e : isOpen t' = fun q => decide (q ≠ p) && isOpen t q := funext fun q => by
    by_cases hq : q = p
    · simp [isOpen, hq, hself]
    · rw [(hoth q hq).isOpen_eq]; simp [hq]
  unfold cnt
  rw [e, ← List.filter_filter]
  exact List.length_filter_lt_length_iff_exists.mpr ⟨p, List.mem_filter.mpr ⟨hp, ho⟩, by simp⟩

theorem initTable_get_aux (os : List P) (t : Table P S α) (q : P) :
    tget (os.foldl (fun t o => match tget t o with
        | some _ => t
        | none => tput t o { visited := false, dist := Cost.zero, back := none }) t) q
      = (tget t q).or (if q ∈ os then some { visited := false, dist := Cost.zero, back := none } else none) := by
  induction os generalizing t with
  | nil => simp
  | cons o rest ih =>
    rw [List.foldl_cons, ih]
    by_cases hq : q = o
    · subst hq; cases hg : tget t q <;> simp [hg, get_put_self]
    · cases tget t o <;> simp [hq, get_put_ne]

theorem initTable_get (origins : List P) (q : P) :
    tget (initTable origins : Table P S α) q =
      if q ∈ origins then some { visited := false, dist := Cost.zero, back := none } else none :=
  initTable_get_aux origins [] q

theorem initTable_get_some {origins : List P} {q : P} {x : Entry P S α}
    (h : tget (initTable origins) q = some x) :
    q ∈ origins ∧ x = { visited := false, dist := Cost.zero, back := none } := by
  rw [initTable_get] at h
  by_cases hq : q ∈ origins
  · rw [if_pos hq] at h; exact ⟨hq, (Option.some.inj h).symm⟩
  · rw [if_neg hq] at h; cases h

theorem initTable_get_mem {origins : List P} {q : P} (h : q ∈ origins) :
    tget (initTable origins : Table P S α) q = some { visited := false, dist := Cost.zero, back := none } := by
  rw [initTable_get, if_pos h]

end table

section sentinel
variable {P S α : Type} [Cost α]

/-- the entry `e` of `p` is not a recorded distance but the `+Inf` placeholder of `ExpandSearchTo`, which only the
points `J` may carry (`Core.walk` spells this out) -/
abbrev Sentinel (J : P → Prop) (max : α) (p : P) (e : Entry P S α) : Prop := J p ∧ e.back = none ∧ ¬ e.dist < max

theorem not_sentinel_false {max : α} {p : P} {e : Entry P S α} : ¬ Sentinel (fun _ => False) max p e := fun h => h.1

theorem not_sentinel_of_lt {J : P → Prop} {max : α} {p : P} {e : Entry P S α} (h : e.dist < max) :
    ¬ Sentinel J max p e := fun hj => hj.2.2 h

end sentinel

section inv
variable {P S α : Type} [DecidableEq P] [Cost α]

/-- the edge `e` out of a settled point with distance `d` has been accounted for -/
def RelaxedEdge (max : α) (t : Table P S α) (d : α) (e : Edge P S α) : Prop :=
  e.usable = true → d + e.weight < max → ∃ ev, tget t e.last = some ev ∧ ev.dist ≤ d + e.weight

/-- Part of the invariant that holds at every moment (also inside the inner loop).
`J` = points that may carry a "junk" entry (the `+Inf` sentinel of `ExpandSearchTo`): no segment, distance not
below `max`. -/
structure Core (g : Graph P S α) (origins : List P) (J : P → Prop) (max : α) (t : Table P S α) : Prop where
  walk : ∀ p e, tget t p = some e →
    (∃ es, Walk g origins p e.dist es) ∨ (J p ∧ e.back = none ∧ ¬ e.dist < max)
  chain : ∀ p e b, tget t p = some e → e.back = some b →
    b.usable = true ∧ b.last = p ∧ e.dist < max ∧
    ∃ u eu, b ∈ g.adj u ∧ tget t u = some eu ∧ eu.visited = true ∧ e.dist = eu.dist + b.weight
  root : ∀ p e, tget t p = some e → e.back = none →
    (p ∈ origins ∧ e.dist = Cost.zero) ∨ (J p ∧ ¬ e.dist < max)
  le : ∀ u v eu ev, tget t u = some eu → eu.visited = true → tget t v = some ev → ev.visited = false →
    eu.dist ≤ ev.dist
  orig : ∀ o, o ∈ origins → ∃ e, tget t o = some e ∧ e.dist ≤ Cost.zero

/-- The loop invariant of `ExpandSearch` between iterations of the outer loop. -/
structure Inv (g : Graph P S α) (origins : List P) (J : P → Prop) (max : α) (t : Table P S α) : Prop where
  core : Core g origins J max t
  relaxed : ∀ u eu, tget t u = some eu → eu.visited = true → ∀ e, e ∈ g.adj u → RelaxedEdge max t eu.dist e

/-- The invariant of the inner loop while `p` (entry `r` at pop time) is being expanded and the segments in
`L` have been processed. -/
structure Mid (g : Graph P S α) (origins : List P) (J : P → Prop) (max : α) (p : P) (r : Entry P S α)
    (L : List (Edge P S α)) (t : Table P S α) : Prop where
  core : Core g origins J max t
  self : tget t p = some { r with visited := true }
  below : ∀ u eu, tget t u = some eu → eu.visited = true → eu.dist ≤ r.dist
  relaxedOthers : ∀ u eu, u ≠ p → tget t u = some eu → eu.visited = true →
    ∀ e, e ∈ g.adj u → RelaxedEdge max t eu.dist e
  relaxedSelf : ∀ e, e ∈ L → RelaxedEdge max t r.dist e

-- what needs no law of `Cost`; a section of its own, so that below the parameters are declared after `[LawfulCost α]`
section
variable {g : Graph P S α} {origins : List P} {J : P → Prop} {max : α}

theorem Mid.toInv {t : Table P S α} {p : P} {r : Entry P S α} {L : List (Edge P S α)}
    (hM : Mid g origins J max p r L t) (hL : ∀ e, e ∈ g.adj p → e ∈ L) : Inv g origins J max t := by
  refine ⟨hM.core, ?_⟩
  intro u eu hu huv e he
  by_cases hup : u = p
  · subst hup
    have := hM.self
    rw [hu] at this; cases this
    exact hM.relaxedSelf e (hL e he)
  · exact hM.relaxedOthers u eu hup hu huv e he

/-- `Reach g max t0 tr t`: from table `t0` the outer loop can arrive at `t`; `tr` lists the popped points with
their distance at pop time, most recent first. -/
inductive Reach (g : Graph P S α) (max : α) (t0 : Table P S α) : List (P × α) → Table P S α → Prop
  | refl : Reach g max t0 [] t0
  | step {tr : List (P × α)} {t t' : Table P S α} {p : P} {ep : Entry P S α} :
      Reach g max t0 tr t → IsMin t p → tget t p = some ep → Model.Dijkstra.expand g max t p = some t' →
      Reach g max t0 ((p, ep.dist) :: tr) t'

/-- a run continued from its first step: that step comes LAST in the trace (`tr` is most recent first) -/
theorem Reach.first_step {t0 t1 t : Table P S α} {tr : List (P × α)} {p : P} {ep : Entry P S α}
    (hmin : IsMin t0 p) (hp : tget t0 p = some ep) (hexp : expand g max t0 p = some t1)
    (h : Reach g max t1 tr t) : Reach g max t0 (tr ++ [(p, ep.dist)]) t := by
  induction h with
  | refl => exact Reach.step Reach.refl hmin hp hexp
  | step _ hm hq he ih => exact Reach.step ih hm hq he

theorem Reach.trace_settled {t0 t : Table P S α} {tr : List (P × α)} (h : Reach g max t0 tr t) :
    ∀ q d, (q, d) ∈ tr → ∃ x, tget t q = some x ∧ x.visited = true ∧ x.dist = d := by
  induction h with
  | refl => intro q d hm; simp at hm
  | step _ hmin hp hexp ih =>
    intro q d hm
    rcases List.mem_cons.mp hm with h | h
    · cases h
      exact ⟨_, expand_self hexp hp, rfl, rfl⟩
    · obtain ⟨x, hx, hv, hd⟩ := ih q d h
      exact ⟨x, expand_frozen hexp hx hv, hv, hd⟩

theorem Inv.ofFresh {t : Table P S α}
    (h : ∀ q x, tget t q = some x → x.visited = false ∧ x.back = none ∧
      ((q ∈ origins ∧ x.dist = Cost.zero) ∨ (J q ∧ ¬ x.dist < max)))
    (ho : ∀ o, o ∈ origins → ∃ x, tget t o = some x ∧ x.dist ≤ Cost.zero) :
    Inv g origins J max t := by
  refine ⟨⟨?_, ?_, ?_, ?_, ho⟩, ?_⟩
  · intro q x hx
    obtain ⟨_, hb, hcase⟩ := h q x hx
    rcases hcase with ⟨hq, hd⟩ | ⟨hj, hd⟩
    · left; exact ⟨[], by rw [hd]; exact Walk.origin hq⟩
    · right; exact ⟨hj, hb, hd⟩
  · intro q x b hx hb
    rw [(h q x hx).2.1] at hb; cases hb
  · intro q x hx _
    exact (h q x hx).2.2
  · intro u v eu ev hu huv _ _
    rw [(h u eu hu).1] at huv; cases huv
  · intro u eu hu huv
    rw [(h u eu hu).1] at huv; cases huv

end

variable [LawfulCost α]
variable {g : Graph P S α} {origins : List P} {J : P → Prop} {max : α}

theorem RelaxedEdge.mono {t t' : Table P S α} {d : α} {e : Edge P S α}
    (h : RelaxedEdge max t d e)
    (hle : ∀ q x, tget t q = some x → ∃ x', tget t' q = some x' ∧ x'.dist ≤ x.dist) :
    RelaxedEdge max t' d e := by
  intro hu hm
  obtain ⟨ev, hev, hd⟩ := h hu hm
  obtain ⟨x', hx', hd'⟩ := hle _ _ hev
  exact ⟨x', hx', le_trans hd' hd⟩

theorem put_mono {t : Table P S α} {v : P} {ne : Entry P S α}
    (hold : ∀ n, tget t v = some n → ne.dist ≤ n.dist) :
    ∀ q x, tget t q = some x → ∃ x', tget (tput t v ne) q = some x' ∧ x'.dist ≤ x.dist := by
  intro q x hx
  by_cases hq : q = v
  · subst hq; exact ⟨ne, get_put_self _ _ _, hold x hx⟩
  · exact ⟨x, (get_put_ne _ _ hq).trans hx, le_rfl _⟩

/-- Both updates the loop makes (mark the popped point visited; enter a closer entry for the end of a segment)
replace the entry of a point that is absent or unvisited: one preservation lemma serves both. -/
theorem Core.put {t : Table P S α} {v : P} {ne : Entry P S α} (hc : Core g origins J max t)
    (hold : ∀ n, tget t v = some n → n.visited = false ∧ ne.dist ≤ n.dist)
    (hwalk : (∃ es, Walk g origins v ne.dist es) ∨ Sentinel J max v ne)
    (hchain : ∀ b, ne.back = some b → b.usable = true ∧ b.last = v ∧ ne.dist < max ∧
      ∃ u eu, b ∈ g.adj u ∧ tget t u = some eu ∧ eu.visited = true ∧ ne.dist = eu.dist + b.weight)
    (hroot : ne.back = none → (v ∈ origins ∧ ne.dist = Cost.zero) ∨ (J v ∧ ¬ ne.dist < max))
    (hsettled : ne.visited = true →
      ∀ w ew, w ≠ v → tget t w = some ew → ew.visited = false → ne.dist ≤ ew.dist)
    (hqueued : ne.visited = false → ∀ u eu, tget t u = some eu → eu.visited = true → eu.dist ≤ ne.dist) :
    Core g origins J max (tput t v ne) := by
  have keep : ∀ u eu, tget t u = some eu → eu.visited = true → tget (tput t v ne) u = some eu := by
    intro u eu hu huv
    refine (get_put_ne _ _ fun h => ?_).trans hu
    have := (hold eu (h ▸ hu)).1
    rw [huv] at this; cases this
  refine ⟨?_, ?_, ?_, ?_, ?_⟩
  · exact forall_get_put hwalk hc.walk
  · intro q x b hx hb
    have : b.usable = true ∧ b.last = q ∧ x.dist < max ∧
        ∃ u eu, b ∈ g.adj u ∧ tget t u = some eu ∧ eu.visited = true ∧ x.dist = eu.dist + b.weight := by
      rcases get_put_some hx with ⟨rfl, rfl⟩ | ⟨_, hxo⟩
      · exact hchain b hb
      · exact hc.chain q x b hxo hb
    obtain ⟨h1, h2, h3, u, eu, hu1, hu2, hu3, hu4⟩ := this
    exact ⟨h1, h2, h3, u, eu, hu1, keep u eu hu2 hu3, hu3, hu4⟩
  · exact forall_get_put hroot hc.root
  · intro u w eu ew hu huv hw hwv
    rcases get_put_some hu with ⟨rfl, rfl⟩ | ⟨_, huo⟩
    · rcases get_put_some hw with ⟨_, rfl⟩ | ⟨hwne, hwo⟩
      · rw [huv] at hwv; cases hwv
      · exact hsettled huv w ew hwne hwo hwv
    · rcases get_put_some hw with ⟨rfl, rfl⟩ | ⟨_, hwo⟩
      · exact hqueued hwv u eu huo huv
      · exact hc.le u w eu ew huo huv hwo hwv
  · intro o ho
    obtain ⟨e, he, hd⟩ := hc.orig o ho
    obtain ⟨x', h1, h2⟩ := put_mono (fun n hn => (hold n hn).2) o e he
    exact ⟨x', h1, le_trans h2 hd⟩

theorem Mid.ofInv {t : Table P S α} {p : P} {r : Entry P S α}
    (hI : Inv g origins J max t) (hp : tget t p = some r) (hv : r.visited = false)
    (hmin : ∀ q eq, tget t q = some eq → eq.visited = false → ¬ (eq.dist < r.dist)) :
    Mid g origins J max p r [] (tput t p { r with visited := true }) := by
  have hc := hI.core
  have hold : ∀ n, tget t p = some n → n.visited = false ∧ r.dist ≤ n.dist := by
    intro n hn; rw [hp] at hn; cases hn; exact ⟨hv, le_rfl _⟩
  refine ⟨hc.put hold (hc.walk p r hp) (fun b hb => hc.chain p r b hp hb) (hc.root p r hp)
      (fun _ w ew _ hw hwv => le_of_not_lt (hmin w ew hw hwv)) (fun h => Bool.noConfusion h),
    get_put_self _ _ _, ?_, ?_, fun e he => nomatch he⟩
  · exact forall_get_put (fun _ => le_rfl _) fun u eu huo huv => hc.le u p eu r huo huv hp hv
  · intro u eu hup hu huv e he
    rcases get_put_some hu with ⟨hq, _⟩ | ⟨_, huo⟩
    · exact absurd hq hup
    · exact (hI.relaxed u eu huo huv e he).mono (put_mono fun n hn => (hold n hn).2)

-- inside `Mid.relax` and `Mid.foldl` the function is written `Model.Dijkstra.relax`: `relax` alone is this theorem
theorem Mid.relax {t : Table P S α} {p : P} {r : Entry P S α} {L : List (Edge P S α)} {e : Edge P S α}
    (hN : NonNeg g) (hM : Mid g origins J max p r L t) (he : e ∈ g.adj p) :
    Mid g origins J max p r (e :: L) (Model.Dijkstra.relax max r.dist t e) := by
  have hc := hM.core
  rcases relaxK_spec max r.dist t e with ⟨heq, hsame⟩ | ⟨hu, hm, ne, _, heq, hnv, hnd, hnb, hold, _⟩
  · -- table unchanged
    rw [Model.Dijkstra.relax, heq]
    refine ⟨hc, hM.self, hM.below, hM.relaxedOthers, fun e' he' => ?_⟩
    rcases List.mem_cons.mp he' with rfl | h
    · intro hu hm
      obtain ⟨n, hn, hvis | hnl⟩ := hsame hu hm
      · exact ⟨n, hn, le_trans (hM.below _ _ hn hvis) (LawfulCost.le_add_of_nonneg _ (hN p e' he hu))⟩
      · exact ⟨n, hn, le_of_not_lt hnl⟩
    · exact hM.relaxedSelf e' h
  · -- entry of `e.last` created or decreased
    rw [Model.Dijkstra.relax, heq]
    have hstep : r.dist ≤ r.dist + e.weight := LawfulCost.le_add_of_nonneg _ (hN p e he hu)
    have hvp : p ≠ e.last := fun h => by
      have := (hold _ (h ▸ hM.self)).1
      cases this
    have hold' : ∀ n, tget t e.last = some n → n.visited = false ∧ ne.dist ≤ n.dist :=
      fun n hn => ⟨(hold n hn).1, by rw [hnd]; exact le_of_lt (hold n hn).2⟩
    have mono := put_mono (ne := ne) fun n hn => (hold' n hn).2
    refine ⟨hc.put hold' ?_ ?_ (fun hb => by rw [hnb] at hb; cases hb) (fun h => by rw [hnv] at h; cases h) ?_,
      (get_put_ne _ _ hvp).trans hM.self, ?_, ?_, ?_⟩
    · rcases hc.walk p _ hM.self with ⟨es, hes⟩ | ⟨_, _, hj⟩
      · exact Or.inl ⟨es ++ [e], by rw [hnd]; exact Walk.snoc hes he hu⟩
      · exact absurd (lt_of_le_of_lt hstep hm) hj
    · intro b hb
      rw [hnb] at hb; cases hb
      exact ⟨hu, rfl, by rw [hnd]; exact hm, p, _, he, hM.self, rfl, hnd⟩
    · intro _ u eu hu' huv
      rw [hnd]; exact le_trans (hM.below u eu hu' huv) hstep
    · exact forall_get_put (fun huv => by rw [hnv] at huv; cases huv) hM.below
    · intro u eu hup hu' huv e' he'
      rcases get_put_some hu' with ⟨_, rfl⟩ | ⟨_, h⟩
      · rw [hnv] at huv; cases huv
      · exact (hM.relaxedOthers u eu hup h huv e' he').mono mono
    · intro e' he'
      rcases List.mem_cons.mp he' with rfl | h
      · exact fun _ _ => ⟨ne, get_put_self _ _ _, by rw [hnd]; exact le_rfl _⟩
      · exact (hM.relaxedSelf e' h).mono mono

theorem Mid.foldl {p : P} {r : Entry P S α} (hN : NonNeg g) (es : List (Edge P S α)) :
    ∀ (L : List (Edge P S α)) (t : Table P S α), (∀ e, e ∈ es → e ∈ g.adj p) →
      Mid g origins J max p r L t → Mid g origins J max p r (es.reverse ++ L) (es.foldl (Model.Dijkstra.relax max r.dist) t) := by
  intro L t hsub h
  -- the table and the list of the edges handled so far are folded side by side
  simpa using List.foldl_rel (r := fun t L => Mid g origins J max p r L t) (g := fun L e => e :: L) h
    fun e he _ _ hm => hm.relax hN (hsub e he)

/-- **the outer loop body preserves the invariant** when the popped point is a queued minimum -/
theorem Inv.expand {t t' : Table P S α} {p : P} (hN : NonNeg g)
    (hI : Inv g origins J max t) (hmin : IsMin t p) (hexp : expand g max t p = some t') :
    Inv g origins J max t' := by
  obtain ⟨ep, hp, hv, hm⟩ := hmin
  rw [expand_eq hp] at hexp
  cases hexp
  exact (Mid.foldl hN (g.adj p) [] _ (fun e he => he) (Mid.ofInv hI hp hv hm)).toInv
    (fun e he => by simp [he])

theorem Reach.inv {t0 t : Table P S α} {tr : List (P × α)} (hN : NonNeg g)
    (h0 : Inv g origins J max t0) (h : Reach g max t0 tr t) : Inv g origins J max t := by
  induction h with
  | refl => exact h0
  | step _ hmin _ hexp ih => exact ih.expand hN hmin hexp

theorem Reach.nondecreasing {t0 t : Table P S α} {tr : List (P × α)} (hN : NonNeg g)
    (h0 : Inv g origins J max t0) (h : Reach g max t0 tr t) :
    tr.Pairwise (fun later earlier => earlier.2 ≤ later.2) := by
  induction h with
  | refl => exact List.Pairwise.nil
  | @step tr t t' p ep hr hmin hp hexp ih =>
    refine List.Pairwise.cons ?_ ih
    intro ⟨q, d⟩ hm
    obtain ⟨x, hx, hv, hd⟩ := hr.trace_settled q d hm
    have := (hr.inv hN h0).core.le q p x ep hx hv hp (hmin.at hp).1
    simpa [hd] using this

/-! ### optimality -/

omit [DecidableEq P] in
theorem walk_nonneg {p : P} {c : α} {es : List (Edge P S α)} (hN : NonNeg g)
    (h : Walk g origins p c es) : (Cost.zero : α) ≤ c := by
  induction h with
  | origin _ => exact le_rfl _
  | snoc _ he hu ih => exact le_trans ih (LawfulCost.le_add_of_nonneg _ (hN _ _ he hu))

/-- A walk cheaper than the limit either ends at a recorded point whose recorded distance is at most the walk's
cost, or it leaves the settled set through a queued point that is at most that far ("every frontier key is the
best distance through settled points"). -/
theorem walk_exit {t : Table P S α} (hN : NonNeg g) (hI : Inv g origins J max t)
    {p : P} {c : α} {es : List (Edge P S α)} (hw : Walk g origins p c es) (hc : c < max) :
    (∃ e, tget t p = some e ∧ e.dist ≤ c) ∨
    (∃ y ey, tget t y = some ey ∧ ey.visited = false ∧ ey.dist ≤ c) := by
  induction hw with
  | origin ho => exact Or.inl (hI.core.orig _ ho)
  | @snoc u c' es' e hw' he hu ih =>
    have hw0 : (Cost.zero : α) ≤ e.weight := hN _ _ he hu
    have hstep : c' ≤ c' + e.weight := LawfulCost.le_add_of_nonneg _ hw0
    rcases ih (lt_of_le_of_lt hstep hc) with ⟨eu, heu, hd⟩ | ⟨y, ey, hy, hyv, hd⟩
    · by_cases hv : eu.visited = true
      · have hle : eu.dist + e.weight ≤ c' + e.weight := LawfulCost.add_le_add_right _ hd
        obtain ⟨ev, hev, hd'⟩ := hI.relaxed u eu heu hv e he hu (lt_of_le_of_lt hle hc)
        exact Or.inl ⟨ev, hev, le_trans hd' hle⟩
      · have hv' : eu.visited = false := by simpa using hv
        exact Or.inr ⟨u, eu, heu, hv', le_trans hd hstep⟩
    · exact Or.inr ⟨y, ey, hy, hyv, le_trans hd hstep⟩

theorem front_le_walk_of_lt {t : Table P S α} (hN : NonNeg g) (hI : Inv g origins J max t)
    {p : P} {e : Entry P S α} (hp : tget t p = some e)
    (hfront : ∀ y ey, tget t y = some ey → ey.visited = false → e.dist ≤ ey.dist)
    {c : α} {es : List (Edge P S α)} (hw : Walk g origins p c es) (hc : c < max) : e.dist ≤ c := by
  rcases walk_exit hN hI hw hc with ⟨e', he', hd⟩ | ⟨y, ey, hy, hyv, hd⟩
  · rw [hp] at he'; cases he'; exact hd
  · exact le_trans (hfront y ey hy hyv) hd

/-- Entries not behind any queued entry — settled ones, or the queued minimum about to be popped — hold the true
shortest distance of their point, in every state of the search; this is what makes the early stop of
`ExpandSearchTo` right. -/
theorem front_final {t : Table P S α} (hN : NonNeg g) (hI : Inv g origins J max t)
    {p : P} {e : Entry P S α} (hp : tget t p = some e)
    (hfront : ∀ y ey, tget t y = some ey → ey.visited = false → e.dist ≤ ey.dist)
    (hnj : ¬ Sentinel J max p e) :
    (∃ es, Walk g origins p e.dist es) ∧ ∀ c es, Walk g origins p c es → e.dist ≤ c := by
  refine ⟨(hI.core.walk p e hp).resolve_right hnj, fun c es hw => ?_⟩
  by_cases hc : c < max
  · exact front_le_walk_of_lt hN hI hp hfront hw hc
  · -- an entry with a segment is below the limit; one without is an origin at distance 0
    cases hb : e.back with
    | some b => exact le_trans (le_of_lt (hI.core.chain p e b hp hb).2.2.1) (le_of_not_lt hc)
    | none =>
      rcases hI.core.root p e hp hb with ⟨_, h⟩ | ⟨hj, h⟩
      · rw [h]; exact walk_nonneg hN hw
      · exact absurd ⟨hj, hb, h⟩ hnj

theorem isMin_front {t : Table P S α} {p : P} {e : Entry P S α} (hmin : IsMin t p) (hp : tget t p = some e) :
    ∀ y ey, tget t y = some ey → ey.visited = false → e.dist ≤ ey.dist :=
  fun y ey hy hyv => le_of_not_lt ((hmin.at hp).2 y ey hy hyv)

/-! ### initial tables -/

/-- `NewShortestPathSearchFromPoint`'s table satisfies the loop invariant (no sentinel allowed) -/
theorem Inv.init (g : Graph P S α) (origins : List P) (max : α) :
    Inv g origins (fun _ => False) max (initTable origins) := by
  apply Inv.ofFresh
  · intro q x hx
    obtain ⟨hq, rfl⟩ := initTable_get_some hx
    exact ⟨rfl, rfl, Or.inl ⟨hq, rfl⟩⟩
  · exact fun o ho => ⟨_, initTable_get_mem ho, le_rfl _⟩

/-- … and so does `ExpandSearchTo`'s table with the `+Inf` sentinel for a destination that is not the origin -/
theorem Inv.initTo (g : Graph P S α) (origins : List P) (max inf : α) (dest : P)
    (hd : dest ∉ origins) (hinf : ¬ inf < max) :
    Inv g origins (fun q => q = dest) max (sentinelTable origins dest inf) := by
  apply Inv.ofFresh
  · refine forall_get_put ⟨rfl, rfl, Or.inr ⟨rfl, hinf⟩⟩ fun q x hx' => ?_
    obtain ⟨hq, rfl⟩ := initTable_get_some hx'
    exact ⟨rfl, rfl, Or.inl ⟨hq, rfl⟩⟩
  · exact fun o ho =>
      ⟨_, (get_put_ne _ _ fun h : o = dest => hd (h ▸ ho)).trans (initTable_get_mem ho), le_rfl _⟩

theorem Reach.inv_init {t : Table P S α} {tr : List (P × α)} (hN : NonNeg g)
    (h : Reach g max (initTable origins) tr t) : Inv g origins (fun _ => False) max t :=
  h.inv hN (Inv.init g origins max)

theorem Reach.inv_initTo {t : Table P S α} {tr : List (P × α)} {inf : α} {dest : P} (hN : NonNeg g)
    (hd : dest ∉ origins) (hinf : ¬ inf < max)
    (h : Reach g max (sentinelTable origins dest inf) tr t) : Inv g origins (fun q => q = dest) max t :=
  h.inv hN (Inv.initTo g origins max inf dest hd hinf)

/-! ### BuildRoute -/

theorem buildRoute_sound {t : Table P S α} (hN : NonNeg g) (hF : FirstOk g) (hc : Core g origins J max t) :
    ∀ (n : Nat) (p : P) (acc : List (Step P S α)) (e : Entry P S α) (o : P) (steps : List (Step P S α)),
      tget t p = some e → ¬ Sentinel J max p e →
      buildRoute t n p acc = some (o, steps) →
      ∃ pre, steps = pre ++ acc ∧ RouteTo g origins o pre p e.dist := by
  intro n p acc e0 o steps hp hnj h
  fun_induction buildRoute t n p acc generalizing e0 with
  | case1 => cases h
  | case2 n p acc e hr b hb ih =>
    rw [hp] at hr; cases hr
    obtain ⟨hu, hl, hlt, u, eu, hadj, heu, _, hd⟩ := hc.chain p e b hp hb
    have hfirst : b.first = u := hF u b hadj
    rw [hfirst] at h ih
    have hult : eu.dist < max :=
      lt_of_le_of_lt (LawfulCost.le_add_of_nonneg eu.dist (hN u b hadj hu)) (hd ▸ hlt)
    obtain ⟨pre, hpre, hroute⟩ := ih eu heu (not_sentinel_of_lt hult) h
    refine ⟨pre ++ [{ dest := p, via := b, cost := e.dist }], by simp [hpre], ?_⟩
    have := RouteTo.snoc hroute hadj hfirst hu
    rw [hl, ← hd] at this
    exact this
  | case3 n p acc e hr hb =>
    rw [hp] at hr; cases hr; cases h
    rcases hc.root _ e hp hb with ⟨ho, hz⟩ | ⟨hj, hnlt⟩
    · exact ⟨[], by simp, by rw [hz]; exact RouteTo.nil ho⟩
    · exact absurd ⟨hj, hb, hnlt⟩ hnj
  | case4 n p acc hr => rw [hp] at hr; cases hr

theorem buildRoute_route {t : Table P S α} (hN : NonNeg g) (hF : FirstOk g) (hc : Core g origins J max t)
    {n : Nat} {p o : P} {e : Entry P S α} {steps : List (Step P S α)} (hp : tget t p = some e)
    (hnj : ¬ Sentinel J max p e) (hb : buildRoute t n p [] = some (o, steps)) :
    RouteTo g origins o steps p e.dist := by
  obtain ⟨pre, hpre, hr⟩ := buildRoute_sound hN hF hc n p [] e o steps hp hnj hb
  rw [List.append_nil] at hpre
  exact hpre ▸ hr

/-! ### `BuildRoute` terminates: back-pointers lead to points that were settled strictly earlier -/

-- this statement takes the section's instances without using them (so do `Ranked.frozen` and four statements of
-- Props/C30): the linter is told so at each
set_option linter.unusedSectionVars false in
theorem buildRoute_mono_le (t : Table P S α) {n m : Nat} (hnm : n ≤ m) {p : P} {acc : List (Step P S α)}
    {r : P × List (Step P S α)} (h : buildRoute t n p acc = some r) : buildRoute t m p acc = some r := by
  obtain ⟨k, rfl⟩ := Nat.exists_eq_add_of_le hnm
  clear hnm
  fun_induction buildRoute t n p acc with
  | case1 => cases h
  | case2 n p acc e hp b hb ih =>
    rw [Nat.succ_add, buildRoute, hp]
    simp only [hb]
    exact ih h
  | case3 n p acc e hp hb => rw [Nat.succ_add, buildRoute, hp]; simpa [hb] using h
  | case4 n p acc hp => rw [Nat.succ_add, buildRoute, hp]; exact h

/-- every popped point's back-pointer starts at a point popped earlier (`tr` is most recent first) -/
def Ranked (t : Table P S α) : List (P × α) → Prop
  | [] => True
  | (q, _) :: l => Ranked t l ∧ ∀ e b, tget t q = some e → e.back = some b → b.first ∈ l.map (·.1)

theorem Ranked.terminates {t : Table P S α} :
    ∀ (l : List (P × α)), Ranked t l → ∀ u, u ∈ l.map (·.1) → ∀ acc, ∃ r, buildRoute t l.length u acc = some r := by
  intro l hR u hu acc
  fun_induction Ranked t l generalizing u acc with
  | case1 => simp at hu
  | case2 q d l ih =>
    obtain ⟨hRl, hq⟩ := hR
    by_cases huq : u = q
    · subst huq
      simp only [List.length_cons, buildRoute]
      cases hp : tget t u with
      | none => exact ⟨_, rfl⟩
      | some e =>
        cases hb : e.back with
        | none => simp [hb]
        | some b =>
          simp only [hb]
          exact ih hRl b.first (hq e b hp hb) _
    · obtain ⟨r, hr⟩ := ih hRl u ((List.mem_cons.mp hu).resolve_left huq) acc
      exact ⟨r, buildRoute_mono_le t (Nat.le_succ _) hr⟩

set_option linter.unusedSectionVars false in
theorem Ranked.frozen {t t' : Table P S α} (l : List (P × α))
    (hfz : ∀ q, q ∈ l.map (·.1) → ∀ x, tget t q = some x → tget t' q = some x)
    (hin : ∀ q, q ∈ l.map (·.1) → ∃ x, tget t q = some x)
    (h : Ranked t l) : Ranked t' l := by
  fun_induction Ranked t l with
  | case1 => trivial
  | case2 q d l ih =>
    obtain ⟨hl, hq⟩ := h
    refine ⟨ih (fun q' hq' => hfz q' (List.mem_cons_of_mem _ hq'))
      (fun q' hq' => hin q' (List.mem_cons_of_mem _ hq')) hl, fun e b he hb => ?_⟩
    obtain ⟨x0, hx0⟩ := hin q List.mem_cons_self
    rw [hfz q List.mem_cons_self x0 hx0] at he; cases he
    exact hq e b hx0 hb

theorem Reach.ranked {t0 t : Table P S α} {tr : List (P × α)} (hF : FirstOk g)
    (h0 : ∀ q x, tget t0 q = some x → x.back = none) (h : Reach g max t0 tr t) :
    Ranked t tr ∧ ∀ q x b, tget t q = some x → x.back = some b → b.first ∈ tr.map (·.1) := by
  induction h with
  | refl => exact ⟨trivial, fun q x b hx hb => by rw [h0 q x hx] at hb; cases hb⟩
  | @step tr t t' p ep hr hmin hp hexp ih =>
    obtain ⟨hR, hall⟩ := ih
    have hset : ∀ q, q ∈ tr.map (·.1) → ∃ x, tget t q = some x ∧ x.visited = true :=
      List.forall_mem_map.2 fun ⟨q', d⟩ hm => (hr.trace_settled q' d hm).imp fun _ h => ⟨h.1, h.2.1⟩
    refine ⟨⟨Ranked.frozen tr (fun q hq x hx => ?_) (fun q hq => (hset q hq).imp fun _ h => h.1) hR, ?_⟩, ?_⟩
    · obtain ⟨x', hx', hv⟩ := hset q hq
      rw [hx] at hx'; cases hx'
      exact expand_frozen hexp hx hv
    · intro e b he hb
      rw [expand_self hexp hp] at he; cases he
      exact hall p ep b hp hb
    · intro q x b hx hb
      rcases expand_back hexp hx hb with ⟨x0, hx0, hb0⟩ | hadj
      · exact List.mem_cons_of_mem _ (hall q x0 b hx0 hb0)
      · rw [hF p b hadj]; exact List.mem_cons_self

end inv

section run
variable {P S α : Type} [DecidableEq P] [Cost α]

/-! ### the checks and the inner loop of the heap-driven run, in terms of the abstract search -/

theorem isMinB_sound {t : Table P S α} {p : P} (h : isMinB t p = true) : IsMin t p := by
  revert h
  fun_cases isMinB t p with
  | case1 => nofun
  | case2 ep hp =>
    simp
    intro hv hall
    refine ⟨ep, hp, hv, ?_⟩
    intro q eq hq hqv hlt
    have := hall q eq (mem_of_get hq)
    simp [hq, hqv, hlt] at this

theorem isMinB_complete {t : Table P S α} {p : P} (hmin : IsMin t p) : isMinB t p = true := by
  obtain ⟨ep, hep, hepv, hm⟩ := hmin
  unfold isMinB
  simp only [hep, hepv, Bool.not_false, Bool.true_and, List.all_eq_true]
  intro ⟨q, x⟩ hqx
  obtain ⟨eq, heq⟩ := get_of_mem hqx
  simp only [heq]
  by_cases hv : eq.visited = true
  · simp [hv]
  · have hv' : eq.visited = false := by simpa using hv
    simp [hv', hm q eq heq hv']

omit [Cost α] in
theorem allVisited_sound {t : Table P S α} (h : allVisited t = true) {p : P} {e : Entry P S α}
    (hp : tget t p = some e) : e.visited = true := by
  unfold allVisited at h
  rw [List.all_eq_true] at h
  exact h (p, e) (mem_of_get hp)

theorem relaxH_table {max d : α} {s s1 : HState P S α} {e : Edge P S α} (h : relaxH max d (some s) e = some s1) :
    s1.t = relax max d s.t e := by
  unfold relaxH at h
  unfold relax
  cases hk : (relaxK max d s.t e).2 <;> simp [hk] at h
  · subst h; rfl
  · obtain ⟨h', _, hs⟩ := h; subst hs; rfl
  · obtain ⟨h', _, hs⟩ := h; subst hs; rfl

theorem foldl_relaxH_table (max d : α) (es : List (Edge P S α)) :
    ∀ (s s' : HState P S α), es.foldl (relaxH max d) (some s) = some s' →
      s'.t = es.foldl (relax max d) s.t := by
  intro s
  refine List.foldl_rel (r := fun o t => ∀ s' : HState P S α, o = some s' → s'.t = t) (fun _ h => by cases h; rfl) ?_
  intro e _ o t hr s1 h1
  cases o with
  | none => cases h1
  | some s0 => rw [relaxH_table h1, hr s0 rfl]

end run
end B6.Lemmas.Dijkstra
