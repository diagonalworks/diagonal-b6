import B6.Model.RecordsRaw
import B6.Lemmas.Varint
/-!
# `binary.Uvarint` on a truncated buffer: what the leaf decoders of `B6/Model/RecordsRaw.lean` read from a proper
prefix of a record.
-/
namespace B6.Model.Records
open B6.Model.Varint

theorem sliceFrom_append (a b : Bytes) : sliceFrom (a ++ b) (a.length : Int) = some b := by
  unfold sliceFrom
  rw [if_neg (by simp; omega)]
  simp

theorem sliceFrom_zero (bs : Bytes) : sliceFrom bs 0 = some bs := by
  unfold sliceFrom
  rw [if_neg (by omega)]
  simp

/-- the first `binary.Uvarint` of a buffer `putUvarint v ++ tail` cut at `k`: inside the varint "buffer too small"
(value 0, `n = 0`); past it the value, and what follows is the cut tail -/
theorem uvarintRaw_cut (v : Nat) (hv : v < 2 ^ 64) (tail : Bytes) (k : Nat) :
    (k < (putUvarint v).length ∧ uvarintRaw ((putUvarint v ++ tail).take k) = (0, 0)) ∨
    ((putUvarint v).length ≤ k ∧ uvarintRaw ((putUvarint v ++ tail).take k) = (v, ((putUvarint v).length : Int)) ∧
      sliceFrom ((putUvarint v ++ tail).take k) (putUvarint v).length = some (tail.take (k - (putUvarint v).length))) := by
  by_cases h : k < (putUvarint v).length
  · exact Or.inl ⟨h, by rw [List.take_append_of_le_length (Nat.le_of_lt h)]; exact uvarintRaw_prefix v k h⟩
  · have h : (putUvarint v).length ≤ k := Nat.le_of_not_lt h
    rw [List.take_append, List.take_of_length_le h]
    exact Or.inr ⟨h, uvarintRaw_putUvarint_append v hv _, sliceFrom_append _ _⟩

end B6.Model.Records
