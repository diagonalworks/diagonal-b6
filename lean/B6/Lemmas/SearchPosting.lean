import B6.Props.C08
import B6.Lemmas.SearchUnion
import B6.Lemmas.SearchInter
/-!
# The compact posting-list iterator as a leaf of the search algebra (C06 over C08)

`postingOps tbl` (Props/C08) packages C08's byte-level model of `compact.Iterator` as an `IterOps` on states
`(posting list, iterator)`; `posting_simulation` there is C08's `next_spec` / `advance_spec` as a `Simulation`.
`posting_refines` turns it into `Refines`, so that every combinator theorem of C06 (`union_refines`,
`intersection_refines`, `keyRange_refines`) applies to trees whose leaves are compact posting lists of one file.
-/
namespace B6.Lemmas.Search
open B6.Spec.Cursor B6.Model.Posting B6.Model.Search
open B6.Model.Varint (Bytes)

/-! ## keys: `keyNat` packs `(TypeAndNamespace, value)` into a natural, `unkey` unpacks -/

theorem keyNat_unkey (k : Nat) : B6.Model.Posting.keyNat (unkey k) = k := Nat.div_add_mod' k (2 ^ 64)

theorem unkey_keyNat {id : B6.Model.Posting.Id} (h : id.2 < 2 ^ 64) : unkey (B6.Model.Posting.keyNat id) = id := by
  unfold unkey B6.Model.Posting.keyNat
  rw [Nat.add_comm, Nat.add_mul_div_right _ _ (Nat.two_pow_pos 64), Nat.div_eq_of_lt h, Nat.zero_add,
    Nat.add_mul_mod_self_right, Nat.mod_eq_of_lt h]

/-- the conditions under which C08 speaks about a posting list of a file with table `tbl` -/
def PostingOK (tbl : Table) (ids : List Id) : Prop :=
  ValidIds ids ∧ SortedIds ids ∧ ∀ id ∈ ids, TnOK tbl id.1

theorem posting_refines (token : Bytes) (ids : List Id) (tbl : Table) (ht : TableOK tbl) (hok : PostingOK tbl ids) :
    Refines (postingOps tbl) (fill token ids, It.start) (ids.map keyNat) := by
  have ctx := B6.Props.C08.ctx_fill token ids tbl hok.1 hok.2.1 ht hok.2.2
  exact ⟨PostingRel tbl, posting_simulation tbl, ids, [], ids, ctx, canon_start ctx, rfl⟩

/-- every key of the list is in the domain (so intersections may leapfrog on them) -/
theorem posting_keys_in_dom (ids : List Id) (tbl : Table) (hok : PostingOK tbl ids) :
    ∀ x ∈ ids.map keyNat, (postingOps tbl).dom x := by
  refine List.forall_mem_map.2 fun id hid => ?_
  show TnOK tbl (unkey (keyNat id)).1
  rw [unkey_keyNat (hok.1 id hid).1]
  exact hok.2.2 id hid

theorem union_of_postings (tbl : Table) (ht : TableOK tbl) (ps : List (Bytes × List Id))
    (hok : ∀ p ∈ ps, PostingOK tbl p.2) (ys : List Nat) (hys : StrictSorted ys)
    (hmem : ∀ x, x ∈ ys ↔ ∃ p ∈ ps, x ∈ p.2.map keyNat) :
    Refines (Union.ops (postingOps tbl)) (.fresh (ps.map fun p => (fill p.1 p.2, It.start))) ys :=
  union_refines_fam _ ps _ (fun p => p.2.map keyNat) ys (fun p hp => posting_refines p.1 p.2 tbl ht (hok p hp)) hys hmem

end B6.Lemmas.Search
