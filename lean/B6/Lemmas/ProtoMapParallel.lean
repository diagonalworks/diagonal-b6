import B6.Model.Proto.MapParallel
import B6.Lemmas.ProtoMeasure
import B6.Lemmas.Basic.List
/-! `map-parallel` (Model/Proto/MapParallel.lean, map.go). Item `k` only travels through lane `k % n`, in order, and nothing is
lost while its worker has not given up (`LaneOK`); `m.err` is assigned before any `out[i]` is closed (`Inv.closer`, `Inv.closed`). -/
namespace B6.Model.Proto.MapParallel
open B6.Model.Proto
open B6.Lemmas.Basic (forall_getElem?_set)

/-! ### membership in `step`, case by case -/

theorem mem_step {c : Cfg} {s s' : St} : s' ∈ step c s ↔ s.fin = none ∧
    ( s' ∈ dispStep c s
    ∨ (s.disp = D.exited ∧ allExited s ∧ s.stored = false ∧ s' = { s with merr := s.gerr, stored := true })
    ∨ (s.stored = true ∧ s.outClosed = false ∧ s' = { s with outClosed := true })
    ∨ s' ∈ consumerStep c s
    ∨ (∃ j l, s.lanes[j]? = some l ∧ s' ∈ workerStep c s j l)) := by
  unfold step
  cases hr : s.fin with
  | some r => simp only [Option.isSome_some, ↓reduceIte, List.not_mem_nil, reduceCtorEq, false_and]
  | none =>
    simp only [Option.isSome_none, Bool.false_eq_true, ↓reduceIte, List.mem_append, mem_forWorkers, mem_guard, true_and,
      or_assoc, and_assoc]

/-- the driver's cheap successor list is sound -/
theorem mem_stepsAt {c : Cfg} {s s' : St} {j : Nat} (h : s' ∈ stepsAt c s j) : s' ∈ step c s := by
  unfold stepsAt at h; unfold step
  by_cases hf : s.fin.isSome = true
  · rw [if_pos hf] at h; cases h
  · rw [if_neg hf] at h ⊢
    rcases List.mem_append.mp h with h | h
    · exact List.mem_append_left _ h
    · refine List.mem_append_right _ (mem_forWorkers.mpr ?_)
      cases hl : s.lanes[j]? with
      | none => rw [hl] at h; cases h
      | some l => rw [hl] at h; exact ⟨j, l, hl, h⟩

theorem mem_dispStep {c : Cfg} {s s' : St} (h : s' ∈ dispStep c s) :
    (s.disp = D.running ∧ s.write < c.N ∧ ∃ l, s.lanes[s.write % c.n]? = some l ∧ l.inq = none ∧
        s' = { s with lanes := s.lanes.set (s.write % c.n) { l with inq := some s.write }, write := s.write + 1 })
    ∨ (s.disp = D.running ∧ s.write < c.N ∧ s.gerr.isSome = true ∧ s' = { s with disp := D.closing })
    ∨ (s.disp = D.running ∧ ¬ s.write < c.N ∧ s' = { s with disp := D.closing })
    ∨ (s.disp = D.closing ∧
        s' = { s with disp := D.exited, inClosed := true, gerr := (if s.gerr.isSome then s.gerr else (if c.srcFails then some c.N else none)) }) := by
  unfold dispStep at h
  cases hd : s.disp with
  | running =>
    rw [hd] at h
    rcases mem_ite.mp h with ⟨hw, h⟩ | ⟨hw, h⟩
    · rcases List.mem_append.mp h with h | h
      · cases hl : s.lanes[s.write % c.n]? with
        | none => rw [hl] at h; cases h
        | some l => rw [hl] at h; exact .inl ⟨rfl, hw, l, rfl, mem_guard.mp h⟩
      · exact .inr (.inl ⟨rfl, hw, mem_guard.mp h⟩)
    · exact .inr (.inr (.inl ⟨rfl, hw, List.mem_singleton.mp h⟩))
  | closing => rw [hd] at h; exact .inr (.inr (.inr ⟨rfl, List.mem_singleton.mp h⟩))
  | exited => rw [hd] at h; cases h

theorem mem_consumerStep {c : Cfg} {s s' : St} (h : s' ∈ consumerStep c s) :
    ∃ l, s.lanes[s.read % c.n]? = some l ∧
      ( (∃ k, l.outq = some k ∧ s' = { s with lanes := s.lanes.set (s.read % c.n) { l with outq := none },
                                               out := s.out ++ [k], read := s.read + 1 })
      ∨ (l.outq = none ∧ s.outClosed = true ∧ s' = { s with fin := some s.merr })) := by
  revert h
  fun_cases consumerStep c s with
  | case1 l hl k hk => exact fun h => ⟨l, hl, .inl ⟨k, hk, List.mem_singleton.mp h⟩⟩
  | case2 l hl hk => exact fun h => ⟨l, hl, .inr ⟨hk, mem_guard.mp h⟩⟩
  | case3 => nofun

theorem mem_workerStep {c : Cfg} {s s' : St} {j : Nat} {l : Lane} (h : s' ∈ workerStep c s j l) :
    (∃ k, l.wk = Wk.idle ∧ l.inq = some k ∧ s' = setLane s j { l with inq := none, wk := Wk.busy k })
    ∨ (l.wk = Wk.idle ∧ l.inq = none ∧ s.inClosed = true ∧ s' = setLane s j { l with wk := Wk.exited })
    ∨ (∃ k, l.wk = Wk.busy k ∧ c.fails k = true ∧ s' = setLane s j { l with wk := Wk.failing k })
    ∨ (∃ k, l.wk = Wk.busy k ∧ c.fails k = false ∧ s' = setLane s j { l with wk := Wk.holding k })
    ∨ (∃ k, l.wk = Wk.holding k ∧ l.outq = none ∧ s' = setLane s j { l with wk := Wk.idle, outq := some k })
    ∨ (∃ k, l.wk = Wk.holding k ∧ s.gerr.isSome = true ∧ s' = setLane s j { l with wk := Wk.exited })
    ∨ (∃ k, l.wk = Wk.failing k ∧
        s' = { s with lanes := s.lanes.set j { l with wk := Wk.exited }, gerr := if s.gerr.isSome then s.gerr else some k }) := by
  revert h
  fun_cases workerStep c s j l with
  | case1 hw k hk => exact fun h => .inl ⟨k, hw, hk, List.mem_singleton.mp h⟩   -- idle, an item waits in `in[j]`
  | case2 hw hk => exact fun h => .inr (.inl ⟨hw, hk, mem_guard.mp h⟩)   -- idle, `in[j]` empty
  | case3 k hw =>   -- busy
    intro h
    have h := List.mem_singleton.mp h
    cases hf : c.fails k with
    | true => rw [hf, if_pos rfl] at h; exact .inr (.inr (.inl ⟨k, hw, hf, h⟩))
    | false => rw [hf, if_neg Bool.false_ne_true] at h; exact .inr (.inr (.inr (.inl ⟨k, hw, hf, h⟩)))
  | case4 k hw =>   -- holding
    intro h
    rcases List.mem_append.mp h with h | h
    · exact .inr (.inr (.inr (.inr (.inl ⟨k, hw, mem_guard.mp h⟩))))
    · exact .inr (.inr (.inr (.inr (.inr (.inl ⟨k, hw, mem_guard.mp h⟩)))))
  | case5 k hw => exact fun h => .inr (.inr (.inr (.inr (.inr (.inr ⟨k, hw, List.mem_singleton.mp h⟩)))))   -- failing
  | case6 => nofun   -- exited

/-! ### who is blocked -/

theorem dispStep_eq_nil {c : Cfg} {s : St} :
    dispStep c s = [] ↔ s.disp = D.exited ∨ (s.disp = D.running ∧ s.write < c.N ∧ s.gerr.isSome = false ∧
      ∀ l, s.lanes[s.write % c.n]? = some l → l.inq ≠ none) := by
  fun_cases dispStep c s with
  | case1 hd hw =>   -- running, items left
    rw [List.append_eq_nil_iff, guard_eq_nil]
    cases s.lanes[s.write % c.n]? with
    | none => simp [hd, hw]
    | some l => simp [hd, hw, guard_eq_nil, and_comm]
  | case2 hd hw => exact iff_of_false (List.cons_ne_nil _ _) (by simp [hd, hw])   -- running, source drained
  | case3 hd => exact iff_of_false (List.cons_ne_nil _ _) (by simp [hd])   -- closing
  | case4 hd => exact iff_of_true rfl (.inl hd)   -- exited

theorem consumerStep_eq_nil {c : Cfg} {s : St} :
    consumerStep c s = [] ↔ ∀ l, s.lanes[s.read % c.n]? = some l → l.outq = none ∧ s.outClosed = false := by
  fun_cases consumerStep c s with
  | case1 l hl k hk => exact iff_of_false (List.cons_ne_nil _ _) (by simp [hl, hk])
  | case2 l hl hk => exact guard_eq_nil.trans (by simp [hl, hk])
  | case3 hl => simp [hl]

theorem workerStep_eq_nil {c : Cfg} {s : St} {j : Nat} {l : Lane} :
    workerStep c s j l = [] ↔ l.wk = Wk.exited ∨ (l.wk = Wk.idle ∧ l.inq = none ∧ s.inClosed = false) ∨
      (∃ k, l.wk = Wk.holding k ∧ l.outq ≠ none ∧ s.gerr.isSome = false) := by
  fun_cases workerStep c s j l with
  | case1 hw k hk => exact iff_of_false (List.cons_ne_nil _ _) (by simp [hw, hk])   -- idle, an item waits in `in[j]`
  | case2 hw hk => exact guard_eq_nil.trans (by simp [hw, hk])   -- idle, `in[j]` empty
  | case3 k hw => exact iff_of_false (List.cons_ne_nil _ _) (by simp [hw])   -- busy
  | case4 k hw => exact List.append_eq_nil_iff.trans (by rw [guard_eq_nil, guard_eq_nil]; simp [hw])   -- holding
  | case5 k hw => exact iff_of_false (List.cons_ne_nil _ _) (by simp [hw])   -- failing
  | case6 hw => exact iff_of_true rfl (.inl hw)   -- exited

theorem step_eq_nil {c : Cfg} {s : St} (hfin : s.fin = none) : step c s = [] ↔
    (s.disp = D.exited ∨ (s.disp = D.running ∧ s.write < c.N ∧ s.gerr.isSome = false ∧
        ∀ l, s.lanes[s.write % c.n]? = some l → l.inq ≠ none)) ∧
    ¬ (s.disp = D.exited ∧ allExited s ∧ s.stored = false) ∧ ¬ (s.stored = true ∧ s.outClosed = false) ∧
    (∀ l, s.lanes[s.read % c.n]? = some l → l.outq = none ∧ s.outClosed = false) ∧
    ∀ (j : Nat) (l : Lane), s.lanes[j]? = some l →
      l.wk = Wk.exited ∨ (l.wk = Wk.idle ∧ l.inq = none ∧ s.inClosed = false) ∨
        ∃ k, l.wk = Wk.holding k ∧ l.outq ≠ none ∧ s.gerr.isSome = false := by
  simp only [step, hfin, Option.isSome_none, Bool.false_eq_true, ↓reduceIte, List.append_eq_nil_iff, guard_eq_nil,
    forWorkers_eq_nil, workerStep_eq_nil, dispStep_eq_nil, consumerStep_eq_nil, and_assoc]

/-! ### the lane invariant -/

def Wk.item : Wk → List Nat
  | .busy k => [k]
  | .holding k => [k]
  | .failing k => [k]
  | .idle => []
  | .exited => []

/-- the items of a lane in the order in which they will reach the consumer -/
def Lane.pipe (l : Lane) : List Nat := l.outq.toList ++ l.wk.item ++ l.inq.toList

/-- what holds of lane `j` when the consumer has taken `rd` values, the dispatcher has sent `wr` items, the
group's error is `ge` and `ic` says whether the `in` channels are closed -/
structure LaneOK (c : Cfg) (rd wr : Nat) (ge : Option Nat) (ic : Bool) (j : Nat) (l : Lane) : Prop where
  /-- item `k` only travels through lane `k % n`, and is between the consumer and the dispatcher -/
  A : ∀ k ∈ l.pipe, k % c.n = j ∧ rd ≤ k ∧ k < wr
  /-- in order -/
  B : l.pipe.Pairwise (· < ·)
  /-- nothing is lost as long as the worker has not given up -/
  C : (l.wk ≠ Wk.exited ∨ ge = none) → ∀ k, rd ≤ k → k < wr → k % c.n = j → k ∈ l.pipe
  /-- a worker only leaves without an error when its channel is closed and empty -/
  D : l.wk = Wk.exited → ge = none → l.inq = none ∧ ic = true
  /-- the value in `out[j]` is the next one the consumer expects from this lane -/
  E : ∀ k, l.outq = some k → k < rd + c.n
  H1 : ∀ k, l.outq = some k → c.fails k = false
  H2 : ∀ k, l.wk = Wk.holding k → c.fails k = false
  H3 : ∀ k, l.wk = Wk.failing k → c.fails k = true

section
variable {c : Cfg} {rd wr : Nat} {ge : Option Nat} {ic : Bool} {j : Nat} {l l' : Lane}

theorem LaneOK.write_succ (h : LaneOK c rd wr ge ic j l) (hj : wr % c.n ≠ j) : LaneOK c rd (wr + 1) ge ic j l :=
  { h with
    A := fun k hk => ⟨(h.A k hk).1, (h.A k hk).2.1, Nat.lt_succ_of_lt (h.A k hk).2.2⟩
    -- the new item `wr` belongs to another lane
    C := fun hw k h1 h2 h3 =>
      h.C hw k h1 ((Nat.lt_succ_iff_lt_or_eq.mp h2).resolve_right fun e => hj (e ▸ h3)) h3 }

theorem LaneOK.read_succ (h : LaneOK c rd wr ge ic j l) (hj : rd % c.n ≠ j) : LaneOK c (rd + 1) wr ge ic j l :=
  { h with
    -- the consumed item `rd` belonged to another lane
    A := fun k hk =>
      have ⟨h1, h2, h3⟩ := h.A k hk
      ⟨h1, Nat.lt_of_le_of_ne h2 fun e => hj (e ▸ h1), h3⟩
    C := fun hw k h1 h2 h3 => h.C hw k (Nat.le_of_succ_le h1) h2 h3
    E := fun k hk => Nat.lt_of_lt_of_le (h.E k hk) (Nat.add_le_add_right (Nat.le_succ rd) _) }

theorem LaneOK.gerr_set (h : LaneOK c rd wr ge ic j l) (e : Nat) : LaneOK c rd wr (some e) ic j l :=
  { h with C := fun hw => hw.elim (fun hw => h.C (Or.inl hw)) nofun, D := fun _ => nofun }

theorem LaneOK.in_closed (h : LaneOK c rd wr ge ic j l) : LaneOK c rd wr ge true j l :=
  { h with D := fun hw hg => ⟨(h.D hw hg).1, rfl⟩ }

theorem LaneOK.same_pipe (h : LaneOK c rd wr ge ic j l) (hp : l'.pipe = l.pipe) (ho : l'.outq = l.outq)
    (hw : l.wk ≠ Wk.exited)
    (hD : l'.wk = Wk.exited → ge = none → l'.inq = none ∧ ic = true)
    (h2 : ∀ k, l'.wk = Wk.holding k → c.fails k = false)
    (h3 : ∀ k, l'.wk = Wk.failing k → c.fails k = true) : LaneOK c rd wr ge ic j l' where
  A := by rw [hp]; exact h.A
  B := by rw [hp]; exact h.B
  C := fun _ => by rw [hp]; exact h.C (Or.inl hw)
  D := hD
  E := by rw [ho]; exact h.E
  H1 := by rw [ho]; exact h.H1
  H2 := h2
  H3 := h3

theorem LaneOK.give_up (h : LaneOK c rd wr ge ic j l) (e : Nat) :
    LaneOK c rd wr (some e) ic j { l with wk := Wk.exited } :=
  have hsub : ({ l with wk := Wk.exited } : Lane).pipe.Sublist l.pipe :=
    List.Sublist.append (List.Sublist.append (List.Sublist.refl _) (List.nil_sublist _)) (List.Sublist.refl _)
  { A := fun k hk => h.A k (hsub.subset hk)
    B := h.B.sublist hsub
    C := fun hw => hw.elim (fun h => (h rfl).elim) nofun
    D := fun _ => nofun
    E := h.E, H1 := h.H1, H2 := nofun, H3 := nofun }

theorem LaneOK.head_lt (h : LaneOK c rd wr ge ic j l) (hn : 0 < c.n) (hw : l.wk ≠ Wk.exited)
    {k : Nat} {t : List Nat} (hp : l.pipe = k :: t) : k < rd + c.n := by
  obtain ⟨a1, _, a3⟩ := h.A k (hp ▸ List.mem_cons_self)
  refine Nat.lt_of_not_le fun hge => ?_
  -- otherwise item `k - n` of the same lane would be in the lane too, before `k`
  have hnk : c.n ≤ k := Nat.le_trans (Nat.le_add_left _ _) hge
  have hlt : k - c.n < k := Nat.sub_lt (Nat.lt_of_lt_of_le hn hnk) hn
  have hin := h.C (Or.inl hw) (k - c.n) (Nat.le_sub_of_add_le hge) (Nat.lt_trans hlt a3)
    ((Nat.mod_eq_sub_mod hnk).symm.trans a1)
  have hB := h.B
  rw [hp] at hin hB
  rcases List.mem_cons.mp hin with e | e
  · exact Nat.ne_of_lt hlt e
  · exact Nat.lt_asymm hlt ((List.pairwise_cons.mp hB).1 _ e)

end

/-! ### the global invariant -/

structure Inv (c : Cfg) (s : St) : Prop where
  len : s.lanes.length = c.n
  lanes : ∀ (j : Nat) (l : Lane), s.lanes[j]? = some l → LaneOK c s.read s.write s.gerr s.inClosed j l
  wle : s.write ≤ c.N
  rle : s.read ≤ s.write
  out : s.out = List.range s.read
  okout : ∀ k, k < s.read → c.fails k = false
  dispc : s.inClosed = true ↔ s.disp = D.exited
  dispF : s.disp ≠ D.running → s.gerr = none → s.write = c.N
  gerrI : ∀ e, s.gerr = some e → (c.fails e = true ∧ e < c.N) ∨ (c.srcFails = true ∧ e = c.N)
  /-- once the dispatcher has returned, a failure of the source is on record (unless another error came first) -/
  srcI : s.disp = D.exited → c.srcFails = true → s.gerr ≠ none
  /-- `m.err` is assigned after every goroutine of the group has returned, and holds the group's error -/
  closer : s.stored = true → s.disp = D.exited ∧ allExited s ∧ s.merr = s.gerr
  /-- a consumer can only see a closed `out[i]` after `m.err` has been assigned -/
  closed : s.outClosed = true → s.stored = true
  finI : ∀ r, s.fin = some r → r = s.gerr ∧ s.outClosed = true ∧
    ∀ l, s.lanes[s.read % c.n]? = some l → l.outq = none

/-- the part of `Inv` about the items, over the fields it reads, so that a step which leaves them alone keeps it -/
structure Items (c : Cfg) (lanes : List Lane) (rd wr : Nat) (ge : Option Nat) (ic : Bool) (out : List Nat) : Prop where
  len : lanes.length = c.n
  lanes : ∀ (j : Nat) (l : Lane), lanes[j]? = some l → LaneOK c rd wr ge ic j l
  wle : wr ≤ c.N
  rle : rd ≤ wr
  out : out = List.range rd
  okout : ∀ k, k < rd → c.fails k = false

structure Ctl (c : Cfg) (d : D) (ic : Bool) (ge : Option Nat) (wr : Nat) : Prop where
  dispc : ic = true ↔ d = D.exited
  dispF : d ≠ D.running → ge = none → wr = c.N
  gerrI : ∀ e, ge = some e → (c.fails e = true ∧ e < c.N) ∨ (c.srcFails = true ∧ e = c.N)
  srcI : d = D.exited → c.srcFails = true → ge ≠ none

section
variable {c : Cfg} {lanes : List Lane} {rd wr : Nat} {ge : Option Nat} {ic : Bool} {out : List Nat}

theorem Items.set_lane (h : Items c lanes rd wr ge ic out) {j : Nat} {l' : Lane} (hL : LaneOK c rd wr ge ic j l') :
    Items c (lanes.set j l') rd wr ge ic out :=
  { h with len := List.length_set.trans h.len, lanes := forall_getElem?_set hL fun j' l _ hl => h.lanes j' l hl }

theorem Items.gerr_set (h : Items c lanes rd wr ge ic out) (e : Nat) : Items c lanes rd wr (some e) ic out :=
  { h with lanes := fun j l hl => (h.lanes j l hl).gerr_set e }

theorem Items.in_closed (h : Items c lanes rd wr ge ic out) : Items c lanes rd wr ge true out :=
  { h with lanes := fun j l hl => (h.lanes j l hl).in_closed }

end

theorem Inv.items {c : Cfg} {s : St} (I : Inv c s) : Items c s.lanes s.read s.write s.gerr s.inClosed s.out :=
  ⟨I.len, I.lanes, I.wle, I.rle, I.out, I.okout⟩

theorem Inv.ctl {c : Cfg} {s : St} (I : Inv c s) : Ctl c s.disp s.inClosed s.gerr s.write :=
  ⟨I.dispc, I.dispF, I.gerrI, I.srcI⟩

theorem Inv.of {c : Cfg} {t : St} (hi : Items c t.lanes t.read t.write t.gerr t.inClosed t.out)
    (hc : Ctl c t.disp t.inClosed t.gerr t.write)
    (closer : t.stored = true → t.disp = D.exited ∧ allExited t ∧ t.merr = t.gerr)
    (closed : t.outClosed = true → t.stored = true)
    (finI : ∀ r, t.fin = some r → r = t.gerr ∧ t.outClosed = true ∧
      ∀ l, t.lanes[t.read % c.n]? = some l → l.outq = none) : Inv c t :=
  { len := hi.len, lanes := hi.lanes, wle := hi.wle, rle := hi.rle, out := hi.out, okout := hi.okout,
    dispc := hc.dispc, dispF := hc.dispF, gerrI := hc.gerrI, srcI := hc.srcI,
    closer := closer, closed := closed, finI := finI }

/-- for the steps of the dispatcher and the workers: a member of the group has not returned, so `m.err` is not
assigned before or after -/
theorem Inv.of_running {c : Cfg} {s t : St} (I : Inv c s)
    (hi : Items c t.lanes t.read t.write t.gerr t.inClosed t.out) (hc : Ctl c t.disp t.inClosed t.gerr t.write)
    (hfin : t.fin = none) (e1 : t.stored = s.stored) (e2 : t.outClosed = s.outClosed)
    (hrun : ¬ (s.disp = D.exited ∧ allExited s)) : Inv c t :=
  Inv.of hi hc (fun ho => (hrun ⟨(I.closer (e1 ▸ ho)).1, (I.closer (e1 ▸ ho)).2.1⟩).elim)
    (fun ho => e1 ▸ I.closed (e2 ▸ ho)) (fun _ e => nomatch hfin ▸ e)

/-- without a group error nothing is lost: once the consumer's lane is empty, everything dispatched has been consumed -/
theorem Inv.drained {c : Cfg} {s : St} (I : Inv c s) (hg : s.gerr = none) {l : Lane}
    (hl : s.lanes[s.read % c.n]? = some l) (hp : l.pipe = []) : s.read = s.write :=
  Nat.le_antisymm I.rle (Nat.le_of_not_lt fun hlt =>
    nomatch hp ▸ (I.lanes _ _ hl).C (Or.inr hg) s.read (Nat.le_refl _) hlt rfl)

theorem inv_init (c : Cfg) : Inv c (init c) where
  len := List.length_replicate
  lanes := fun j l h => by
    obtain rfl := List.eq_of_mem_replicate (List.mem_of_getElem? h)
    exact { A := nofun, B := List.Pairwise.nil, C := fun _ k _ h2 => absurd h2 (Nat.not_lt_zero k), D := nofun,
            E := nofun, H1 := nofun, H2 := nofun, H3 := nofun }
  wle := Nat.zero_le _
  rle := Nat.le_refl _
  out := rfl
  okout := fun k h => absurd h (Nat.not_lt_zero k)
  dispc := ⟨nofun, nofun⟩
  dispF := fun h => absurd rfl h
  gerrI := nofun
  srcI := nofun
  closer := nofun
  closed := nofun
  finI := nofun

theorem inv_disp {c : Cfg} {s s' : St} (I : Inv c s) (hfin : s.fin = none)
    (h : s' ∈ dispStep c s) : Inv c s' := by
  rcases mem_dispStep h with ⟨hd, hw, l0, hl0, hinq, rfl⟩ | ⟨hd, hw, hg, rfl⟩ | ⟨hd, hw, rfl⟩ | ⟨hd, rfl⟩
  all_goals
    have hne : s.disp ≠ D.exited := by rw [hd]; nofun
    have isopen : s.inClosed = false := Bool.eq_false_iff.mpr fun e => hne (I.dispc.mp e)
  · -- the dispatcher sends item `write` into in[write % n]
    have L0 := I.lanes _ _ hl0
    have hp : ({ l0 with inq := some s.write } : Lane).pipe = l0.pipe ++ [s.write] := by
      simp [Lane.pipe, hinq]
    refine I.of_running ⟨List.length_set.trans I.len, ?_, hw, Nat.le_succ_of_le I.rle, I.out, I.okout⟩
      { I.ctl with dispF := fun h => absurd hd h } hfin rfl rfl fun h => hne h.1
    refine forall_getElem?_set ?_ fun j l hne hl => (I.lanes j l hl).write_succ (fun e => hne e.symm)
    -- the lane that receives the item
    exact { L0 with
      A := by
        intro k hk; rw [hp, List.mem_append, List.mem_singleton] at hk
        rcases hk with hk | rfl
        · obtain ⟨h1, h2, h3⟩ := L0.A k hk; exact ⟨h1, h2, Nat.lt_succ_of_lt h3⟩
        · exact ⟨rfl, I.rle, Nat.lt_succ_self _⟩
      B := by
        rw [hp, List.pairwise_append]
        exact ⟨L0.B, List.pairwise_singleton _ _, fun a ha b hb => List.mem_singleton.mp hb ▸ (L0.A a ha).2.2⟩
      C := by
        intro hwk k h1 h2 h3; rw [hp, List.mem_append, List.mem_singleton]
        rcases Nat.lt_succ_iff_lt_or_eq.mp h2 with h2 | rfl
        · exact .inl (L0.C hwk k h1 h2 h3)
        · exact .inr rfl
      D := fun hwk hg => nomatch isopen ▸ (L0.D hwk hg).2 }
  · -- the dispatcher sees the cancellation
    exact I.of_running I.items
      ⟨⟨fun e => (nomatch isopen ▸ e), nofun⟩, fun _ hg' => (nomatch hg' ▸ hg), I.gerrI, nofun⟩
      hfin rfl rfl fun h => hne h.1
  · -- the input is exhausted
    exact I.of_running I.items
      ⟨⟨fun e => (nomatch isopen ▸ e), nofun⟩, fun _ _ => Nat.le_antisymm I.wle (Nat.le_of_not_lt hw), I.gerrI, nofun⟩
      hfin rfl rfl fun h => hne h.1
  · -- the dispatcher closes every in[i] and returns its error (the source's, unless it was cancelled)
    obtain ⟨g, hg, hcases⟩ : ∃ g, (if s.gerr.isSome then s.gerr else if c.srcFails then some c.N else none) = g ∧
        (g = s.gerr ∧ (c.srcFails = true → s.gerr ≠ none) ∨ s.gerr = none ∧ c.srcFails = true ∧ g = some c.N) := by
      cases hg : s.gerr with
      | some e => exact ⟨_, rfl, .inl ⟨rfl, fun _ => nofun⟩⟩
      | none =>
        cases hs : c.srcFails with
        | true => exact ⟨_, rfl, .inr ⟨rfl, rfl, rfl⟩⟩
        | false => exact ⟨_, rfl, .inl ⟨rfl, nofun⟩⟩
    rw [hg]
    rcases hcases with ⟨rfl, hsrc⟩ | ⟨hgn, hsf, rfl⟩
    · -- the loop was not left through the Done arm unless something was cancelled, so a failure of the source is
      -- what the dispatcher returns
      exact I.of_running I.items.in_closed
        ⟨⟨fun _ => rfl, fun _ => rfl⟩, fun _ hg => I.dispF (by rw [hd]; nofun) hg, I.gerrI, fun _ hsf => hsrc hsf⟩
        hfin rfl rfl fun h => hne h.1
    · exact I.of_running (I.items.in_closed.gerr_set c.N)
        ⟨⟨fun _ => rfl, fun _ => rfl⟩, fun _ => nofun, fun e he => Option.some.inj he ▸ Or.inr ⟨hsf, rfl⟩,
          fun _ _ => nofun⟩
        hfin rfl rfl fun h => hne h.1

theorem inv_store {c : Cfg} {s : St} (I : Inv c s) (hfin : s.fin = none)
    (hd : s.disp = D.exited) (ha : allExited s) :
    Inv c { s with merr := s.gerr, stored := true } :=
  Inv.of I.items I.ctl (fun _ => ⟨hd, ha, rfl⟩) (fun _ => rfl) (fun _ e => nomatch hfin ▸ e)

theorem inv_close {c : Cfg} {s : St} (I : Inv c s) (hfin : s.fin = none) (hs : s.stored = true) :
    Inv c { s with outClosed := true } :=
  Inv.of I.items I.ctl I.closer (fun _ => hs) (fun _ e => nomatch hfin ▸ e)

theorem mod_unique {a b n : Nat} (hm : a % n = b % n) (h1 : a ≤ b) (h2 : b < a + n) : a = b := by
  have h0 : (b - a) % n = 0 := Nat.sub_mod_eq_zero_of_mod_eq hm.symm
  have h3 : (b - a) % n = b - a := Nat.mod_eq_of_lt (by omega)
  omega

theorem inv_consumer {c : Cfg} {s s' : St} (I : Inv c s) (hfin : s.fin = none)
    (h : s' ∈ consumerStep c s) : Inv c s' := by
  obtain ⟨l0, hl0, h⟩ := mem_consumerStep h
  have L0 := I.lanes _ _ hl0
  rcases h with ⟨k, hk, rfl⟩ | ⟨hk, ho, rfl⟩
  · -- the consumer takes the value in out[read % n]: it is item `read`
    obtain ⟨a1, a2, a3⟩ := L0.A k (by simp [Lane.pipe, hk])
    obtain rfl : s.read = k := mod_unique a1.symm a2 (L0.E k hk)
    have hp : l0.pipe = s.read :: ({ l0 with outq := none } : Lane).pipe := by simp [Lane.pipe, hk]
    have hB := L0.B; rw [hp, List.pairwise_cons] at hB
    refine Inv.of ⟨List.length_set.trans I.len, ?_, I.wle, a3, by show s.out ++ [s.read] = _; rw [I.out, List.range_succ],
      ?_⟩ I.ctl ?_ I.closed (fun _ e => nomatch hfin ▸ e)
    · refine forall_getElem?_set ?_ fun j l hne hl => (I.lanes j l hl).read_succ (fun e => hne e.symm)
      exact { L0 with
        A := fun k' hk' =>
          have ⟨h1, _, h3⟩ := L0.A k' (hp ▸ List.mem_cons_of_mem _ hk')
          ⟨h1, hB.1 k' hk', h3⟩
        B := hB.2
        C := by
          intro hwk k' h1 h2 h3
          have := L0.C hwk k' (Nat.le_of_succ_le h1) h2 h3
          rw [hp, List.mem_cons] at this
          exact this.resolve_left (Nat.ne_of_gt h1)
        E := nofun
        H1 := nofun }
    · intro k' hk'
      rcases Nat.lt_succ_iff_lt_or_eq.mp hk' with hlt | rfl
      · exact I.okout k' hlt
      · exact L0.H1 _ hk
    · intro ho
      obtain ⟨h1, h2, h3⟩ := I.closer ho
      refine ⟨h1, fun l hl => ?_, h3⟩
      rcases List.mem_or_eq_of_mem_set hl with hl | rfl
      · exact h2 l hl
      · exact h2 l0 (List.mem_of_getElem? hl0)
  · -- out[read % n] is closed and empty: Next() returns (false, m.err)
    exact Inv.of I.items I.ctl I.closer I.closed fun r e =>
      ⟨Option.some.inj e ▸ (I.closer (I.closed ho)).2.2, ho, fun l hl => Option.some.inj (hl0.symm.trans hl) ▸ hk⟩

theorem inv_setLane {c : Cfg} {s : St} {j : Nat} {l l' : Lane} (I : Inv c s) (hfin : s.fin = none)
    (hl : s.lanes[j]? = some l) (hw : l.wk ≠ Wk.exited)
    (hL : LaneOK c s.read s.write s.gerr s.inClosed j l') : Inv c (setLane s j l') :=
  I.of_running (I.items.set_lane hL) I.ctl hfin rfl rfl fun h => hw (h.2 l (List.mem_of_getElem? hl))

theorem inv_worker {c : Cfg} {s s' : St} {j : Nat} {l : Lane} (hn : 0 < c.n) (I : Inv c s) (hfin : s.fin = none)
    (hl : s.lanes[j]? = some l) (h : s' ∈ workerStep c s j l) : Inv c s' := by
  have L := I.lanes j l hl
  rcases mem_workerStep h with ⟨k, hw, hk, rfl⟩ | ⟨hw, hk, hc, rfl⟩ | ⟨k, hw, hf, rfl⟩ | ⟨k, hw, hf, rfl⟩ |
    ⟨k, hw, ho, rfl⟩ | ⟨k, hw, hg, rfl⟩ | ⟨k, hw, rfl⟩
  all_goals have hne : l.wk ≠ Wk.exited := by rw [hw]; nofun
  · -- receive from in[j]
    exact inv_setLane I hfin hl hne
      (L.same_pipe (by simp [Lane.pipe, Wk.item, hw, hk]) rfl hne nofun nofun nofun)
  · -- in[j] is closed and empty: return nil
    exact inv_setLane I hfin hl hne
      (L.same_pipe (by simp [Lane.pipe, Wk.item, hw]) rfl hne (fun _ _ => ⟨hk, hc⟩) nofun nofun)
  · -- f fails
    exact inv_setLane I hfin hl hne
      (L.same_pipe (by simp [Lane.pipe, Wk.item, hw]) rfl hne nofun nofun (fun k' e => Wk.failing.inj e ▸ hf))
  · -- f succeeds
    exact inv_setLane I hfin hl hne
      (L.same_pipe (by simp [Lane.pipe, Wk.item, hw]) rfl hne nofun (fun k' e => Wk.holding.inj e ▸ hf) nofun)
  · -- the result goes into out[j]
    refine inv_setLane I hfin hl hne ?_
    have hp : ({ l with wk := Wk.idle, outq := some k } : Lane).pipe = l.pipe := by
      simp [Lane.pipe, Wk.item, hw, ho]
    have hpk : l.pipe = k :: l.inq.toList := by simp [Lane.pipe, Wk.item, hw, ho]
    exact {
      A := hp ▸ L.A
      B := hp ▸ L.B
      C := fun _ => hp ▸ L.C (Or.inl hne)
      D := nofun
      E := fun k' e => Option.some.inj e ▸ L.head_lt hn hne hpk
      H1 := fun k' e => Option.some.inj e ▸ L.H2 k hw
      H2 := nofun
      H3 := nofun }
  · -- cancelled: the result is dropped, return nil
    obtain ⟨e, he⟩ := Option.isSome_iff_exists.mp hg
    exact inv_setLane I hfin hl hne (he ▸ L.give_up e)
  · -- return err: the group keeps the first error and cancels
    obtain ⟨e, hge, hcases⟩ : ∃ e, (if s.gerr.isSome then s.gerr else some k) = some e ∧
        (s.gerr = none ∧ e = k ∨ s.gerr = some e) := by
      cases hgg : s.gerr with
      | none => exact ⟨k, rfl, .inl ⟨rfl, rfl⟩⟩
      | some e => exact ⟨e, rfl, .inr rfl⟩
    rw [hge]
    refine I.of_running ((I.items.gerr_set e).set_lane (L.give_up e)) ⟨I.dispc, fun _ => nofun, ?_, fun _ _ => nofun⟩
      hfin rfl rfl fun h => hne (h.2 l (List.mem_of_getElem? hl))
    intro e' he'
    obtain rfl := Option.some.inj he'
    rcases hcases with ⟨_, rfl⟩ | hgg
    · exact .inl ⟨L.H3 _ hw, Nat.lt_of_lt_of_le (L.A _ (by simp [Lane.pipe, Wk.item, hw])).2.2 I.wle⟩
    · exact I.gerrI _ hgg

theorem inv_step {c : Cfg} (hn : 0 < c.n) {s s' : St} (I : Inv c s) (h : s' ∈ step c s) : Inv c s' := by
  obtain ⟨hfin, h⟩ := mem_step.mp h
  rcases h with h | ⟨hd, ha, hs, rfl⟩ | ⟨hs, _, rfl⟩ | h | ⟨j, l, hl, h⟩
  · exact inv_disp I hfin h
  · exact inv_store I hfin hd ha
  · exact inv_close I hfin hs
  · exact inv_consumer I hfin h
  · exact inv_worker hn I hfin hl h

theorem inv_reachable {c : Cfg} (hn : 0 < c.n) {s : St} (h : Reachable (step c) (init c) s) : Inv c s :=
  Reachable.invariant (Inv c) (inv_init c) (fun _ _ I hm => inv_step hn I hm) s h

/-! ### a measure that every step decreases -/

def Wk.weight : Wk → Nat
  | .idle => 1
  | .busy _ => 4
  | .holding _ => 3
  | .failing _ => 3
  | .exited => 0

def Lane.weight (l : Lane) : Nat :=
  (if l.inq.isSome then 4 else 0) + l.wk.weight + (if l.outq.isSome then 1 else 0)

def D.weight : D → Nat
  | .running => 2
  | .closing => 1
  | .exited => 0

-- `measure` is stated with this constant; it is `Proto.flag` (by `rfl`), so `flag_lt` and `add_flag` of `ProtoMeasure` apply to it
def flag (b : Bool) : Nat := if b then 0 else 1

/-- 5 per item not yet dispatched, 4 / 3 / 2 / 1 per item in `in` / being computed / computed / in `out`,
1 per worker that has not returned, plus the dispatcher, the closer and the consumer's last step -/
def measure (c : Cfg) (s : St) : Nat :=
  5 * (c.N - s.write) + (s.lanes.map Lane.weight).sum + s.disp.weight
    + flag s.stored + flag s.outClosed + flag s.fin.isSome

theorem Lane.weight_lt_of_wk {l : Lane} {w : Wk} (h : w.weight < l.wk.weight) :
    ({ l with wk := w } : Lane).weight < l.weight :=
  Nat.add_lt_add_right (Nat.add_lt_add_left h _) _

/-- `measure` does not look at `out`, `read`, `gerr`: steps that also change those are instances by unfolding -/
theorem measure_setLane {c : Cfg} {s : St} {j : Nat} {l l' : Lane} (hl : s.lanes[j]? = some l)
    (hlt : l'.weight < l.weight) : measure c (setLane s j l') < measure c s :=
  add_flag (add_flag (add_flag (Nat.add_lt_add_right (Nat.add_lt_add_left (sum_map_set_lt Lane.weight hl hlt) _) _)))

theorem measure_step {c : Cfg} {s s' : St} (h : s' ∈ step c s) : measure c s' < measure c s := by
  obtain ⟨hfin, h⟩ := mem_step.mp h
  rcases h with h | ⟨hd, ha, ho, rfl⟩ | ⟨_, ho, rfl⟩ | h | ⟨j, l, hl, h⟩
  · rcases mem_dispStep h with ⟨hd, hw, l0, hl0, hinq, rfl⟩ | ⟨hd, hw, hg, rfl⟩ | ⟨hd, hw, rfl⟩ | ⟨hd, rfl⟩
    · -- an item leaves the source (5) and enters `in` (4)
      refine add_flag (add_flag (add_flag (Nat.add_lt_add_right ?_ _)))
      have := sum_map_set Lane.weight { l0 with inq := some s.write } hl0
      simp only [Lane.weight, hinq, Option.isSome_none, Option.isSome_some, ↓reduceIte, Bool.false_eq_true] at this
      dsimp only
      omega
    · -- the dispatcher sees the cancellation
      rw [measure, measure, hd]; exact add_flag (add_flag (add_flag (Nat.add_lt_add_left (Nat.lt_succ_self 1) _)))
    · -- the input is exhausted
      rw [measure, measure, hd]; exact add_flag (add_flag (add_flag (Nat.add_lt_add_left (Nat.lt_succ_self 1) _)))
    · -- the dispatcher closes every in[i] and returns
      rw [measure, measure, hd]; exact add_flag (add_flag (add_flag (Nat.add_lt_add_left Nat.zero_lt_one _)))
  · -- m.err = g.Wait()
    exact add_flag (add_flag (Nat.add_lt_add_left (flag_lt ho) _))
  · -- close every out[i]
    exact add_flag (Nat.add_lt_add_left (flag_lt ho) _)
  · obtain ⟨l0, hl0, h⟩ := mem_consumerStep h
    rcases h with ⟨k, hk, rfl⟩ | ⟨hk, ho, rfl⟩
    · -- the consumer takes a value
      exact measure_setLane hl0 (by simp only [Lane.weight, hk]; simp)
    · -- Next() returns (false, m.err)
      exact Nat.add_lt_add_left (flag_lt (congrArg Option.isSome hfin)) _
  · rcases mem_workerStep h with ⟨k, hw, hk, rfl⟩ | ⟨hw, hk, hc, rfl⟩ | ⟨k, hw, hf, rfl⟩ | ⟨k, hw, hf, rfl⟩ |
      ⟨k, hw, ho, rfl⟩ | ⟨k, hw, hg, rfl⟩ | ⟨k, hw, rfl⟩
    · -- receive from in[j]: 4 + 1 becomes 4
      exact measure_setLane hl (by simp only [Lane.weight, hw, hk, Wk.weight]; simp)
    · -- in[j] is closed and empty: return nil
      exact measure_setLane hl (Lane.weight_lt_of_wk (by rw [hw]; exact Nat.zero_lt_one))
    · -- f fails
      exact measure_setLane hl (Lane.weight_lt_of_wk (by rw [hw]; exact Nat.lt_succ_self 3))
    · -- f succeeds
      exact measure_setLane hl (Lane.weight_lt_of_wk (by rw [hw]; exact Nat.lt_succ_self 3))
    · -- the result goes into out[j]: 3 becomes 1 + 1
      exact measure_setLane hl (by simp only [Lane.weight, hw, ho, Wk.weight]; simp)
    · -- cancelled: the result is dropped
      exact measure_setLane hl (Lane.weight_lt_of_wk (by rw [hw]; exact Nat.succ_pos 2))
    · -- return err
      exact measure_setLane hl (Lane.weight_lt_of_wk (by rw [hw]; exact Nat.succ_pos 2))

end B6.Model.Proto.MapParallel
