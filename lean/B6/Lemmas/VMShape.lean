import B6.Lemmas.VMLayout
/-!
C21 `stack_shape`: a static stack discipline of the compiled code.  `depth` takes every call to leave one result in
place of its frame and arguments; `compileExpr_shape`/`compileArgs_shape` show that what the compiler emits for an
expression never reaches below its entry depth, nets one push per expression, and names only registers handed out so
far (`ExprShape`); `compileQueue_shape` carries that to every lambda target.
-/
namespace B6.Lemmas.VMShape
open B6.Model B6.Model.VM B6.Lemmas.VMLayout

/-- Stack depth after running `is` from depth `d`, every call taken to leave exactly one result in
place of its frame and arguments (what the three `CallFromStack` do when they succeed).
`none` = an instruction would index below the bottom of `VM.Stack` (a Go panic). `Return` ends the
activation. -/
def depth : List Instr → Nat → Option Nat
  | [], d => some d
  | i :: is, d =>
    match i with
    | .ret => some d
    | .pushVal _ => depth is (d + 1)
    | .pushFn _ => depth is (d + 1)
    | .pushLam _ _ => depth is (d + 1)
    | .load _ => depth is (d + 1)
    | .store _ => if d ≥ 2 then depth is (d - 1) else none
    | .discard => if d ≥ 2 then depth is (d - 1) else none
    | .callFn _ n => if d ≥ n then depth is (d - n + 1) else none
    | .callLam _ _ n => if d ≥ n then depth is (d - n + 1) else none
    | .callStack n => if d ≥ n + 1 then depth is (d - n) else none

/-- every register an instruction names is below `n` -/
def regOK (n : Nat) : Instr → Bool
  | .store r => decide (r < n)
  | .load r => decide (r < n)
  | _ => true

def noRet : Instr → Bool
  | .ret => false
  | _ => true

theorem depth_append : ∀ (is js : List Instr) (d : Nat), is.all noRet = true →
    depth (is ++ js) d = (depth is d).bind (depth js)
  | [], js, d, _ => rfl
  | i :: is, js, d, h => by
    rw [List.all_cons, Bool.and_eq_true] at h
    have ih := fun d => depth_append is js d h.2
    cases i <;> simp only [List.cons_append, depth, ih] <;> first | (split <;> rfl) | cases h.1

theorem regOK_mono {n m : Nat} (h : n ≤ m) (is : List Instr) (hi : is.all (regOK n) = true) :
    is.all (regOK m) = true := by
  rw [List.all_eq_true] at hi ⊢
  intro i him
  have := hi i him
  cases i <;> first | rfl | (simp only [regOK, decide_eq_true_eq] at this ⊢; omega)

def FrameOK (n : Nat) (frame : Frame) : Prop := ∀ p ∈ frame, p.2 < n

def TargetOK (n : Nat) (t : Target) : Prop := FrameOK n t.frame ∧ ∀ r ∈ t.own, r < n

def Inv (st : CState) : Prop := st.numArgs ≤ maxArgs ∧ ∀ t ∈ st.queue, TargetOK st.numArgs t

theorem TargetOK_mono {n m : Nat} (h : n ≤ m) {t : Target} (ht : TargetOK n t) : TargetOK m t :=
  ⟨fun p hp => Nat.lt_of_lt_of_le (ht.1 p hp) h, fun r hr => Nat.lt_of_lt_of_le (ht.2 r hr) h⟩

theorem lookup_mem {frame : Frame} {s : String} {r : Nat} (h : frame.lookup s = some r) : (s, r) ∈ frame := by
  obtain ⟨⟨_, _⟩, he, rfl, rfl⟩ := (B6.Lemmas.Basic.isLookup_lookup (κ := String) (β := Nat)).exists_mem_of_eq_some h
  exact he

structure ExprShape (frame : Frame) (st st' : CState) (is : List Instr) (k : Nat) : Prop where
  inv : Inv st'
  mono : st.numArgs ≤ st'.numArgs
  noret : is.all noRet = true
  depth : ∀ d, depth is d = some (d + k)
  regs : is.all (regOK st'.numArgs) = true

theorem compileLambda_ok {frame : Frame} {ps : List String} {body : Expr} {st st' : CState} {t : Nat}
    (h : compileLambda frame ps body st = .ok (t, st')) (hf : FrameOK st.numArgs frame) (hi : Inv st) :
    Inv st' ∧ st.numArgs ≤ st'.numArgs := by
  rcases compileLambda_cases frame ps body st with ⟨own, hb, hl⟩ | ⟨hl, _⟩ <;> rw [hl] at h <;> cases h
  obtain ⟨_, _, h2, h6⟩ := bindParams_inv hb
  have h1 : ∀ p ∈ own, p.2 < st.numArgs + ps.length := fun p hp =>
    (List.mem_range'_1.mp (h2 ▸ List.mem_map_of_mem (f := (·.2)) hp)).2
  refine ⟨⟨?_, ?_⟩, Nat.le_add_right _ _⟩
  · cases ps with
    | nil => exact hi.1
    | cons p ps => exact h6 (List.cons_ne_nil _ _)
  · exact List.forall_mem_append.2 ⟨fun tg htg => TargetOK_mono (Nat.le_add_right _ _) (hi.2 tg htg),
      List.forall_mem_singleton.2 ⟨List.forall_mem_append.2 ⟨h1, fun p hp => Nat.lt_of_lt_of_le (hf p hp) (Nat.le_add_right _ _)⟩,
        List.forall_mem_map.2 h1⟩⟩

theorem FrameOK_mono {n m : Nat} (h : n ≤ m) {frame : Frame} (hf : FrameOK n frame) : FrameOK m frame :=
  fun p hp => Nat.lt_of_lt_of_le (hf p hp) h

theorem all_append {α} (p : α → Bool) (a b : List α) : (a ++ b).all p = (a.all p && b.all p) := List.all_append

mutual
  theorem compileExpr_shape : (e : Expr) → ∀ (frame : Frame) (st : CState) (is : List Instr) (st' : CState),
      compileExpr frame e st = .ok (is, st') → FrameOK st.numArgs frame → Inv st → ExprShape frame st st' is 1
    | .sym s, frame, st, is, st', h, hf, hi => by
      simp only [compileExpr] at h
      cases hl : frame.lookup s with
      | some r =>
        simp only [hl] at h
        injection h with h; injection h with h1 h2; subst h1; subst h2
        have := hf _ (lookup_mem hl)
        exact ⟨hi, Nat.le_refl _, by simp [noRet], by intro d; simp [depth], by simp [regOK, this]⟩
      | none =>
        simp only [hl] at h
        cases hb : Builtin.ofName s with
        | none => simp [hb] at h
        | some b =>
          simp only [hb] at h
          injection h with h; injection h with h1 h2; subst h1; subst h2
          exact ⟨hi, Nat.le_refl _, by simp [noRet], by intro d; simp [depth], by simp [regOK]⟩
    | .lit l, frame, st, is, st', h, hf, hi => by
      simp only [compileExpr] at h
      injection h with h; injection h with h1 h2; subst h1; subst h2
      exact ⟨hi, Nat.le_refl _, by simp [noRet], by intro d; simp [depth], by simp [regOK]⟩
    | .lam ps b, frame, st, is, st', h, hf, hi => by
      simp only [compileExpr] at h
      cases hl : compileLambda frame ps b st with
      | error e => simp [hl] at h
      | ok r =>
        obtain ⟨t, st2⟩ := r
        simp only [hl] at h
        injection h with h; injection h with h1 h2; subst h1; subst h2
        obtain ⟨h1, h2⟩ := compileLambda_ok hl hf hi
        exact ⟨h1, h2, by simp [noRet], by intro d; simp [depth], by simp [regOK]⟩
    | .call f args p, frame, st, is, st', h, hf, hi => by
      simp only [compileExpr] at h
      cases ha : compileArgs frame args st with
      | error e => simp [ha] at h
      | ok r =>
        obtain ⟨isa, st1⟩ := r
        simp only [ha] at h
        have sa := compileArgs_shape args frame st isa st1 ha hf hi
        have hf1 : FrameOK st1.numArgs frame := FrameOK_mono sa.mono hf
        cases f with
        | sym s =>
          simp only at h
          cases hb : Builtin.ofName s with
          | none => simp [hb] at h
          | some b =>
            simp only [hb] at h
            injection h with h; injection h with h1 h2; subst h1; subst h2
            refine ⟨sa.inv, sa.mono, by simp [sa.noret, noRet], ?_, by simp [sa.regs, regOK]⟩
            intro d
            rw [depth_append _ _ _ sa.noret, sa.depth]
            simp [depth]
        | lit l => simp at h
        | lam ps b =>
          simp only at h
          cases hl : compileLambda frame ps b st1 with
          | error e => simp [hl] at h
          | ok r =>
            obtain ⟨t, st2⟩ := r
            simp only [hl] at h
            injection h with h; injection h with h1 h2; subst h1; subst h2
            obtain ⟨h1, h2⟩ := compileLambda_ok hl hf1 sa.inv
            refine ⟨h1, Nat.le_trans sa.mono h2, by simp [sa.noret, noRet], ?_,
              by simp [regOK_mono h2 _ sa.regs, regOK]⟩
            intro d
            rw [depth_append _ _ _ sa.noret, sa.depth]
            simp [depth]
        | call g gargs q =>
          simp only at h
          cases hc : compileExpr frame (.call g gargs q) st1 with
          | error e => simp [hc] at h
          | ok r =>
            obtain ⟨isf, st2⟩ := r
            simp only [hc] at h
            injection h with h; injection h with h1 h2; subst h1; subst h2
            have sf := compileExpr_shape (.call g gargs q) frame st1 isf st2 hc hf1 sa.inv
            refine ⟨sf.inv, Nat.le_trans sa.mono sf.mono,
              by simp [sa.noret, sf.noret, noRet], ?_,
              by simp [regOK_mono sf.mono _ sa.regs, sf.regs, regOK]⟩
            intro d
            rw [List.append_assoc, depth_append _ _ _ sa.noret, sa.depth]
            simp only [Option.bind_some]
            rw [depth_append _ _ _ sf.noret, sf.depth]
            simp only [Option.bind_some, depth]
            have : d + args.length + 1 ≥ args.length + 1 := by omega
            simp only [this, if_true]
            congr 1; omega
  theorem compileArgs_shape : (as : List Expr) → ∀ (frame : Frame) (st : CState) (is : List Instr) (st' : CState),
      compileArgs frame as st = .ok (is, st') → FrameOK st.numArgs frame → Inv st →
      ExprShape frame st st' is as.length
    | [], frame, st, is, st', h, hf, hi => by
      simp only [compileArgs] at h
      injection h with h; injection h with h1 h2; subst h1; subst h2
      exact ⟨hi, Nat.le_refl _, rfl, by intro d; simp [depth], rfl⟩
    | a :: as, frame, st, is, st', h, hf, hi => by
      simp only [compileArgs] at h
      cases ha : compileExpr frame a st with
      | error e => simp [ha] at h
      | ok r =>
        obtain ⟨isa, st1⟩ := r
        simp only [ha] at h
        have sa := compileExpr_shape a frame st isa st1 ha hf hi
        cases hs : compileArgs frame as st1 with
        | error e => simp [hs] at h
        | ok r =>
          obtain ⟨iss, st2⟩ := r
          simp only [hs] at h
          injection h with h; injection h with h1 h2; subst h1; subst h2
          have ss := compileArgs_shape as frame st1 iss st2 hs (FrameOK_mono sa.mono hf) sa.inv
          refine ⟨ss.inv, Nat.le_trans sa.mono ss.mono, by simp [sa.noret, ss.noret], ?_,
            by simp [regOK_mono ss.mono _ sa.regs, ss.regs]⟩
          intro d
          rw [depth_append _ _ _ sa.noret, sa.depth]
          simp only [Option.bind_some, ss.depth, List.length_cons]
          congr 1; omega
end

theorem depth_stores (js : List Instr) : ∀ (rs : List Nat),
    depth (rs.map Instr.store ++ js) (rs.length + 1) = depth js 1
  | [] => by simp
  | r :: rs => by
    simp only [List.map_cons, List.cons_append, depth, List.length_cons]
    have : rs.length + 1 + 1 ≥ 2 := by omega
    simp only [this, if_true]
    exact depth_stores js rs

/-- a lambda target: entered with its `k` arguments and the call frame on the stack, it leaves exactly
the result; every register it names exists -/
def LambdaSegOK (s : Segment) : Prop :=
  depth s.2 (s.1 + 1) = some 1 ∧ s.2.all (regOK maxArgs) = true

theorem compileQueue_shape : ∀ (fuel : Nat) (st : CState) (segs : List Segment),
    compileQueue fuel st = .ok segs → Inv st → ∀ s ∈ segs, LambdaSegOK s := by
  intro fuel st segs h hi
  fun_induction compileQueue fuel st generalizing segs with
  | case1 | case3 => cases h; nofun  -- the queue is empty
  | case2 | case4 | case5 => cases h  -- out of fuel; `compileExpr` or the rest of the loop fails
  | case6 fuel st t rest hq is st' hc segs' hr ih =>
    cases h
    have ht : TargetOK st.numArgs t := hi.2 t (by simp [hq])
    have sb := compileExpr_shape t.body t.frame { st with queue := rest } is st' hc ht.1
      ⟨hi.1, fun t' ht' => hi.2 t' (by simp [hq, ht'])⟩
    intro s hs
    rcases List.mem_cons.mp hs with rfl | hs
    · constructor
      · simp only
        have := depth_stores (is ++ [Instr.discard, Instr.ret]) t.own.reverse
        simp only [List.length_reverse] at this
        rw [List.append_assoc, this, depth_append _ _ _ sb.noret, sb.depth]
        simp [depth]
      · simp only [List.all_append, Bool.and_eq_true]
        refine ⟨⟨?_, regOK_mono sb.inv.1 _ sb.regs⟩, by simp [regOK]⟩
        simp only [List.all_eq_true, List.mem_map, List.mem_reverse]
        rintro i ⟨r, hr', rfl⟩
        have : r < maxArgs := Nat.lt_of_lt_of_le (ht.2 r hr') hi.1
        simp [regOK, this]
    · exact ih segs' hr sb.inv s hs

end B6.Lemmas.VMShape
