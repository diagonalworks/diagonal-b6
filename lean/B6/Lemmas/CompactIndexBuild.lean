import B6.Lemmas.CompactIndexArea
import B6.Lemmas.Basic.List
import B6.Lemmas.Basic.Sorted
/-!
# C01 lemmas, part 4: where `build` puts the path / area / relation records

If `build` succeeds, the record of every kept path / area / relation sits, under its id and `NoTag`, in a block
of its type whose header carries its encoded namespace; every block with that type and header namespace is that
block; and no other entry of the block has the id (ids are distinct in the source).  Before that: when each stage
of the build succeeds and with what, what the validator's inversion does to tags (the records are those of the
*validated* features), and which namespaces the table holds (the block keys come from it).
-/
namespace B6.Model.CompactIndex
open B6.Model.Varint B6.Model.Records B6.Lemmas.Basic B6.Lemmas.Basic.Except
open B6.Model.Containers (Entry)

/-! ## what the validator does to a path: the first `path` tag is reversed -/

theorem validated_id (fs : List Feature) (f : Feature) : (validated fs f).id = f.id := by
  unfold validated
  split <;> rfl

theorem validated_of_not_path (fs : List Feature) (f : Feature) (h : f.id.typ ≠ 1) : validated fs f = f := by
  have : (f.id.typ == 1) = false := by simpa using h
  simp [validated, this]

/-- `invertTag` on the value of a `path` tag -/
def invVal : Val → Val
  | .list xs => .list xs.reverse
  | v => v

theorem invertTag_path (t : FTag) (ht : (t.key == kPath) = true) : invertTag t = ⟨t.key, invVal t.val⟩ := by
  obtain ⟨k, v⟩ := t
  cases v <;> simp_all [invertTag, invVal]

theorem invVal_eq_list (v : Val) (ys : List Elem) (h : invVal v = .list ys) : v = .list ys.reverse := by
  cases v <;> simp_all [invVal]
  simp [← h]

theorem invVal_eq_str (v : Val) (s : Str) (h : invVal v = .str s) : v = .str s := by
  cases v <;> simp_all [invVal]

theorem invVal_ok (v : Val) (h : v.ok = true) : (invVal v).ok = true := by
  cases v <;> simp_all [invVal, Val.ok]

theorem mem_invertTags : ∀ (ts : List FTag) (t' : FTag), t' ∈ invertTags ts →
    t' ∈ ts ∨ ∃ t ∈ ts, t' = ⟨t.key, invVal t.val⟩ := by
  intro ts t' h
  fun_induction invertTags ts with
  | case1 => cases h
  | case2 x xs hx =>
    rcases List.mem_cons.mp h with rfl | h'
    · exact Or.inr ⟨x, by simp, invertTag_path x hx⟩
    · exact Or.inl (by simp [h'])
  | case3 x xs hx ih =>
    rcases List.mem_cons.mp h with rfl | h'
    · exact Or.inl (by simp)
    · rcases ih h' with h1 | ⟨t, ht, h1⟩
      · exact Or.inl (by simp [h1])
      · exact Or.inr ⟨t, by simp [ht], h1⟩

theorem forall_mem_invertTags {P : FTag → Prop} {ts : List FTag} (h : ∀ t ∈ ts, P t)
    (hinv : ∀ t ∈ ts, P ⟨t.key, invVal t.val⟩) : ∀ t ∈ invertTags ts, P t := by
  intro t' ht'
  rcases mem_invertTags ts t' ht' with h1 | ⟨t, ht, rfl⟩
  · exact h t' h1
  · exact hinv t ht

theorem invertTags_length : ∀ ts : List FTag, (invertTags ts).length = ts.length := by
  intro ts
  fun_induction invertTags ts with
  | case1 => rfl
  | case2 x xs hx => rfl
  | case3 x xs hx ih => exact congrArg Nat.succ ih

theorem getTag_invertTags (k : Str) : ∀ ts : List FTag,
    getTag (invertTags ts) k = if k = kPath then (getTag ts k).map invVal else getTag ts k := by
  intro ts
  fun_induction invertTags ts with
  | case1 => simp [getTag]
  | case2 t ts ht =>
    have hk : t.key = kPath := eq_of_beq ht
    simp only [invertTag_path t ht, getTag, List.find?_cons]
    by_cases hkk : k = kPath
    · simp [hkk, hk]
    · have : (t.key == k) = false := by rw [hk]; exact beq_false_of_ne (Ne.symm hkk)
      simp [hkk, this]
  | case3 t ts ht ih =>
    unfold getTag at ih ⊢
    simp only [List.find?_cons]
    split
    · rename_i htk
      have : k ≠ kPath := by rintro rfl; exact ht htk
      simp [this]
    · exact ih

theorem pathElems_invertTags (f : Feature) (x : Elem) :
    x ∈ pathElems { f with tags := invertTags f.tags } ↔ x ∈ pathElems f := by
  unfold pathElems
  simp only [getTag_invertTags, if_true]
  cases h : getTag f.tags kPath with
  | none => simp
  | some v => cases v <;> simp [invVal]

theorem validated_tags_ok (fs : List Feature) (f : Feature) (h : ∀ t ∈ f.tags, t.val.ok = true) :
    ∀ t ∈ (validated fs f).tags, t.val.ok = true := by
  unfold validated
  split
  · exact forall_mem_invertTags h fun t ht => invVal_ok _ (h t ht)
  · exact h

/-! ## when each stage of the build succeeds, and with what -/

theorem entryOf_ok_iff (c : Ctx) (fs : List Feature) (t : Nat) (g : Feature) (e : Entry) :
    entryOf c fs t g = .ok e ↔ ∃ d, recordOf c fs t g = .ok d ∧ ⟨g.id.val, 0#64, d⟩ = e := by
  simp only [entryOf, bind_ok_iff, pure_ok_iff]

theorem featureBlock_ok_iff (c : Ctx) (fs : List Feature) (t n : Nat) (ns : Str) (ob : Option Block) :
    featureBlock c fs t n ns = .ok ob ↔
      if keptOf fs t ns = [] then none = ob else
        ∃ es, (keptOf fs t ns).map (entryOf c fs t) = es.map .ok ∧
          some { typ := t, hdr := blockHeader c t n, bits := bucketBits (blockCount fs ns t) t, tagBits := 0, entries := es } = ob := by
  unfold featureBlock
  split <;> simp_all [map_ok_iff, pure_ok_iff, mapM_ok_iff]

/-- the scratch entries of the id `(ns, v)` -/
def scratchFor (scr : List (Str × BitVec 64 × Scratch)) (ns : Str) (v : BitVec 64) : List Scratch :=
  ((scr.filter (·.1 == ns)).filter (·.2.1 == v)).map (·.2.2)

theorem pointBlock_eq_some (c : Ctx) (fs : List Feature) (scr : List (Str × BitVec 64 × Scratch)) (n : Nat) (ns : Str)
    (b : Block) : pointBlock c fs scr n ns = some b ↔ scr.filter (·.1 == ns) ≠ [] ∧
      { typ := 0, hdr := blockHeader c 0 n, bits := bucketBits (blockCount fs ns 0) 0, tagBits := 2,
        entries := (dedupVals ((scr.filter (·.1 == ns)).map (·.2.1))).map fun id =>
          combine c id (scratchFor scr ns id) } = b := by
  unfold pointBlock
  simp only [List.isEmpty_iff]
  split
  · rename_i h; simp only [h, reduceCtorEq, ne_eq, not_true_eq_false, false_and]
  · rename_i h; simp only [Option.some.injEq, ne_eq, h, not_false_eq_true, true_and]; rfl

theorem build_ok_iff (strs : List Str) (fs : List Feature) (ix : Index) : build strs fs = .ok ix ↔
    hasFidTag fs = false ∧ ∃ osm, osmNamespaces (nsTable fs) = some osm ∧
      ∃ scr : List (List (Str × BitVec 64 × Scratch)), fs.map (scratchOf ⟨nsTable fs, strs, osm⟩ fs) = scr.map .ok ∧
      ∃ rest : List (Option Block),
        (blockKeys (nsTable fs)).map (fun k => featureBlock ⟨nsTable fs, strs, osm⟩ fs k.1 k.2.1 k.2.2) = rest.map .ok ∧
        ⟨nsTable fs, strs, (blockNamespaces (nsTable fs)).filterMap (fun (n, ns) =>
            pointBlock ⟨nsTable fs, strs, osm⟩ fs scr.flatten n ns) ++ rest.filterMap id⟩ = ix := by
  fun_cases build strs fs with
  | case1 h => simp only [h, reduceCtorEq, false_and]
  | case2 h => simp +zetaDelta only [bind_ok_iff, pure_ok_iff, orPanic_ok, mapM_ok_iff, eq_false_of_ne_true h, true_and]

theorem featureBlock_some (c : Ctx) (fs : List Feature) (t n : Nat) (ns : Str) (b : Block)
    (h : featureBlock c fs t n ns = .ok (some b)) :
    b.typ = t ∧ b.hdr = blockHeader c t n ∧ (keptOf fs t ns).map (entryOf c fs t) = b.entries.map .ok := by
  rw [featureBlock_ok_iff] at h
  split at h
  · cases h
  · obtain ⟨es, hes, h⟩ := h
    cases h
    exact ⟨rfl, rfl, hes⟩

theorem featureBlock_nonempty (c : Ctx) (fs : List Feature) (t n : Nat) (ns : Str) (ob : Option Block)
    (h : featureBlock c fs t n ns = .ok ob) (g : Feature) (hg : g ∈ keptOf fs t ns) : ∃ b, ob = some b := by
  rw [featureBlock_ok_iff, if_neg (List.ne_nil_of_mem hg)] at h
  obtain ⟨es, _, h⟩ := h
  exact ⟨_, h.symm⟩

theorem pointBlock_hdr (c : Ctx) (fs : List Feature) (scr : List (Str × BitVec 64 × Scratch)) (n : Nat) (ns : Str)
    (b : Block) (h : pointBlock c fs scr n ns = some b) : b.typ = 0 ∧ b.hdr = blockHeader c 0 n := by
  obtain ⟨_, rfl⟩ := (pointBlock_eq_some c fs scr n ns b).mp h
  exact ⟨rfl, rfl⟩

theorem FID.ext (a b : FID) (ht : a.typ = b.typ) (hn : a.ns = b.ns) (hv : a.val = b.val) : a = b := by
  cases a; cases b; simp_all

theorem strLt_iff : ∀ a b : Str, strLt a b = true ↔ a < b
  | [], [] => by simp [strLt]
  | [], _ :: _ => by simp [strLt]
  | _ :: _, [] => by simp [strLt]
  | x :: a, y :: b => by
    rw [strLt, List.cons_lt_cons_iff, ← strLt_iff a b]
    by_cases h1 : x < y
    · simp [h1]
    · by_cases h2 : y < x
      · have : x ≠ y := fun e => h1 (e ▸ h2)
        simp [h1, h2, this]
      · have : x = y := UInt8.le_antisymm (UInt8.not_lt.mp h2) (UInt8.not_lt.mp h1)
        simp [this]

/-- `insertNs` in the form of `B6.Lemmas.Basic.Sorted`: the order test first (a string is not below itself) -/
theorem insertNs_cons (s x : Str) (xs : List Str) : insertNs s (x :: xs) =
    if strLt s x = true then s :: x :: xs else if (s == x) = true then x :: xs else x :: insertNs s xs :=
  ite_eq_first (fun e h => by rw [eq_of_beq e] at h; exact List.lt_irrefl x ((strLt_iff x x).mp h)) _ _ _

theorem insertNs_isSort : IsInsertSet (fun a b => strLt a b = true) (fun a b : Str => (a == b) = true) insertNs
    (fun l => l.foldr insertNs []) :=
  ⟨fun _ => rfl, insertNs_cons, eq_of_beq, rfl, fun _ _ => rfl⟩

theorem insertNs_nil_head (l : List Str) : (insertNs [] l)[0]? = some [] := by
  cases l with
  | nil => rfl
  | cons x xs =>
    unfold insertNs
    by_cases h1 : (([] : Str) == x) = true
    · have : ([] : Str) = x := eq_of_beq h1
      simp [← this]
    · simp only [h1, Bool.false_eq_true, if_false]
      cases x with
      | nil => simp at h1
      | cons a as => simp [strLt]

theorem nsTable_zero (fs : List Feature) : (nsTable fs)[0]? = some [] := by
  unfold nsTable
  rw [List.foldr_cons]
  exact insertNs_nil_head _

theorem mem_nsTable (fs : List Feature) (f : Feature) (hf : f ∈ fs) (s : Str) (hs : s ∈ mentioned f) : s ∈ nsTable fs := by
  unfold nsTable
  refine insertNs_isSort.mem.mpr ?_
  simp only [List.mem_cons, List.mem_flatMap]
  exact Or.inr (Or.inr (Or.inr (Or.inr ⟨f, hf, hs⟩)))

theorem mem_zip_range {α : Type} (l : List α) (n : Nat) (x : α) : (n, x) ∈ (List.range l.length).zip l ↔ l[n]? = some x := by
  constructor
  · intro h
    obtain ⟨i, hi, heq⟩ := List.mem_iff_getElem.mp h
    simp only [List.getElem_zip, List.getElem_range, Prod.mk.injEq] at heq
    obtain ⟨rfl, rfl⟩ := heq
    simp only [List.length_zip, List.length_range, Nat.min_self] at hi
    simp [hi]
  · intro h
    have hn : n < l.length := by
      rcases Nat.lt_or_ge n l.length with h' | h'
      · exact h'
      · simp [List.getElem?_eq_none h'] at h
    have hx : l[n] = x := by simpa [List.getElem?_eq_getElem hn] using h
    refine List.mem_iff_getElem.mpr ⟨n, by simp [hn], ?_⟩
    simp [hx]

theorem mem_blockNamespaces (nt : List Str) (n : Nat) (ns : Str) : (n, ns) ∈ blockNamespaces nt ↔ nt[n]? = some ns :=
  mem_zip_range nt n ns

theorem mem_blockKeys (nt : List Str) (k : Nat × Nat × Str) :
    k ∈ blockKeys nt ↔ (k.1 = 1 ∨ k.1 = 2 ∨ k.1 = 3) ∧ nt[k.2.1]? = some k.2.2 := by
  obtain ⟨t, n, ns⟩ := k
  unfold blockKeys blockNamespaces
  simp only [List.mem_flatMap, Prod.exists, List.mem_cons, Prod.mk.injEq, List.not_mem_nil, or_false, mem_zip_range]
  constructor
  · rintro ⟨n', ns', hmem, h | h | h⟩ <;> obtain ⟨rfl, rfl, rfl⟩ := h
    · exact ⟨Or.inl rfl, hmem⟩
    · exact ⟨Or.inr (Or.inl rfl), hmem⟩
    · exact ⟨Or.inr (Or.inr rfl), hmem⟩
  · rintro ⟨ht, hmem⟩
    refine ⟨n, ns, hmem, ?_⟩
    rcases ht with rfl | rfl | rfl <;> simp

theorem nssGet_blockHeader (c : Ctx) (t n : Nat) : nssGet (blockHeader c t n) t = ns16 n := by
  match t with
  | 0 | 1 | 2 | _ + 3 => rfl

/-! ## the block of a key -/

/-- `b` is the block `build` makes for feature type `t` and the namespace `ns` at position `n` of the table
(`scr`: the point scratch entries, which only a point block depends on) -/
structure BlockOf (c : Ctx) (fs : List Feature) (scr : List (Str × BitVec 64 × Scratch)) (t n : Nat) (ns : Str)
    (b : Block) : Prop where
  pos : (nsTable fs)[n]? = some ns
  made : (t = 0 ∧ pointBlock c fs scr n ns = some b) ∨
    ((t = 1 ∨ t = 2 ∨ t = 3) ∧ featureBlock c fs t n ns = .ok (some b))

theorem BlockOf.shape {c : Ctx} {fs : List Feature} {scr : List (Str × BitVec 64 × Scratch)} {t n : Nat} {ns : Str}
    {b : Block} (h : BlockOf c fs scr t n ns b) : b.typ = t ∧ b.hdr = blockHeader c t n := by
  rcases h.made with ⟨rfl, hp⟩ | ⟨_, hf⟩
  · exact pointBlock_hdr c fs scr n ns b hp
  · exact ⟨(featureBlock_some c fs t n ns b hf).1, (featureBlock_some c fs t n ns b hf).2.1⟩

/-- the type of a block and the namespace in its header determine the key it was made for, hence the block -/
theorem BlockOf.key {c : Ctx} {fs : List Feature} {scr : List (Str × BitVec 64 × Scratch)} {t n t' n' : Nat}
    {ns ns' : Str} {b b' : Block} (hsmall : (nsTable fs).length ≤ 8192) (h : BlockOf c fs scr t n ns b)
    (h' : BlockOf c fs scr t' n' ns' b') (htyp : b.typ = b'.typ) (hhdr : nssGet b.hdr b.typ = nssGet b'.hdr b.typ) :
    t = t' ∧ n = n' ∧ b = b' := by
  obtain ⟨e1, e2⟩ := h.shape
  obtain ⟨e1', e2'⟩ := h'.shape
  obtain rfl : t = t' := by rw [← e1, ← e1', htyp]
  rw [e1, e2, e2', nssGet_blockHeader, nssGet_blockHeader] at hhdr
  have hn := lt_length_of_getElem? h.pos
  have hn' := lt_length_of_getElem? h'.pos
  obtain rfl : n = n' := ns16_inj n n' (by omega) (by omega) hhdr
  obtain rfl : ns = ns' := Option.some.inj (h.pos.symm.trans h'.pos)
  refine ⟨rfl, rfl, ?_⟩
  rcases h.made with ⟨h0, hp⟩ | ⟨h123, hf⟩ <;> rcases h'.made with ⟨h0', hp'⟩ | ⟨h123', hf'⟩
  · exact Option.some.inj (hp.symm.trans hp')
  · omega
  · omega
  · exact Option.some.inj (Except.ok.inj (hf.symm.trans hf'))

/-- blocks of one type are told apart by the namespace in their headers -/
def Sep (b1 b2 : Block) : Prop := b1.typ = b2.typ → nssGet b1.hdr b1.typ ≠ nssGet b2.hdr b1.typ

theorem BlockOf.sep {c : Ctx} {fs : List Feature} {scr : List (Str × BitVec 64 × Scratch)} {t n t' n' : Nat}
    {ns ns' : Str} {b b' : Block} (hsmall : (nsTable fs).length ≤ 8192) (h : BlockOf c fs scr t n ns b)
    (h' : BlockOf c fs scr t' n' ns' b') (hne : ¬ (t = t' ∧ n = n')) : Sep b b' :=
  fun htyp hhdr => hne ⟨(h.key hsmall h' htyp hhdr).1, (h.key hsmall h' htyp hhdr).2.1⟩

theorem BlockOf.decode {c : Ctx} {fs : List Feature} {scr : List (Str × BitVec 64 × Scratch)} {t n : Nat} {ns : Str}
    {b : Block} (hsmall : (nsTable fs).length ≤ 8192) (h : BlockOf c fs scr t n ns b) :
    nsDecode (nsTable fs) (nssGet b.hdr t).toNat = some ns := by
  have hn := lt_length_of_getElem? h.pos
  rw [h.shape.2, nssGet_blockHeader, ns16_toNat n (by omega)]
  exact h.pos

/-! ## the blocks of a successful build -/

/-- everything a successful build fixes about the index.  `c` is the `Ctx` the build computed: `hctx` says that its
tables are `nsTable fs` and `strs`, `hosm` what its OSM namespaces are -/
structure Built (strs : List Str) (fs : List Feature) (ix : Index) (c : Ctx) : Prop where
  hnt : ix.nt = nsTable fs
  hstrs : ix.strs = strs
  hctx : c = ⟨nsTable fs, strs, c.osm⟩
  hosm : osmNamespaces (nsTable fs) = some c.osm
  hblocks : ∀ b ∈ ix.blocks, b.typ = 0 ∨ ∃ k ∈ blockKeys (nsTable fs), featureBlock c fs k.1 k.2.1 k.2.2 = .ok (some b)
  hkeys : ∀ k ∈ blockKeys (nsTable fs), ∃ ob, featureBlock c fs k.1 k.2.1 k.2.2 = .ok ob ∧ ∀ b, ob = some b → b ∈ ix.blocks

theorem Built.nt_eq {strs : List Str} {fs : List Feature} {ix : Index} {c : Ctx} (hb : Built strs fs ix c) :
    c.nt = nsTable fs := by rw [hb.hctx]

theorem Built.strs_eq {strs : List Str} {fs : List Feature} {ix : Index} {c : Ctx} (hb : Built strs fs ix c) :
    c.strs = strs := by rw [hb.hctx]

theorem Built.ix_nt {strs : List Str} {fs : List Feature} {ix : Index} {c : Ctx} (hb : Built strs fs ix c) :
    ix.nt = c.nt := hb.hnt.trans hb.nt_eq.symm

theorem Built.ix_strs {strs : List Str} {fs : List Feature} {ix : Index} {c : Ctx} (hb : Built strs fs ix c) :
    ix.strs = c.strs := hb.hstrs.trans hb.strs_eq.symm

theorem Built.ctxOK {strs : List Str} {fs : List Feature} {ix : Index} {c : Ctx} (hb : Built strs fs ix c)
    (hs : strs.length < 2 ^ 48) (hsmall : (nsTable fs).length ≤ 8192) : CtxOK c := by
  refine ⟨⟨hb.nt_eq ▸ hsmall, hb.nt_eq ▸ nsTable_zero fs⟩, ?_, hb.nt_eq ▸ hb.hosm⟩
  rw [hb.strs_eq]
  omega

/-- the point blocks of `ix` are exactly the `pointBlock`s of the table positions, over the scratch entries `scr` -/
structure BuiltPoints (fs : List Feature) (ix : Index) (c : Ctx) (scr : List (List (Str × BitVec 64 × Scratch))) : Prop where
  hscr : fs.map (scratchOf c fs) = scr.map .ok
  hpts : ∀ b ∈ ix.blocks, b.typ = 0 → ∃ n ns, (nsTable fs)[n]? = some ns ∧ pointBlock c fs scr.flatten n ns = some b
  hall : ∀ n ns, (nsTable fs)[n]? = some ns → ∀ b, pointBlock c fs scr.flatten n ns = some b → b ∈ ix.blocks

theorem build_points (strs : List Str) (fs : List Feature) (ix : Index) (h : build strs fs = .ok ix) :
    ∃ c scr, Built strs fs ix c ∧ BuiltPoints fs ix c scr := by
  obtain ⟨_, osm, hosm, scr, hscr, rest, hrest, rfl⟩ := (build_ok_iff strs fs ix).mp h
  refine ⟨⟨nsTable fs, strs, osm⟩, scr, ⟨rfl, rfl, rfl, hosm, ?_, ?_⟩, ⟨hscr, ?_, ?_⟩⟩
  · intro b hb
    simp only [List.mem_append, List.mem_filterMap, id] at hb
    rcases hb with ⟨⟨n, ns⟩, _, hpb⟩ | ⟨ob, hob, rfl⟩
    · exact Or.inl (pointBlock_hdr _ fs _ n ns b hpb).1
    · exact Or.inr (mapEq_of_mem_right hrest hob)
  · intro k hk
    obtain ⟨ob, hob, hfk⟩ := mapEq_of_mem_left hrest hk
    refine ⟨ob, hfk, ?_⟩
    rintro b rfl
    exact List.mem_append_right _ (List.mem_filterMap.mpr ⟨_, hob, rfl⟩)
  · intro b hb hb0
    simp only [List.mem_append, List.mem_filterMap, id] at hb
    rcases hb with ⟨⟨n, ns⟩, hmem, hpb⟩ | ⟨ob, hob, rfl⟩
    · exact ⟨n, ns, (mem_blockNamespaces _ _ _).mp hmem, hpb⟩
    · -- a path / area / relation block has type 1–3
      obtain ⟨k, hk, hfk⟩ := mapEq_of_mem_right hrest hob
      have := ((mem_blockKeys _ k).mp hk).1
      rw [← (featureBlock_some _ fs k.1 k.2.1 k.2.2 b hfk).1, hb0] at this
      omega
  · intro n ns hmem b hpb
    exact List.mem_append_left _ (List.mem_filterMap.mpr ⟨(n, ns), (mem_blockNamespaces _ _ _).mpr hmem, hpb⟩)

theorem Built.blockOf {strs : List Str} {fs : List Feature} {ix : Index} {c : Ctx} (hb : Built strs fs ix c)
    (scr : List (Str × BitVec 64 × Scratch)) {b : Block} (hbm : b ∈ ix.blocks) (h0 : b.typ ≠ 0) :
    ∃ t n ns, BlockOf c fs scr t n ns b := by
  rcases hb.hblocks b hbm with h | ⟨⟨t, n, ns⟩, hk, hfk⟩
  · exact absurd h h0
  · have hkk := (mem_blockKeys _ _).mp hk
    exact ⟨t, n, ns, hkk.2, Or.inr ⟨hkk.1, hfk⟩⟩

theorem BuiltPoints.blockOf {strs : List Str} {fs : List Feature} {ix : Index} {c : Ctx}
    {scr : List (List (Str × BitVec 64 × Scratch))} (hp : BuiltPoints fs ix c scr) (hb : Built strs fs ix c)
    {b : Block} (hbm : b ∈ ix.blocks) : ∃ t n ns, BlockOf c fs scr.flatten t n ns b := by
  by_cases h0 : b.typ = 0
  · obtain ⟨n, ns, hm, hpb⟩ := hp.hpts b hbm h0
    exact ⟨0, n, ns, hm, Or.inl ⟨rfl, hpb⟩⟩
  · exact hb.blockOf _ hbm h0

/-! ## the block the reader routes an id to -/

/-- `b` is the one block `FindFeatureByID` looks into for `id`: it has the id's type and, in its header, the id's encoded
namespace `n`, and every block of the index with these two is `b` -/
structure Routed (ix : Index) (id : FID) (n : Nat) (b : Block) : Prop where
  enc : nsEncode ix.nt id.ns = some n
  mem : b ∈ ix.blocks
  typ : b.typ = id.typ
  hdr : nssGet b.hdr id.typ = ns16 n
  only : ∀ b' ∈ ix.blocks, b'.typ = id.typ → nssGet b'.hdr id.typ = ns16 n → b' = b

theorem BlockOf.routed {c : Ctx} {fs : List Feature} {scr : List (Str × BitVec 64 × Scratch)} {t n : Nat} {ns : Str}
    {b : Block} {ix : Index} (hsmall : (nsTable fs).length ≤ 8192) (hB : BlockOf c fs scr t n ns b)
    (hnt : ix.nt = nsTable fs) (hn : nsEncode (nsTable fs) ns = some n) (hbm : b ∈ ix.blocks)
    (hall : ∀ b' ∈ ix.blocks, b'.typ = t → ∃ t' n' ns', BlockOf c fs scr t' n' ns' b') (v : BitVec 64) :
    Routed ix ⟨t, ns, v⟩ n b := by
  refine ⟨by rw [hnt]; exact hn, hbm, hB.shape.1, by rw [hB.shape.2]; exact nssGet_blockHeader c t n, ?_⟩
  intro b' hb' hb't hb'h
  obtain ⟨t', n', ns', hB'⟩ := hall b' hb' hb't
  exact (hB.key hsmall hB' (hB.shape.1.trans hb't.symm)
    (by rw [hB.shape.1, hB.shape.2, nssGet_blockHeader]; exact hb'h.symm)).2.2.symm

/-- what a block must hold for the reader to return entry `e` for feature `id` -/
structure Holds (b : Block) (id : FID) (e : Entry) : Prop where
  mem : e ∈ b.entries
  id_eq : e.id = id.val
  unique : ∀ e' ∈ b.entries, e'.id = id.val → e' = e
  /-- points: not a references-only record; other types: the `NoTag` entry -/
  tag : if id.typ = 0 then e.tag ≠ 2#64 else e.tag = 0#64
  /-- an empty area record is taken for a missing one -/
  nonempty : id.typ = 2 → e.data ≠ []

theorem idsDistinct_pairwise : ∀ fs : List Feature, idsDistinct fs = true → fs.Pairwise fun f g => f.id ≠ g.id := by
  intro fs h
  fun_induction idsDistinct fs with
  | case1 => exact List.Pairwise.nil
  | case2 x xs ih =>
    simp only [Bool.and_eq_true, List.all_eq_true, bne_iff_ne] at h
    exact List.pairwise_cons.mpr ⟨fun g hg => Ne.symm (h.1 g hg), ih h.2⟩

theorem idsDistinct_inj (fs : List Feature) (h : idsDistinct fs = true) :
    ∀ f ∈ fs, ∀ g ∈ fs, f.id = g.id → f = g :=
  fun _ hf _ hg => eq_of_nodup_map (·.id) (List.pairwise_map.mpr (idsDistinct_pairwise fs h)) hf hg

/-! ## placement of the path / area / relation records -/

theorem mem_keptOf (fs : List Feature) (f : Feature) (hf : f ∈ fs) (hk : kept fs f = true) :
    validated fs f ∈ keptOf fs f.id.typ f.id.ns := by
  unfold keptOf
  refine List.mem_map.mpr ⟨f, List.mem_filter.mpr ⟨hf, ?_⟩, rfl⟩
  simp [hk]

theorem entryOf_spec (c : Ctx) (fs : List Feature) (t : Nat) (g : Feature) (e : Entry) (h : entryOf c fs t g = .ok e) :
    e.id = g.id.val ∧ e.tag = 0#64 ∧ recordOf c fs t g = .ok e.data := by
  obtain ⟨d, hd, rfl⟩ := (entryOf_ok_iff c fs t g e).mp h
  exact ⟨rfl, rfl, hd⟩

theorem featureBlock_entry_source (c : Ctx) (fs : List Feature) (t n : Nat) (ns : Str) (b : Block)
    (h : featureBlock c fs t n ns = .ok (some b)) (e : Entry) (he : e ∈ b.entries) :
    ∃ f ∈ fs, f.id = ⟨t, ns, e.id⟩ ∧ entryOf c fs t (validated fs f) = .ok e := by
  obtain ⟨g, hg, hfe⟩ := mapEq_of_mem_right (featureBlock_some c fs t n ns b h).2.2 he
  unfold keptOf at hg
  obtain ⟨f, hf, rfl⟩ := List.mem_map.mp hg
  have ⟨hfm, hfp⟩ := List.mem_filter.mp hf
  simp only [Bool.and_eq_true, beq_iff_eq] at hfp
  have h1 := (entryOf_spec c fs _ _ e hfe).1
  rw [validated_id] at h1
  exact ⟨f, hfm, FID.ext _ _ hfp.1.1 hfp.1.2 h1.symm, hfe⟩

/-- an area record is never empty (it starts with the length of its tag list), so the reader does not take it for
a missing one -/
theorem areaRecord_ne_nil (c : Ctx) (fs : List Feature) (g : Feature) (data : Bytes)
    (h : areaRecord c fs g = .ok data) : data ≠ [] := by
  obtain ⟨ts, _, geo, _, rels, _, _, rfl⟩ := (areaRecord_ok_iff c fs g data).mp h
  intro hnil
  simp only [Area.enc, Tags.enc, List.append_assoc, List.append_eq_nil_iff] at hnil
  exact putUvarint_ne_nil _ hnil.1

theorem placed_routed (strs : List Str) (fs : List Feature) (ix : Index) (c : Ctx) (hb : Built strs fs ix c)
    (hsmall : (nsTable fs).length ≤ 8192) (hdist : idsDistinct fs = true)
    (f : Feature) (hf : f ∈ fs) (ht : f.id.typ = 1 ∨ f.id.typ = 2 ∨ f.id.typ = 3) (hk : kept fs f = true) :
    ∃ n b e, Routed ix f.id n b ∧ b.hdr = blockHeader c f.id.typ n ∧ Holds b f.id e ∧
      recordOf c fs f.id.typ (validated fs f) = .ok e.data := by
  have hns : f.id.ns ∈ nsTable fs := mem_nsTable fs f hf f.id.ns (by simp [mentioned])
  obtain ⟨n, hn⟩ := nsEncode_of_mem _ _ hns
  have hget : (nsTable fs)[n]? = some f.id.ns := nsEncode_decode _ _ _ hn
  have hkey : (f.id.typ, n, f.id.ns) ∈ blockKeys (nsTable fs) := (mem_blockKeys _ _).mpr ⟨ht, hget⟩
  obtain ⟨ob, hob, hin⟩ := hb.hkeys _ hkey
  simp only at hob
  have hg := mem_keptOf fs f hf hk
  obtain ⟨b, rfl⟩ := featureBlock_nonempty c fs _ n _ ob hob _ hg
  have ⟨hbt, hbh, hes⟩ := featureBlock_some c fs _ n _ b hob
  obtain ⟨e, he, hfe⟩ := mapEq_of_mem_left hes hg
  have ⟨heid, hetag, herec⟩ := entryOf_spec c fs _ _ e hfe
  rw [validated_id] at heid
  -- the scratch entries play no part in a block of type 1–3
  have hr : Routed ix f.id n b := BlockOf.routed (scr := []) hsmall ⟨hget, Or.inr ⟨ht, hob⟩⟩ hb.hnt hn (hin b rfl)
    (fun b' hb' hb't => hb.blockOf [] hb' (by rw [hb't]; omega)) f.id.val
  refine ⟨n, b, e, hr, hbh, ⟨he, heid, ?_, by rw [if_neg (by omega)]; exact hetag, fun h2 => ?_⟩, herec⟩
  · -- no other entry has the id
    intro e' he' he'id
    obtain ⟨f', hf'mem, hid, hfe'⟩ := featureBlock_entry_source c fs _ n _ b hob e' he'
    obtain rfl : f' = f := idsDistinct_inj fs hdist f' hf'mem f hf (hid.trans (by rw [he'id]))
    exact (Except.ok.inj (hfe.symm.trans hfe')).symm
  · rw [h2] at herec
    exact areaRecord_ne_nil c fs _ e.data herec

/-- **placement**: after a successful build, a kept path / area / relation `f` of a source with distinct ids has
its record under its id only in one block, and every block the lookup routes its id to is that block -/
theorem placed (strs : List Str) (fs : List Feature) (ix : Index) (c : Ctx) (hb : Built strs fs ix c)
    (hsmall : (nsTable fs).length ≤ 8192) (hdist : idsDistinct fs = true)
    (f : Feature) (hf : f ∈ fs) (ht : f.id.typ = 1 ∨ f.id.typ = 2 ∨ f.id.typ = 3) (hk : kept fs f = true) :
    ∃ n b e, nsEncode ix.nt f.id.ns = some n ∧ b ∈ ix.blocks ∧ b.typ = f.id.typ ∧ b.hdr = blockHeader c f.id.typ n ∧
      (∀ b' ∈ ix.blocks, b'.typ = f.id.typ → nssGet b'.hdr f.id.typ = ns16 n → b' = b) ∧
      e ∈ b.entries ∧ e.id = f.id.val ∧ e.tag = 0#64 ∧ recordOf c fs f.id.typ (validated fs f) = .ok e.data ∧
      (∀ e' ∈ b.entries, e'.id = f.id.val → e' = e) := by
  obtain ⟨n, b, e, hr, hbh, hh, herec⟩ := placed_routed strs fs ix c hb hsmall hdist f hf ht hk
  have htag := hh.tag
  rw [if_neg (by omega)] at htag
  exact ⟨n, b, e, hr.enc, hr.mem, hr.typ, hbh, hr.only, hh.mem, hh.id_eq, htag, herec, hh.unique⟩

end B6.Model.CompactIndex
