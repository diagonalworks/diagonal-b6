import B6.Lemmas.SearchPosting
import B6.Lemmas.Basic.AssocList
/-!
# Compiled query trees refine the cursor of the list they denote (C06)

`compile_refines`, by induction on a depth index that bounds the tree; the bound `(denote q).length ≤ Index.total` gives
every leapfrog loop its fuel.
-/
namespace B6.Lemmas.Search
open B6.Spec.Cursor B6.Spec.SearchQuery B6.Model.Search

theorem sortDedup_isSort :
    Basic.IsInsertSet (fun a b : Nat => a < b) (fun a b : Nat => a = b) insertSorted sortDedup :=
  ⟨fun _ => rfl, fun _ _ _ => rfl, id, rfl, fun _ _ => rfl⟩

theorem insertSorted_sorted (x : Nat) (l : List Nat) (h : StrictSorted l) : StrictSorted (insertSorted x l) :=
  sortDedup_isSort.ins_pairwise (fun h1 h2 => Nat.lt_of_le_of_ne (Nat.le_of_not_lt h1) (Ne.symm h2)) Nat.lt_trans x h

theorem mem_sortDedup (l : List Nat) (y : Nat) : y ∈ sortDedup l ↔ y ∈ l := sortDedup_isSort.mem

theorem sortDedup_sorted (l : List Nat) : StrictSorted (sortDedup l) :=
  sortDedup_isSort.pairwise (fun h1 h2 => Nat.lt_of_le_of_ne (Nat.le_of_not_lt h1) (Ne.symm h2)) Nat.lt_trans l

theorem mem_interLists (l : List Nat) (ls : List (List Nat)) (x : Nat) :
    x ∈ interLists (l :: ls) ↔ ∀ l' ∈ l :: ls, x ∈ l' := by
  simp [interLists]

theorem interLists_sorted (l : List Nat) (ls : List (List Nat)) (h : StrictSorted l) :
    StrictSorted (interLists (l :: ls)) := by
  unfold interLists StrictSorted at *; exact h.filter _

/-! ## `union` and `intersection` of a family, against `sortDedup` and `interLists` -/

theorem union_refines_map {σ α : Type} (o : IterOps σ) (l : List α) (f : α → σ) (g : α → List Nat)
    (h : ∀ a ∈ l, Refines o (f a) (g a)) :
    Refines (Union.ops o) (.fresh (l.map f)) (sortDedup (l.map g).flatten) :=
  union_refines_fam o l f g _ h (sortDedup_sorted _) fun x => by
    simp only [mem_sortDedup, List.mem_flatten, List.mem_map]
    exact ⟨fun ⟨_, ⟨a, ha, e⟩, hx⟩ => ⟨a, ha, e ▸ hx⟩, fun ⟨a, ha, hx⟩ => ⟨_, ⟨a, ha, rfl⟩, hx⟩⟩

theorem inter_refines_map {σ α : Type} (o : IterOps σ) (fuel : Nat) (est : σ → Nat) (l : List α) (hne : l ≠ [])
    (f : α → σ) (g : α → List Nat)
    (h : ∀ a ∈ l, Refines o (f a) (g a) ∧ (g a).length < fuel ∧ ∀ x ∈ g a, o.dom x) :
    Refines (Inter.ops o fuel) (Inter.sortBy est (l.map f)) (interLists (l.map g)) := by
  obtain ⟨a, l', rfl⟩ := List.exists_cons_of_ne_nil hne
  exact inter_refines_fam o fuel est _ f g _ hne h (interLists_sorted _ _ (h a List.mem_cons_self).1.wf) fun x => by
    rw [List.map_cons, mem_interLists, ← List.map_cons, List.forall_mem_map]

/-! ## tokens: the run of tokens with a given prefix in a sorted token list -/

theorem prefix_not_lt : ∀ (p t : Token), p.isPrefixOf t = true → ¬ t < p
  | [], t, _ => List.not_lt_nil t
  | a :: p, [], h => by simp [List.isPrefixOf] at h
  | a :: p, b :: t, h => by
    rw [List.isPrefixOf_cons_cons] at h
    simp only [Bool.and_eq_true, beq_iff_eq] at h
    obtain ⟨rfl, h2⟩ := h
    rw [List.cons_lt_cons_iff]
    rintro (h3 | ⟨_, h3⟩)
    · exact absurd h3 (by simp [Char.lt_irrefl])
    · exact prefix_not_lt p t h2 h3

theorem prefix_interval : ∀ (p y t : Token), ¬ y < p → y < t → p.isPrefixOf t = true → p.isPrefixOf y = true
  | [], _, _, _, _, _ => by simp [List.isPrefixOf]
  | a :: p, [], _, h1, _, _ => absurd (List.nil_lt_cons a p) h1
  | a :: p, b :: y, [], _, h2, _ => absurd h2 (List.not_lt_nil _)
  | a :: p, b :: y, c :: t, h1, h2, h3 => by
    rw [List.isPrefixOf_cons_cons] at h3 ⊢
    simp only [Bool.and_eq_true, beq_iff_eq] at h3 ⊢
    obtain ⟨rfl, h3⟩ := h3
    rw [List.cons_lt_cons_iff] at h1 h2
    rcases h2 with h2 | ⟨rfl, h2⟩
    · exact absurd (Or.inl h2) h1
    · refine ⟨rfl, prefix_interval p y t ?_ h2 h3⟩
      intro h4; exact h1 (Or.inr ⟨rfl, h4⟩)

/-- In a list sorted by token the entries whose token has the prefix `p` form a block that starts at the first token
`≥ p`: skipping the tokens below `p` and then taking while the prefix matches is filtering by the prefix. -/
theorem prefixRun_filter (p : Token) (l : List (Token × List Nat)) (hs : l.Pairwise (fun a b => a.1 < b.1)) :
    (l.dropWhile (fun e => decide (e.1 < p))).takeWhile (fun e => p.isPrefixOf e.1) =
      l.filter (fun e => p.isPrefixOf e.1) := by
  -- the skip keeps the tokens not below `p`; among those the prefix test passes to earlier tokens (`prefix_interval`)
  rw [hs.dropWhile_eq_filter fun x _ y _ hxy hy => decide_eq_true (List.lt_trans hxy (of_decide_eq_true hy)),
    (hs.filter _).takeWhile_eq_filter fun x hx y _ hxy hp =>
      prefix_interval p x.1 y.1 (by simpa using (List.mem_filter.1 hx).2) hxy hp,
    List.filter_filter]
  refine List.filter_congr fun e _ => ?_
  cases h : p.isPrefixOf e.1 with
  | false => rfl
  | true => exact (Bool.true_and _).trans (by simpa using prefix_not_lt p e.1 h)

theorem prefixRun_eq (ix : Index) (hv : ix.Valid) (p : Token) :
    (prefixRun ix p).getD [] = ix.lists.filter (fun e => p.isPrefixOf e.1) := by
  rw [← prefixRun_filter p ix.lists (List.pairwise_map.1 hv.1)]
  fun_cases prefixRun ix p with
  | case1 h => rw [h]; rfl
  | case2 h => rfl

/-! ## list forms of the mutual definitions -/

theorem compileList_eq (F : Nat) (ix : Index) : ∀ qs, compileList F ix qs = qs.map (compile F ix)
  | [] => by simp [compileList]
  | q :: qs => by simp [compileList, compileList_eq F ix qs]

theorem denoteList_eq (ix : Index) : ∀ qs, SQuery.denoteList ix qs = qs.map (SQuery.denote ix)
  | [] => by simp [SQuery.denoteList]
  | q :: qs => by simp [SQuery.denoteList, denoteList_eq ix qs]

theorem depth_le_depthList : ∀ (qs : List SQuery) (q : SQuery), q ∈ qs → depth q ≤ depthList qs
  | [], _, h => by simp at h
  | q' :: qs, q, h => by
    simp only [depthList]
    rcases List.mem_cons.1 h with rfl | h
    · exact Nat.le_max_left _ _
    · exact Nat.le_trans (depth_le_depthList qs q h) (Nat.le_max_right _ _)

theorem wfList_iff : ∀ qs : List SQuery, SQuery.WFList qs ↔ ∀ q ∈ qs, q.WF
  | [] => by simp [SQuery.WFList]
  | q :: qs => by simp [SQuery.WFList, wfList_iff qs]

theorem keysInList_iff (K : Nat → Prop) : ∀ qs : List SQuery, SQuery.KeysInList K qs ↔ ∀ q ∈ qs, q.KeysIn K
  | [] => by simp [SQuery.KeysInList]
  | q :: qs => by simp [SQuery.KeysInList, keysInList_iff K qs]

/-! ## what a query denotes is strictly increasing and drawn from the index -/

/-- every posting of the index, in entry order (with repetitions) -/
def allValues (ix : Index) : List Nat := (ix.lists.map (·.2)).flatten

theorem mem_allValues {ix : Index} {x : Nat} : x ∈ allValues ix ↔ ∃ e ∈ ix.lists, x ∈ e.2 := by
  simp only [allValues, List.mem_flatten, List.mem_map]
  exact ⟨fun ⟨_, ⟨e, he, h⟩, hx⟩ => ⟨e, he, h ▸ hx⟩, fun ⟨e, he, hx⟩ => ⟨_, ⟨e, he, rfl⟩, hx⟩⟩

theorem lookup_cases (ix : Index) (t : Token) :
    (ix.lookup t = none ∧ ix.get t = [] ∧ ∀ e ∈ ix.lists, e.1 ≠ t) ∨
    ∃ e ∈ ix.lists, e.1 = t ∧ ix.lookup t = some e.2 ∧ ix.get t = e.2 := by
  have L : Basic.IsLookup (Prod.fst : Token × List Nat → Token) Prod.snd
      (fun l k => (l.find? (fun e => e.1 == k)).map (·.2)) := (Basic.isLookup_find?_beq Prod.fst).map Prod.snd
  cases h : ix.lookup t with
  | none => exact Or.inl ⟨rfl, by unfold Index.get; rw [h], L.eq_none_iff.1 h⟩
  | some xs =>
    obtain ⟨e, he, hk, rfl⟩ := L.exists_mem_of_eq_some h
    exact Or.inr ⟨e, he, hk, rfl, by unfold Index.get; rw [h]⟩

theorem get_spec (ix : Index) (hv : ix.Valid) (t : Token) :
    StrictSorted (ix.get t) ∧ ∀ x ∈ ix.get t, x ∈ allValues ix := by
  rcases lookup_cases ix t with ⟨_, hg, _⟩ | ⟨e, he, _, _, hg⟩
  · rw [hg]; exact ⟨List.Pairwise.nil, fun _ h => nomatch h⟩
  · rw [hg]
    exact ⟨hv.2 e he, fun x hx => mem_allValues.2 ⟨e, he, hx⟩⟩

mutual
theorem denote_spec (ix : Index) (hv : ix.Valid) : ∀ q : SQuery,
    StrictSorted (q.denote ix) ∧ ∀ x ∈ q.denote ix, x ∈ allValues ix
  | .empty => ⟨List.Pairwise.nil, fun _ h => nomatch h⟩
  | .all t => get_spec ix hv t
  | .union qs => by
    rw [SQuery.denote]
    refine ⟨sortDedup_sorted _, fun x hx => ?_⟩
    obtain ⟨l, hl, hxl⟩ := List.mem_flatten.1 ((mem_sortDedup _ _).1 hx)
    exact (denoteList_spec ix hv qs l hl).2 x hxl
  | .inter qs => by
    rw [SQuery.denote]
    cases h : SQuery.denoteList ix qs with
    | nil => exact ⟨List.Pairwise.nil, fun _ h => nomatch h⟩
    | cons l ls =>
      have hl := denoteList_spec ix hv qs l (h ▸ List.mem_cons_self)
      exact ⟨interLists_sorted _ _ hl.1, fun x hx => hl.2 x ((mem_interLists l ls x).1 hx l List.mem_cons_self)⟩
  | .keyRange b e q => by
    have ih := denote_spec ix hv q
    exact ⟨rangeList_sorted ih.1, fun x hx => ih.2 x (mem_rangeList.1 hx).1⟩
  | .tokenPrefix p => by
    rw [SQuery.denote]
    refine ⟨sortDedup_sorted _, fun x hx => ?_⟩
    obtain ⟨l, hl, hxl⟩ := List.mem_flatten.1 ((mem_sortDedup _ _).1 hx)
    obtain ⟨e, he, rfl⟩ := List.mem_map.1 hl
    exact mem_allValues.2 ⟨e, (List.mem_filter.1 he).1, hxl⟩
theorem denoteList_spec (ix : Index) (hv : ix.Valid) : ∀ qs : List SQuery, ∀ l ∈ SQuery.denoteList ix qs,
    StrictSorted l ∧ ∀ x ∈ l, x ∈ allValues ix
  | [], _, h => nomatch h
  | q :: qs, l, h => by
    rw [SQuery.denoteList] at h
    rcases List.mem_cons.1 h with rfl | h
    · exact denote_spec ix hv q
    · exact denoteList_spec ix hv qs l h
end

theorem denote_length_le (ix : Index) (hv : ix.Valid) (q : SQuery) : (q.denote ix).length ≤ ix.total := by
  obtain ⟨h1, h2⟩ := denote_spec ix hv q
  show _ ≤ (allValues ix).length
  exact List.Nodup.length_le_of_subset h1.nodup (fun x hx => h2 x hx)

/-! ## the closed operations restricted to one constructor -/

theorem ops_dom (K : Nat → Prop) (F d k : Nat) (hk : K k) : (ops K F d).dom k := by cases d <;> exact hk

theorem leaf_embed (K : Nat → Prop) (F d : Nat) {l : Leaf} {c : Cursor} (h : RefinesAt Leaf.ops l c) :
    RefinesAt (ops K F d) (.leaf l) c := by
  apply refinesAt_embed Iter.leaf _ _ _ _ h
  · intro t; cases d <;> rfl
  · intro k t; cases d <;> rfl
  · intro t; cases d <;> rfl
  · intro _ _; trivial

theorem empty_embed (K : Nat → Prop) (F d : Nat) : RefinesAt (ops K F d) .empty (start []) := by
  apply refinesAt_embed (fun _ : Unit => Iter.empty) _ _ _ _ empty_refines
  · intro t; cases d <;> rfl
  · intro k t; cases d <;> rfl
  · intro t; cases d <;> rfl
  · intro _ _; trivial

theorem union_embed (K : Nat → Prop) (F d : Nat) {st : UnionState Iter} {c : Cursor}
    (h : RefinesAt (Union.ops (ops K F d)) st c) : RefinesAt (ops K F (d + 1)) (.union st) c :=
  refinesAt_embed Iter.union (fun _ => rfl) (fun _ _ => rfl) (fun _ => rfl) (fun k hk => ops_dom K F d k hk) h

theorem inter_embed (K : Nat → Prop) (F d : Nat) {its : List Iter} {c : Cursor}
    (h : RefinesAt (Inter.ops (ops K F d) F) its c) : RefinesAt (ops K F (d + 1)) (.inter its) c :=
  refinesAt_embed Iter.inter (fun _ => rfl) (fun _ _ => rfl) (fun _ => rfl) (fun k hk => ops_dom K F d k hk) h

theorem range_embed (K : Nat → Prop) (F d : Nat) {st : RangeState Iter} {c : Cursor}
    (h : RefinesAt (Range.ops (ops K F d)) st c) : RefinesAt (ops K F (d + 1)) (.range st) c :=
  refinesAt_embed Iter.range (fun _ => rfl) (fun _ _ => rfl) (fun _ => rfl) (fun k hk => ops_dom K F d k hk) h

theorem tprefix_embed (K : Nat → Prop) (F d : Nat) {it : Iter} {c : Cursor}
    (h : RefinesAt (ops K F d) it c) : RefinesAt (ops K F (d + 1)) (.tprefix it) c :=
  refinesAt_embed Iter.tprefix (fun _ => rfl) (fun _ _ => rfl) (fun _ => rfl) (fun k hk => ops_dom K F d k hk) h

open B6.Model.Posting in
theorem pleafLift_eq (names : List String) (pl : PostingList) (r : Except B6.Model.Posting.Err (Bool × It)) :
    pleafLift names pl r = liftRes (fun s : PostingList × It => Iter.pleaf names s.1 s.2) (liftPosting pl r) := by
  cases r with
  | ok p => rfl
  | error e => cases e <;> rfl

open B6.Model.Posting in
/-- a compact leaf of the closed type is C08's iterator: transport `posting_refines` -/
theorem pleaf_embed (K : Nat → Prop) (F d : Nat) (names : List String)
    (hK : ∀ k, K k → TnOK ⟨names⟩ (k / 2 ^ 64)) {s : PostingList × It} {c : Cursor}
    (h : RefinesAt (postingOps ⟨names⟩) s c) : RefinesAt (ops K F d) (.pleaf names s.1 s.2) c := by
  apply refinesAt_embed (fun s : PostingList × It => Iter.pleaf names s.1 s.2) _ _ _ _ h
  · intro t
    cases d <;> exact pleafLift_eq names t.1 _
  · intro k t
    cases d <;> exact pleafLift_eq names t.1 _
  · intro t; cases d <;> rfl
  · intro k hk; exact hK k (by cases d <;> exact hk)

/-- what a compact index must satisfy for C08 to apply: a sorted namespace table of at most 8192 names, and every
posted key has a non-zero `TypeAndNamespace` that the table can decode -/
def CompactOK (ix : Index) : Prop :=
  ix.kind = .compact →
    B6.Model.Posting.TableOK ⟨ix.names⟩ ∧
    ∀ e ∈ ix.lists, ∀ x ∈ e.2, x / 2 ^ 64 ≠ 0 ∧ B6.Model.Posting.TnOK ⟨ix.names⟩ (x / 2 ^ 64)

theorem map_keyNat_unkey (xs : List Nat) : (xs.map unkey).map B6.Model.Posting.keyNat = xs := by
  rw [List.map_map]
  exact (List.map_congr_left fun x _ => keyNat_unkey x).trans (List.map_id' xs)

open B6.Model.Posting in
theorem postingOK_unkey (tbl : Table) (xs : List Nat) (hs : StrictSorted xs)
    (hx : ∀ x ∈ xs, x / 2 ^ 64 ≠ 0 ∧ TnOK tbl (x / 2 ^ 64)) : PostingOK tbl (xs.map unkey) := by
  have hlt : ∀ x : Nat, (unkey x).2 < 2 ^ 64 := fun x => Nat.mod_lt _ (Nat.two_pow_pos 64)
  refine ⟨List.forall_mem_map.2 fun x hxm => ⟨hlt x, (hx x hxm).1⟩, ?_, List.forall_mem_map.2 fun x hxm => (hx x hxm).2⟩
  -- `keyNat` is an order embedding and `unkey` its inverse
  exact List.pairwise_map.2 (hs.imp fun {a b} hab =>
    (B6.Props.C08.keyNat_lt (hlt a) (hlt b)).1 (by rwa [keyNat_unkey, keyNat_unkey]))

open B6.Model.Posting in
theorem dom_compact {ix : Index} (hk : ix.kind = .compact) (k : Nat) : ix.dom k ↔ TnOK ⟨ix.names⟩ (unkey k).1 := by
  unfold Index.dom; rw [hk]; exact Iff.rfl

theorem dom_of_not_compact {ix : Index} (hk : ix.kind ≠ .compact) (k : Nat) : ix.dom k := by
  unfold Index.dom
  cases h : ix.kind with
  | compact => exact absurd h hk
  | array => trivial
  | tree => trivial

theorem dom_of_compactOK (ix : Index) (hc : CompactOK ix) : ∀ e ∈ ix.lists, ∀ x ∈ e.2, ix.dom x := by
  intro e he x hx
  by_cases hk : ix.kind = .compact
  · exact (dom_compact hk x).2 ((hc hk).2 e he x hx).2
  · exact dom_of_not_compact hk x

theorem mkLeaf_refines (F d : Nat) (ix : Index) (hv : ix.Valid) (hc : CompactOK ix) {e : Token × List Nat}
    (he : e ∈ ix.lists) : Refines (ops ix.dom F d) (mkLeaf ix e.2) e.2 := by
  have hs := hv.2 e he
  unfold mkLeaf
  cases hk : ix.kind with
  | compact =>
    obtain ⟨ht, hkeys⟩ := hc hk
    have href := posting_refines [] (e.2.map unkey) ⟨ix.names⟩ ht (postingOK_unkey ⟨ix.names⟩ e.2 hs (hkeys e he))
    rw [map_keyNat_unkey] at href
    exact pleaf_embed ix.dom F d ix.names (fun k hkk => (dom_compact hk k).1 hkk) href
  | array => exact leaf_embed _ F d (leaf_refines .array e.2 hs)
  | tree => exact leaf_embed _ F d (leaf_refines .tree e.2 hs)

theorem indexBegin_refines (F d : Nat) (ix : Index) (hv : ix.Valid) (hc : CompactOK ix) (t : Token) :
    Refines (ops ix.dom F d) (indexBegin ix t) (ix.get t) := by
  unfold indexBegin
  rcases lookup_cases ix t with ⟨hl, hg, _⟩ | ⟨e, he, _, hl, hg⟩
  · rw [hl, hg]; exact empty_embed _ F d
  · rw [hl, hg]; exact mkLeaf_refines F d ix hv hc he

theorem dom_of_mem_denote (ix : Index) (hv : ix.Valid) (hc : CompactOK ix) (q : SQuery) :
    ∀ x ∈ q.denote ix, ix.dom x := by
  intro x hx
  obtain ⟨e, he, hxe⟩ := mem_allValues.1 ((denote_spec ix hv q).2 x hx)
  exact dom_of_compactOK ix hc e he x hxe

theorem compile_refines (F : Nat) (ix : Index) (hv : ix.Valid) (hc : CompactOK ix) (hF : ix.total < F) :
    (q : SQuery) → q.WF → q.KeysIn ix.dom → ∀ d, depth q ≤ d →
      Refines (ops ix.dom F d) (compile F ix q) (q.denote ix) := by
  intro q hw hk d hd
  -- on the depth index: the children of a node of depth `≤ d + 1` have depth `≤ d`
  induction d generalizing q with
  | zero =>
    cases q with
    | empty => exact empty_embed _ F 0
    | all t => exact indexBegin_refines F 0 ix hv hc t
    | _ => simp only [depth] at hd; omega
  | succ d ih =>
    cases q with
    | empty => exact empty_embed _ F _
    | all t => exact indexBegin_refines F _ ix hv hc t
    | union qs =>
      simp only [depth] at hd
      simp only [SQuery.WF, wfList_iff] at hw
      simp only [SQuery.KeysIn, keysInList_iff] at hk
      simp only [compile, SQuery.denote, compileList_eq, denoteList_eq]
      exact union_embed _ F d (union_refines_map _ qs _ _ fun q hq =>
        ih q (hw q hq) (hk q hq) (Nat.le_trans (depth_le_depthList qs q hq) (Nat.le_of_succ_le_succ hd)))
    | inter qs =>
      simp only [depth] at hd
      simp only [SQuery.WF, wfList_iff] at hw
      simp only [SQuery.KeysIn, keysInList_iff] at hk
      simp only [compile, SQuery.denote, Inter.new, compileList_eq, denoteList_eq]
      exact inter_embed _ F d (inter_refines_map _ F _ qs hw.1 _ _ fun q hq =>
        ⟨ih q (hw.2 q hq) (hk q hq) (Nat.le_trans (depth_le_depthList qs q hq) (Nat.le_of_succ_le_succ hd)),
          Nat.lt_of_le_of_lt (denote_length_le ix hv q) hF,
          fun x hx => ops_dom _ F d x (dom_of_mem_denote ix hv hc q x hx)⟩)
    | keyRange b e q =>
      simp only [depth] at hd
      simp only [SQuery.WF] at hw
      simp only [SQuery.KeysIn] at hk
      simp only [compile, SQuery.denote]
      exact range_embed _ F d (range_refines _ b e (ih q hw hk.2 (Nat.le_of_succ_le_succ hd)) (ops_dom _ F d b hk.1))
    | tokenPrefix p =>
      simp only [depth] at hd
      obtain ⟨d', rfl⟩ : ∃ d', d = d' + 1 := ⟨d - 1, by omega⟩
      have hrun := prefixRun_eq ix hv p
      simp only [compile, SQuery.denote]
      cases hr : prefixRun ix p with
      | none =>
        rw [← hrun, hr]
        exact empty_embed _ F _
      | some run =>
        rw [← hrun, hr]
        exact tprefix_embed _ F (d' + 1) (union_embed _ F d' (union_refines_map _ run _ _ fun e he =>
          mkLeaf_refines F d' ix hv hc (List.mem_filter.1 (by rw [← hrun, hr]; exact he)).1))

end B6.Lemmas.Search
