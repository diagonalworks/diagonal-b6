import B6.Lemmas.TagQuery
/-!
# Indexing a feature list (C03 `build_index_inv`); `mergedFeatures` against `union` (C03 `merge_sorted_dedup`)

Two independent halves.  `insertPosting` works on the bare entry list, so the first is about `getL` / `EntriesOK`, which
are `Index.get` / `Index.Valid` by `rfl`.  The second: where `union`'s `Next` succeeds, `mergedFeatures`' does the same.
(The declarations continue `namespace B6.Lemmas.TagQuery`: the statements of C03 name `B6.Lemmas.TagQuery.mergedOps`.)
-/
namespace B6.Lemmas.TagQuery
open B6.Spec.Cursor B6.Spec.SearchQuery B6.Spec.TagQuery B6.Model.Search B6.Model.FeatureSearch
open B6.Lemmas.Search

/-- `Index.get` on the bare entry list: `insertPosting` works on the list, not on an `Index` -/
def getL (l : List (Token × List Nat)) (t : Token) : List Nat :=
  match (l.find? (fun e => e.1 == t)).map (·.2) with
  | some xs => xs
  | none => []

theorem getL_cons (a : Token × List Nat) (l : List (Token × List Nat)) (t : Token) :
    getL (a :: l) t = if a.1 = t then a.2 else getL l t := by
  unfold getL
  rw [((Basic.isLookup_find?_beq (Prod.fst : Token × List Nat → Token)).map Prod.snd).cons]
  by_cases h : a.1 = t
  · rw [if_pos h, if_pos h]
  · rw [if_neg h, if_neg h]

/-- `Index.Valid` on the bare entry list -/
def EntriesOK (l : List (Token × List Nat)) : Prop :=
  (l.map (·.1)).Pairwise (· < ·) ∧ ∀ e ∈ l, StrictSorted e.2

theorem getL_nil_of_lt : ∀ (l : List (Token × List Nat)) (t : Token), (∀ e ∈ l, t < e.1) → getL l t = []
  | [], _, _ => rfl
  | a :: l, t, h => by
    rw [getL_cons]
    have hlt := h a (by simp)
    have : a.1 ≠ t := by intro he; rw [he] at hlt; exact List.lt_irrefl _ hlt
    rw [if_neg this]
    exact getL_nil_of_lt l t (fun e he => h e (List.mem_cons_of_mem _ he))

theorem insertPosting_tokens (id : Nat) (t : Token) : ∀ (l : List (Token × List Nat)) (e : Token × List Nat),
    e ∈ insertPosting id t l → e.1 = t ∨ ∃ e' ∈ l, e'.1 = e.1 := by
  intro l e h
  fun_induction insertPosting id t l with
  | case1 => exact Or.inl (by rw [List.mem_singleton.1 h])
  | case2 t' l' rest hlt =>
    rcases List.mem_cons.1 h with rfl | h
    · exact Or.inl rfl
    · exact Or.inr ⟨e, h, rfl⟩
  | case3 l' rest hlt =>
    rcases List.mem_cons.1 h with rfl | h
    · exact Or.inr ⟨(t, l'), List.mem_cons_self, rfl⟩
    · exact Or.inr ⟨e, List.mem_cons_of_mem _ h, rfl⟩
  | case4 t' l' rest hlt hne ih =>
    rcases List.mem_cons.1 h with rfl | h
    · exact Or.inr ⟨(t', l'), List.mem_cons_self, rfl⟩
    · exact (ih h).imp_right fun ⟨e', he', h2⟩ => ⟨e', List.mem_cons_of_mem _ he', h2⟩

theorem getL_insertPosting (id : Nat) (t : Token) : ∀ (l : List (Token × List Nat)), (l.map (·.1)).Pairwise (· < ·) →
    ∀ t', getL (insertPosting id t l) t' = if t = t' then insertSorted id (getL l t') else getL l t' := by
  intro l hs t'
  fun_induction insertPosting id t l with
  | case1 => rw [getL_cons]; rfl
  | case2 t1 l1 rest h1 =>
    rw [List.map_cons, List.pairwise_cons] at hs
    -- a new first entry: `t` was below every token, so it had no list
    have hall : ∀ e ∈ (t1, l1) :: rest, t < e.1 := fun e he =>
      (List.mem_cons.1 he).elim (· ▸ h1) fun he => List.lt_trans h1 (hs.1 e.1 (List.mem_map.2 ⟨e, he, rfl⟩))
    rw [getL_cons]
    by_cases h : t = t'
    · subst h; rw [if_pos rfl, if_pos rfl, getL_nil_of_lt _ t hall]; rfl
    · rw [if_neg h, if_neg h]
  | case3 l1 rest h1 =>
    rw [getL_cons, getL_cons]
    by_cases h : t = t'
    · rw [if_pos h, if_pos h, if_pos h]
    · rw [if_neg h, if_neg h, if_neg h]
  | case4 t1 l1 rest h1 h2 ih =>
    rw [List.map_cons, List.pairwise_cons] at hs
    rw [getL_cons, getL_cons, ih hs.2]
    by_cases h : t1 = t'
    · rw [if_pos h, if_pos h, if_neg (h ▸ h2)]
    · rw [if_neg h, if_neg h]

theorem insertPosting_spec (id : Nat) (t : Token) : ∀ (l : List (Token × List Nat)), EntriesOK l →
    EntriesOK (insertPosting id t l) ∧
    ∀ t' x, x ∈ getL (insertPosting id t l) t' ↔ (t' = t ∧ x = id) ∨ x ∈ getL l t' := by
  intro l hok
  refine ⟨?_, fun t' x => ?_⟩
  · obtain ⟨hs, hl⟩ := hok
    fun_induction insertPosting id t l with
    | case1 => exact ⟨List.pairwise_singleton _ _, fun e he => by
        rw [List.mem_singleton.1 he]; exact List.pairwise_singleton _ _⟩
    | case2 t1 l1 rest h1 =>
      refine ⟨List.pairwise_cons.2 ⟨fun b hb => ?_, hs⟩, fun e he => ?_⟩
      · rcases List.mem_cons.1 hb with rfl | hb
        · exact h1
        · exact List.lt_trans h1 ((List.pairwise_cons.1 hs).1 b hb)
      · rcases List.mem_cons.1 he with rfl | he
        · exact List.pairwise_singleton _ _
        · exact hl e he
    | case3 l1 rest h1 =>
      refine ⟨hs, fun e he => ?_⟩
      rcases List.mem_cons.1 he with rfl | he
      · exact insertSorted_sorted id l1 (hl (t, l1) List.mem_cons_self)
      · exact hl e (List.mem_cons_of_mem _ he)
    | case4 t1 l1 rest h1 h2 ih =>
      have hs' := List.pairwise_cons.1 hs
      obtain ⟨ih1, ih2⟩ := ih hs'.2 fun e he => hl e (List.mem_cons_of_mem _ he)
      refine ⟨List.pairwise_cons.2 ⟨fun b hb => ?_, ih1⟩, fun e he => ?_⟩
      · -- a token of the tail after the insertion is `t` or a token of the tail, both above `t1`
        obtain ⟨e, he, rfl⟩ := List.mem_map.1 hb
        rcases insertPosting_tokens id t rest e he with h | ⟨e', he', h⟩
        · rw [h]; exact Std.lt_of_le_of_ne (List.not_lt.1 h1) (Ne.symm h2)
        · rw [← h]; exact hs'.1 e'.1 (List.mem_map.2 ⟨e', he', rfl⟩)
      · rcases List.mem_cons.1 he with rfl | he
        · exact hl _ List.mem_cons_self
        · exact ih2 e he
  · rw [getL_insertPosting id t l hok.1]
    by_cases h : t = t'
    · rw [if_pos h, sortDedup_isSort.mem_ins, h]; exact or_congr_left (and_iff_right rfl).symm
    · rw [if_neg h]; exact (or_iff_right fun h' => h h'.1.symm).symm

theorem foldl_insertPosting_spec (id : Nat) (ts : List Token) (l : List (Token × List Nat)) (hok : EntriesOK l) :
    EntriesOK (ts.foldl (fun ls t => insertPosting id t ls) l) ∧
    ∀ t' x, x ∈ getL (ts.foldl (fun ls t => insertPosting id t ls) l) t' ↔ (t' ∈ ts ∧ x = id) ∨ x ∈ getL l t' := by
  obtain ⟨h1, h2⟩ := Basic.look_foldl_or (look := getL) (I := EntriesOK) (D := fun a t' x => t' = a ∧ x = id)
    (step := fun ls t => insertPosting id t ls)
    (fun l t hok => ⟨(insertPosting_spec id t l hok).1, fun k y => by rw [(insertPosting_spec id t l hok).2, or_comm]⟩)
    ts l hok
  exact ⟨h1, fun t' x => by rw [h2, Basic.exists_mem_key, or_comm]⟩

theorem foldl_addFeature_spec (fs : List Feature) (l : List (Token × List Nat)) (hok : EntriesOK l) :
    EntriesOK (fs.foldl addFeature l) ∧
    ∀ t x, x ∈ getL (fs.foldl addFeature l) t ↔ (∃ f ∈ fs, f.id = x ∧ t ∈ tokensFor f) ∨ x ∈ getL l t := by
  obtain ⟨h1, h2⟩ := Basic.look_foldl_or (look := getL) (I := EntriesOK) (step := addFeature)
    (D := fun (f : Feature) t x => f.id = x ∧ t ∈ tokensFor f)
    (fun l f hok => ⟨(foldl_insertPosting_spec f.id _ l hok).1, fun t x => by
      unfold addFeature; rw [(foldl_insertPosting_spec f.id _ l hok).2, or_comm, and_comm, eq_comm]⟩) fs l hok
  exact ⟨h1, fun t x => by rw [h2, or_comm]⟩

/-! ## `mergedFeatures` follows `union` on `Next` -/

section merged
variable {σ : Type} (o : IterOps σ)

/-- Where `union`'s `Next` loop succeeds, the `do … while` loop of `mergedFeatures` does the same: after stepping the
top, both look at the new top and go on exactly when it is still on `cur` (the `union` loop spends one unit of fuel
on that look, which is why the statement is about its successful runs). -/
theorem merged_loop_of_union (cur : Nat) (f : Nat) : ∀ (l r : List (σ × Nat)),
    Union.loop o (· == cur) o.next f l = .ok r →
    (∃ pre s post, splitMin (·.2) l = some (pre, (s, cur), post)) →
    Merged.loop o cur f l = .ok r := by
  induction f with
  | zero => intro l r h; cases h
  | succ f ih =>
    rintro l r h ⟨pre, s, post, hs⟩
    have hcont : ∀ l', Union.loop o (· == cur) o.next f l' = .ok r →
        (match splitMin (·.2) l' with
          | none => (.ok [] : Except Err (List (σ × Nat)))
          | some (_, (_, v'), _) => if v' = cur then Merged.loop o cur f l' else .ok l') = .ok r := by
      intro l' h'
      cases hs' : splitMin (·.2) l' with
      | none =>
        cases f with
        | zero => cases h'
        | succ f' => rw [Union.loop, hs'] at h'; exact h'
      | some p =>
        obtain ⟨pre', ⟨s', v'⟩, post'⟩ := p
        dsimp only
        by_cases hv : v' = cur
        · subst hv
          rw [if_pos rfl]
          exact ih l' r h' ⟨pre', s', post', hs'⟩
        · rw [if_neg hv]
          cases f with
          | zero => cases h'
          | succ f' =>
            rw [Union.loop, hs'] at h'
            dsimp only at h'
            rw [if_neg (by simpa using hv)] at h'
            exact h'
    rw [Union.loop, hs] at h
    rw [Merged.loop, hs]
    simp only [beq_self_eq_true, ↓reduceIte] at h ⊢
    cases hn : o.next s with
    | error e => rw [hn] at h; cases h
    | ok p =>
      obtain ⟨b, s'⟩ := p
      rw [hn] at h
      cases b with
      | false => exact hcont _ h
      | true =>
        dsimp only at h ⊢
        cases hv : o.value s' with
        | none => rw [hv] at h; cases h
        | some v' => rw [hv] at h; exact hcont _ h

theorem merged_next_of_union (st : UnionState σ) (r : Bool × UnionState σ)
    (h : Union.next o st = .ok r) : Merged.next o st = .ok r := by
  cases st with
  | fresh its => exact h
  | live l =>
    simp only [Union.next, Merged.next] at h ⊢
    cases hs : splitMin (·.2) l with
    | none => rw [hs] at h; exact h
    | some p =>
      obtain ⟨pre, ⟨s, cur⟩, post⟩ := p
      rw [hs] at h
      simp only at h ⊢
      cases hl : Union.loop o (· == cur) o.next (l.length + 1) l with
      | error e => rw [hl] at h; simp [Union.finish] at h
      | ok l' =>
        rw [merged_loop_of_union o cur _ l l' hl ⟨pre, s, post, hs⟩]
        rw [hl] at h; exact h

/-- `b6.MergeFeatures` as an iterator: only `Next` exists -/
def mergedOps : IterOps (UnionState σ) where
  next := Merged.next o
  advance _ _ := .error .panic
  value := Union.value
  estimate _ := 0

theorem merged_run (n : Nat) : ∀ (st : UnionState σ) (c : Cursor), RefinesAt (Union.ops o) st c →
    runImpl (mergedOps o) st (List.replicate n Call.next) = some (runSpec c (List.replicate n Call.next)) := by
  induction n with
  | zero => intro st c _; rfl
  | succ n ih =>
    intro st c h
    obtain ⟨st', h1, h2⟩ := h.next
    have hm : Merged.next o st = .ok (c.next.1, st') := merged_next_of_union o st _ h1
    simp only [List.replicate_succ, runImpl, runSpec, mergedOps, hm]
    cases hb : c.next.1 with
    | false => simp
    | true =>
      have hr := h2 hb
      have hv : Union.value st' = c.next.2.cur := by
        have := hr.value (Cursor.next_cur_isSome hb)
        exact this
      simp only [↓reduceIte, hv]
      have := ih st' c.next.2 hr
      simp only [mergedOps] at this
      rw [this]; rfl

end merged

end B6.Lemmas.TagQuery
