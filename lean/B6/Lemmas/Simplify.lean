import B6.Model.Simplify
/-!
Three parts. What each function of the model's recursion answers, one inversion each: the rest of this file, `SimplifyFO3`,
`EvalGuards` and C22 take `Simplify` apart through these only. C22 `simplify_scope`: `Simplify` neither frees a bound
parameter (symbols free in value position) nor moves a value into the function namespace (symbols in function position);
one recursion over `simplifyBoth` (`Good`), every statement with the kind of position as a parameter (`syms fn`).
`Simplify` makes no lambda.
-/
namespace B6.Lemmas.Simplify
open B6.Model B6.Model.Simplify

variable {argc : String → Option Nat} {simp : Expr → Option (Expr × Expr)}

/-! ### what each step of `Simplify` answers -/

theorem simpArgsWith_cons {a : Expr} {as as' : List Expr}
    (h : simpArgsWith simp (a :: as) = some as') :
    ∃ a' ma rest, simp a = some (a', ma) ∧ simpArgsWith simp as = some rest ∧ as' = a' :: rest := by
  simp only [simpArgsWith] at h
  cases ha : simp a with
  | none => simp [ha] at h
  | some r =>
    cases has : simpArgsWith simp as with
    | none => simp [ha, has] at h
    | some rest =>
      simp only [ha, has, Option.some.injEq] at h
      exact ⟨r.1, r.2, rest, rfl, rfl, h.symm⟩

theorem simpCall_inv {f : Expr} {args : List Expr} {p : Bool} {s m : Expr}
    (h : simpCall argc simp f args p = some (s, m)) :
    ∃ f' mf args', simp f = some (f', mf) ∧ simpArgsWith simp args = some args' ∧
      postCall argc simp (pickFunction argc f f' mf) args' p = some s ∧ m = .call mf args' p := by
  revert h
  fun_cases simpCall argc simp f args p with
  | case1 f' mf args' ha hf =>
    intro h
    obtain ⟨s', hp, h⟩ := Option.map_eq_some_iff.mp h
    cases h
    exact ⟨f', mf, args', hf, ha, hp, rfl⟩
  | case2 => nofun

variable (argc) in
theorem pickFunction_cases (f f' mf : Expr) : pickFunction argc f f' mf = f' ∨ pickFunction argc f f' mf = mf := by
  fun_cases pickFunction argc f f' mf with
  | case1 | case2 | case4 => exact .inl rfl
  | case3 => exact .inr rfl

theorem postCall_inv {f : Expr} {args : List Expr} {p : Bool} {s : Expr} (h : postCall argc simp f args p = some s) :
    s = .call f args p ∨
    (∃ x n, f = .sym x ∧ args = [] ∧ argc x = some n ∧ n > 0 ∧ s = .sym x) ∨
    (∃ body r, f = .lam [] body ∧ args = [] ∧ simp body = some r ∧ s = r.1) ∨
    (∃ x q, f = .sym x ∧ buildQuery x args = some q ∧ s = .lit (.query (simplifyQuery q))) := by
  revert h
  fun_cases postCall argc simp f args p with
  | case1 x n hn hpos => rintro ⟨⟩; exact .inr (.inl ⟨x, n, rfl, rfl, hn, hpos, rfl⟩)
  | case2 | case3 | case7 => rintro ⟨⟩; exact .inl rfl
  | case4 body =>
    intro h
    obtain ⟨r, hb, rfl⟩ := Option.map_eq_some_iff.mp h
    exact .inr (.inr (.inl ⟨body, r, rfl, rfl, hb, rfl⟩))
  | case5 args x q hq => rw [hq]; rintro ⟨⟩; exact .inr (.inr (.inr ⟨x, q, rfl, hq, rfl⟩))
  | case6 args x hq => rw [hq]; rintro ⟨⟩; exact .inl rfl

theorem canDrop_inv {ps : List String} {f2 : Expr} {args2 : List Expr} (h : canDrop argc ps f2 args2 = true) :
    ∃ s2, f2 = .sym s2 ∧ argc s2 = some args2.length ∧
      ∀ r ∈ args2.drop ps.length, ∀ p ∈ ps, mentions p r = false := by
  unfold canDrop at h
  split at h
  · rename_i s2
    simp only [Bool.and_eq_true, beq_iff_eq, List.all_eq_true, Bool.not_eq_eq_eq_not, Bool.not_true] at h
    exact ⟨s2, rfl, h.1.1, fun r hr p hp => (h.2 r hr).2 p hp⟩
  · cases h

/-- what `simplifyLambda` answers: the argument tree is the lambda over the body's argument tree; the result is that
too, or the η-reduct `f2` resp. `f2 rest` (simplified once more) of a body `f2 ps… rest…` that passes `canDrop` -/
theorem simpLam_inv {ps : List String} {body s m : Expr} (h : simpLam argc simp ps body = some (s, m)) :
    ∃ body' mb, simp body = some (body', mb) ∧ m = .lam ps mb ∧
      (s = .lam ps mb ∨
        ∃ s2 args2 p2, body' = .call (.sym s2) args2 p2 ∧ argc s2 = some args2.length ∧
          (∀ r ∈ args2.drop ps.length, ∀ p ∈ ps, mentions p r = false) ∧
          ((∃ r, simp (.sym s2) = some r ∧ s = r.1) ∨
            ∃ r, simpCall argc simp (.sym s2) (args2.drop ps.length) false = some r ∧ s = r.1)) := by
  unfold simpLam at h
  cases hb : simp body with
  | none => simp [hb] at h
  | some r =>
    obtain ⟨body', mb⟩ := r
    simp only [hb] at h
    refine ⟨body', mb, rfl, ?_⟩
    split at h
    · rename_i f2 args2 p2
      split at h
      · rename_i hcond
        simp only [Bool.and_eq_true] at hcond
        obtain ⟨s2, rfl, hargc, hnom⟩ := canDrop_inv hcond.2
        split at h
        · obtain ⟨r, hr, h⟩ := Option.map_eq_some_iff.mp h
          cases h
          exact ⟨rfl, .inr ⟨s2, args2, p2, rfl, hargc, hnom, .inl ⟨r, hr, rfl⟩⟩⟩
        · obtain ⟨r, hr, h⟩ := Option.map_eq_some_iff.mp h
          cases h
          exact ⟨rfl, .inr ⟨s2, args2, p2, rfl, hargc, hnom, .inr ⟨r, hr, rfl⟩⟩⟩
      · cases h; exact ⟨rfl, .inl rfl⟩
    · cases h; exact ⟨rfl, .inl rfl⟩

theorem simplifyWith_eq_some {e s : Expr} (h : simplifyWith argc e = some s) :
    ∃ m, simplifyBoth argc (e.size + 1) e = some (s, m) := by
  obtain ⟨⟨s', m⟩, hb, rfl⟩ := Option.map_eq_some_iff.mp h
  exact ⟨m, hb⟩

/-! ### `Simplify` frees no parameter and moves no value into the function namespace -/

variable (argc) in
/-- `A ⊆ B` up to the names `argc` knows: a global function may appear anywhere -/
def Sub (A B : List String) : Prop := ∀ x, x ∈ A → x ∈ B ∨ (argc x).isSome = true

theorem sub_refl (A : List String) : Sub argc A A := fun _ h => Or.inl h
theorem sub_nil (B : List String) : Sub argc [] B := fun _ h => by cases h
theorem sub_trans {A B C : List String} (h1 : Sub argc A B) (h2 : Sub argc B C) : Sub argc A C := by
  intro x hx
  rcases h1 x hx with h | h
  · exact h2 x h
  · exact Or.inr h
theorem sub_append {A B C D : List String} (h1 : Sub argc A B) (h2 : Sub argc C D) :
    Sub argc (A ++ C) (B ++ D) := by
  intro x hx
  simp only [List.mem_append] at hx ⊢
  rcases hx with hx | hx
  · rcases h1 x hx with h | h
    · exact Or.inl (Or.inl h)
    · exact Or.inr h
  · rcases h2 x hx with h | h
    · exact Or.inl (Or.inr h)
    · exact Or.inr h
theorem sub_filter {A B : List String} (p : String → Bool) (h : Sub argc A B) :
    Sub argc (A.filter p) (B.filter p) := by
  intro x hx
  simp only [List.mem_filter] at hx ⊢
  rcases h x hx.1 with h' | h'
  · exact Or.inl ⟨h', hx.2⟩
  · exact Or.inr h'

/-- the symbols of `e` in function position (`fn = true`), resp. free in value position -/
def syms : Bool → Expr → List String
  | true, e => e.fnSyms
  | false, e => e.freeValueVars

def symss : Bool → List Expr → List String
  | true, es => Expr.fnSymss es
  | false, es => Expr.freeValueVarss es

/-- what the function part of a call contributes -/
def calleeSyms (fn : Bool) : Expr → List String
  | .sym s => if fn then [s] else []
  | .lit _ => []
  | f => syms fn f

theorem syms_call (fn : Bool) (f : Expr) (args : List Expr) (p : Bool) :
    syms fn (.call f args p) = calleeSyms fn f ++ symss fn args := by
  cases fn <;> cases f <;> simp [syms, symss, calleeSyms, Expr.freeValueVars, Expr.fnSyms]

theorem eq_of_mem_syms_sym {fn : Bool} {x s : String} (h : x ∈ syms fn (.sym s)) : x = s := by
  cases fn
  · exact List.mem_singleton.mp h
  · cases h

theorem eq_of_mem_calleeSyms_sym {fn : Bool} {x s : String} (h : x ∈ calleeSyms fn (.sym s)) : x = s := by
  cases fn
  · cases h
  · exact List.mem_singleton.mp h

theorem syms_lit (fn : Bool) (l : Lit) : syms fn (.lit l) = [] := by cases fn <;> rfl

theorem symss_cons (fn : Bool) (a : Expr) (as : List Expr) : symss fn (a :: as) = syms fn a ++ symss fn as := by
  cases fn <;> rfl

theorem symss_eq (fn : Bool) (l : List Expr) : symss fn l = l.flatMap (syms fn) := by
  induction l with
  | nil => cases fn <;> rfl
  | cons a as ih => rw [symss_cons, List.flatMap_cons, ih]

theorem calleeSyms_subset (f : Expr) : ∀ x, x ∈ calleeSyms false f → x ∈ f.freeValueVars := by
  cases f <;> simp [calleeSyms, syms]

theorem calleeSyms_eq {f : Expr} (hf : ∀ x, f ≠ .sym x) (fn : Bool) : calleeSyms fn f = syms fn f := by
  cases f with
  | sym x => exact absurd rfl (hf x)
  | lit l => rw [syms_lit]; rfl
  | lam ps b => rfl
  | call g as p => rfl

theorem sub_calleeSyms {fn : Bool} {f' f : Expr} (h : Sub argc (syms fn f') (syms fn f))
    (hf' : ∀ x, f' ≠ .sym x) (hf : ∀ x, f ≠ .sym x) : Sub argc (calleeSyms fn f') (calleeSyms fn f) := by
  rw [calleeSyms_eq hf, calleeSyms_eq hf']
  exact h

theorem sub_lam {fn : Bool} {b' b : Expr} (ps : List String) (h : Sub argc (syms fn b') (syms fn b)) :
    Sub argc (syms fn (.lam ps b')) (syms fn (.lam ps b)) := by
  cases fn
  · exact sub_filter _ h
  · exact h

variable (argc) in
/-- what the recursion provides about `Simplify` one level down (`s` the result, `m` the argument tree), for both kinds
of position; `sym` and `shape` are what `pickFunction` asks of the function part: a symbol simplifies to itself, and
only a symbol has a symbol as argument tree -/
structure Good (simp : Expr → Option (Expr × Expr)) : Prop where
  sub : ∀ fn e s m, simp e = some (s, m) → Sub argc (syms fn s) (syms fn e) ∧ Sub argc (syms fn m) (syms fn e)
  sym : ∀ x r, simp (.sym x) = some r → r = (.sym x, .sym x)
  shape : ∀ e s m x, simp e = some (s, m) → m = .sym x → e = .sym x

theorem simpArgs_good (g : Good argc simp) (fn : Bool) :
    ∀ (args args' : List Expr), simpArgsWith simp args = some args' → Sub argc (symss fn args') (symss fn args)
  | [], args', h => by
    simp only [simpArgsWith] at h; injection h with h; subst h; exact sub_refl _
  | a :: as, args', h => by
    obtain ⟨a', ma, rest, ha, has, rfl⟩ := simpArgsWith_cons h
    rw [symss_cons, symss_cons]
    exact sub_append (g.sub fn a a' ma ha).1 (simpArgs_good g fn as rest has)

theorem postCall_good (g : Good argc simp) (fn : Bool)
    (f : Expr) (args : List Expr) (p : Bool) (s : Expr) (h : postCall argc simp f args p = some s) :
    Sub argc (syms fn s) (calleeSyms fn f ++ symss fn args) := by
  obtain rfl | ⟨x, n, rfl, rfl, hn, -, rfl⟩ | ⟨body, r, rfl, rfl, hb, rfl⟩ | ⟨x, q, rfl, -, rfl⟩ := postCall_inv h
  · rw [syms_call]; exact sub_refl _
  · intro y hy
    exact Or.inr (by rw [eq_of_mem_syms_sym hy, hn]; rfl)
  · have : calleeSyms fn (.lam [] body) ++ symss fn [] = syms fn body := by
      cases fn <;> simp [calleeSyms, syms, symss, Expr.freeValueVars, Expr.fnSyms, Expr.freeValueVarss, Expr.fnSymss]
    rw [this]
    exact (g.sub fn body r.1 r.2 hb).1
  · rw [syms_lit]
    exact sub_nil _

theorem pick_good {fn : Bool} {f f' mf : Expr} (h1 : Sub argc (syms fn f') (syms fn f))
    (h2 : Sub argc (syms fn mf) (syms fn f)) (hs : ∀ x, f = .sym x → f' = .sym x)
    (hm : ∀ x, mf = .sym x → f = .sym x) :
    Sub argc (calleeSyms fn (pickFunction argc f f' mf)) (calleeSyms fn f) := by
  fun_cases pickFunction argc f f' mf with
  | case1 a b => cases hs b rfl; exact sub_refl _
  | case2 f s hsome hfns =>
    intro y hy
    exact Or.inr (eq_of_mem_calleeSyms_sym hy ▸ hsome)
  | case3 f s hnone hfns => exact sub_calleeSyms h2 (fun x hx => hfns x (hm x hx)) hfns
  | case4 f f' hf' _ => exact sub_calleeSyms h1 hf' fun x hx => hf' x (hs x hx)

theorem simpCall_good (g : Good argc simp) (fn : Bool)
    (f : Expr) (args : List Expr) (p : Bool) (s m : Expr) (h : simpCall argc simp f args p = some (s, m)) :
    Sub argc (syms fn s) (syms fn (.call f args p)) ∧ Sub argc (syms fn m) (syms fn (.call f args p)) := by
  obtain ⟨f', mf, args', hf, ha, hp, rfl⟩ := simpCall_inv h
  obtain ⟨gf1, gf2⟩ := g.sub fn f f' mf hf
  have hargs := simpArgs_good g fn args args' ha
  have hs : ∀ x, f = .sym x → f' = .sym x ∧ mf = .sym x := by
    intro x hx; subst hx
    have := g.sym x _ hf
    injection this with h1 h2
    exact ⟨h1, h2⟩
  have hm : ∀ x, mf = .sym x → f = .sym x := fun x hx => g.shape f f' mf x hf hx
  rw [syms_call fn f args p]
  refine ⟨sub_trans (postCall_good g fn _ _ _ _ hp)
    (sub_append (pick_good gf1 gf2 (fun x hx => (hs x hx).1) hm) hargs), ?_⟩
  -- the argument tree keeps `mf` in function position
  rw [syms_call]
  refine sub_append ?_ hargs
  by_cases hsym : ∃ x, f = .sym x
  · obtain ⟨x, rfl⟩ := hsym
    rw [(hs x rfl).2]
    exact sub_refl _
  · have hfn : ∀ x, f ≠ .sym x := fun x hx => hsym ⟨x, hx⟩
    exact sub_calleeSyms gf2 (fun x hx => hfn x (hm x hx)) hfn

mutual
  theorem mentions_of_free (x : String) : (r : Expr) → x ∈ r.freeValueVars → mentions x r = true
    | .sym t, h => by simp [Expr.freeValueVars] at h; simp [mentions, h]
    | .lit _, h => by simp [Expr.freeValueVars] at h
    | .lam ps b, h => by
      simp only [Expr.freeValueVars, List.mem_filter] at h
      simp [mentions, mentions_of_free x b h.1]
    | .call f args p, h => by
      change x ∈ syms false (.call f args p) at h
      rw [syms_call, List.mem_append] at h
      simp only [mentions, Bool.or_eq_true]
      rcases h with h | h
      · exact Or.inl (mentions_of_free x f (calleeSyms_subset f x h))
      · exact Or.inr (mentionsAny_of_free x args h)
  theorem mentionsAny_of_free (x : String) : (rs : List Expr) → x ∈ Expr.freeValueVarss rs → mentionsAny x rs = true
    | [], h => by simp [Expr.freeValueVarss] at h
    | r :: rs, h => by
      simp only [Expr.freeValueVarss, List.mem_append] at h
      simp only [mentionsAny, Bool.or_eq_true]
      rcases h with h | h
      · exact Or.inl (mentions_of_free x r h)
      · exact Or.inr (mentionsAny_of_free x rs h)
end

/-- η-reduction frees no parameter: the symbols of `f2 rest` are symbols of `{ps -> f2 ps… rest…}`, in value position
because `rest` does not mention `ps` (`canDrop`) -/
theorem syms_eta_subset {fn : Bool} {ps : List String} {s2 : String} {args2 : List Expr} (p2 : Bool)
    (hnom : ∀ r ∈ args2.drop ps.length, ∀ p ∈ ps, mentions p r = false) :
    ∀ x, x ∈ syms fn (.call (.sym s2) (args2.drop ps.length) false) →
      x ∈ syms fn (.lam ps (.call (.sym s2) args2 p2)) := by
  intro x hx
  rw [syms_call, symss_eq, List.mem_append, List.mem_flatMap] at hx
  have hx2 : x ∈ syms fn (.call (.sym s2) args2 p2) := by
    rw [syms_call, symss_eq, List.mem_append, List.mem_flatMap]
    exact hx.imp_right fun ⟨r, hr, hxr⟩ => ⟨r, List.mem_of_mem_drop hr, hxr⟩
  cases fn with
  | true => exact hx2
  | false =>
    obtain hx | ⟨r, hr, hxr⟩ := hx
    · cases hx
    · have hnotps : x ∉ ps := fun hps => by
        have := hnom r hr x hps
        rw [mentions_of_free x r hxr] at this
        cases this
      simp only [syms, Expr.freeValueVars, List.mem_filter]
      exact ⟨hx2, by simpa using hnotps⟩

theorem simpLam_good (g : Good argc simp) (fn : Bool)
    (ps : List String) (body : Expr) (s m : Expr) (h : simpLam argc simp ps body = some (s, m)) :
    Sub argc (syms fn s) (syms fn (.lam ps body)) ∧ Sub argc (syms fn m) (syms fn (.lam ps body)) := by
  obtain ⟨body', mb, hb, rfl, hs⟩ := simpLam_inv h
  refine ⟨?_, sub_lam ps (g.sub fn body body' mb hb).2⟩
  obtain rfl | ⟨s2, args2, p2, rfl, hargc, hnom, ⟨r, hr, rfl⟩ | ⟨r, hr, rfl⟩⟩ := hs
  · exact sub_lam ps (g.sub fn body body' mb hb).2
  · cases g.sym s2 r hr
    exact fun x hx => Or.inr (by rw [eq_of_mem_syms_sym hx, hargc]; rfl)
  · exact sub_trans (simpCall_good g fn _ _ _ _ _ hr).1
      (sub_trans (fun x hx => Or.inl (syms_eta_subset p2 hnom x hx)) (sub_lam ps (g.sub fn body _ mb hb).1))

variable (argc) in
theorem simplifyBoth_good : ∀ (fuel : Nat), Good argc (simplifyBoth argc fuel)
  | 0 => ⟨fun _ _ _ _ h => by simp [simplifyBoth] at h, fun _ _ h => by simp [simplifyBoth] at h,
          fun _ _ _ _ h => by simp [simplifyBoth] at h⟩
  | fuel + 1 => by
    have ih := simplifyBoth_good fuel
    refine ⟨fun fn e s m h => ?_, ?_, ?_⟩
    · cases e with
      | sym x =>
        simp only [simplifyBoth] at h; injection h with h; injection h with h1 h2; subst h1; subst h2
        exact ⟨sub_refl _, sub_refl _⟩
      | lit l =>
        cases l <;>
          · simp only [simplifyBoth] at h
            injection h with h
            injection h with h1 h2
            subst h1
            subst h2
            exact ⟨by rw [syms_lit]; exact sub_nil _, sub_refl _⟩
      | call f args p => simp only [simplifyBoth] at h; exact simpCall_good ih fn f args p s m h
      | lam ps body => simp only [simplifyBoth] at h; exact simpLam_good ih fn ps body s m h
    · intro x r h
      simp only [simplifyBoth] at h
      injection h with h; exact h.symm
    · intro e s m x h hm
      subst hm
      cases e with
      | sym y => simp [simplifyBoth] at h; simp [h.2]
      | lit l => cases l <;> simp [simplifyBoth] at h
      | call f args p =>
        simp only [simplifyBoth] at h
        obtain ⟨_, _, _, _, _, _, hm⟩ := simpCall_inv h
        cases hm
      | lam ps body =>
        simp only [simplifyBoth] at h
        obtain ⟨_, _, _, hm, _⟩ := simpLam_inv h
        cases hm

/-! ### `Simplify` makes no lambda -/

theorem pickFunction_lambdaFree {f' mf : Expr} (f : Expr) (h1 : f'.lambdaFree = true) (h2 : mf.lambdaFree = true) :
    (pickFunction argc f f' mf).lambdaFree = true := by
  rcases pickFunction_cases argc f f' mf with h | h <;> rw [h] <;> assumption

theorem simpArgsWith_lambdaFree
    (hs : ∀ e s m, e.lambdaFree = true → simp e = some (s, m) → s.lambdaFree = true ∧ m.lambdaFree = true) :
    ∀ (as as' : List Expr), Expr.lambdaFrees as = true → simpArgsWith simp as = some as' → Expr.lambdaFrees as' = true
  | [], as', _, h => by
    simp [simpArgsWith] at h; subst h; rfl
  | a :: as, as', hl, h => by
    simp only [Expr.lambdaFrees, Bool.and_eq_true] at hl
    obtain ⟨a', ma, rest, h1, h2, rfl⟩ := simpArgsWith_cons h
    simp [Expr.lambdaFrees, (hs a a' ma hl.1 h1).1, simpArgsWith_lambdaFree hs as rest hl.2 h2]

theorem postCall_lambdaFree {f : Expr} {args : List Expr} {p : Bool} {s : Expr}
    (hf : f.lambdaFree = true) (ha : Expr.lambdaFrees args = true)
    (h : postCall argc simp f args p = some s) : s.lambdaFree = true := by
  obtain rfl | ⟨x, n, rfl, rfl, -, -, rfl⟩ | ⟨body, r, rfl, -, -, -⟩ | ⟨x, q, rfl, -, rfl⟩ := postCall_inv h
  · simp [Expr.lambdaFree, hf, ha]
  · rfl
  · simp [Expr.lambdaFree] at hf
  · rfl

variable (argc) in
theorem simplifyBoth_lambdaFree :
    ∀ (fuel : Nat) (e s m : Expr), e.lambdaFree = true → simplifyBoth argc fuel e = some (s, m) →
      s.lambdaFree = true ∧ m.lambdaFree = true
  | 0, _, _, _, _, h => by simp [simplifyBoth] at h
  | fuel + 1, e, s, m, hl, h => by
    have ih := simplifyBoth_lambdaFree fuel
    cases e with
    | sym x => simp [simplifyBoth] at h; obtain ⟨rfl, rfl⟩ := h; simp [Expr.lambdaFree]
    | lit l =>
      cases l <;> (simp [simplifyBoth] at h; obtain ⟨rfl, rfl⟩ := h; simp [Expr.lambdaFree])
    | lam ps b => simp [Expr.lambdaFree] at hl
    | call f args p =>
      simp only [Expr.lambdaFree, Bool.and_eq_true] at hl
      simp only [simplifyBoth] at h
      obtain ⟨f', mf, args', h1, h2, hp, rfl⟩ := simpCall_inv h
      have hf := ih f f' mf hl.1 h1
      have ha := simpArgsWith_lambdaFree ih args args' hl.2 h2
      refine ⟨postCall_lambdaFree (pickFunction_lambdaFree f hf.1 hf.2) ha hp, ?_⟩
      simp [Expr.lambdaFree, hf.2, ha]

end B6.Lemmas.Simplify
