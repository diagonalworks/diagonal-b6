import B6.Model.Proto.EachItem
import B6.Lemmas.ProtoMeasure
/-! `EachItem` after the repair (Model/Proto/EachItem.lean, uint64map.go). What carries deadlock freedom is `Inv.tok`: while the
feeder has not seen a cancellation, a worker that has left has left a token behind, so the feeder never offers a bucket forever. -/
namespace B6.Model.Proto.EachItem
open B6.Model.Proto

theorem mem_step {c : Cfg} {s s' : St} : s' ∈ step c s ↔ s.ret = none ∧
    ( (∃ i w, s.ws[i]? = some w ∧ inLoop c s ∧ w = W.idle ∧ s' = hand c s i)
    ∨ (inLoop c s ∧ 0 < s.tokens ∧ s' = { s with tokens := s.tokens - 1, stopped := true })
    ∨ (s.closed = false ∧ ¬ inLoop c s ∧ s' = { s with closed := true })
    ∨ (s.closed = true ∧ allExited s ∧ s' = { s with ret := some s.cause })
    ∨ (∃ i w, s.ws[i]? = some w ∧ s' ∈ workerStep c s i w)) := by
  unfold step
  cases hr : s.ret with
  | some r => simp only [Option.isSome_some, ↓reduceIte, List.not_mem_nil, reduceCtorEq, false_and]
  | none =>
    simp only [Option.isSome_none, Bool.false_eq_true, ↓reduceIte, List.mem_append, mem_forWorkers, mem_guard, true_and,
      or_assoc, and_assoc]

theorem mem_workerStep {c : Cfg} {s s' : St} {i : Nat} {w : W} (h : s' ∈ workerStep c s i w) :
    (w = W.idle ∧ s.closed = true ∧ s' = { s with ws := s.ws.set i W.exited })
    ∨ (∃ k j, w = W.busy k j ∧ c.fails k j = true ∧
        s' = { s with ws := s.ws.set i W.failing, failed := true, calls := s.calls + 1,
                      after := if s.failed then s.after + 1 else s.after })
    ∨ (∃ k j x, w = W.busy k j ∧ c.fails k j = false ∧ (x = W.busy k (j + 1) ∧ j + 1 < c.size k ∨ x = W.idle) ∧
        s' = { s with ws := s.ws.set i x, calls := s.calls + 1, after := if s.failed then s.after + 1 else s.after })
    ∨ (w = W.failing ∧ s' = { s with ws := s.ws.set i W.exited, cause := true, tokens := s.tokens + 1 }) := by
  cases w with
  | idle => exact .inl ⟨rfl, mem_guard.mp h⟩
  | busy k j =>
    rcases mem_ite.mp h with ⟨hf, h⟩ | ⟨hf, h⟩
    · exact .inr (.inl ⟨k, j, rfl, hf, List.mem_singleton.mp h⟩)
    · rcases mem_ite.mp h with ⟨hj, h⟩ | ⟨_, h⟩
      · exact .inr (.inr (.inl ⟨k, j, _, rfl, Bool.eq_false_iff.mpr hf, .inl ⟨rfl, hj⟩, List.mem_singleton.mp h⟩))
      · exact .inr (.inr (.inl ⟨k, j, _, rfl, Bool.eq_false_iff.mpr hf, .inr rfl, List.mem_singleton.mp h⟩))
  | failing => exact .inr (.inr (.inr ⟨rfl, List.mem_singleton.mp h⟩))
  | exited => cases h

theorem workerStep_eq_nil {c : Cfg} {s : St} {i : Nat} {w : W} :
    workerStep c s i w = [] ↔ w = W.exited ∨ (w = W.idle ∧ s.closed = false) := by
  cases w with
  | idle => exact guard_eq_nil.trans (by simp)
  | busy k j =>
    exact iff_of_false (ite_ne_nil (List.cons_ne_nil _ _) (ite_ne_nil (List.cons_ne_nil _ _) (List.cons_ne_nil _ _)))
      (by simp)
  | failing => exact iff_of_false (List.cons_ne_nil _ _) (by simp)
  | exited => exact iff_of_true rfl (.inl rfl)

theorem step_eq_nil {c : Cfg} {s : St} (hr : s.ret = none) : step c s = [] ↔
    (∀ (i : Nat) (w : W), s.ws[i]? = some w → ¬ (inLoop c s ∧ w = W.idle)) ∧ ¬ (inLoop c s ∧ 0 < s.tokens) ∧
    ¬ (s.closed = false ∧ ¬ inLoop c s) ∧ ¬ (s.closed = true ∧ allExited s) ∧
    ∀ (i : Nat) (w : W), s.ws[i]? = some w → w = W.exited ∨ (w = W.idle ∧ s.closed = false) := by
  simp only [step, hr, Option.isSome_none, Bool.false_eq_true, ↓reduceIte, List.append_eq_nil_iff, guard_eq_nil,
    forWorkers_eq_nil, workerStep_eq_nil, and_assoc]

structure Inv (c : Cfg) (s : St) : Prop where
  len : s.ws.length = c.g
  err : s.failed = true → s.cause = true ∨ ∃ i : Nat, s.ws[i]? = some W.failing
  ret : ∀ r, s.ret = some r → r = s.cause ∧ allExited s
  /-- while the feeder has not seen a cancellation, a worker that has left has left a token behind -/
  tok : s.closed = false → s.stopped = false → (∃ i : Nat, s.ws[i]? = some W.exited) → 0 < s.tokens

theorem inv_init (c : Cfg) : Inv c (init c) := by
  refine ⟨List.length_replicate, nofun, nofun, ?_⟩
  rintro - - ⟨i, hi⟩
  cases List.eq_of_mem_replicate (List.mem_of_getElem? hi)

theorem Inv.workers {c : Cfg} {s : St} (I : Inv c s) : Workers W.failing W.exited c.g s.ws s.failed s.cause s.ret :=
  ⟨I.len, I.err, I.ret⟩

theorem inv_step {c : Cfg} {s s' : St} (I : Inv c s) (h : s' ∈ step c s) : Inv c s' := by
  obtain ⟨hr, h⟩ := mem_step.mp h
  rcases h with ⟨i, w, hw, hl, rfl, rfl⟩ | ⟨hl, ht, rfl⟩ | ⟨hc, hl, rfl⟩ | ⟨hc, ha, rfl⟩ | ⟨i, w, hw, h⟩
  · -- the feeder hands a bucket to worker i
    exact { I.workers.move hr hw nofun with
      tok := fun h1 h2 h3 => I.tok h1 h2 (exists_of_getElem?_set h3 (by split <;> nofun)) }
  · -- the feeder takes the cancel token and leaves the loop
    exact { I with tok := nofun }
  · -- close(buckets)
    exact { I with tok := nofun }
  · -- return
    exact { I with ret := fun r e => ⟨(Option.some.inj e).symm, ha⟩ }
  · rcases mem_workerStep h with ⟨rfl, hc, rfl⟩ | ⟨k, j, rfl, hf, rfl⟩ | ⟨k, j, x, rfl, hf, hx, rfl⟩ | ⟨rfl, rfl⟩
    · -- the channel is closed: the worker leaves
      exact { I.workers.move hr hw nofun with tok := fun h1 => nomatch hc ▸ h1 }
    · -- the callback fails
      exact { I.workers.fail hr hw with tok := fun h1 h2 h3 => I.tok h1 h2 (exists_of_getElem?_set h3 nofun) }
    · -- the callback succeeds
      have hx : x ≠ W.exited := by rcases hx with ⟨rfl, _⟩ | rfl <;> nofun
      exact { I.workers.move hr hw nofun with tok := fun h1 h2 h3 => I.tok h1 h2 (exists_of_getElem?_set h3 hx) }
    · -- the failing worker records the error, sends the token and leaves
      exact { I.workers.record hr i with tok := fun _ _ _ => Nat.succ_pos _ }

theorem inv_reachable {c : Cfg} {s : St} (h : Reachable (step c) (init c) s) : Inv c s :=
  Reachable.invariant (Inv c) (inv_init c) (fun _ _ I hm => inv_step I hm) s h

/-- the converse of `Inv.err`: `cause` is only set by a worker in state `failing`, which is only entered when a callback fails -/
structure Genuine (s : St) : Prop where
  cause : s.cause = true → s.failed = true
  pending : (∃ i : Nat, s.ws[i]? = some W.failing) → s.failed = true

theorem genuine_step {c : Cfg} {s s' : St} (G : Genuine s) (h : s' ∈ step c s) : Genuine s' := by
  obtain ⟨-, h⟩ := mem_step.mp h
  rcases h with ⟨i, w, hw, hl, rfl, rfl⟩ | ⟨-, -, rfl⟩ | ⟨-, -, rfl⟩ | ⟨-, -, rfl⟩ | ⟨i, w, hw, h⟩
  · -- a bucket is handed out
    exact ⟨G.cause, fun h3 => G.pending (exists_of_getElem?_set h3 (by split <;> nofun))⟩
  · exact ⟨G.cause, G.pending⟩
  · exact ⟨G.cause, G.pending⟩
  · exact ⟨G.cause, G.pending⟩
  · rcases mem_workerStep h with ⟨rfl, -, rfl⟩ | ⟨k, j, rfl, -, rfl⟩ | ⟨k, j, x, rfl, -, hx, rfl⟩ | ⟨rfl, rfl⟩
    · -- the worker leaves
      exact ⟨G.cause, fun h3 => G.pending (exists_of_getElem?_set h3 nofun)⟩
    · -- the callback fails
      exact ⟨fun _ => rfl, fun _ => rfl⟩
    · -- the callback succeeds
      exact ⟨G.cause, fun h3 => G.pending (exists_of_getElem?_set h3 (by rcases hx with ⟨rfl, _⟩ | rfl <;> nofun))⟩
    · -- the failing worker records the error
      exact ⟨fun _ => G.pending ⟨i, hw⟩, fun h3 => G.pending (exists_of_getElem?_set h3 nofun)⟩

theorem genuine_reachable {c : Cfg} {s : St} (h : Reachable (step c) (init c) s) : Genuine s :=
  Reachable.invariant (init := init c) Genuine
    ⟨nofun, fun ⟨_, hi⟩ => nomatch List.eq_of_mem_replicate (List.mem_of_getElem? hi)⟩ (fun _ _ G hm => genuine_step G hm) s h

def wweight (c : Cfg) : W → Nat
  | .idle => 1
  | .busy k j => (c.size k - j) + 2
  | .failing => 1
  | .exited => 0

/-- `size k + 2` per bucket not yet handed out, the callbacks left (+2) per busy worker, 1 per worker that has not
left, 1 each for the feeder's `break feed`, `close` and `return` -/
def measure (c : Cfg) (s : St) : Nat :=
  pending (fun k => c.size k + 2) c.n s.next + (s.ws.map (wweight c)).sum
    + flag s.stopped + flag s.closed + flag s.ret.isSome

theorem measure_step {c : Cfg} {s s' : St} (h : s' ∈ step c s) : measure c s' < measure c s := by
  obtain ⟨hr, h⟩ := mem_step.mp h
  rcases h with ⟨i, w, hw, hl, rfl, rfl⟩ | ⟨hl, ht, rfl⟩ | ⟨hc, hl, rfl⟩ | ⟨hc, ha, rfl⟩ | ⟨i, w, hw, h⟩
  · -- the bucket's `size + 2` goes to the worker, which had 1 and gets at most `size + 2`
    have hp := pending_succ (fun k => c.size k + 2) hl.2.2
    have hs := sum_map_set (wweight c) (if c.size s.next = 0 then W.idle else W.busy s.next 0) hw
    have hx : wweight c (if c.size s.next = 0 then W.idle else W.busy s.next 0) ≤ c.size s.next + 2 := by
      split <;> simp [wweight]
    have h1 : wweight c W.idle = 1 := rfl
    refine add_flag (add_flag (add_flag ?_))
    show pending _ c.n (s.next + 1) + ((s.ws.set i _).map (wweight c)).sum < _
    omega
  · -- break feed
    exact add_flag (add_flag (Nat.add_lt_add_left (flag_lt hl.2.1) _))
  · -- close
    exact add_flag (Nat.add_lt_add_left (flag_lt hc) _)
  · -- return
    exact Nat.add_lt_add_left (flag_lt (congrArg Option.isSome hr)) _
  · -- a worker's step changes nothing else the measure looks at
    have key : ∀ (t : St) (x : W), t.ws = s.ws.set i x → t.next = s.next → t.stopped = s.stopped →
        t.closed = s.closed → t.ret = s.ret → wweight c x < wweight c w → measure c t < measure c s := by
      intro t x e1 e2 e3 e4 e5 hx
      rw [measure, measure, e1, e2, e3, e4, e5]
      exact add_flag (add_flag (add_flag (Nat.add_lt_add_left (sum_map_set_lt (wweight c) hw hx) _)))
    rcases mem_workerStep h with ⟨rfl, hc, rfl⟩ | ⟨k, j, rfl, hf, rfl⟩ | ⟨k, j, x, rfl, hf, hx, rfl⟩ | ⟨rfl, rfl⟩
    · -- leaves
      exact key _ _ rfl rfl rfl rfl rfl Nat.zero_lt_one
    · -- the callback fails
      exact key _ _ rfl rfl rfl rfl rfl (Nat.lt_add_left _ (Nat.lt_succ_self 1))
    · -- the callback succeeds: next id of the bucket, or back to the channel
      refine key _ x rfl rfl rfl rfl rfl ?_
      rcases hx with ⟨rfl, hj⟩ | rfl
      · simp only [wweight]; omega
      · exact Nat.lt_add_left _ (Nat.lt_succ_self 1)
    · -- records the error and leaves
      exact key _ _ rfl rfl rfl rfl rfl Nat.zero_lt_one

end B6.Model.Proto.EachItem
