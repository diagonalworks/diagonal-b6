/-!
Lookup by key in a list.  The models read the first entry with a key through functions of their own (`AMap.get`,
`RefIndex.lookup`, `mfind`, `tget`, `findFeature`, `Layer.find`, `getTag`, core's `List.lookup`, …), write with
"replace the entry with the key, else append" functions (`tagSet`, `setKey`, `putFeature`, `put`, `vset`, …) and remove
by filtering.

The technique of this directory: such functions are separately compiled recursions, so no generic function is any of
them; but each satisfies the defining equations of its shape by `rfl`.  A lemma here is therefore stated about ANY
function with these equations, and no agreement lemma or rewriting is needed at the uses.  Where the lemma files of a
model use several lemmas about one function the equations are the fields of a `Prop` structure stated there once
(`IsLookup` here, `IsInsertSort`, `IsInsertSet` in `Sorted`, `IsLastIdx` in `List`): `⟨fun _ => rfl, fun _ _ _ => rfl⟩`,
then dot lemmas.  `rfl` closes a field only if the model spells the test as the field does (`key e = k`): for `k = key e`
or `key e == k` the field is `by simp only [f, eq_comm]` resp. `beq_iff_eq`; a lookup written with `find?` or
`List.lookup` gets its instance from `section instances`, e.g. `(isLookup_find?_beq Prod.fst).map Prod.snd` for
`(l.find? (·.1 == k)).map (·.2)`.
Elsewhere the equations are named hypotheses (`put_nil`, `put_cons`, `d_nil`, `d_cons`, `chk_cons`) passed as
`(fun _ => rfl) (fun _ _ _ => rfl)`; then the function is an implicit argument that unification often cannot find:
name it at the use, `(d := dedupVals)`; for the writes `key`, `put` and `upd`, a curried model function through an
adaptor on entries:
`(put := fun ix e => setKey ix e.1 e.2) (upd := fun a e => (a.1, e.2))`, `(put := putFeature) (upd := fun _ e => e)`.
Tests that the models spell differently in a filter or a dedup (`x ∈ xs`, `xs.contains x`, `decide (e.1 ≠ k)`,
`p.1 != k`) enter as a variable with the `↔` that says what they decide.  `key` and `val` are the projections of an
entry, so lists of pairs (`Prod.fst`, `Prod.snd`) and of records (`(·.id)`, `id`) are both covered.
-/
namespace B6.Lemmas.Basic
universe u v w
variable {ε : Type u} {κ : Type v} {β : Type w}

structure IsLookup [DecidableEq κ] (key : ε → κ) (val : ε → β) (look : List ε → κ → Option β) : Prop where
  nil : ∀ k, look [] k = none
  cons : ∀ e r k, look (e :: r) k = if key e = k then some (val e) else look r k

section instances
variable [DecidableEq κ]

theorem isLookup_find?_beq [BEq κ] [LawfulBEq κ] (key : ε → κ) :
    IsLookup key id (fun l k => l.find? fun e => key e == k) :=
  ⟨fun _ => rfl, fun e r k => by
    by_cases h : key e = k
    · rw [List.find?_cons_of_pos (by simpa using h), if_pos h]; rfl
    · rw [List.find?_cons_of_neg (by simpa using h), if_neg h]⟩

theorem isLookup_find? (key : ε → κ) : IsLookup key id (fun l k => l.find? fun e => decide (key e = k)) :=
  isLookup_find?_beq key

theorem isLookup_lookup [BEq κ] [LawfulBEq κ] :
    IsLookup (Prod.fst : κ × β → κ) Prod.snd (fun l k => l.lookup k) :=
  ⟨fun _ => rfl, fun e r k => by
    obtain ⟨a, b⟩ := e
    rw [List.lookup_cons]
    by_cases h : a = k
    · rw [if_pos h, beq_iff_eq.mpr h.symm]
    · rw [if_neg h, beq_eq_false_iff_ne.mpr (Ne.symm h)]⟩

/-- from finding the entry (`val := id`) to finding its value -/
theorem IsLookup.map {key : ε → κ} {look : List ε → κ → Option ε} (h : IsLookup key id look) (val : ε → β) :
    IsLookup key val (fun l k => (look l k).map val) :=
  ⟨fun k => by rw [h.nil]; rfl, fun e r k => by
    rw [h.cons]
    by_cases hk : key e = k
    · rw [if_pos hk, if_pos hk]; rfl
    · rw [if_neg hk, if_neg hk]⟩

end instances

section
variable [DecidableEq κ] {key : ε → κ} {val : ε → β} {look : List ε → κ → Option β} (h : IsLookup key val look)
include h

theorem IsLookup.cons_self (e : ε) (r : List ε) : look (e :: r) (key e) = some (val e) := by
  rw [h.cons, if_pos rfl]

theorem IsLookup.cons_ne {e : ε} {k : κ} (hk : key e ≠ k) (r : List ε) : look (e :: r) k = look r k := by
  rw [h.cons, if_neg hk]

theorem IsLookup.append (a b : List ε) (k : κ) : look (a ++ b) k = (look a k).or (look b k) := by
  induction a with
  | nil => rw [List.nil_append, h.nil, Option.none_or]
  | cons e r ih =>
    rw [List.cons_append, h.cons, h.cons, ih]
    by_cases hk : key e = k
    · rw [if_pos hk, if_pos hk]; rfl
    · rw [if_neg hk, if_neg hk]

theorem IsLookup.exists_mem_of_eq_some {l : List ε} {k : κ} {v : β} (hv : look l k = some v) : ∃ e ∈ l, key e = k ∧ val e = v := by
  induction l with
  | nil => rw [h.nil] at hv; cases hv
  | cons e r ih =>
    by_cases hk : key e = k
    · rw [h.cons, if_pos hk] at hv; exact ⟨e, .head _, hk, Option.some.inj hv⟩
    · rw [h.cons_ne hk] at hv
      obtain ⟨e', he', hk'⟩ := ih hv
      exact ⟨e', .tail _ he', hk'⟩

theorem IsLookup.eq_none_iff {l : List ε} {k : κ} : look l k = none ↔ ∀ e ∈ l, key e ≠ k := by
  induction l with
  | nil => rw [h.nil]; exact ⟨fun _ _ he => (nomatch he), fun _ => rfl⟩
  | cons e r ih =>
    rw [List.forall_mem_cons, ← ih]
    by_cases hk : key e = k
    · rw [h.cons, if_pos hk]; exact ⟨fun hs => (nomatch hs), fun hn => absurd hk hn.1⟩
    · rw [h.cons_ne hk]; exact ⟨fun hn => ⟨hk, hn⟩, And.right⟩

theorem IsLookup.of_mem {l : List ε} (hn : (l.map key).Nodup) {e : ε} (he : e ∈ l) :
    look l (key e) = some (val e) := by
  induction l with
  | nil => cases he
  | cons a r ih =>
    obtain ⟨ha, hr⟩ := List.nodup_cons.mp hn
    cases he with
    | head => exact h.cons_self _ _
    | tail _ he' => rw [h.cons_ne fun e' => ha (e' ▸ List.mem_map_of_mem he'), ih hr he']

theorem IsLookup.filter_ne {p : ε → Bool} {k : κ} (hp : ∀ e, p e = true ↔ key e ≠ k) (l : List ε) (k' : κ) :
    look (l.filter p) k' = if k' = k then none else look l k' := by
  induction l with
  | nil => rw [List.filter_nil, h.nil, ite_self]
  | cons e r ih =>
    by_cases he : key e = k
    · rw [List.filter_cons_of_neg (fun hpe => (hp e).mp hpe he), ih]
      by_cases hk : k' = k
      · rw [if_pos hk, if_pos hk]
      · rw [if_neg hk, if_neg hk, h.cons_ne fun e' => hk (e'.symm.trans he)]
    · rw [List.filter_cons_of_pos ((hp e).mpr he)]
      by_cases hk : key e = k'
      · rw [h.cons, h.cons, if_pos hk, if_pos hk, if_neg fun e' => he (hk.trans e')]
      · rw [h.cons_ne hk, h.cons_ne hk, ih]

end

/-! Replace the entry with the key, else append: `upd a e` is what is written over an entry `a` with the key of `e`:
`e` itself (`putFeature`, `put`) or `a` with the value of `e` (`tagSet`, `setKey`, `vset` write `(k, t.2)`).  Each lemma
asks of `upd` only what it needs: the lookup that key and value are those of `e` (`key_val_upd`), the keys that the key
is (`key_upd`), membership that the written entry is `e` itself (`upd_eq`: the first kind of `upd`, or pairs). -/

section upsert
variable [DecidableEq κ] {key : ε → κ} {put : List ε → ε → List ε} {upd : ε → ε → ε}
  (put_nil : ∀ e, put [] e = [e])
  (put_cons : ∀ a r e, put (a :: r) e = if key a = key e then upd a e :: r else a :: put r e)
include put_nil put_cons

theorem IsLookup.upsert {val : ε → β} {look : List ε → κ → Option β} (h : IsLookup key val look)
    (key_val_upd : ∀ a e, key a = key e → key (upd a e) = key e ∧ val (upd a e) = val e)
    (l : List ε) (e : ε) (k : κ) : look (put l e) k = if k = key e then some (val e) else look l k := by
  induction l with
  | nil => rw [put_nil, h.cons, h.nil]; exact ite_congr (propext eq_comm) (fun _ => rfl) (fun _ => rfl)
  | cons a r ih =>
    rw [put_cons]
    by_cases ha : key a = key e
    · rw [if_pos ha]
      by_cases hk : k = key e
      · rw [if_pos hk, h.cons, if_pos ((key_val_upd a e ha).1.trans hk.symm), (key_val_upd a e ha).2]
      · rw [if_neg hk, h.cons_ne fun e' => hk (e'.symm.trans (key_val_upd a e ha).1),
          h.cons_ne fun e' => hk (e'.symm.trans ha)]
    · rw [if_neg ha]
      by_cases hk : key a = k
      · rw [h.cons, h.cons, if_pos hk, if_pos hk, if_neg fun e' => ha (hk.trans e')]
      · rw [h.cons_ne hk, h.cons_ne hk, ih]

theorem keys_upsert (key_upd : ∀ a e, key a = key e → key (upd a e) = key e) (l : List ε) (e : ε) :
    (put l e).map key = if key e ∈ l.map key then l.map key else l.map key ++ [key e] := by
  induction l with
  | nil => rw [put_nil]; rfl
  | cons a r ih =>
    rw [put_cons]
    by_cases ha : key a = key e
    · rw [if_pos ha, List.map_cons, key_upd a e ha, List.map_cons, ha, if_pos (.head _)]
    · rw [if_neg ha, List.map_cons, ih, List.map_cons]
      by_cases hm : key e ∈ r.map key
      · rw [if_pos hm, if_pos (.tail _ hm)]
      · rw [if_neg hm, if_neg fun hm' => (List.mem_cons.mp hm').elim (fun e' => ha e'.symm) hm]; rfl

theorem nodup_upsert (key_upd : ∀ a e, key a = key e → key (upd a e) = key e) {l : List ε}
    (hn : (l.map key).Nodup) (e : ε) : ((put l e).map key).Nodup := by
  rw [keys_upsert put_nil put_cons key_upd]
  split
  · exact hn
  · next hm => exact List.nodup_append.mpr ⟨hn, List.pairwise_singleton _ _, fun a ha b hb =>
      fun e' => hm (List.mem_singleton.mp hb ▸ e' ▸ ha)⟩

theorem mem_upsert (upd_eq : ∀ a e, key a = key e → upd a e = e) {l : List ε} (hn : (l.map key).Nodup)
    {e g : ε} : g ∈ put l e ↔ g = e ∨ (g ∈ l ∧ key g ≠ key e) := by
  induction l with
  | nil => rw [put_nil, List.mem_singleton]; exact ⟨Or.inl, fun h => h.elim id fun h => nomatch h.1⟩
  | cons a r ih =>
    obtain ⟨ha, hr⟩ := List.nodup_cons.mp hn
    rw [put_cons]
    by_cases hk : key a = key e
    · rw [if_pos hk, upd_eq a e hk, List.mem_cons]
      refine or_congr_right ⟨fun hg => ⟨.tail _ hg, fun e' => ha (hk ▸ e' ▸ List.mem_map_of_mem hg)⟩, fun hg => ?_⟩
      exact (List.mem_cons.mp hg.1).elim (fun e' => absurd (e' ▸ hk) hg.2) id
    · rw [if_neg hk, List.mem_cons, ih hr, List.mem_cons]
      constructor
      · rintro (rfl | hg | hg)
        · exact .inr ⟨.inl rfl, hk⟩
        · exact .inl hg
        · exact .inr ⟨.inr hg.1, hg.2⟩
      · rintro (hg | ⟨hg | hg, hne⟩)
        · exact .inr (.inl hg)
        · exact .inl hg
        · exact .inr (.inr ⟨hg, hne⟩)

end upsert

theorem keys_filter_ne [DecidableEq κ] {key : ε → κ} {p : ε → Bool} {k : κ} (hp : ∀ e, p e = true ↔ key e ≠ k)
    (l : List ε) : (l.filter p).map key = (l.map key).filter fun x => decide (x ≠ k) := by
  rw [List.filter_map]
  exact congrArg _ (List.filter_congr fun e _ => Bool.eq_iff_iff.mpr ((hp e).trans decide_eq_true_iff.symm))

theorem nodup_map_filter {key : ε → κ} (p : ε → Bool) {l : List ε} (hn : (l.map key).Nodup) :
    ((l.filter p).map key).Nodup :=
  hn.sublist (List.filter_sublist.map key)

end B6.Lemmas.Basic
