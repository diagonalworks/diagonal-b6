/-!
`List.mapM` in `Option` and `Except`: it succeeds with `ys` exactly when `f` sends `xs` elementwise to the successes
`ys`, written as an equation between two `map`s (`mapM_some_iff`, `mapM_ok_iff`).  Everything else one wants of a
successful `mapM` (lengths, members, order, what another function does to the results) is then a fact about
`xs.map f = ys.map c` with `c` the constructor of successes, `some` or `Except.ok` (`mapEq_*`).
-/
namespace B6.Lemmas.Basic

/-! `>>=`, `pure`, `<$>` of `Except` unfolded; in a namespace of its own: other result types have such lemmas too -/

namespace Except

theorem bind_ok_iff {ε α β : Type} (x : Except ε α) (f : α → Except ε β) (b : β) :
    (x >>= f) = .ok b ↔ ∃ a, x = .ok a ∧ f a = .ok b := by
  cases x <;> simp [bind, Except.bind]

theorem pure_ok_iff {ε α : Type} (a b : α) : (pure a : Except ε α) = .ok b ↔ a = b := by
  simp [pure, Except.pure]

theorem map_ok_iff {ε α β : Type} (f : α → β) (x : Except ε α) (b : β) :
    f <$> x = .ok b ↔ ∃ a, x = .ok a ∧ f a = b := by
  cases x <;> simp [Functor.map, Except.map]

end Except

open B6.Lemmas.Basic.Except

theorem mapM_ok_iff {α β ε : Type} (f : α → Except ε β) : ∀ (xs : List α) (ys : List β),
    xs.mapM f = .ok ys ↔ xs.map f = ys.map .ok := by
  intro xs
  induction xs with
  | nil => intro ys; cases ys <;> simp [pure_ok_iff]
  | cons x xs ih =>
    intro ys
    simp only [List.mapM_cons, bind_ok_iff, pure_ok_iff, ih, List.map_cons]
    cases ys with
    | nil => simp
    | cons y ys =>
      simp only [List.map_cons, List.cons.injEq]
      constructor
      · rintro ⟨a, ha, l, hl, rfl, rfl⟩; exact ⟨ha, hl⟩
      · rintro ⟨ha, hl⟩; exact ⟨y, ha, ys, hl, rfl, rfl⟩

theorem mapM_some_iff {α β : Type} (f : α → Option β) : ∀ (xs : List α) (ys : List β),
    xs.mapM f = some ys ↔ xs.map f = ys.map some := by
  intro xs
  induction xs with
  | nil => intro ys; cases ys <;> simp
  | cons x xs ih =>
    intro ys
    simp only [List.mapM_cons, Option.bind_eq_bind, Option.bind_eq_some_iff, Option.pure_def, Option.some.injEq,
      ih, List.map_cons]
    cases ys with
    | nil => simp
    | cons y ys =>
      simp only [List.map_cons, List.cons.injEq]
      constructor
      · rintro ⟨a, ha, l, hl, rfl, rfl⟩; exact ⟨ha, hl⟩
      · rintro ⟨ha, hl⟩; exact ⟨y, ha, ys, hl, rfl, rfl⟩

theorem mapM_congr {m : Type → Type} [Monad m] [LawfulMonad m] {α β : Type} {f g : α → m β} {l : List α}
    (h : ∀ x ∈ l, f x = g x) : l.mapM f = l.mapM g := by
  induction l with
  | nil => rfl
  | cons x xs ih => rw [List.mapM_cons, List.mapM_cons, h x (.head _), ih fun y hy => h y (.tail _ hy)]

section mapEq
variable {α β γ : Type} {f : α → γ} {c : β → γ}

theorem mapEq_length {xs : List α} {ys : List β} (h : xs.map f = ys.map c) : ys.length = xs.length := by
  simpa using (congrArg List.length h).symm

theorem mapEq_of_mem_right {xs : List α} {ys : List β} (h : xs.map f = ys.map c) {y : β} (hy : y ∈ ys) :
    ∃ x ∈ xs, f x = c y :=
  List.mem_map.mp (h ▸ List.mem_map_of_mem hy)

theorem mapEq_of_mem_left {xs : List α} {ys : List β} (h : xs.map f = ys.map c) {x : α} (hx : x ∈ xs) :
    ∃ y ∈ ys, f x = c y := by
  obtain ⟨y, hy, e⟩ := List.mem_map.mp (h ▸ List.mem_map_of_mem (f := f) hx)
  exact ⟨y, hy, e.symm⟩

theorem mapEq_pairwise {xs : List α} {ys : List β} (h : xs.map f = ys.map c) {R : α → α → Prop}
    {S : β → β → Prop} (H : ∀ a a' b b', R a a' → f a = c b → f a' = c b' → S b b') (hR : xs.Pairwise R) :
    ys.Pairwise S := by
  have h1 : (xs.map f).Pairwise (fun u v => ∀ b b', u = c b → v = c b' → S b b') :=
    List.pairwise_map.mpr (hR.imp fun hab b b' => H _ _ b b' hab)
  rw [h] at h1
  exact (List.pairwise_map.mp h1).imp fun hS => hS _ _ rfl rfl

theorem mapEq_flip {δ : Type} {g : β → δ} {d : α → δ} : ∀ (xs : List α) (ys : List β), xs.map f = ys.map c →
    (∀ x ∈ xs, ∀ y, f x = c y → g y = d x) → ys.map g = xs.map d := by
  intro xs
  induction xs with
  | nil => intro ys h _; cases ys <;> simp_all
  | cons x xs ih =>
    intro ys h hinv
    cases ys with
    | nil => simp at h
    | cons y ys =>
      simp only [List.map_cons, List.cons.injEq] at h ⊢
      exact ⟨hinv x (by simp) y h.1, ih ys h.2 fun x' hx' => hinv x' (by simp [hx'])⟩

theorem mapEq_exists : ∀ xs : List α, (∀ x ∈ xs, ∃ y, f x = c y) → ∃ ys : List β, xs.map f = ys.map c := by
  intro xs
  induction xs with
  | nil => intro _; exact ⟨[], rfl⟩
  | cons x xs ih =>
    intro h
    obtain ⟨y, hy⟩ := h x (by simp)
    obtain ⟨ys, hys⟩ := ih fun x' hx' => h x' (by simp [hx'])
    exact ⟨y :: ys, by simp [hy, hys]⟩

end mapEq

theorem mapM_ok_of_forall {α β ε : Type} (f : α → Except ε β) (xs : List α) (h : ∀ x ∈ xs, ∃ y, f x = .ok y) :
    ∃ ys, xs.mapM f = .ok ys ∧ ys.length = xs.length :=
  (mapEq_exists xs h).imp fun ys hys => ⟨(mapM_ok_iff f xs ys).mpr hys, mapEq_length hys⟩

theorem mapM_some_of_forall {α β : Type} (f : α → Option β) (xs : List α) (h : ∀ x ∈ xs, ∃ y, f x = some y) :
    ∃ ys, xs.mapM f = some ys ∧ ys.length = xs.length :=
  (mapEq_exists xs h).imp fun ys hys => ⟨(mapM_some_iff f xs ys).mpr hys, mapEq_length hys⟩

theorem exists_of_mapM_some {α β : Type} {f : α → Option β} {xs : List α} {ys : List β} (h : xs.mapM f = some ys)
    {x : α} (hx : x ∈ xs) : ∃ y, f x = some y :=
  (mapEq_of_mem_left ((mapM_some_iff f xs ys).mp h) hx).imp fun _ h => h.2

end B6.Lemmas.Basic
