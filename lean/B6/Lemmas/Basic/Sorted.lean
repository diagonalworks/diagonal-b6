/-!
Sorted lists.  Each model inserts into a sorted list with a function of its own (`insertById`, `insertRef`, `insertNs`,
`iterInsert`, `insertSorted`, …), plain or dropping a duplicate, and sorts by folding it; the lemmas are about any `ins`
and `sort` with the defining equations (the technique of `B6.Lemmas.Basic.AssocList`).  `sort` is anything with
`sort (x :: xs) = ins x (sort xs)`: `xs.foldr ins []` (also for a model that has only the `ins`) as well as the
recursive sorts.  A model's lemma file says once that its pair of functions is such a sort:
`IsInsertSort R ins sort := ⟨fun _ => rfl, fun _ _ _ => rfl, rfl, fun _ _ => rfl⟩` with `.ins_perm`, `.mem_ins`,
`.ins_pairwise`, `.perm`, `.mem`, `.length_eq`, `.pairwise`, and `.pairwise_of` when the test `R` is not the order `S`
the list is sorted by but only decides it (`R x y → S x y`, `¬ R x y → S y x`); or, when `ins` drops what the test `E`
calls equal, `IsInsertSet R E ins sort` (a fifth field, third in order: `E x y → x = y`) with `.mem_ins`, `.ins_pairwise`,
`.mem`, `.length_le`, `.pairwise`.
Then lists sorted by a strict order in general, on `List.Pairwise` (in the root namespace: `hs.takeWhile_eq_filter …` on a
hypothesis): determined by their members, indices compare as the elements do, a test that passes from an element to
every earlier one makes `takeWhile` and `dropWhile` `filter`s (so membership in them is `List.mem_filter`); a check of
neighbours establishes `Pairwise`.  Last, one level of a lexicographic order (`lex_trans`, `lex_total`).
-/
namespace B6.Lemmas.Basic
universe u
variable {α : Type u}

structure IsInsertSort (R : α → α → Prop) [DecidableRel R] (ins : α → List α → List α) (sort : List α → List α) :
    Prop where
  ins_nil : ∀ x, ins x [] = [x]
  ins_cons : ∀ x y ys, ins x (y :: ys) = if R x y then x :: y :: ys else y :: ins x ys
  sort_nil : sort [] = []
  sort_cons : ∀ x xs, sort (x :: xs) = ins x (sort xs)

namespace IsInsertSort
variable {R : α → α → Prop} [DecidableRel R] {ins : α → List α → List α} {sort : List α → List α}
  (h : IsInsertSort R ins sort)
include h

theorem ins_perm (x : α) (l : List α) : (ins x l).Perm (x :: l) := by
  induction l with
  | nil => rw [h.ins_nil]
  | cons y ys ih =>
    rw [h.ins_cons]
    split
    · exact .refl _
    · exact (ih.cons y).trans (.swap x y ys)

theorem mem_ins {x z : α} {l : List α} : z ∈ ins x l ↔ z = x ∨ z ∈ l := (h.ins_perm x l).mem_iff.trans List.mem_cons

theorem ins_pairwise {S : α → α → Prop} (hRS : ∀ {a b}, R a b → S a b) (hnR : ∀ {a b}, ¬ R a b → S b a)
    (trans : ∀ {a b c}, S a b → S b c → S a c) (x : α) {l : List α} (hl : l.Pairwise S) :
    (ins x l).Pairwise S := by
  induction l with
  | nil => rw [h.ins_nil]; exact List.pairwise_singleton S x
  | cons y ys ih =>
    obtain ⟨hy, hys⟩ := List.pairwise_cons.mp hl
    rw [h.ins_cons]
    split
    next hxy =>
      exact List.pairwise_cons.mpr
        ⟨fun z hz => (List.mem_cons.mp hz).elim (· ▸ hRS hxy) fun hz => trans (hRS hxy) (hy z hz), hl⟩
    next hxy =>
      exact List.pairwise_cons.mpr
        ⟨fun z hz => (h.mem_ins.mp hz).elim (· ▸ hnR hxy) (hy z), ih hys⟩

theorem perm (l : List α) : (sort l).Perm l := by
  induction l with
  | nil => rw [h.sort_nil]
  | cons x xs ih => rw [h.sort_cons]; exact (h.ins_perm x _).trans (ih.cons x)

theorem mem {z : α} {l : List α} : z ∈ sort l ↔ z ∈ l := (h.perm l).mem_iff

theorem length_eq (l : List α) : (sort l).length = l.length := (h.perm l).length_eq

theorem pairwise_of {S : α → α → Prop} (hRS : ∀ {a b}, R a b → S a b) (hnR : ∀ {a b}, ¬ R a b → S b a)
    (trans : ∀ {a b c}, S a b → S b c → S a c) (l : List α) : (sort l).Pairwise S := by
  induction l with
  | nil => rw [h.sort_nil]; exact .nil
  | cons x xs ih => rw [h.sort_cons]; exact h.ins_pairwise hRS hnR trans x ih

theorem pairwise (total : ∀ {a b}, ¬ R a b → R b a) (trans : ∀ {a b c}, R a b → R b c → R a c) (l : List α) :
    (sort l).Pairwise R := h.pairwise_of id total trans l

end IsInsertSort

/-- for an `ins` that tests equality first: its `ins_cons` field is `fun x y ys => ite_eq_first (fun e => …) _ _ _` -/
theorem ite_eq_first {β : Sort u} {E R : Prop} [Decidable E] [Decidable R] (h : E → ¬ R) (a b c : β) :
    (if E then b else if R then a else c) = if R then a else if E then b else c := by
  by_cases hE : E
  · rw [if_pos hE, if_neg (h hE), if_pos hE]
  · rw [if_neg hE, if_neg hE]

structure IsInsertSet (R E : α → α → Prop) [DecidableRel R] [DecidableRel E] (ins : α → List α → List α)
    (sort : List α → List α) : Prop where
  ins_nil : ∀ x, ins x [] = [x]
  ins_cons : ∀ x y ys, ins x (y :: ys) = if R x y then x :: y :: ys else if E x y then y :: ys else y :: ins x ys
  eq_of_E : ∀ {x y}, E x y → x = y
  sort_nil : sort [] = []
  sort_cons : ∀ x xs, sort (x :: xs) = ins x (sort xs)

namespace IsInsertSet
variable {R E : α → α → Prop} [DecidableRel R] [DecidableRel E] {ins : α → List α → List α}
  {sort : List α → List α} (h : IsInsertSet R E ins sort)
include h

theorem mem_ins {x z : α} {l : List α} : z ∈ ins x l ↔ z = x ∨ z ∈ l := by
  induction l with
  | nil => rw [h.ins_nil, List.mem_singleton]; exact (or_iff_left (List.not_mem_nil (a := z))).symm
  | cons y ys ih =>
    rw [h.ins_cons]
    by_cases hR : R x y
    · rw [if_pos hR]; exact List.mem_cons
    · rw [if_neg hR]
      by_cases he : E x y
      · rw [if_pos he]; exact ⟨Or.inr, fun hz => hz.elim (fun hz => hz ▸ h.eq_of_E he ▸ .head _) id⟩
      · rw [if_neg he, List.mem_cons, ih, List.mem_cons]; exact or_left_comm

theorem ins_pairwise (total : ∀ {a b}, ¬ R a b → ¬ E a b → R b a) (trans : ∀ {a b c}, R a b → R b c → R a c)
    (x : α) {l : List α} (hl : l.Pairwise R) : (ins x l).Pairwise R := by
  induction l with
  | nil => rw [h.ins_nil]; exact List.pairwise_singleton R x
  | cons y ys ih =>
    obtain ⟨hy, hys⟩ := List.pairwise_cons.mp hl
    rw [h.ins_cons]
    by_cases hR : R x y
    · rw [if_pos hR]
      exact List.pairwise_cons.mpr
        ⟨fun z hz => (List.mem_cons.mp hz).elim (· ▸ hR) fun hz => trans hR (hy z hz), hl⟩
    · rw [if_neg hR]
      by_cases he : E x y
      · rw [if_pos he]; exact hl
      · rw [if_neg he]
        exact List.pairwise_cons.mpr
          ⟨fun z hz => (h.mem_ins.mp hz).elim (· ▸ total hR he) (hy z), ih hys⟩

theorem mem {z : α} {l : List α} : z ∈ sort l ↔ z ∈ l := by
  induction l with
  | nil => rw [h.sort_nil]
  | cons x xs ih => rw [h.sort_cons, h.mem_ins, ih, List.mem_cons]

theorem length_ins_le (x : α) (l : List α) : (ins x l).length ≤ l.length + 1 := by
  induction l with
  | nil => rw [h.ins_nil]; exact Nat.le_refl _
  | cons y ys ih =>
    rw [h.ins_cons]
    by_cases hR : R x y
    · rw [if_pos hR]; exact Nat.le_refl _
    · rw [if_neg hR]
      by_cases he : E x y
      · rw [if_pos he]; exact Nat.le_succ _
      · rw [if_neg he]; exact Nat.succ_le_succ ih

theorem length_le (l : List α) : (sort l).length ≤ l.length := by
  induction l with
  | nil => rw [h.sort_nil]; exact Nat.le_refl _
  | cons x xs ih => rw [h.sort_cons]; exact Nat.le_trans (h.length_ins_le x _) (Nat.succ_le_succ ih)

theorem pairwise (total : ∀ {a b}, ¬ R a b → ¬ E a b → R b a) (trans : ∀ {a b c}, R a b → R b c → R a c)
    (l : List α) : (sort l).Pairwise R := by
  induction l with
  | nil => rw [h.sort_nil]; exact .nil
  | cons x xs ih => rw [h.sort_cons]; exact h.ins_pairwise total trans x ih

end IsInsertSet

theorem _root_.List.Pairwise.nodup_of_irrefl {lt : α → α → Prop} (irrefl : ∀ a, ¬ lt a a) {l : List α}
    (h : l.Pairwise lt) : l.Nodup :=
  List.Pairwise.imp (S := (· ≠ ·)) (fun hab e => irrefl _ (e ▸ hab)) h

theorem _root_.List.Pairwise.ext_of_asymm {lt : α → α → Prop} (asymm : ∀ a b, lt a b → ¬ lt b a) {a b : List α}
    (ha : a.Pairwise lt) (hb : b.Pairwise lt) (h : ∀ x, x ∈ a ↔ x ∈ b) : a = b :=
  have irrefl : ∀ x, ¬ lt x x := fun x hx => asymm x x hx hx
  List.Perm.eq_of_pairwise (fun x y _ _ hxy hyx => absurd hyx (asymm x y hxy)) ha hb
    ((List.perm_ext_iff_of_nodup (ha.nodup_of_irrefl irrefl) (hb.nodup_of_irrefl irrefl)).mpr h)

theorem _root_.List.Pairwise.rel_of_getElem? {R : α → α → Prop} {l : List α} (h : l.Pairwise R) {i j : Nat} {a b : α}
    (hi : l[i]? = some a) (hj : l[j]? = some b) (hij : i < j) : R a b := by
  obtain ⟨hi', rfl⟩ := List.getElem?_eq_some_iff.mp hi
  obtain ⟨hj', rfl⟩ := List.getElem?_eq_some_iff.mp hj
  exact List.pairwise_iff_getElem.mp h i j hi' hj' hij

theorem _root_.List.Pairwise.lt_of_not_rel {R : α → α → Prop} {l : List α} (h : l.Pairwise R) {i j : Nat} {a b : α}
    (hi : l[i]? = some a) (hj : l[j]? = some b) (hba : ¬ R b a) (hne : a ≠ b) : i < j :=
  Nat.lt_of_not_le fun hji => by
    rcases Nat.lt_or_eq_of_le hji with hlt | rfl
    · exact hba (h.rel_of_getElem? hj hi hlt)
    · exact hne (Option.some.inj (hi.symm.trans hj))

theorem _root_.List.Pairwise.getElem?_lt_iff {lt : α → α → Prop} (asymm : ∀ a b, lt a b → ¬ lt b a) {l : List α}
    (h : l.Pairwise lt) {i j : Nat} {a b : α} (hi : l[i]? = some a) (hj : l[j]? = some b) :
    lt a b ↔ i < j := by
  exact ⟨fun hab => h.lt_of_not_rel hi hj (asymm a b hab) fun e => asymm a a (e ▸ hab) (e ▸ hab),
    h.rel_of_getElem? hi hj⟩

/-- on a list sorted by `R`, a test that passes from an element to every earlier one holds exactly on a prefix -/
theorem _root_.List.Pairwise.takeWhile_eq_filter {R : α → α → Prop} {p : α → Bool} :
    ∀ {l : List α}, l.Pairwise R → (∀ x ∈ l, ∀ y ∈ l, R x y → p y = true → p x = true) →
      l.takeWhile p = l.filter p
  | [], _, _ => rfl
  | a :: l, hs, down => by
    obtain ⟨ha, hs⟩ := List.pairwise_cons.1 hs
    rw [List.takeWhile_cons, List.filter_cons]
    cases hp : p a with
    | true =>
      exact congrArg (a :: ·) (hs.takeWhile_eq_filter fun x hx y hy =>
        down x (List.mem_cons_of_mem _ hx) y (List.mem_cons_of_mem _ hy))
    | false =>
      exact (List.filter_eq_nil_iff.2 fun y hy hpy =>
        Bool.false_ne_true (hp.symm.trans (down a List.mem_cons_self y (List.mem_cons_of_mem _ hy) (ha y hy) hpy))).symm

theorem _root_.List.Pairwise.dropWhile_eq_filter {R : α → α → Prop} {p : α → Bool} :
    ∀ {l : List α}, l.Pairwise R → (∀ x ∈ l, ∀ y ∈ l, R x y → p y = true → p x = true) →
      l.dropWhile p = l.filter (fun x => !p x)
  | [], _, _ => rfl
  | a :: l, hs, down => by
    obtain ⟨ha, hs'⟩ := List.pairwise_cons.1 hs
    rw [List.dropWhile_cons, List.filter_cons]
    cases hp : p a with
    | true =>
      exact hs'.dropWhile_eq_filter fun x hx y hy =>
        down x (List.mem_cons_of_mem _ hx) y (List.mem_cons_of_mem _ hy)
    | false =>
      refine congrArg (a :: ·) (List.filter_eq_self.2 fun y hy => ?_).symm
      cases hpy : p y with
      | false => rfl
      | true => exact absurd (down a List.mem_cons_self y (List.mem_cons_of_mem _ hy) (ha y hy) hpy) (by simp [hp])

/-- `chk` is a model's sortedness check, `t` its test of two neighbours; `trans` is asked on the members of `l` only, for
orders that are transitive only there -/
theorem pairwise_of_chain {chk : List α → Bool} {t : α → α → Bool} {R : α → α → Prop}
    (chk_cons : ∀ a b r, chk (a :: b :: r) = (t a b && chk (b :: r))) (ht : ∀ {a b}, t a b = true → R a b)
    {l : List α} (trans : ∀ a ∈ l, ∀ b ∈ l, ∀ c ∈ l, R a b → R b c → R a c) (h : chk l = true) :
    l.Pairwise R := by
  induction l with
  | nil => exact .nil
  | cons a l ih =>
    cases l with
    | nil => exact List.pairwise_singleton R a
    | cons b r =>
      rw [chk_cons, Bool.and_eq_true] at h
      have ih := ih (fun x hx y hy z hz => trans x (.tail _ hx) y (.tail _ hy) z (.tail _ hz)) h.2
      refine List.pairwise_cons.mpr ⟨fun z hz => ?_, ih⟩
      rcases List.mem_cons.mp hz with rfl | hz'
      · exact ht h.1
      · exact trans a (.head _) b (.tail _ (.head _)) z (.tail _ hz) (ht h.1) ((List.pairwise_cons.mp ih).1 z hz')

/-- transitivity of `lt x y ∨ x = y ∧ P`, one level of a lexicographic order, from that of `lt` and of the levels below -/
theorem lex_trans {lt : α → α → Prop} (tr : ∀ {x y z : α}, lt x y → lt y z → lt x z) {x y z : α} {P Q R : Prop}
    (t : P → Q → R) : lt x y ∨ x = y ∧ P → lt y z ∨ y = z ∧ Q → lt x z ∨ x = z ∧ R
  | .inl h1, .inl h2 => .inl (tr h1 h2)
  | .inl h1, .inr ⟨e, _⟩ => .inl (e ▸ h1)
  | .inr ⟨e, _⟩, .inl h2 => .inl (e ▸ h2)
  | .inr ⟨e, p⟩, .inr ⟨e', q⟩ => .inr ⟨e.trans e', t p q⟩

/-- trichotomy of the same level: `E` is "equal at the levels below"; the innermost call gets a plain trichotomy, and an
equation of records is first rewritten to the conjunction of field equations.  Both `lex_*` want `(lt := (· < ·))`. -/
theorem lex_total {lt : α → α → Prop} (tri : ∀ x y : α, lt x y ∨ x = y ∨ lt y x) {x y : α} {P E P' : Prop}
    (t : P ∨ E ∨ P') : (lt x y ∨ x = y ∧ P) ∨ (x = y ∧ E) ∨ (lt y x ∨ y = x ∧ P') := by
  rcases tri x y with h | h | h
  · exact .inl (.inl h)
  · rcases t with p | e | p'
    · exact .inl (.inr ⟨h, p⟩)
    · exact .inr (.inl ⟨h, e⟩)
    · exact .inr (.inr (.inr ⟨h.symm, p'⟩))
  · exact .inr (.inr (.inl h))

end B6.Lemmas.Basic
