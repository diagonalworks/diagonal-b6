/-!
De-duplication.  The models remove duplicates with functions of their own, in two shapes: keep an element unless
it occurs later (`if x ∈ xs then d xs else x :: d xs`, the test read off the tail or off the result), or keep it and
filter it out of the rest (`x :: (d xs).filter (· ≠ x)`).  Both lemmas are about any `d` with the defining equations of
its shape (the technique of `B6.Lemmas.Basic.AssocList`), and give both halves of what `d` is for at once: no
duplicates, same members.  A conjunction and not a definition: both halves come out of one induction, and a use takes
`.1` or `.2` without unfolding anything.
-/
namespace B6.Lemmas.Basic
universe u
variable {α : Type u}

/-- `c x xs` only has to decide `x ∈ xs` once `d xs` is known to have the members of `xs`, so it may be `x ∈ xs`,
`xs.contains x`, `x ∈ d xs` or `(d xs).contains x` -/
theorem dedup_keepLast {d : List α → List α} {c : α → List α → Prop} [∀ x xs, Decidable (c x xs)]
    (hc : ∀ x xs, (∀ y, y ∈ d xs ↔ y ∈ xs) → (c x xs ↔ x ∈ xs))
    (d_nil : d [] = []) (d_cons : ∀ x xs, d (x :: xs) = if c x xs then d xs else x :: d xs) (l : List α) :
    (d l).Nodup ∧ ∀ x, x ∈ d l ↔ x ∈ l := by
  induction l with
  | nil => rw [d_nil]; exact ⟨List.nodup_nil, fun _ => Iff.rfl⟩
  | cons x xs ih =>
    have hx := hc x xs ih.2
    rw [d_cons]
    split
    · next h => exact ⟨ih.1, fun y => (ih.2 y).trans
        ⟨List.mem_cons_of_mem _, fun hy => (List.mem_cons.mp hy).elim (· ▸ hx.mp h) id⟩⟩
    · next h => exact ⟨List.nodup_cons.mpr ⟨fun hm => h (hx.mpr ((ih.2 x).mp hm)), ih.1⟩,
        fun y => by rw [List.mem_cons, List.mem_cons, ih.2]⟩

theorem dedup_keepFirst {d : List α → List α} {p : α → α → Bool} (hp : ∀ x y, p x y = true ↔ y ≠ x)
    (d_nil : d [] = []) (d_cons : ∀ x xs, d (x :: xs) = x :: (d xs).filter (p x)) (l : List α) :
    (d l).Nodup ∧ ∀ x, x ∈ d l ↔ x ∈ l := by
  induction l with
  | nil => rw [d_nil]; exact ⟨List.nodup_nil, fun _ => Iff.rfl⟩
  | cons x xs ih =>
    rw [d_cons]
    refine ⟨List.nodup_cons.mpr ⟨fun hm => (hp x x).mp (List.mem_filter.mp hm).2 rfl, ih.1.filter _⟩, fun y => ?_⟩
    rw [List.mem_cons, List.mem_cons, List.mem_filter, ih.2, hp]
    exact ⟨fun h => h.imp_right And.left,
      fun h => (Classical.em (y = x)).imp_right fun hne => ⟨h.resolve_left hne, hne⟩⟩

end B6.Lemmas.Basic
