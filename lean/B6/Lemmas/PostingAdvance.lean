import B6.Lemmas.Posting
/-!
# Posting lists: canonical cursor states, `sort.Search`, the scan loop of `Advance`

`Canon pl ids it done rest` — the iterator state `it` is the one reached by reading exactly `done`
(`ids = done ++ rest`): the layout of `rest` starts at `it.i`, `it.value`/`it.ns` describe the last id of `done`, and
the first id of the block `it.i` lies in is known to be in `done`.  `Next` moves between canonical states
(`canon_next`); `searchLoop_spec` is the invariant of `sort.Search` that `Advance` needs (`r = 0 ∨ ¬ f (r-1)`, no
monotonicity assumed); `scan_canon` is the loop `for i.Next() { if !i.FeatureID().Less(id) { return true } }`.
-/
namespace B6.Model.Posting
open B6.Model.Varint

theorem searchLoop_spec (f : Nat → Except Err Bool) (n : Nat) (hf : ∀ h, h < n → ∃ b, f h = .ok b) :
    ∀ fuel i j, j - i < fuel → i ≤ j → j ≤ n → (0 < i → f (i - 1) = .ok false) →
    ∃ r, searchLoop f fuel i j = .ok r ∧ r ≤ n ∧ (0 < r → f (r - 1) = .ok false) := by
  intro fuel i j hfu hij hjn hinv
  have hmid {i j : Nat} (h : i < j) : i ≤ (i + j) / 2 ∧ (i + j) / 2 < j := by omega
  fun_induction searchLoop f fuel i j with
  | case1 i j => exact absurd hfu (Nat.not_lt_zero _)
  | case2 fuel i j hlt h e he =>
    obtain ⟨b, hb⟩ := hf h (Nat.lt_of_lt_of_le (hmid hlt).2 hjn)
    exact nomatch he.symm.trans hb
  | case3 fuel i j hlt h hb ih =>
    obtain ⟨h1, h2⟩ := hmid hlt
    exact ih (Nat.lt_of_lt_of_le (Nat.sub_lt_sub_left hlt (Nat.lt_succ_of_le h1)) (Nat.le_of_lt_succ hfu)) h2 hjn
      (fun _ => hb)
  | case4 fuel i j hlt h hb ih =>
    obtain ⟨h1, h2⟩ := hmid hlt
    exact ih (Nat.lt_of_lt_of_le (Nat.sub_lt_sub_right h1 h2) (Nat.le_of_lt_succ hfu)) h1
      (Nat.le_trans (Nat.le_of_lt h2) hjn) hinv
  | case5 _ i j _ => exact ⟨i, rfl, Nat.le_trans hij hjn, hinv⟩

theorem search_spec (f : Nat → Except Err Bool) (n : Nat) (hf : ∀ h, h < n → ∃ b, f h = .ok b) :
    ∃ r, search n f = .ok r ∧ r ≤ n ∧ (0 < r → f (r - 1) = .ok false) := by
  unfold search
  exact searchLoop_spec f n hf (n + 1) 0 n (Nat.lt_succ_self n) (Nat.zero_le _) (Nat.le_refl _) (fun h => absurd h (Nat.lt_irrefl 0))

/-- what the `Advance` proofs assume of a posting list `pl`, the file's table and the id list; `fill` provides all of
it (`ctx_fill`, Props/C08) -/
structure Ctx (pl : PostingList) (tbl : Table) (ids : List Id) : Prop where
  lay : Lay pl.ids pl.header.namespaces 0 0 0 ids
  sortedNs : NssSorted pl.header.namespaces
  aligned : ∀ e ∈ pl.header.namespaces, e.2 % 64 = 0
  inRange : ∀ e ∈ pl.header.namespaces, e.2 < pl.ids.length
  sorted : SortedIds ids
  valid : ValidIds ids
  tblOK : TableOK tbl
  tnOK : ∀ id ∈ ids, TnOK tbl id.1

/-- `it` is the state of an iterator that has read exactly `done`.  `nextNs` has `≤` where `Lay` and `AtBlock` have `<`
for the same neighbour entry: after a read the cursor may stand exactly on the block start with which the next
namespace entry begins (`le_aligned_after`). -/
structure Canon (pl : PostingList) (ids : List Id) (it : It) (done rest : List Id) : Prop where
  split : ids = done ++ rest
  lay : Lay pl.ids pl.header.namespaces it.i it.value it.ns rest
  start : done = [] → it = It.start
  cur : ∀ c, done.getLast? = some c →
    it.value = c.2 ∧ (∃ idx, pl.header.namespaces[it.ns]? = some (c.1, idx) ∧ idx ≤ it.i) ∧ 0 < it.i
  block : ∀ c, done.getLast? = some c → it.i % 64 ≠ 0 →
    ∃ aB idB cB, ids = aB ++ idB :: cB ∧
      AtBlock pl.ids pl.header.namespaces (it.i / 64 * 64) it.ns idB cB ∧ aB.length < done.length
  nextNs : ∀ c, done.getLast? = some c → ∀ e, pl.header.namespaces[it.ns + 1]? = some e → it.i ≤ e.2

theorem canon_start {pl : PostingList} {tbl : Table} {ids : List Id} (ctx : Ctx pl tbl ids) :
    Canon pl ids It.start [] ids where
  split := rfl
  lay := ctx.lay
  start := fun _ => rfl
  cur := fun c h => by simp at h
  block := fun c h => by simp at h
  nextNs := fun c h => by simp at h

theorem cur_of_ns {pl : PostingList} {k p idx : Nat} {id : Id}
    (hk : pl.header.namespaces[k]? = some (id.1, idx)) : cur pl ⟨k, p, id.2⟩ = .ok id := by
  unfold B6.Model.Posting.cur; rw [hk]

theorem AtBlock.cur {pl : PostingList} {q k' : Nat} {id : Id} {rest : List Id}
    (h : AtBlock pl.ids pl.header.namespaces q k' id rest) (p : Nat) : cur pl ⟨k', p, id.2⟩ = .ok id :=
  let ⟨_, hk, _⟩ := h.ns
  cur_of_ns hk

theorem canon_cur {pl : PostingList} {ids : List Id} {it : It} {done rest : List Id} {c : Id}
    (hc : Canon pl ids it done rest) (hl : done.getLast? = some c) : cur pl it = .ok c := by
  obtain ⟨hv, ⟨idx, hk, _⟩, _⟩ := hc.cur c hl
  obtain ⟨k, p, v⟩ := it
  cases hv
  exact cur_of_ns hk

theorem canon_end {pl : PostingList} {ids : List Id} {it : It} {done : List Id}
    (hc : Canon pl ids it done []) : next pl it = .ok (false, it) :=
  next_end (Nat.le_of_eq hc.lay.symm)

theorem canon_atBlock {pl : PostingList} {tbl : Table} {ids : List Id} (ctx : Ctx pl tbl ids)
    {aB cB : List Id} {idB : Id} {q k' : Nat} (hsplit : ids = aB ++ idB :: cB)
    (hat : AtBlock pl.ids pl.header.namespaces q k' idB cB) :
    Canon pl ids ⟨k', q + (putUvarint idB.2).length, idB.2⟩ (aB ++ [idB]) cB := by
  have hq := hat.aligned
  obtain ⟨idx, hk', hidx⟩ := hat.ns
  have hn1 := putUvarint_length_pos idB.2
  have hn10 := putUvarint_length_le idB.2
  refine ⟨by rw [hsplit, List.append_assoc]; rfl, hat.lay, fun h => absurd h (List.append_ne_nil_of_right_ne_nil _ (List.cons_ne_nil _ _)),
    fun c hl => ?_, fun c hl h64 => ?_, fun c hl e he => ?_⟩
  · cases List.getLast?_concat.symm.trans hl
    exact ⟨rfl, ⟨idx, hk', Nat.le_trans hidx (Nat.le_add_right _ _)⟩, Nat.lt_of_lt_of_le hn1 (Nat.le_add_left _ _)⟩
  · refine ⟨aB, idB, cB, hsplit, ?_, by rw [List.length_append]; exact Nat.lt_succ_self _⟩
    rw [← block_of_fresh hq hn10]
    exact hat
  · exact le_aligned_after (fit_blockEnd (by rw [hq, Nat.zero_add]; exact Nat.le_trans hn10 (by decide)))
      (ctx.aligned e (List.mem_of_getElem? he)) (hat.owns.2 e he)

theorem canon_next {pl : PostingList} {tbl : Table} {ids : List Id} (ctx : Ctx pl tbl ids)
    {it : It} {done rest : List Id} {id : Id} (hc : Canon pl ids it done (id :: rest)) :
    ∃ it', next pl it = .ok (true, it') ∧ cur pl it' = .ok id ∧ Canon pl ids it' (done ++ [id]) rest := by
  obtain ⟨k, p, prev⟩ := it
  have hlay : Lay pl.ids pl.header.namespaces p prev k (id :: rest) := hc.lay
  obtain ⟨p', k', hn, ⟨idx, hk', hidx⟩, hkk, hpp, hrest, hcase⟩ := next_lay ctx.sortedNs hlay
  refine ⟨⟨k', p', id.2⟩, hn, cur_of_ns hk', ?_⟩
  rcases hcase with ⟨hp64, rfl, hle, hnx⟩ | ⟨hat, rfl⟩
  · -- the id just read lies in the same block as the cursor: what is known of that block stays true
    obtain ⟨c0, hc0⟩ : ∃ c0, done.getLast? = some c0 := by
      cases hd : done.getLast? with
      | some c0 => exact ⟨c0, rfl⟩
      | none =>
        have := hc.start (List.getLast?_eq_none_iff.1 hd)
        cases this
        exact absurd rfl hp64
    obtain ⟨aB, idB, cB, h1, h2, h3⟩ := hc.block c0 hc0 hp64
    refine ⟨by rw [hc.split, List.append_assoc]; rfl, hrest, fun h => absurd h (List.append_ne_nil_of_right_ne_nil _ (List.cons_ne_nil _ _)),
      fun c hl => ?_, fun c hl h64 => ?_, fun c hl e he => ?_⟩
    · cases List.getLast?_concat.symm.trans hl
      exact ⟨rfl, ⟨idx, hk', hidx⟩, Nat.zero_lt_of_lt hpp⟩
    · refine ⟨aB, idB, cB, h1, ?_, by rw [List.length_append]; exact Nat.lt_succ_of_lt h3⟩
      rw [show (⟨k', p', id.2⟩ : It).i / 64 * 64 = p / 64 * 64 from same_block hpp hle h64]
      exact h2
    · exact le_aligned_after hle (ctx.aligned e (List.mem_of_getElem? he)) (hnx e he)
  · exact canon_atBlock ctx hc.split hat

/-- `hit it'` for the canonical state on the first id of `l` not `< T`, else `miss`: the shape of `ScanSpec`
(`scanSpec_iff`) and of `AdvSpec` (`advSpec_iff`, Lemmas/PostingAdvance2) -/
def FirstGE (pl : PostingList) (ids : List Id) (T : Id) (hit : It → Prop) (miss : Prop) (done l : List Id) : Prop :=
  (∀ x hi, l.dropWhile (fun x => decide (idLt x T)) = x :: hi →
    ∃ it', hit it' ∧ cur pl it' = .ok x ∧
      Canon pl ids it' (done ++ l.takeWhile (fun x => decide (idLt x T)) ++ [x]) hi) ∧
  (l.dropWhile (fun x => decide (idLt x T)) = [] → miss)

section FirstGE
variable {pl : PostingList} {ids : List Id} {T : Id} {hit hit' : It → Prop} {miss miss' : Prop}
  {done l a : List Id}

/-- ids `< T` at the front of what is ahead may as well have been read -/
theorem FirstGE.skip_iff (ha : ∀ x ∈ a, idLt x T) :
    FirstGE pl ids T hit miss done (a ++ l) ↔ FirstGE pl ids T hit miss (done ++ a) l := by
  have hp : ∀ x ∈ a, decide (idLt x T) = true := fun x hx => decide_eq_true (ha x hx)
  unfold FirstGE
  rw [List.dropWhile_append_of_pos hp, List.takeWhile_append_of_pos hp, ← List.append_assoc]

theorem FirstGE.here {x : Id} {hi : List Id} {it' : It} (hx : ¬ idLt x T) (h1 : hit it')
    (h2 : cur pl it' = .ok x) (h3 : Canon pl ids it' (done ++ [x]) hi) :
    FirstGE pl ids T hit miss done (x :: hi) := by
  have hp : ¬ decide (idLt x T) = true := fun h => hx (of_decide_eq_true h)
  unfold FirstGE
  rw [List.dropWhile_cons_of_neg (p := fun x => decide (idLt x T)) hp,
    List.takeWhile_cons_of_neg (p := fun x => decide (idLt x T)) hp, List.append_nil]
  exact ⟨fun y hi' e => (by cases e; exact ⟨it', h1, h2, h3⟩), fun e => (by cases e)⟩

theorem FirstGE.none (hall : ∀ x ∈ l, idLt x T) (hm : miss) : FirstGE pl ids T hit miss done l := by
  have hd : l.dropWhile (fun x => decide (idLt x T)) = [] := by
    have := List.dropWhile_append_of_pos (l₂ := []) fun x hx => decide_eq_true (hall x hx)
    rwa [List.append_nil] at this
  unfold FirstGE
  rw [hd]
  exact ⟨fun _ _ e => (by cases e), fun _ => hm⟩

theorem FirstGE.imp (h1 : ∀ it', hit it' → hit' it') (h2 : miss → miss')
    (h : FirstGE pl ids T hit miss done l) : FirstGE pl ids T hit' miss' done l := by
  unfold FirstGE at h ⊢
  exact ⟨fun x hi e => let ⟨it', a, b, c⟩ := h.1 x hi e; ⟨it', h1 it' a, b, c⟩, fun e => h2 (h.2 e)⟩

theorem FirstGE.resplit {a' l' : List Id} (heq : a ++ l = a' ++ l') (ha : ∀ x ∈ a, idLt x T)
    (ha' : ∀ x ∈ a', idLt x T) (h : FirstGE pl ids T hit miss a l) : FirstGE pl ids T hit miss a' l' := by
  have h0 : FirstGE pl ids T hit miss [] (a ++ l) := (FirstGE.skip_iff ha).2 h
  rw [heq] at h0
  exact (FirstGE.skip_iff ha').1 h0

end FirstGE

/-- what the scan loop started in `it0` does on the remaining ids `l` (`done` already read): it stops on the
first id that is not `< T`, in its canonical state; or runs off the end. -/
def ScanSpec (pl : PostingList) (tbl : Table) (ids : List Id) (T : Id) (it0 : It) (fuel : Nat)
    (done l : List Id) : Prop :=
  (∀ x hi, l.dropWhile (fun x => decide (idLt x T)) = x :: hi →
    ∃ it', scan pl tbl (keyOf tbl T) fuel it0 = .ok (some it') ∧ cur pl it' = .ok x ∧
      Canon pl ids it' (done ++ l.takeWhile (fun x => decide (idLt x T)) ++ [x]) hi) ∧
  (l.dropWhile (fun x => decide (idLt x T)) = [] → scan pl tbl (keyOf tbl T) fuel it0 = .ok none)

theorem scanSpec_iff {pl : PostingList} {tbl : Table} {ids : List Id} {T : Id} {it0 : It} {fuel : Nat}
    {done l : List Id} : ScanSpec pl tbl ids T it0 fuel done l ↔
      FirstGE pl ids T (fun it' => scan pl tbl (keyOf tbl T) fuel it0 = .ok (some it'))
        (scan pl tbl (keyOf tbl T) fuel it0 = .ok none) done l := Iff.rfl

theorem scan_step {pl : PostingList} {tbl : Table} {ids : List Id} (ctx : Ctx pl tbl ids)
    {T : Id} (hT : TnOK tbl T.1) {it0 it' : It} {fuel : Nat} {done rest : List Id} {id : Id}
    (hn : next pl it0 = .ok (true, it')) (hcur : cur pl it' = .ok id) (hid : TnOK tbl id.1)
    (hcanon : Canon pl ids it' (done ++ [id]) rest)
    (hrec : ScanSpec pl tbl ids T it' fuel (done ++ [id]) rest) :
    ScanSpec pl tbl ids T it0 (fuel + 1) done (id :: rest) := by
  have hfid : featureID pl tbl it' = .ok (keyOf tbl id) := by
    unfold featureID; rw [hcur]; exact decodeId_ok hid
  have hless : (keyOf tbl id).less (keyOf tbl T) = decide (idLt id T) := less_keyOf ctx.tblOK hid hT
  have hs : scan pl tbl (keyOf tbl T) (fuel + 1) it0
      = if idLt id T then scan pl tbl (keyOf tbl T) fuel it' else .ok (some it') := by
    conv => lhs; unfold scan
    simp only [hn, hfid, hless, Bool.not_eq_eq_eq_not, Bool.not_true, decide_eq_false_iff_not, ite_not]
  rw [scanSpec_iff, hs]
  by_cases hlt : idLt id T
  · rw [if_pos hlt]
    exact (FirstGE.skip_iff (a := [id]) fun x hx => by cases List.mem_singleton.1 hx; exact hlt).2
      (scanSpec_iff.1 hrec)
  · rw [if_neg hlt]
    exact FirstGE.here hlt rfl hcur hcanon

theorem scan_canon {pl : PostingList} {tbl : Table} {ids : List Id} (ctx : Ctx pl tbl ids)
    {T : Id} (hT : TnOK tbl T.1) :
    ∀ (rest done : List Id) (it : It) (fuel : Nat), Canon pl ids it done rest → rest.length < fuel →
      ScanSpec pl tbl ids T it fuel done rest := by
  intro rest
  induction rest with
  | nil =>
    intro done it fuel hc hf
    cases fuel with
    | zero => simp at hf
    | succ fuel =>
      refine scanSpec_iff.2 (FirstGE.none (fun _ h => nomatch h) ?_)
      unfold scan
      rw [canon_end hc]
  | cons id rest ih =>
    intro done it fuel hc hf
    cases fuel with
    | zero => simp at hf
    | succ fuel =>
      obtain ⟨it', hn, hcur, hcanon⟩ := canon_next ctx hc
      have hid : TnOK tbl id.1 := ctx.tnOK id (hc.split ▸ List.mem_append_right _ List.mem_cons_self)
      exact scan_step ctx hT hn hcur hid hcanon
        (ih (done ++ [id]) it' fuel hcanon (by simp only [List.length_cons] at hf; omega))

theorem scan_atBlock {pl : PostingList} {tbl : Table} {ids : List Id} (ctx : Ctx pl tbl ids)
    {T : Id} (hT : TnOK tbl T.1) {aB cB : List Id} {idB : Id} {q k' : Nat} (hsplit : ids = aB ++ idB :: cB)
    (hat : AtBlock pl.ids pl.header.namespaces q k' idB cB) (k0 val : Nat) (hk : k0 ≤ k')
    (fuel : Nat) (hf : cB.length < fuel) :
    ScanSpec pl tbl ids T ⟨k0, q, val⟩ (fuel + 1) aB (idB :: cB) :=
  have hcanon := canon_atBlock ctx hsplit hat
  scan_step ctx hT (next_atBlock ctx.sortedNs hat k0 val hk) (hat.cur _)
    (ctx.tnOK idB (hsplit ▸ List.mem_append_right _ List.mem_cons_self)) hcanon (scan_canon ctx hT cB (aB ++ [idB]) _ fuel hcanon hf)

end B6.Model.Posting
