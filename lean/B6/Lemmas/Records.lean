import B6.Model.Records
import B6.Lemmas.Varint
/-!
# Round-trip lemmas for the compact record codecs, part 1: `RT` and what every record is put together from

`RT e d a` ("`e` round-trips to `a` through `d`") is the shape of the `*_roundtrip` theorems of C11:
`d (e ++ rest) = some (a, |e|)` for every `rest`.  The value-type / geometry words are the `Nat` functions of
`Model/Records`; no lemma relates them to the `BitVec` ones of `Model/Bits` (C10).
-/
namespace B6.Model.Records
open B6.Model.Varint

def RT {α : Type} (e : Bytes) (d : Dec α) (a : α) : Prop := ∀ rest, d (e ++ rest) = some (a, e.length)

theorem RT.pure {α : Type} (a : α) : RT [] (Dec.pure a) a := fun _ => rfl

theorem RT.andThen {α β : Type} {e1 e2 : Bytes} {d : Dec α} {f : α → Dec β} {a : α} {b : β}
    (h1 : RT e1 d a) (h2 : RT e2 (f a) b) : RT (e1 ++ e2) (d.andThen f) b := by
  intro rest
  have := h1 (e2 ++ rest)
  simp only [Dec.andThen, List.append_assoc, this, List.drop_left, h2 rest, List.length_append]

theorem RT.map {α β : Type} {e : Bytes} {d : Dec α} {a : α} (f : α → β) (h : RT e d a) : RT e (d.map f) (f a) := by
  intro rest
  simp only [Dec.map, h rest]

theorem RT.value {α : Type} {e : Bytes} {d : Dec α} {a a' : α} (h : RT e d a) (ha : a = a') : RT e d a' := ha ▸ h

theorem RT.forEach {α γ σ : Type} (P : α → Prop) (g : α → γ) (f : σ → α → Bytes × σ) (step : γ → σ → Dec (α × σ))
    (h : ∀ s a, P a → RT (f s a).1 (step (g a) s) (a, (f s a).2)) :
    ∀ (as : List α) (s : σ), (∀ a ∈ as, P a) → RT (encEach f s as) (Dec.forEach step (as.map g) s) as := by
  intro as s hP
  fun_induction encEach f s as with
  | case1 s => exact RT.pure _
  | case2 s a as ih =>
    exact RT.andThen (h s a (hP a List.mem_cons_self)) (RT.map (a :: ·) (ih fun x hx => hP x (List.mem_cons_of_mem _ hx)))

theorem RT.times {α σ : Type} {f : σ → α → Bytes × σ} {step : σ → Dec (α × σ)} (as : List α) (s : σ)
    (h : ∀ s, ∀ a ∈ as, RT (f s a).1 (step s) (a, (f s a).2)) : RT (encEach f s as) (Dec.times step as.length s) as := by
  have := RT.forEach (· ∈ as) (fun _ => ()) f (fun _ => step) h as s (fun _ ha => ha)
  have e : as.map (fun _ => ()) = List.replicate as.length () := List.map_const' ..
  rw [e] at this
  exact this

/-! ## varints -/

theorem rt_uvarint (v : Nat) (hv : v < 2 ^ 64) : RT (putUvarint v) dUvarint v :=
  fun rest => uvarint_putUvarint_append v hv rest

theorem rt_varint (x : BitVec 64) : RT (putVarint x) dVarint x :=
  fun rest => varint_putVarint_append x rest

theorem rt_count (v : Nat) (hv : v < 2 ^ 63) : RT (putUvarint v) dCount v := by
  intro rest
  simp only [dCount, uvarint_putUvarint_append v (by omega) rest, hv, if_true]

theorem rt_value (w : Nat) (hw : w < 2 ^ 64) : RT (putUvarint w) dValue (w / 4) :=
  RT.map (· / 4) (rt_uvarint w hw)

/-! ## lists of records that carry no loop state -/

theorem RT.list {α : Type} (enc : α → Bytes) (dec : Dec α) (as : List α) (h : ∀ a ∈ as, RT (enc a) dec a) :
    RT (encEach (fun (_ : Unit) a => (enc a, ())) () as) (Dec.times (fun (_ : Unit) => dec.map fun a => (a, ())) as.length ()) as :=
  RT.times as () fun _ a ha => RT.map (fun a => (a, ())) (h a ha)

theorem RT.counted {α : Type} (enc : α → Bytes) (dec : Dec α) (as : List α) (hl : as.length < 2 ^ 63)
    (h : ∀ a ∈ as, RT (enc a) dec a) :
    RT (putUvarint as.length ++ encEach (fun (_ : Unit) a => (enc a, ())) () as)
      (dCount.andThen fun l => Dec.times (fun (_ : Unit) => dec.map fun a => (a, ())) l ()) as :=
  RT.andThen (rt_count _ hl) (RT.list enc dec as h)

/-! ## fixed-width little-endian fields -/

theorem rt_u32 (v : BitVec 32) : RT (putU32 v) dU32 v := by
  intro rest
  obtain ⟨h1, h2⟩ := leValue_take_marshalUint64 4 v.toNat (by have := v.isLt; omega) rest
  simp only [dU32, putU32, if_neg h1, h2, marshalUint64_length, BitVec.ofNat_toNat, BitVec.setWidth_eq]

theorem rt_u16 (v : BitVec 16) : RT (putU16 v) dU16 v := by
  intro rest
  obtain ⟨h1, h2⟩ := leValue_take_marshalUint64 2 v.toNat (by have := v.isLt; omega) rest
  simp only [dU16, putU16, if_neg h1, h2, marshalUint64_length, BitVec.ofNat_toNat, BitVec.setWidth_eq]

/-! ## value type and geometry words -/

theorem valueTypeOk_iff (v : Nat) : valueTypeOk v = true ↔ v < 2 ^ 62 := by
  simp only [valueTypeOk, beq_iff_eq]
  omega

theorem encodeValueType_spec (t v : Nat) (ht : t < 4) (hv : v < 2 ^ 62) :
    encodeValueType t v < 2 ^ 64 ∧ encodeValueType t v / 4 = v ∧ encodeValueType t v % 4 = t := by
  rw [encodeValueType, Nat.mod_eq_of_lt (by omega)]
  omega

theorem encodeGeometry_refs (l : Nat) (hl : l < 2 ^ 63) : encodeGeometry 0 l = 2 * l := by
  simp only [encodeGeometry]
  omega

theorem encodeGeometry_succ (t l : Nat) (ht : t < 2) (hl : l < 2 ^ 62) : encodeGeometry (t + 1) l = 4 * l + 2 * t + 1 := by
  rcases t with _ | _ | t
  · simp only [encodeGeometry]; omega
  · simp only [encodeGeometry]; omega
  · omega

structure GeometryWord (e l : Nat) : Prop where
  lt : encodeGeometry e l < 2 ^ 64
  len : geometryLen (encodeGeometry e l) = l
  enc : geometryEncoding (encodeGeometry e l) = e

/-- the reference form leaves one more bit to the length (`MarshalGeometryEncodingAndLength` of a polygon count) -/
theorem geometryWord_refs (l : Nat) (hl : l < 2 ^ 63) : GeometryWord 0 l := by
  have e : encodeGeometry 0 l = 2 * l := encodeGeometry_refs l hl
  refine ⟨by omega, ?_, ?_⟩ <;> rw [e]
  · rw [geometryLen, if_pos (by omega)]; omega
  · rw [geometryEncoding, if_pos (by omega)]

theorem geometryWord_spec (e l : Nat) (he : e ≤ 2) (hl : l < 2 ^ 62) : GeometryWord e l := by
  cases e with
  | zero => exact geometryWord_refs l (by omega)
  | succ t =>
    have w : encodeGeometry (t + 1) l = 4 * l + 2 * t + 1 := encodeGeometry_succ t l (by omega) hl
    refine ⟨by omega, ?_, ?_⟩ <;> rw [w]
    · rw [geometryLen, if_neg (by omega)]; omega
    · rw [geometryEncoding, if_neg (by omega)]; split <;> omega

theorem lenOk_word (e l : Nat) (he : e ≤ 2) (h : lenOk e l = true) : encodeGeometry e l < 2 ^ 62 ∧ GeometryWord e l := by
  simp only [lenOk, Bool.and_eq_true, decide_eq_true_eq, valueTypeOk_iff] at h
  exact ⟨h.2, geometryWord_spec e l he h.1⟩

/-- `lenOk` asks `valueTypeOk` of the geometry *word*: two bits go to the value type on top of the one tag bit of the
reference form, or of the two of every other encoding (`EncodeGeometry`'s `else` arm): `2^61` resp. `2^60` -/
theorem lenOk_iff_lt (e l : Nat) : lenOk e l = true ↔ (if e = 0 then l < 2 ^ 61 else l < 2 ^ 60) := by
  have key : ∀ t, t < 2 → (lenOk (t + 1) l = true ↔ l < 2 ^ 60) := by
    intro t ht
    simp only [lenOk, Bool.and_eq_true, decide_eq_true_eq, valueTypeOk_iff]
    constructor
    · rintro ⟨h1, h2⟩; rw [encodeGeometry_succ t l ht h1] at h2; omega
    · intro h; rw [encodeGeometry_succ t l ht (by omega)]; omega
  rcases e with _ | _ | t
  · simp only [lenOk, Bool.and_eq_true, decide_eq_true_eq, valueTypeOk_iff, if_pos]
    constructor
    · rintro ⟨h1, h2⟩; rw [encodeGeometry_refs l (by omega)] at h2; omega
    · intro h; rw [encodeGeometry_refs l (by omega)]; omega
  · exact key 0 (by omega)
  · exact key 1 (by omega)

/-- the bare `EncodeGeometry(e, l)` at the head of an area geometry (read by `dUvarint`), then a body that is told the
encoding and the length read from it -/
theorem RT.geometryFields {α : Type} {e l : Nat} (hw : GeometryWord e l)
    {b : Bytes} (body : Nat → Nat → Dec α) {a : α} (hb : RT b (body e l) a) :
    RT (putUvarint (encodeGeometry e l) ++ b) (dUvarint.andThen fun v => body (geometryEncoding v) (geometryLen v)) a := by
  refine RT.andThen (rt_uvarint _ hw.lt) ?_
  rw [hw.len, hw.enc]
  exact hb

theorem RT.geometryWord {α : Type} {e l : Nat} (hw : GeometryWord e l)
    {b : Bytes} {body : Nat → Dec α} {a : α} (hb : RT b (body l) a) :
    RT (putUvarint (encodeGeometry e l) ++ b) (dUvarint.andThen fun v => body (geometryLen v)) a :=
  RT.geometryFields hw (fun _ => body) hb

/-- `EncodeValueType(2, EncodeGeometry(e, l))` at the head of a list-valued tag *value* (read by `dValue`), then a body
that is told the length -/
theorem RT.lenHeader {α : Type} (e l : Nat) (he : e ≤ 2) (h : lenOk e l = true) {b : Bytes} {body : Nat → Dec α} {a : α}
    (hb : RT b (body l) a) :
    RT (putUvarint (encodeValueType 2 (encodeGeometry e l)) ++ b) (dValue.andThen fun v => body (geometryLen v)) a := by
  obtain ⟨h1, hg⟩ := lenOk_word e l he h
  obtain ⟨hw, hv, _⟩ := encodeValueType_spec 2 (encodeGeometry e l) (by omega) h1
  refine RT.andThen ((rt_value _ hw).value hv) ?_
  rw [hg.len]
  exact hb

end B6.Model.Records
