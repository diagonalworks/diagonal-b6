import B6.Lemmas.Varint
import B6.Lemmas.PostingTable
/-!
# Posting lists: the layout relation `Lay`, the encoder establishes it, `Next` follows it

`Lay full nss p prev k l` — "the ids `l` are laid out in `full` from byte `p` to the end": `p` is the position
the iterator holds after the previous id (it may lie in the padding of its block), `prev` the previous value
of the block, `k` the namespace index of the previous id.  Each id is either a delta varint inside the
current block, or — after the padding, at the next block start — an absolute varint (`AtBlock`): `Lay.cases`.

The encoder establishes it for every `Chain` of ids (`encodeFrom_lay`; either way `Append` writes some padding
and one varint: `appendStep_shape`), every block start of the buffer is the start of an id (`lay_blocks`), and
`Iterator.Next` reads the head id of a layout and lands in the layout of the tail (`next_lay`; `next_atBlock` when
the iterator is dropped on a block start with a stale namespace / value, as `Advance` does after its search).

The id lists the theorems are about: `Chain` (with the encoder), `SortedIds`/`ValidIds` (last section), which imply it.
The declarations of the `Lemmas/Posting*` files are in the namespace of the model, `B6.Model.Posting`.
-/
namespace B6.Model.Posting
open B6.Model.Varint

/-! ## arithmetic of 64-byte blocks and their padding -/

theorem padLen_lt (n : Nat) : padLen n < 64 := by unfold padLen; split <;> omega
theorem padLen_mod (n : Nat) : (n + padLen n) % 64 = 0 := by unfold padLen; split <;> omega
theorem padLen_zero {n : Nat} (h : n % 64 = 0) : padLen n = 0 := by unfold padLen; split <;> omega
theorem padLen_pos {n : Nat} (h : n % 64 ≠ 0) : padLen n = 64 - n % 64 := by unfold padLen; split <;> omega

theorem block_of_fresh {q n : Nat} (hq : q % 64 = 0) (hn : n ≤ 10) : q = (q + n) / 64 * 64 := by omega

theorem block_of_delta {l n : Nat} (hfit : l % 64 + n ≤ 64) (h : (l + n) % 64 ≠ 0) :
    l / 64 * 64 = (l + n) / 64 * 64 := by omega

theorem blockEnd_of_mid {p : Nat} (h : p % 64 ≠ 0) : (p / 64 + 1) * 64 = p + padLen p := by
  rw [padLen_pos h]; omega

theorem fit_blockEnd {p n : Nat} (h : p % 64 + n ≤ 64) : p + n ≤ (p / 64 + 1) * 64 := by omega

theorem before_block {p q n b : Nat} (hqp : q ≤ p + padLen p) (hfit : q % 64 + n ≤ 64) (h1 : p ≤ 64 * b)
    (hq : q ≠ 64 * b) : q < 64 * b ∧ q + n ≤ 64 * b := by
  have := padLen_mod p
  have := padLen_lt p
  omega

theorem sub_block_start (l : Nat) : l - l / 64 * 64 = l % 64 := by omega

theorem same_block {p p' : Nat} (h1 : p < p') (h2 : p' ≤ (p / 64 + 1) * 64) (h3 : p' % 64 ≠ 0) :
    p' / 64 * 64 = p / 64 * 64 := by omega

theorem le_aligned_after {p p' a : Nat} (h2 : p' ≤ (p / 64 + 1) * 64) (ha : a % 64 = 0) (h : p < a) : p' ≤ a := by
  omega

theorem aligned_le_block {a i : Nat} (ha : a % 64 = 0) (h : a ≤ i) : a ≤ 64 * (i / 64) := by omega

/-! ## the last byte of a varint is not the padding byte -/

theorem last_byte_of_prefix {full : Bytes} {p v : Nat} (hv : v < 2 ^ 64)
    (hp : putUvarint v <+: full.drop p) :
    ∃ b, full[p + (putUvarint v).length - 1]? = some b ∧ b ≠ 128 := by
  obtain ⟨init, b, h1, h2⟩ := putUvarint_last v hv
  obtain ⟨post, hpost⟩ := hp
  refine ⟨b, ?_, fun h => by rw [h] at h2; simp at h2⟩
  have hl : (putUvarint v).length = init.length + 1 := by rw [h1]; simp
  have : (full.drop p)[init.length]? = some b := by
    rw [← hpost, h1]; simp
  rw [List.getElem?_drop] at this
  rw [hl]
  have e : p + (init.length + 1) - 1 = p + init.length := by omega
  rw [e]; exact this

theorem scanBack_ge {full : Bytes} {j : Nat} {b : UInt8} (hj : full[j]? = some b) (hb : b ≠ 128) :
    ∀ e, j < e → e ≤ full.length → ∃ r, scanBack full e = .ok r ∧ j + 1 ≤ r ∧ r ≤ e := by
  intro e hje hlen
  fun_induction scanBack full e with
  | case1 => exact absurd hje (Nat.not_lt_zero _)
  | case2 e h => exact absurd (List.getElem?_eq_none_iff.1 h) (Nat.not_le.2 hlen)
  | case3 e h ih =>
    -- a padding byte is not byte `j`, so `j` lies further down
    have hne : j ≠ e := fun hh => hb (Option.some.inj ((hh ▸ hj).symm.trans h))
    obtain ⟨r, h1, h2, h3⟩ := ih (Nat.lt_of_le_of_ne (Nat.le_of_lt_succ hje) hne) (Nat.le_of_succ_le hlen)
    exact ⟨r, h1, h2, Nat.le_succ_of_le h3⟩
  | case4 e _ _ _ => exact ⟨e + 1, rfl, hje, Nat.le_refl _⟩

theorem scanBack_eq {full : Bytes} {p : Nat} {b : UInt8} (hp : 1 ≤ p) (hb0 : full[p - 1]? = some b) (hb : b ≠ 128) :
    ∀ e, p ≤ e → (∀ i, p ≤ i → i < e → full[i]? = some 128) → scanBack full e = .ok p := by
  intro e
  induction e with
  | zero => exact fun h => absurd (Nat.le_trans hp h) (Nat.not_succ_le_zero 0)
  | succ e ih =>
    intro hpe hpad
    unfold scanBack
    rcases Nat.eq_or_lt_of_le hpe with rfl | hlt
    · rw [Nat.add_sub_cancel] at hb0
      rw [hb0]
      simp only [hb, if_false]
    · have hle := Nat.le_of_lt_succ hlt
      rw [hpad e hle (Nat.lt_succ_self e)]
      simp only [if_true]
      exact ih hle (fun i h1 h2 => hpad i h1 (Nat.lt_succ_of_lt h2))

/-! ## the namespace index: entries in increasing block order, `walkIndex` finds the last one at or before a position -/

def NssSorted (nss : List NsIndex) : Prop := nss.Pairwise (fun a b => a.2 < b.2)

theorem nss_idx_lt_iff {nss : List NsIndex} (hs : NssSorted nss) {j1 j2 : Nat} {e1 e2 : NsIndex}
    (h1 : nss[j1]? = some e1) (h2 : nss[j2]? = some e2) : e1.2 < e2.2 ↔ j1 < j2 :=
  List.Pairwise.getElem?_lt_iff (lt := fun a b : NsIndex => a.2 < b.2) (fun _ _ => Nat.lt_asymm) hs h1 h2

theorem nss_mono {nss : List NsIndex} (hs : NssSorted nss) {j1 j2 : Nat} {e1 e2 : NsIndex}
    (h1 : nss[j1]? = some e1) (h2 : nss[j2]? = some e2) (hle : j1 ≤ j2) : e1.2 ≤ e2.2 :=
  Nat.le_of_not_lt fun h => Nat.not_lt.2 hle ((nss_idx_lt_iff hs h2 h1).1 h)

theorem walkIndex_stay {nss : List NsIndex} {q k : Nat} (hnext : ∀ e, nss[k + 1]? = some e → q < e.2) :
    walkIndex nss q k = k := by
  unfold walkIndex
  cases h : nss.drop (k + 1) with
  | nil => rfl
  | cons e rest =>
    have he : nss[k + 1]? = some e := by rw [← List.head?_drop, h]; rfl
    exact if_neg (Nat.not_le.2 (hnext e he))

/-- entry `k`, of `TypeAndNamespace` `tn`, is the namespace entry the byte position `q` falls under: it starts at or
before `q`, the next one after `q`.  (`Lay` and `AtBlock` spell this out for the id they place.) -/
def Owns (nss : List NsIndex) (k tn q : Nat) : Prop :=
  (∃ idx, nss[k]? = some (tn, idx) ∧ idx ≤ q) ∧ ∀ e, nss[k + 1]? = some e → q < e.2

theorem walkIndex_owns {nss : List NsIndex} (hs : NssSorted nss) {q k' tn : Nat} (h : Owns nss k' tn q)
    {k0 : Nat} (hk : k0 ≤ k') : walkIndex nss q k0 = k' := by
  obtain ⟨⟨idx, hk', hle⟩, hnext⟩ := h
  have hlt := (List.getElem?_eq_some_iff.1 hk').1
  have key : ∀ d k0, k0 + d = k' → walkIndex nss q k0 = k' := by
    intro d
    induction d with
    | zero => intro k0 h0; rw [Nat.add_zero] at h0; subst h0; exact walkIndex_stay hnext
    | succ d ih =>
      intro k0 h0
      have hle' : k0 + 1 ≤ k' := h0 ▸ Nat.add_le_add_left (Nat.succ_le_succ (Nat.zero_le d)) k0
      have hk1 : k0 + 1 < nss.length := Nat.lt_of_le_of_lt hle' hlt
      -- the entry after `k0` starts at or before the owner, hence at or before `q`
      have hidx := Nat.le_trans (nss_mono hs (List.getElem?_eq_getElem hk1) hk' hle') hle
      rw [← ih (k0 + 1) (by rw [Nat.add_assoc, Nat.add_comm 1 d]; exact h0)]
      unfold walkIndex
      rw [List.drop_eq_getElem_cons hk1]
      exact if_pos hidx
  exact key (k' - k0) k0 (Nat.add_sub_cancel' hk)

theorem Owns.unique {nss : List NsIndex} (hs : NssSorted nss) {q k1 k2 t1 t2 : Nat} (h1 : Owns nss k1 t1 q)
    (h2 : Owns nss k2 t2 q) : k1 = k2 := by
  -- an entry that starts at or before `q` is not beyond `k` when entry `k + 1` starts after `q`
  have aux : ∀ {k k' t' : Nat}, Owns nss k' t' q → (∀ e, nss[k + 1]? = some e → q < e.2) → k' ≤ k := by
    intro k k' t' ⟨⟨idx, h', hq'⟩, _⟩ hn
    refine Nat.le_of_not_lt fun hlt => ?_
    obtain ⟨e3, h3⟩ : ∃ e3, nss[k + 1]? = some e3 :=
      ⟨_, List.getElem?_eq_getElem (Nat.lt_of_le_of_lt hlt (List.getElem?_eq_some_iff.1 h').1)⟩
    exact Nat.lt_irrefl q (Nat.lt_of_lt_of_le (hn _ h3) (Nat.le_trans (nss_mono hs h3 h' hlt) hq'))
  exact Nat.le_antisymm (aux h1 h2.2) (aux h2 h1.2)

def Lay (full : Bytes) (nss : List NsIndex) : Nat → Nat → Nat → List Id → Prop
  | p, _, _, [] => p = full.length
  | p, prev, k, id :: rest =>
    id.2 < 2 ^ 64 ∧
    ((p % 64 ≠ 0 ∧ prev ≤ id.2 ∧ putUvarint (id.2 - prev) <+: full.drop p ∧
        p % 64 + (putUvarint (id.2 - prev)).length ≤ 64 ∧
        (∃ idx, nss[k]? = some (id.1, idx) ∧ idx ≤ p) ∧ (∀ e, nss[k + 1]? = some e → p < e.2) ∧
        Lay full nss (p + (putUvarint (id.2 - prev)).length) id.2 k rest)
     ∨
     (∃ k', k ≤ k' ∧
        (∀ i, p ≤ i → i < p + padLen p → full[i]? = some 128) ∧
        (p % 64 ≠ 0 → ∃ b, full[p - 1]? = some b ∧ b ≠ 128) ∧
        putUvarint id.2 <+: full.drop (p + padLen p) ∧
        (∃ idx, nss[k']? = some (id.1, idx) ∧ idx ≤ p + padLen p) ∧
        (∀ e, nss[k' + 1]? = some e → p + padLen p < e.2) ∧
        Lay full nss (p + padLen p + (putUvarint id.2).length) id.2 k' rest))

/-- the id `id` starts the block at byte `q` (absolute varint), in namespace `k'`; `rest` follows -/
def AtBlock (full : Bytes) (nss : List NsIndex) (q k' : Nat) (id : Id) (rest : List Id) : Prop :=
  q % 64 = 0 ∧ id.2 < 2 ^ 64 ∧ putUvarint id.2 <+: full.drop q ∧
  (∃ idx, nss[k']? = some (id.1, idx) ∧ idx ≤ q) ∧
  (∀ e, nss[k' + 1]? = some e → q < e.2) ∧
  Lay full nss (q + (putUvarint id.2).length) id.2 k' rest

section
variable {full : Bytes} {nss : List NsIndex} {p prev k q k' : Nat} {id : Id} {rest : List Id}

theorem AtBlock.aligned (h : AtBlock full nss q k' id rest) : q % 64 = 0 := h.1
theorem AtBlock.lt (h : AtBlock full nss q k' id rest) : id.2 < 2 ^ 64 := h.2.1
theorem AtBlock.varint (h : AtBlock full nss q k' id rest) : putUvarint id.2 <+: full.drop q := h.2.2.1
theorem AtBlock.ns (h : AtBlock full nss q k' id rest) : ∃ idx, nss[k']? = some (id.1, idx) ∧ idx ≤ q := h.2.2.2.1
theorem AtBlock.owns (h : AtBlock full nss q k' id rest) : Owns nss k' id.1 q := ⟨h.2.2.2.1, h.2.2.2.2.1⟩
theorem AtBlock.lay (h : AtBlock full nss q k' id rest) :
    Lay full nss (q + (putUvarint id.2).length) id.2 k' rest := h.2.2.2.2.2

theorem atBlock_first (h : AtBlock full nss q k' id rest) :
    uvarintRaw (full.drop q) = (id.2, ((putUvarint id.2).length : Int)) := by
  obtain ⟨post, hp⟩ := h.varint
  rw [← hp]; exact uvarintRaw_putUvarint_append id.2 h.lt post

theorem Lay.lt (h : Lay full nss p prev k (id :: rest)) : id.2 < 2 ^ 64 := h.1

/-- the two ways the head id of a layout is placed: as a delta varint where the cursor stands, inside its block; or,
behind the padding (if any), as the first id of the next block -/
theorem Lay.cases (h : Lay full nss p prev k (id :: rest)) :
    (p % 64 ≠ 0 ∧ prev ≤ id.2 ∧ putUvarint (id.2 - prev) <+: full.drop p ∧
        p % 64 + (putUvarint (id.2 - prev)).length ≤ 64 ∧ Owns nss k id.1 p ∧
        Lay full nss (p + (putUvarint (id.2 - prev)).length) id.2 k rest) ∨
    (∃ k', k ≤ k' ∧ (∀ i, p ≤ i → i < p + padLen p → full[i]? = some 128) ∧
        (p % 64 ≠ 0 → ∃ b, full[p - 1]? = some b ∧ b ≠ 128) ∧ AtBlock full nss (p + padLen p) k' id rest) := by
  obtain ⟨hv, h⟩ := h
  rcases h with ⟨h1, h2, h3, h4, h5, h6, h7⟩ | ⟨k', h1, h2, h3, h4, h5, h6, h7⟩
  · exact Or.inl ⟨h1, h2, h3, h4, ⟨h5, h6⟩, h7⟩
  · exact Or.inr ⟨k', h1, h2, h3, padLen_mod p, hv, h4, h5, h6, h7⟩

end

theorem prefix_bound {full x : Bytes} {q : Nat} (h : x <+: full.drop q) (hx : 1 ≤ x.length) :
    q + x.length ≤ full.length := by
  have := h.length_le
  simp only [List.length_drop] at this
  omega

theorem Lay.head {full : Bytes} {nss : List NsIndex} {p prev k : Nat} {id : Id} {rest : List Id}
    (h : Lay full nss p prev k (id :: rest)) :
    ∃ q n k' idx, p ≤ q ∧ q ≤ p + padLen p ∧ 1 ≤ n ∧ q % 64 + n ≤ 64 ∧
      k ≤ k' ∧ nss[k']? = some (id.1, idx) ∧ idx ≤ q ∧
      Lay full nss (q + n) id.2 k' rest ∧ (q % 64 = 0 → AtBlock full nss q k' id rest) := by
  rcases h.cases with ⟨hp64, _, _, hfit, ⟨⟨idx, hk, hidx⟩, _⟩, hrest⟩ | ⟨k', hkk, _, _, hat⟩
  · exact ⟨p, _, k, idx, Nat.le_refl _, Nat.le_add_right _ _, putUvarint_length_pos _, hfit, Nat.le_refl _,
      hk, hidx, hrest, fun h0 => absurd h0 hp64⟩
  · have hmod := hat.aligned
    have := putUvarint_length_le id.2
    obtain ⟨idx, hk', hidx⟩ := hat.ns
    exact ⟨p + padLen p, _, k', idx, Nat.le_add_right _ _, Nat.le_refl _, putUvarint_length_pos _, by omega, hkk,
      hk', hidx, hat.lay, fun _ => hat⟩

theorem Lay.tail {full : Bytes} {nss : List NsIndex} {p prev k : Nat} {id : Id} {rest : List Id}
    (h : Lay full nss p prev k (id :: rest)) : ∃ p' k', p < p' ∧ k ≤ k' ∧ Lay full nss p' id.2 k' rest :=
  let ⟨q, n, k', _, hpq, _, hn, _, hkk, _, _, hrest, _⟩ := h.head
  ⟨q + n, k', Nat.lt_of_le_of_lt hpq (Nat.lt_add_of_pos_right hn), hkk, hrest⟩

theorem lay_length {full : Bytes} {nss : List NsIndex} : ∀ (l : List Id) (p prev k : Nat),
    Lay full nss p prev k l → p + l.length ≤ full.length := by
  intro l
  induction l with
  | nil => intro p prev k h; exact Nat.le_of_eq h
  | cons id rest ih =>
    intro p prev k h
    obtain ⟨p', _, hpp, _, hrest⟩ := h.tail
    have := ih _ _ _ hrest
    rw [List.length_cons]; omega

theorem lay_suffix {full : Bytes} {nss : List NsIndex} {l : List Id} : ∀ (a : List Id) (p prev k : Nat),
    Lay full nss p prev k (a ++ l) → ∃ p' prev' k', Lay full nss p' prev' k' l
  | [], p, prev, k, h => ⟨p, prev, k, h⟩
  | _ :: a, _, _, _, h =>
    let ⟨_, _, _, _, hrest⟩ := Lay.tail h
    lay_suffix a _ _ _ hrest

theorem lay_mem_ns {full : Bytes} {nss : List NsIndex} : ∀ (l : List Id) (p prev k : Nat),
    Lay full nss p prev k l → ∀ x ∈ l, ∃ kx idx, k ≤ kx ∧ nss[kx]? = some (x.1, idx) := by
  intro l
  induction l with
  | nil => intro p prev k _ x hx; cases hx
  | cons id rest ih =>
    intro p prev k h x hx
    obtain ⟨_, _, k', idx, _, _, _, _, hkk, hk', _, hrest, _⟩ := h.head
    rcases List.mem_cons.1 hx with rfl | hx
    · exact ⟨k', idx, hkk, hk'⟩
    · obtain ⟨kx, idxx, h1, h2⟩ := ih _ _ _ hrest x hx
      exact ⟨kx, idxx, Nat.le_trans hkk h1, h2⟩

/-! ## `Next` in two steps: where to read, then read -/

/-- the tail of `Iterator.Next` once the read position `i1` is known -/
def readAt (pl : PostingList) (k0 val i1 : Nat) : Except Err (Bool × It) :=
  let ns := walkIndex pl.header.namespaces i1 k0
  let r := uvarintRaw (pl.ids.drop i1)
  if r.2 ≤ 0 then .error .corrupt else
  let value := if i1 % 64 = 0 then r.1 else (val + r.1) % 2 ^ 64
  .ok (true, ⟨ns, i1 + r.2.toNat, value⟩)

theorem next_end {pl : PostingList} {it : It} (h : pl.ids.length ≤ it.i) : next pl it = .ok (false, it) := by
  unfold next; exact if_pos h

theorem next_noskip {pl : PostingList} {it : It} {e : Nat} (hlt : it.i < pl.ids.length)
    (hscan : (if (it.i / 64 + 1) * 64 < pl.ids.length then scanBack pl.ids ((it.i / 64 + 1) * 64)
              else .ok ((it.i / 64 + 1) * 64)) = .ok e)
    (hne : it.i ≠ e) : next pl it = readAt pl it.ns it.value it.i := by
  unfold next readAt
  simp only [hscan]
  have h1 : ¬ it.i ≥ pl.ids.length := by omega
  simp only [h1, if_false, hne, false_and]

theorem next_skip {pl : PostingList} {it : It} (hlt : (it.i / 64 + 1) * 64 < pl.ids.length)
    (hscan : scanBack pl.ids ((it.i / 64 + 1) * 64) = .ok it.i) :
    next pl it = readAt pl it.ns it.value ((it.i / 64 + 1) * 64) := by
  unfold next readAt
  have h0 : it.i < pl.ids.length := Nat.lt_trans (fit_blockEnd (n := 1) (Nat.mod_lt _ (by decide))) hlt
  simp only [Nat.not_le.2 h0, if_false, hlt, if_true, hscan, true_and, Nat.not_le.2 hlt]

theorem readAt_varint {pl : PostingList} {k0 val i1 x : Nat} (hx : x < 2 ^ 64)
    (hp : putUvarint x <+: pl.ids.drop i1) :
    readAt pl k0 val i1 = .ok (true, ⟨walkIndex pl.header.namespaces i1 k0, i1 + (putUvarint x).length,
      if i1 % 64 = 0 then x else (val + x) % 2 ^ 64⟩) := by
  obtain ⟨post, hpost⟩ := hp
  unfold readAt
  rw [← hpost, uvarintRaw_putUvarint_append x hx post]
  have hpos := putUvarint_length_pos x
  have : ¬ ((putUvarint x).length : Int) ≤ 0 := by omega
  simp only [this, if_false, Int.toNat_natCast]

theorem readAt_atBlock {pl : PostingList} {q k' : Nat} {id : Id} {rest : List Id}
    (hs : NssSorted pl.header.namespaces)
    (h : AtBlock pl.ids pl.header.namespaces q k' id rest) {k0 : Nat} (val : Nat) (hk : k0 ≤ k') :
    readAt pl k0 val q = .ok (true, ⟨k', q + (putUvarint id.2).length, id.2⟩) := by
  rw [readAt_varint h.lt h.varint, if_pos h.aligned, walkIndex_owns hs h.owns hk]

/-- the varint's last byte stops the backward scan for padding behind the cursor -/
theorem next_at_varint {pl : PostingList} {k p prev x : Nat} (hx : x < 2 ^ 64)
    (hp : putUvarint x <+: pl.ids.drop p) (hfit : p % 64 + (putUvarint x).length ≤ 64) :
    next pl ⟨k, p, prev⟩ = readAt pl k prev p := by
  have hpos := putUvarint_length_pos x
  have hb := prefix_bound hp hpos
  obtain ⟨b, hb1, hb2⟩ := last_byte_of_prefix hx hp
  have hscan : ∃ e, (if (p / 64 + 1) * 64 < pl.ids.length then scanBack pl.ids ((p / 64 + 1) * 64)
      else .ok ((p / 64 + 1) * 64)) = .ok e ∧ p ≠ e := by
    have hE := fit_blockEnd hfit
    generalize (p / 64 + 1) * 64 = E at hE ⊢
    have hpE : p < E := Nat.lt_of_lt_of_le (Nat.lt_add_of_pos_right hpos) hE
    split
    · rename_i hlt
      obtain ⟨r, h1, h2, _⟩ := scanBack_ge hb1 hb2 E (by omega) (Nat.le_of_lt hlt)
      exact ⟨r, h1, by omega⟩
    · exact ⟨_, rfl, Nat.ne_of_lt hpE⟩
  obtain ⟨e, hscan, hne⟩ := hscan
  exact next_noskip (it := ⟨k, p, prev⟩) (Nat.lt_of_lt_of_le (Nat.lt_add_of_pos_right hpos) hb) hscan hne

/-- `Next` on a block start (stale namespace index `k0 ≤ k'`, stale value): reads the block's first id -/
theorem next_atBlock {pl : PostingList} {q k' : Nat} {id : Id} {rest : List Id}
    (hs : NssSorted pl.header.namespaces)
    (h : AtBlock pl.ids pl.header.namespaces q k' id rest) (k0 val : Nat) (hk : k0 ≤ k') :
    next pl ⟨k0, q, val⟩ = .ok (true, ⟨k', q + (putUvarint id.2).length, id.2⟩) := by
  have hle := putUvarint_length_le id.2
  rw [next_at_varint h.lt h.varint (by have := h.aligned; omega), readAt_atBlock hs h val hk]

/-- `Next` from a `Lay` state reads the head id and lands in the `Lay` state of the tail -/
theorem next_lay {pl : PostingList} {p prev k : Nat} {id : Id} {rest : List Id}
    (hs : NssSorted pl.header.namespaces)
    (h : Lay pl.ids pl.header.namespaces p prev k (id :: rest)) :
    ∃ p' k', next pl ⟨k, p, prev⟩ = .ok (true, ⟨k', p', id.2⟩) ∧
      (∃ idx, pl.header.namespaces[k']? = some (id.1, idx) ∧ idx ≤ p') ∧ k ≤ k' ∧ p < p' ∧
      Lay pl.ids pl.header.namespaces p' id.2 k' rest ∧
      ((p % 64 ≠ 0 ∧ k' = k ∧ p' ≤ (p / 64 + 1) * 64 ∧ (∀ e, pl.header.namespaces[k + 1]? = some e → p < e.2)) ∨
       (AtBlock pl.ids pl.header.namespaces (p + padLen p) k' id rest ∧
         p' = p + padLen p + (putUvarint id.2).length)) := by
  have hv := h.lt
  rcases h.cases with ⟨hp64, hprev, hp, hfit, ⟨⟨idx0, hk, hidx0⟩, hnext⟩, hrest⟩ | ⟨k', hkk, hpad, hbefore, hat⟩
  · -- delta inside the block
    have hx : id.2 - prev < 2 ^ 64 := Nat.lt_of_le_of_lt (Nat.sub_le _ _) hv
    have hpos := putUvarint_length_pos (id.2 - prev)
    refine ⟨p + (putUvarint (id.2 - prev)).length, k, ?_, ⟨idx0, hk, Nat.le_trans hidx0 (Nat.le_add_right _ _)⟩,
      Nat.le_refl _, Nat.lt_add_of_pos_right hpos, hrest, Or.inl ⟨hp64, rfl, fit_blockEnd hfit, hnext⟩⟩
    rw [next_at_varint hx hp hfit, readAt_varint hx hp, if_neg hp64, walkIndex_stay hnext,
      Nat.add_sub_cancel' hprev, Nat.mod_eq_of_lt hv]
  · -- next block start (after the padding, if any)
    obtain ⟨idx, hk', hidx⟩ := hat.ns
    have hpos := putUvarint_length_pos id.2
    refine ⟨p + padLen p + (putUvarint id.2).length, k', ?_, ⟨idx, hk', Nat.le_trans hidx (Nat.le_add_right _ _)⟩,
      hkk, Nat.lt_of_le_of_lt (Nat.le_add_right p (padLen p)) (Nat.lt_add_of_pos_right hpos), hat.lay,
      Or.inr ⟨hat, rfl⟩⟩
    by_cases hp64 : p % 64 = 0
    · rw [padLen_zero hp64] at hat ⊢
      exact next_atBlock hs hat k prev hkk
    · -- in the padding: skip to the block end
      obtain ⟨b, hb1, hb2⟩ := hbefore hp64
      have hend := blockEnd_of_mid hp64
      have hb := prefix_bound hat.varint hpos
      have hscan : scanBack pl.ids ((p / 64 + 1) * 64) = .ok p := by
        rw [hend]
        exact scanBack_eq (Nat.pos_of_ne_zero fun h0 => hp64 (by rw [h0])) hb1 hb2 (p + padLen p)
          (Nat.le_add_right _ _) hpad
      rw [next_skip (it := ⟨k, p, prev⟩) (hend ▸ Nat.lt_of_lt_of_le (Nat.lt_add_of_pos_right hpos) hb) hscan, hend]
      exact readAt_atBlock hs hat prev hkk

theorem drainFuel_succ {pl : PostingList} {st : It} {k' p' idx fuel : Nat} {id : Id} {rest : List Id}
    (hn : next pl st = .ok (true, ⟨k', p', id.2⟩)) (hk : pl.header.namespaces[k']? = some (id.1, idx))
    (htail : drainFuel pl fuel ⟨k', p', id.2⟩ = some rest) : drainFuel pl (fuel + 1) st = some (id :: rest) := by
  unfold drainFuel
  rw [hn]
  simp only [cur, hk, htail]

theorem drainFuel_lay {pl : PostingList} (hs : NssSorted pl.header.namespaces) :
    ∀ (l : List Id) (p prev k fuel : Nat), Lay pl.ids pl.header.namespaces p prev k l → l.length < fuel →
      drainFuel pl fuel ⟨k, p, prev⟩ = some l := by
  intro l
  induction l with
  | nil =>
    intro p prev k fuel h hf
    obtain ⟨fuel, rfl⟩ := Nat.exists_eq_succ_of_ne_zero (Nat.ne_of_gt hf)
    unfold drainFuel
    rw [next_end (Nat.le_of_eq h.symm)]
  | cons id rest ih =>
    intro p prev k fuel h hf
    obtain ⟨fuel, rfl⟩ := Nat.exists_eq_succ_of_ne_zero (Nat.ne_of_gt (Nat.zero_lt_of_lt hf))
    obtain ⟨p', k', hn, ⟨idx, hk', _⟩, _, _, hrest, _⟩ := next_lay hs h
    exact drainFuel_succ hn hk' (ih p' id.2 k' fuel hrest (Nat.lt_of_succ_lt_succ hf))

/-! ## the encoder: `Append` continues the block with a delta, or pads and starts a new block -/

theorem wrapSub_eq_mod {v prev : Nat} (hv : v < 2 ^ 64) (hp : prev < 2 ^ 64) :
    wrapSub v prev = (v + 2 ^ 64 - prev) % 2 ^ 64 := by
  fun_cases wrapSub v prev with
  | case1 h =>
    rw [Nat.sub_add_comm h, Nat.add_mod_right, Nat.mod_eq_of_lt (Nat.lt_of_le_of_lt (Nat.sub_le _ _) hv)]
  | case2 h =>
    generalize 2 ^ 64 = N at hv hp ⊢
    obtain ⟨d, rfl⟩ := Nat.exists_eq_add_of_le (Nat.le_of_lt (Nat.lt_of_not_le h))
    have hd : 0 < d := Nat.pos_of_ne_zero fun h0 => h (by rw [h0]; exact Nat.le_refl _)
    rw [Nat.add_sub_cancel_left, Nat.add_sub_add_left, Nat.mod_eq_of_lt (Nat.sub_lt (Nat.zero_lt_of_lt hv) hd)]

theorem wrapSub_le {v prev : Nat} (h : prev ≤ v) : wrapSub v prev = v - prev := by
  unfold wrapSub; rw [if_pos h]

theorem wrapSub_zero (v : Nat) : wrapSub v 0 = v := by
  unfold wrapSub; rw [if_pos (Nat.zero_le v)]; rfl

theorem nsSwitch_same {s : Enc} {tnn : Nat} (h : tnn = s.tn) : nsSwitch s tnn = ([], none, s) := by
  simp [nsSwitch, h]

theorem nsSwitch_other {s : Enc} {tnn : Nat} (h : tnn ≠ s.tn) :
    nsSwitch s tnn = (padBytes s.len, some (tnn, s.len + padLen s.len),
      { s with tn := tnn, len := s.len + padLen s.len }) := by
  unfold nsSwitch; rw [if_pos h]

theorem blockReset_mid {s : Enc} (h64 : s.len % 64 ≠ 0) : blockReset s = s := by
  unfold blockReset; rw [if_neg h64]

theorem blockReset_start {s : Enc} (h64 : s.len % 64 = 0) :
    blockReset s = { s with start := s.len, previous := 0 } := by
  unfold blockReset; rw [if_pos h64]

theorem emit_delta {s : Enc} {v : Nat}
    (hc : ¬ (s.len - s.start) + (putUvarint (wrapSub v s.previous)).length > 64) :
    emit s v = (putUvarint (wrapSub v s.previous),
      { s with len := s.len + (putUvarint (wrapSub v s.previous)).length, previous := v }) := by
  unfold emit
  simp only []
  rw [if_neg hc]

theorem emit_cross {s : Enc} {v : Nat}
    (hc : (s.len - s.start) + (putUvarint (wrapSub v s.previous)).length > 64) :
    emit s v = (padBytes s.len ++ putUvarint v,
      { s with len := s.len + padLen s.len + (putUvarint v).length, start := s.len + padLen s.len, previous := v }) := by
  unfold emit
  simp only []
  rw [if_pos hc]

/-- the cases in which `Append` starts a new block with an absolute value -/
def FreshCond (s : Enc) (id : Id) : Prop :=
  id.1 ≠ s.tn ∨ s.len % 64 = 0 ∨ (s.len - s.start) + (putUvarint (wrapSub id.2 s.previous)).length > 64

theorem emit_blockStart {s : Enc} (h64 : s.len % 64 = 0) (v : Nat) :
    emit (blockReset s) v = (putUvarint v, ⟨s.len + (putUvarint v).length, s.tn, s.len, v⟩) := by
  have hle := putUvarint_length_le v
  rw [blockReset_start h64, emit_delta (by dsimp only; rw [wrapSub_zero, Nat.sub_self]; omega)]
  dsimp only
  rw [wrapSub_zero]

theorem appendStep_fresh {s : Enc} {id : Id} (h : FreshCond s id) :
    appendStep s id = (padBytes s.len ++ putUvarint id.2,
      if id.1 ≠ s.tn then some (id.1, s.len + padLen s.len) else none,
      ⟨s.len + padLen s.len + (putUvarint id.2).length, id.1, s.len + padLen s.len, id.2⟩) := by
  unfold appendStep
  by_cases hsw : id.1 ≠ s.tn
  · rw [nsSwitch_other hsw, if_pos hsw]
    dsimp only
    rw [emit_blockStart (padLen_mod s.len)]
  · have hsw' : id.1 = s.tn := Decidable.not_not.1 hsw
    rw [nsSwitch_same hsw', if_neg hsw, hsw']
    dsimp only
    by_cases h64 : s.len % 64 = 0
    · rw [emit_blockStart h64]
      simp only [padBytes, padLen_zero h64, List.replicate_zero, List.nil_append, Nat.add_zero]
    · rw [blockReset_mid h64, emit_cross ((h.resolve_left hsw).resolve_left h64)]
      simp only [List.nil_append]

theorem appendStep_delta {s : Enc} {id : Id} (h : ¬ FreshCond s id) :
    appendStep s id = (putUvarint (wrapSub id.2 s.previous), none,
      ⟨s.len + (putUvarint (wrapSub id.2 s.previous)).length, s.tn, s.start, id.2⟩) := by
  have hsw : id.1 = s.tn := Decidable.not_not.1 fun hh => h (Or.inl hh)
  unfold appendStep
  rw [nsSwitch_same hsw]
  dsimp only
  rw [blockReset_mid fun hh => h (Or.inr (Or.inl hh)), emit_delta fun hh => h (Or.inr (Or.inr hh))]
  simp only [List.nil_append]

/-- either way `Append` writes `m` padding bytes and one varint, and records an entry exactly when the
`TypeAndNamespace` changes -/
theorem appendStep_shape (s : Enc) (id : Id) : ∃ m w st,
    appendStep s id = (List.replicate m 128 ++ putUvarint w,
      if id.1 ≠ s.tn then some (id.1, s.len + m) else none,
      ⟨s.len + m + (putUvarint w).length, id.1, st, id.2⟩) ∧
    ((FreshCond s id ∧ m = padLen s.len ∧ w = id.2 ∧ st = s.len + m) ∨
     (¬ FreshCond s id ∧ m = 0 ∧ w = wrapSub id.2 s.previous ∧ st = s.start)) := by
  by_cases hf : FreshCond s id
  · exact ⟨padLen s.len, id.2, s.len + padLen s.len, appendStep_fresh hf, Or.inl ⟨hf, rfl, rfl, rfl⟩⟩
  · have hsw : id.1 = s.tn := Decidable.not_not.1 fun hh => hf (Or.inl hh)
    refine ⟨0, wrapSub id.2 s.previous, s.start, ?_, Or.inr ⟨hf, rfl, rfl, rfl⟩⟩
    rw [appendStep_delta hf, if_neg (not_not_intro hsw), hsw]
    rfl

theorem appendStep_spec (s : Enc) (id : Id) :
    (appendStep s id).2.2.len = s.len + (appendStep s id).1.length ∧ s.len < (appendStep s id).2.2.len ∧
    ∀ e, (appendStep s id).2.1 = some e →
      e = (id.1, s.len + padLen s.len) ∧ e.2 < (appendStep s id).2.2.len := by
  obtain ⟨m, w, st, hstep, hcase⟩ := appendStep_shape s id
  have hpos := putUvarint_length_pos w
  rw [hstep]
  refine ⟨by simp only [List.length_append, List.length_replicate, Nat.add_assoc], by dsimp only; omega, ?_⟩
  intro e he
  dsimp only at he ⊢
  split at he
  · rename_i hsw
    have hm : m = padLen s.len := by
      rcases hcase with h | h
      · exact h.2.1
      · exact absurd (Or.inl hsw) h.1
    cases he
    exact ⟨by rw [hm], by dsimp only; omega⟩
  · cases he

theorem encodeFrom_cons (s : Enc) (id : Id) (rest : List Id) :
    encodeFrom s (id :: rest) =
      ((appendStep s id).1 ++ (encodeFrom (appendStep s id).2.2 rest).1,
       (appendStep s id).2.1.toList ++ (encodeFrom (appendStep s id).2.2 rest).2) := rfl

theorem encodeFrom_nss_spec : ∀ (rest : List Id) (s : Enc) (e : NsIndex), e ∈ (encodeFrom s rest).2 →
    s.len ≤ e.2 ∧ e.2 % 64 = 0 ∧ e.2 < s.len + (encodeFrom s rest).1.length ∧ ∃ id ∈ rest, e.1 = id.1 := by
  intro rest s e he
  fun_induction encodeFrom s rest with
  | case1 s => cases he
  | case2 s id rest _ _ ih =>
    obtain ⟨hlen, hlt, hent⟩ := appendStep_spec s id
    rw [List.length_append]
    rcases List.mem_append.1 he with h | h
    · obtain ⟨rfl, h2⟩ := hent e (Option.mem_toList.1 h)
      exact ⟨Nat.le_add_right _ _, padLen_mod s.len,
        Nat.lt_of_lt_of_le h2 (Nat.le_trans (Nat.le_of_eq hlen) (Nat.add_le_add_left (Nat.le_add_right _ _) _)),
        id, List.mem_cons_self, rfl⟩
    · obtain ⟨h1, h2, h3, id', hmem, h4⟩ := ih h
      exact ⟨Nat.le_trans (Nat.le_of_lt hlt) h1, h2,
        Nat.lt_of_lt_of_le h3 (Nat.le_of_eq (by rw [hlen, Nat.add_assoc])), id',
        List.mem_cons_of_mem _ hmem, h4⟩

theorem encodeFrom_nss_sorted : ∀ (rest : List Id) (s : Enc), NssSorted (encodeFrom s rest).2 := by
  intro rest s
  fun_induction encodeFrom s rest with
  | case1 s => exact List.Pairwise.nil
  | case2 s id rest _ _ ih =>
    refine List.pairwise_append.2 ⟨?_, ih, ?_⟩
    · cases (appendStep s id).2.1 with
      | none => exact List.Pairwise.nil
      | some e => exact List.pairwise_singleton _ _
    · intro a ha b hb
      exact Nat.lt_of_lt_of_le ((appendStep_spec s id).2.2 a (Option.mem_toList.1 ha)).2 (encodeFrom_nss_spec rest _ b hb).1

theorem append_padded {pre x post : Bytes} {n : Nat} (m : Nat) (hn : pre.length = n) :
    (∀ i, i < n → ((pre ++ (List.replicate m 128 ++ x)) ++ post)[i]? = pre[i]?) ∧
    (∀ i, n ≤ i → i < n + m → ((pre ++ (List.replicate m 128 ++ x)) ++ post)[i]? = some 128) ∧
    x <+: ((pre ++ (List.replicate m 128 ++ x)) ++ post).drop (n + m) := by
  subst hn
  refine ⟨fun i hi => ?_, fun i h1 h2 => ?_, ?_⟩
  · rw [List.append_assoc, List.getElem?_append_left hi]
  · rw [List.append_assoc, List.append_assoc, List.getElem?_append_right h1,
      List.getElem?_append_left (by rw [List.length_replicate]; omega), List.getElem?_replicate,
      if_pos (by omega)]
  · rw [← List.append_assoc pre, List.append_assoc _ x, List.drop_left' (by rw [List.length_append, List.length_replicate])]
    exact List.prefix_append _ _

/-- what the encoder knows after some `Append`s: `pre` = bytes written, `nsPre` = namespace entries recorded.
`tn0`: the encoder starts with `tn = 0` (`TypeAndNamespaceInvalid`), so a first id with `TypeAndNamespace` 0 would
record no namespace entry; this is why `Chain` (and `ValidIds`) ask `id.1 ≠ 0`. -/
structure EncInv (s : Enc) (pre : Bytes) (nsPre : List NsIndex) : Prop where
  len : pre.length = s.len
  start : s.len % 64 ≠ 0 → s.start = s.len / 64 * 64
  last : s.len % 64 ≠ 0 → ∃ b, pre[s.len - 1]? = some b ∧ b ≠ 128
  tn0 : nsPre = [] → s.tn = 0
  tn1 : nsPre ≠ [] → ∃ idx, nsPre[nsPre.length - 1]? = some (s.tn, idx) ∧ idx ≤ s.len
  prev : s.previous < 2 ^ 64

/-- id lists the encoder is proved correct for: values are `uint64`, no `TypeAndNamespace` 0, and inside a run
of equal `TypeAndNamespace` the values do not decrease (`tn`, `prev` = the id before the list) -/
def Chain : Nat → Nat → List Id → Prop
  | _, _, [] => True
  | tn, prev, id :: rest => id.2 < 2 ^ 64 ∧ id.1 ≠ 0 ∧ (id.1 = tn → prev ≤ id.2) ∧ Chain id.1 id.2 rest

theorem encInv_init : EncInv Enc.init [] [] where
  len := rfl
  start := fun h => absurd rfl h
  last := fun h => absurd rfl h
  tn0 := fun _ => rfl
  tn1 := fun h => absurd rfl h
  prev := Nat.two_pow_pos 64

theorem getLastIdx_append_singleton {α : Type} (l : List α) (a : α) :
    (l ++ [a])[(l ++ [a]).length - 1]? = some a := by
  simp

/-- for any `N` equal to the extended entry list, so that it applies under `generalize` -/
theorem EncInv.lastNs {s : Enc} {pre : Bytes} {nsPre : List NsIndex} (inv : EncInv s pre nsPre) {id : Id}
    (hne0 : id.1 ≠ 0) {q : Nat} (hq : s.len ≤ q) (N : List NsIndex)
    (hN : N = nsPre ++ (if id.1 ≠ s.tn then some (id.1, q) else none).toList) :
    N ≠ [] ∧ nsPre.length ≤ N.length ∧ ∃ idx, N[N.length - 1]? = some (id.1, idx) ∧ idx ≤ q := by
  subst hN
  by_cases hsw : id.1 ≠ s.tn
  · rw [if_pos hsw]
    exact ⟨List.append_ne_nil_of_right_ne_nil _ (List.cons_ne_nil _ _), by rw [List.length_append]; exact Nat.le_add_right _ _,
      q, getLastIdx_append_singleton _ _, Nat.le_refl _⟩
  · rw [if_neg hsw, Option.toList_none, List.append_nil]
    have hsw' : id.1 = s.tn := Decidable.not_not.1 hsw
    have hnn : nsPre ≠ [] := fun h0 => hne0 (hsw'.trans (inv.tn0 h0))
    obtain ⟨idx, h1, h2⟩ := inv.tn1 hnn
    exact ⟨hnn, Nat.le_refl _, idx, by rw [h1, hsw'], Nat.le_trans h2 hq⟩

theorem encodeFrom_lay : ∀ (rest : List Id) (s : Enc) (pre : Bytes) (nsPre : List NsIndex),
    EncInv s pre nsPre → Chain s.tn s.previous rest →
    Lay (pre ++ (encodeFrom s rest).1) (nsPre ++ (encodeFrom s rest).2) s.len s.previous
      (nsPre.length - 1) rest := by
  intro rest
  induction rest with
  | nil =>
    intro s pre nsPre inv _
    simp only [encodeFrom, List.append_nil, Lay]
    exact inv.len.symm
  | cons id rest ih =>
    intro s pre nsPre inv hch
    obtain ⟨hv, hne0, hprev, hch'⟩ := hch
    obtain ⟨m, w, st, hstep, hcase⟩ := appendStep_shape s id
    rw [encodeFrom_cons, hstep]
    dsimp only
    generalize hN : nsPre ++ (if id.1 ≠ s.tn then some (id.1, s.len + m) else none).toList = N
    have hfacts : w < 2 ^ 64 ∧
        ((s.len + m + (putUvarint w).length) % 64 ≠ 0 → st = (s.len + m + (putUvarint w).length) / 64 * 64) ∧
        (¬ FreshCond s id → s.len % 64 + (putUvarint w).length ≤ 64) := by
      rcases hcase with ⟨hf, rfl, rfl, rfl⟩ | ⟨hf, rfl, rfl, rfl⟩
      · exact ⟨hv, fun _ => block_of_fresh (padLen_mod s.len) (putUvarint_length_le id.2), fun h => absurd hf h⟩
      · have hsw : id.1 = s.tn := Decidable.not_not.1 fun hh => hf (Or.inl hh)
        have hstart := inv.start fun hh => hf (Or.inr (Or.inl hh))
        have hfit : s.len % 64 + (putUvarint (wrapSub id.2 s.previous)).length ≤ 64 := by
          rw [← sub_block_start, ← hstart]
          exact Nat.le_of_not_lt fun hh => hf (Or.inr (Or.inr hh))
        rw [wrapSub_le (hprev hsw)] at hfit ⊢
        exact ⟨Nat.lt_of_le_of_lt (Nat.sub_le _ _) hv, fun h => hstart.trans (block_of_delta hfit h), fun _ => hfit⟩
    obtain ⟨hw, hst, hfit⟩ := hfacts
    have hn1 := putUvarint_length_pos w
    obtain ⟨hNne, hNlen, idx, hk', hidx⟩ := inv.lastNs hne0 (Nat.le_add_right s.len m) N hN.symm
    have hNpos : 0 < N.length := List.length_pos_iff.2 hNne
    obtain ⟨s', hs'⟩ : ∃ s' : Enc, s' = ⟨s.len + m + (putUvarint w).length, id.1, st, id.2⟩ := ⟨_, rfl⟩
    rw [← hs']
    have inv' : EncInv s' (pre ++ (List.replicate m 128 ++ putUvarint w)) N := by
      subst hs'
      refine ⟨?_, hst, fun _ => ?_, fun h => absurd h hNne,
        fun _ => ⟨idx, hk', Nat.le_trans hidx (Nat.le_add_right _ _)⟩, hv⟩
      · simp only [List.length_append, List.length_replicate, inv.len, Nat.add_assoc]
      · have := (append_padded (x := putUvarint w) (post := []) m inv.len).2.2
        rw [List.append_nil] at this
        exact last_byte_of_prefix hw this
    have hIH := ih s' _ _ inv' (by subst hs'; exact hch')
    rw [← List.append_assoc pre, ← List.append_assoc nsPre, hN]
    obtain ⟨hlow, hpadb, hvar⟩ := append_padded (x := putUvarint w) (post := (encodeFrom s' rest).1) m inv.len
    have hk : (N ++ (encodeFrom s' rest).2)[N.length - 1]? = some (id.1, idx) := by
      rw [List.getElem?_append_left (Nat.sub_lt hNpos Nat.one_pos)]; exact hk'
    have hnext : ∀ e, (N ++ (encodeFrom s' rest).2)[N.length - 1 + 1]? = some e → s.len + m < e.2 := by
      intro e he
      rw [Nat.sub_add_cancel hNpos, List.getElem?_append_right (Nat.le_refl _), Nat.sub_self] at he
      have := (encodeFrom_nss_spec rest s' e (List.mem_of_getElem? he)).1
      rw [hs'] at this
      exact Nat.lt_of_lt_of_le (Nat.lt_add_of_pos_right hn1) this
    subst hs'
    rcases hcase with ⟨_, rfl, rfl, rfl⟩ | ⟨hf, rfl, rfl, rfl⟩
    · -- a new block: padding (if any), then the absolute value
      refine ⟨hv, Or.inr ⟨N.length - 1, Nat.sub_le_sub_right hNlen 1, hpadb, fun h64 => ?_, hvar, ⟨idx, hk, hidx⟩,
        hnext, hIH⟩⟩
      obtain ⟨b, hb1, hb2⟩ := inv.last h64
      have hpos : 0 < s.len := Nat.pos_of_ne_zero fun h0 => h64 (by rw [h0])
      exact ⟨b, by rw [hlow _ (Nat.sub_lt hpos Nat.one_pos)]; exact hb1, hb2⟩
    · -- a delta inside the current block
      have hsw : id.1 = s.tn := Decidable.not_not.1 fun hh => hf (Or.inl hh)
      have h64 : s.len % 64 ≠ 0 := fun hh => hf (Or.inr (Or.inl hh))
      rw [if_neg (not_not_intro hsw), Option.toList_none, List.append_nil] at hN
      subst hN
      rw [wrapSub_le (hprev hsw)] at hvar hIH hk hnext hfit ⊢
      exact ⟨hv, Or.inl ⟨h64, hprev hsw, hvar, hfit hf, ⟨idx, hk, hidx⟩, hnext, hIH⟩⟩

/-! ## every block start inside a layout is the start of an id -/

theorem lay_blocks {full : Bytes} {nss : List NsIndex} : ∀ (l : List Id) (p prev k : Nat),
    Lay full nss p prev k l → ∀ b, p ≤ 64 * b → 64 * b < full.length →
    ∃ a id c k', l = a ++ id :: c ∧ k ≤ k' ∧ AtBlock full nss (64 * b) k' id c ∧
      (∀ x ∈ a, ∃ kx idx, k ≤ kx ∧ nss[kx]? = some (x.1, idx) ∧ idx < 64 * b) := by
  intro l
  induction l with
  | nil =>
    intro p prev k h b h1 h2
    unfold Lay at h; omega
  | cons id rest ih =>
    intro p prev k h b h1 h2
    obtain ⟨q, n, k', idx, hpq, hqp, hn, hfit, hkk, hk', hidx, hrest, hat⟩ := h.head
    by_cases hq : q = 64 * b
    · subst hq
      exact ⟨[], id, rest, k', rfl, hkk, hat (Nat.mul_mod_right _ _), fun x hx => nomatch hx⟩
    · -- the id's varint ends before the block `b` starts
      obtain ⟨hlt, hle⟩ := before_block hqp hfit h1 hq
      obtain ⟨a, id', c, k'', hl, hk'', hat', hbef⟩ := ih _ _ _ hrest b hle h2
      refine ⟨id :: a, id', c, k'', by rw [hl]; rfl, Nat.le_trans hkk hk'', hat', ?_⟩
      intro x hx
      rcases List.mem_cons.1 hx with rfl | hx
      · exact ⟨k', idx, hkk, hk', Nat.lt_of_le_of_lt hidx hlt⟩
      · obtain ⟨kx, idxx, h1', h2', h3'⟩ := hbef x hx
        exact ⟨kx, idxx, Nat.le_trans hkk h1', h2', h3'⟩

/-- the padding of a block is exactly its trailing `0x80` bytes: stated for a `Lay` state that sits at the
end of a block's data (`p` not a block start, next id in a new block). -/
theorem lay_padding {full : Bytes} {nss : List NsIndex} {p prev k : Nat} {id : Id} {rest : List Id}
    (h : Lay full nss p prev k (id :: rest)) (hp : p % 64 ≠ 0)
    (hnew : ¬ putUvarint (id.2 - prev) <+: full.drop p ∨ ¬ prev ≤ id.2) :
    (∀ i, p ≤ i → i < p + padLen p → full[i]? = some 128) ∧ (∃ b, full[p - 1]? = some b ∧ b ≠ 128) := by
  rcases h.cases with ⟨_, hprev, hpre, _⟩ | ⟨k', _, hpad, hbefore, _⟩
  · rcases hnew with h | h
    · exact absurd hpre h
    · exact absurd hprev h
  · exact ⟨hpad, hbefore hp⟩

/-! ## `fill` of a sorted list of valid ids -/

def SortedIds (ids : List Id) : Prop := ids.Pairwise idLt

/-- values are `uint64`; `TypeAndNamespace` is not 0 (= point with the invalid namespace `""`).  The driver's `validId`
also asks `id.1 < 65536`, which only the wire format needs (`posting_roundtrip_bytes`). -/
def ValidIds (ids : List Id) : Prop := ∀ id ∈ ids, id.2 < 2 ^ 64 ∧ id.1 ≠ 0

theorem chain_of_sorted : ∀ (ids : List Id) (tn prev : Nat), ValidIds ids → SortedIds ids →
    (∀ id, ids.head? = some id → id.1 = tn → prev ≤ id.2) → Chain tn prev ids := by
  intro ids tn prev hv hs hh
  fun_induction Chain tn prev ids with
  | case1 => trivial
  | case2 tn prev id rest ih =>
    have hvid := hv id (by simp)
    have hs := List.pairwise_cons.1 hs
    refine ⟨hvid.1, hvid.2, hh id rfl, ih (fun x hx => hv x (by simp [hx])) hs.2 ?_⟩
    intro x hx hx1
    have := hs.1 x (List.mem_of_mem_head? hx)
    unfold idLt at this
    omega

theorem fill_nss_sorted (token : Bytes) (ids : List Id) : NssSorted (fill token ids).header.namespaces :=
  encodeFrom_nss_sorted ids Enc.init

theorem fill_lay_chain (token : Bytes) (ids : List Id) (h : Chain 0 0 ids) :
    Lay (fill token ids).ids (fill token ids).header.namespaces 0 0 0 ids :=
  encodeFrom_lay ids Enc.init [] [] encInv_init h

theorem drain_fill_chain (token : Bytes) (ids : List Id) (h : Chain 0 0 ids) :
    drain (fill token ids) = some ids := by
  have hl := fill_lay_chain token ids h
  have hlen := lay_length ids 0 0 0 hl
  exact drainFuel_lay (fill_nss_sorted token ids) ids 0 0 0 _ hl (Nat.lt_succ_of_le (Nat.le_trans (Nat.le_add_left _ _) hlen))

theorem chain_of_valid_sorted {ids : List Id} (hv : ValidIds ids) (hs : SortedIds ids) : Chain 0 0 ids :=
  chain_of_sorted ids 0 0 hv hs (fun _ _ _ => Nat.zero_le _)

theorem fill_lay (token : Bytes) (ids : List Id) (hv : ValidIds ids) (hs : SortedIds ids) :
    Lay (fill token ids).ids (fill token ids).header.namespaces 0 0 0 ids :=
  fill_lay_chain token ids (chain_of_valid_sorted hv hs)

theorem drain_fill (token : Bytes) (ids : List Id) (hv : ValidIds ids) (hs : SortedIds ids) :
    drain (fill token ids) = some ids :=
  drain_fill_chain token ids (chain_of_valid_sorted hv hs)

theorem fill_nss_aligned (token : Bytes) (ids : List Id) :
    ∀ e ∈ (fill token ids).header.namespaces, e.2 % 64 = 0 :=
  fun e he => (encodeFrom_nss_spec ids Enc.init e he).2.1

theorem fill_nss_inRange (token : Bytes) (ids : List Id) :
    ∀ e ∈ (fill token ids).header.namespaces, e.2 < (fill token ids).ids.length := by
  intro e he
  have := (encodeFrom_nss_spec ids Enc.init e he).2.2.1
  rwa [show Enc.init.len = 0 from rfl, Nat.zero_add] at this

theorem fill_blocks (token : Bytes) (ids : List Id) (hv : ValidIds ids) (hs : SortedIds ids) (b : Nat)
    (hb : 64 * b < (fill token ids).ids.length) :
    ∃ a id c k', ids = a ++ id :: c ∧
      AtBlock (fill token ids).ids (fill token ids).header.namespaces (64 * b) k' id c := by
  obtain ⟨a, id, c, k', h1, _, h2, _⟩ := lay_blocks ids 0 0 0 (fill_lay token ids hv hs) b (Nat.zero_le _) hb
  exact ⟨a, id, c, k', h1, h2⟩

end B6.Model.Posting
