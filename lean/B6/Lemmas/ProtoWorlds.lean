import B6.Model.Proto.Worlds
import B6.Lemmas.ProtoService
/-! The `MutableWorlds` mutex model (`Model/Proto/Worlds.lean`, C40): a caller is inside the critical section exactly when it is the
holder, and what it saw of the map at `body` still holds at `insert`/`unlock`, because the map only changes under the mutex (`WInv`). -/
namespace B6.Lemmas.ProtoWorlds
open B6.Model.Proto B6.Model.Proto.Service B6.Model.Proto.Worlds B6.Lemmas.ProtoService

/-- inside the critical section of `MutableWorlds.lock` -/
def inCS (pc : Worlds.Pc) : Bool := pc == .body || pc == .insert || pc == .unlock

structure WInv (s : Worlds.State) : Prop where
  hold : ∀ (j : Nat) (c : Worlds.Client), s.clients[j]? = some c → (inCS c.pc = true ↔ s.holder = some j)
  valid : ∀ i, s.holder = some i → i < s.clients.length
  ins : ∀ (j : Nat) (c : Worlds.Client), s.clients[j]? = some c → c.pc = .insert →
    ∃ wid, c.op = .findOrCreate wid ∧ mfind s.map wid = none
  unl : ∀ (j : Nat) (c : Worlds.Client) (wid : Nat), s.clients[j]? = some c → c.pc = .unlock →
    c.op = .findOrCreate wid → ∃ o, c.result = some o ∧ mfind s.map wid = some o
  keys : (s.map.map (·.1)).Nodup

theorem mfind_mset (m : List (Nat × Nat)) (wid o w' : Nat) :
    mfind (mset m wid o) w' = if w' = wid then some o else mfind m w' :=
  mfind_isLookup.upsert (put := fun m e => mset m e.1 e.2) (upd := fun _ e => e) (fun _ => rfl) (fun _ _ _ => rfl)
    (fun _ _ _ => ⟨rfl, rfl⟩) m (wid, o) w'

theorem keys_mset (m : List (Nat × Nat)) (wid o : Nat) (h : (m.map (·.1)).Nodup) :
    ((mset m wid o).map (·.1)).Nodup :=
  Basic.nodup_upsert (key := Prod.fst) (put := fun m e => mset m e.1 e.2) (upd := fun _ e => e) (fun _ => rfl)
    (fun _ _ _ => rfl) (fun _ _ _ => rfl) h (wid, o)

/-- the map only changes under the mutex, and then nobody else is at `insert` or `unlock` -/
theorem winv_update {s t : Worlds.State} (h : WInv s) {i : Nat} {c c' : Worlds.Client} (hc : s.clients[i]? = some c)
    (e : t.clients = s.clients)
    (hhold : inCS c'.pc = true ↔ t.holder = some i)
    (hoth : ∀ j, j ≠ i → (t.holder = some j ↔ s.holder = some j))
    (hmap : t.map = s.map ∨ s.holder = some i)
    (hins : c'.pc = .insert → ∃ wid, c'.op = .findOrCreate wid ∧ mfind t.map wid = none)
    (hunl : ∀ wid, c'.pc = .unlock → c'.op = .findOrCreate wid → ∃ o, c'.result = some o ∧ mfind t.map wid = some o)
    (hkeys : (t.map.map (·.1)).Nodup) : WInv (Worlds.setClient t i c') := by
  have e : (Worlds.setClient t i c').clients = s.clients.set i c' := congrArg (List.set · i c') e
  have hi : i < s.clients.length := Basic.lt_length_of_getElem? hc
  -- another client inside the critical section excludes a change of the map
  have other : ∀ (j : Nat) (cj : Worlds.Client), j ≠ i → s.clients[j]? = some cj → inCS cj.pc = true → t.map = s.map := by
    intro j cj hji hj hin
    rcases hmap with hm | hm
    · exact hm
    · exact absurd (Option.some.inj ((h.hold j cj hj).mp hin ▸ hm)) hji
  refine ⟨?_, ?_, ?_, ?_, hkeys⟩
  · rw [e]
    exact Basic.forall_getElem?_set hhold fun j cj hji hj => (h.hold j cj hj).trans (hoth j hji).symm
  · intro j hj
    rw [e, List.length_set]
    by_cases hji : j = i
    · exact hji ▸ hi
    · exact h.valid j ((hoth j hji).mp hj)
  · rw [e]
    refine Basic.forall_getElem?_set hins fun j cj hji hj hp => ?_
    show ∃ wid, cj.op = .findOrCreate wid ∧ mfind t.map wid = none
    rw [other j cj hji hj (by rw [hp]; rfl)]; exact h.ins j cj hj hp
  · intro j cj wid hj hp ho
    rcases getElem?_set_some (e ▸ hj) with ⟨_, rfl⟩ | ⟨hji, hj⟩
    · exact hunl wid hp ho
    · show ∃ o, cj.result = some o ∧ mfind t.map wid = some o
      rw [other j cj hji hj (by rw [hp]; rfl)]; exact h.unl j cj wid hj hp ho

theorem winv_step (s s' : Worlds.State) (h : WInv s) (hs : s' ∈ Worlds.step s) : WInv s' := by
  obtain ⟨i, c, hc, hs⟩ := mem_forWorkers.mp hs
  have hci := h.hold i c hc
  have same : ∀ j, j ≠ i → (s.holder = some j ↔ s.holder = some j) := fun _ _ => Iff.rfl
  unfold Worlds.clientStep at hs
  split at hs
  · -- lock
    next hpc =>
    rw [mem_guard] at hs
    obtain ⟨hnone, rfl⟩ := hs
    refine winv_update h hc rfl (by simp [inCS]) ?_ (Or.inl rfl) nofun nofun h.keys
    intro j hji
    simp [hnone, Ne.symm hji]
  · -- body
    next hpc =>
    have hhold := hci.mp (by rw [hpc]; rfl)
    split at hs
    · next wid hop =>
      split at hs
      · next o ho =>
        rw [List.mem_singleton] at hs; subst hs
        exact winv_update h hc rfl (by simp [inCS, hhold]) same (Or.inl rfl) nofun
          (fun wid' _ e => by cases hop.symm.trans e; exact ⟨o, rfl, ho⟩) h.keys
      · next ho =>
        rw [List.mem_singleton] at hs; subst hs
        exact winv_update h hc rfl (by simp [inCS, hhold]) same (Or.inl rfl)
          (fun _ => ⟨wid, hop, ho⟩) nofun h.keys
    · next wid hop =>
      rw [List.mem_singleton] at hs; subst hs
      exact winv_update h hc rfl (by simp [inCS, hhold]) same (Or.inr hhold) nofun
        (fun wid' _ e => by cases hop.symm.trans e) (Basic.nodup_map_filter _ h.keys)
    · next hop =>
      rw [List.mem_singleton] at hs; subst hs
      exact winv_update h hc rfl (by simp [inCS, hhold]) same (Or.inl rfl) nofun
        (fun wid' _ e => by cases hop.symm.trans e) h.keys
  · -- insert
    next hpc =>
    have hhold := hci.mp (by rw [hpc]; rfl)
    obtain ⟨wid, hop, hnone⟩ := h.ins i c hc hpc
    rw [hop] at hs
    rw [List.mem_singleton] at hs; subst hs
    exact winv_update h hc rfl (by simp [inCS, hhold]) same (Or.inr hhold) nofun
      (fun wid' _ e => by cases e; exact ⟨s.next, rfl, by simp [mfind_mset]⟩)
      (keys_mset _ _ _ h.keys)
  · -- unlock
    next hpc =>
    have hhold := hci.mp (by rw [hpc]; rfl)
    rw [List.mem_singleton] at hs; subst hs
    refine winv_update h hc rfl (by simp [inCS]) ?_ (Or.inl rfl) nofun nofun h.keys
    intro j hji
    simp [hhold, Ne.symm hji]
  · cases hs

theorem winv_init (m : List (Nat × Nat)) (next : Nat) (ops : List Op) (hk : (m.map (·.1)).Nodup) :
    WInv (Worlds.init m next ops) := by
  have hpc : ∀ (j : Nat) (c : Worlds.Client), (Worlds.init m next ops).clients[j]? = some c → c.pc = .lock := by
    intro j c hj
    simp only [Worlds.init, List.getElem?_map] at hj
    obtain ⟨r, -, rfl⟩ := Option.map_eq_some_iff.mp hj
    rfl
  refine ⟨?_, ?_, ?_, ?_, hk⟩
  · intro j c hj; simp [inCS, hpc j c hj, Worlds.init]
  · intro i hi; simp [Worlds.init] at hi
  · intro j c hj hp; rw [hpc j c hj] at hp; simp at hp
  · intro j c wid hj hp; rw [hpc j c hj] at hp; simp at hp

theorem reachable_winv {m : List (Nat × Nat)} {next : Nat} {ops : List Op} (hk : (m.map (·.1)).Nodup)
    {s : Worlds.State} (h : Reachable Worlds.step (Worlds.init m next ops) s) : WInv s :=
  Reachable.invariant WInv (winv_init m next ops hk) (fun s s' => winv_step s s') s h

theorem wstep_ne_nil {s : Worlds.State} {i : Nat} {c : Worlds.Client} (hc : s.clients[i]? = some c)
    (h : Worlds.clientStep s i c ≠ []) : Worlds.step s ≠ [] := by
  obtain ⟨x, hx⟩ := List.exists_mem_of_ne_nil _ h
  exact List.ne_nil_of_mem (mem_forWorkers.mpr ⟨i, c, hc, hx⟩)

/-- the mutex model never deadlocks: the holder of `MutableWorlds.lock` can always go on, and when nobody holds
it every unfinished caller can take it -/
theorem worlds_not_deadlocked (s : Worlds.State) (h : WInv s) :
    deadlocked Worlds.step Worlds.terminal s = false := by
  refine deadlocked_eq_false fun ht => ?_
  cases hh : s.holder with
  | some i =>
    have hi := h.valid i hh
    have hc : s.clients[i]? = some s.clients[i] := List.getElem?_eq_getElem hi
    have hin := (h.hold i _ hc).mpr hh
    apply wstep_ne_nil hc
    unfold Worlds.clientStep
    -- the holder is at `body`, `insert` or `unlock`; `unlock` always has its step
    cases hpc : (s.clients[i]).pc <;> simp [inCS, hpc] at hin ⊢
    · -- `body`: every operation has a step, found or not
      cases hop : (s.clients[i]).op <;> simp
      split <;> simp
    · -- `insert`: only a `findOrCreate` gets there (`WInv.ins`)
      obtain ⟨wid, hop, _⟩ := h.ins i _ hc hpc
      simp [hop]
  | none =>
    have hnd : ∃ c ∈ s.clients, ¬ (c.pc == Worlds.Pc.done) = true := by
      unfold Worlds.terminal at ht
      exact (List.all_eq_false (p := fun c => c.pc == Worlds.Pc.done) (l := s.clients)).mp ht
    obtain ⟨c0, hm, hnd0⟩ := hnd
    obtain ⟨i0, hi0⟩ := List.getElem?_of_mem hm
    have hout : inCS c0.pc = false := by
      cases hcs : inCS c0.pc
      · rfl
      · have := (h.hold i0 c0 hi0).mp hcs; rw [hh] at this; simp at this
    apply wstep_ne_nil hi0
    unfold Worlds.clientStep
    -- an unfinished caller outside the critical section is at `lock`, and the mutex is free
    cases hpc : c0.pc <;> simp [inCS, hpc] at hout hnd0 ⊢
    simp [B6.Model.Proto.guard, hh]

end B6.Lemmas.ProtoWorlds
