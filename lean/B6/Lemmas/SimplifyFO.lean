import B6.Model.Simplify
import B6.Lemmas.Builtins
/-!
C22 `simplify_preserves_lambda_free`, on first-order (FO: lambda-free) programs, in three files of one namespace.  Here: their function
values are chains of partial applications over a builtin (`FnLike`); the simulation `Sim` between values (queries up to
`canon`, no more partial-application layers on the simplified side); the builtin table respects it (`sim_transports`).
`SimplifyFO2`: function application and closed expressions respect it; `SimplifyFO3`: query building and the induction over `Simplify`.
Throughout, the simplified side comes first and is primed: `Sim v' v`, `ResSim r' r`, `ESim e' e`.
-/
namespace B6.Lemmas.SimplifyFO
open B6.Model

def depth : Val → Nat
  | .part g _ _ => depth g + 1
  | _ => 0

/-- `v` denotes builtin `b` with the trailing arguments `L` already bound -/
inductive FnLike : Val → Builtin → List Val → Prop
  | base (b : Builtin) : FnLike (.builtin b) b []
  | part {g : Val} {b : Builtin} {L bs : List Val} : FnLike g b L → bs.length + L.length < b.arity →
      FnLike (.part g bs []) b (bs ++ L)

mutual
  inductive Sim : Val → Val → Prop
    | int (i : Int) : Sim (.int i) (.int i)
    | str (s : String) : Sim (.str s) (.str s)
    | other (k t : String) : Sim (.other k t) (.other k t)
    | query {q' q : Query} : q'.canon = q.canon → Sim (.query q') (.query q)
    | pair {a' a b' b : Val} : Sim a' a → Sim b' b → Sim (.pair a' b') (.pair a b)
    -- `(f)` ↦ `f` removes an empty layer, so the simplified side may have fewer layers; a variadic builtin keeps its
    -- depth, because bare it takes any number of arguments (`Builtin.want`) and under a layer a fixed one (`arity`)
    | fn {v' v : Val} {b : Builtin} {L' L : List Val} : FnLike v' b L' → FnLike v b L → Sims L' L →
        depth v' ≤ depth v → (b.variadic.isSome = true → depth v = depth v') → Sim v' v
  inductive Sims : List Val → List Val → Prop
    | nil : Sims [] []
    | cons {a' a : Val} {as' as : List Val} : Sim a' a → Sims as' as → Sims (a' :: as') (a :: as)
end

theorem Sims_length : ∀ {as' as : List Val}, Sims as' as → as'.length = as.length
  | [], _, h => by cases h; rfl
  | _ :: _, _, h => by cases h with | cons _ h2 => simp [Sims_length h2]

theorem Sims_append : ∀ {as' as bs' bs : List Val}, Sims as' as → Sims bs' bs → Sims (as' ++ bs') (as ++ bs)
  | [], _, _, _, h, hb => by cases h; exact hb
  | _ :: _, _, _, _, h, hb => by cases h with | cons h1 h2 => exact .cons h1 (Sims_append h2 hb)

theorem FnLike.arity : ∀ {v : Val} {b : Builtin} {L : List Val}, FnLike v b L →
    v.arity = some (b.arity - L.length) ∧ L.length ≤ b.arity
  | _, _, _, .base b => by simp [Val.arity]
  | _, _, _, .part (g := g) (bs := bs) (L := L) hg hlt => by
    obtain ⟨h1, h2⟩ := FnLike.arity hg
    simp only [Val.arity, h1, Option.map_some, List.length_append]
    exact ⟨by congr 1; omega, by omega⟩

theorem FnLike.callable {v : Val} {b : Builtin} {L : List Val} (h : FnLike v b L) : v.isCallable = true := by
  cases h <;> rfl

theorem FnLike.det : ∀ {v : Val} {b b2 : Builtin} {L L2 : List Val}, FnLike v b L → FnLike v b2 L2 → b = b2 ∧ L = L2
  | _, _, _, _, _, .base b, h2 => by cases h2; exact ⟨rfl, rfl⟩
  | _, _, _, _, _, .part hg _, h2 => by
    cases h2 with
    | part hg2 _ =>
      obtain ⟨rfl, rfl⟩ := FnLike.det hg hg2
      exact ⟨rfl, rfl⟩

theorem Sim.callable {v' v : Val} (h : Sim v' v) : v'.isCallable = v.isCallable := by
  cases h with
  | fn h1 h2 _ _ _ => rw [h1.callable, h2.callable]
  | _ => rfl

theorem Sim.arity {v' v : Val} (h : Sim v' v) : v'.arity = v.arity := by
  cases h with
  | fn h1 h2 hs _ _ => rw [h1.arity.1, h2.arity.1, Sims_length hs]
  | _ => rfl

theorem Sim.literalable {v' v : Val} (h : Sim v' v) : v'.literalable = v.literalable := by
  cases h with
  | fn h1 h2 _ _ _ => cases h1 <;> cases h2 <;> rfl
  | _ => rfl

theorem Sim.refl_builtin (b : Builtin) : Sim (.builtin b) (.builtin b) :=
  .fn (.base b) (.base b) .nil (Nat.le_refl _) (fun _ => rfl)

theorem Sim.cobs_eq : ∀ {v' v : Val}, Sim v' v → (Simplify.canonVal v').obs = (Simplify.canonVal v).obs
  | _, _, .int _ => rfl
  | _, _, .str _ => rfl
  | _, _, .other _ _ => rfl
  | _, _, .query (q' := q') (q := q) h => by
    show Obs.query q'.canon = Obs.query q.canon
    rw [h]
  | .pair a' b', .pair a b, .pair h1 h2 => by
    show Obs.pair (Simplify.canonVal a').obs (Simplify.canonVal b').obs = Obs.pair _ _
    rw [Sim.cobs_eq h1, Sim.cobs_eq h2]
  | v', v, .fn h1 h2 hs hd hv => by
    have ha := (Sim.fn h1 h2 hs hd hv).arity
    cases h1 <;> cases h2 <;> exact congrArg Obs.fn ha

theorem Sim.query_right {v' : Val} {q : Query} (h : Sim v' (.query q)) : ∃ q', v' = .query q' ∧ q'.canon = q.canon := by
  cases h with
  | query hq => exact ⟨_, rfl, hq⟩
  | fn _ f2 _ _ _ => cases f2

theorem Sim.pair_right {v' a b : Val} (h : Sim v' (.pair a b)) : ∃ a' b', v' = .pair a' b' ∧ Sim a' a ∧ Sim b' b := by
  cases h with
  | pair h1 h2 => exact ⟨_, _, rfl, h1, h2⟩
  | fn _ f2 _ _ _ => cases f2

mutual
  theorem Sim.trans : ∀ {a b c : Val}, Sim a b → Sim b c → Sim a c
    | _, _, _, h, .int _ => h
    | _, _, _, h, .str _ => h
    | _, _, _, h, .other _ _ => h
    | _, _, _, h, .query h2 => by
      obtain ⟨_, rfl, h1⟩ := h.query_right
      exact .query (h1.trans h2)
    | _, _, _, h, .pair g1 g2 => by
      obtain ⟨_, _, rfl, h1, h2⟩ := h.pair_right
      exact .pair (Sim.trans h1 g1) (Sim.trans h2 g2)
    | _, _, _, h, .fn g1 g2 gs gd gv => by
      cases h with
      | fn f1 f2 hs hd hv =>
        obtain ⟨rfl, rfl⟩ := FnLike.det g1 f2
        exact .fn f1 g2 (Sims.trans hs gs) (Nat.le_trans hd gd) (fun hh => (gv hh).trans (hv hh))
      | int _ | str _ | other _ _ | query _ | pair _ _ => cases g1
  theorem Sims.trans : ∀ {a b c : List Val}, Sims a b → Sims b c → Sims a c
    | _, _, _, .nil, .nil => .nil
    | _, _, _, .cons h1 h2, .cons g1 g2 => .cons (Sim.trans h1 g1) (Sims.trans h2 g2)
end

theorem Sim.cell : ∀ {v' v : Val}, Sim v' v → v'.cellToks = v.cellToks
  | _, _, .int _ => rfl
  | _, _, .str _ => rfl
  | _, _, .other _ _ => rfl
  | _, _, .query _ => rfl
  | .pair a' b', .pair a b, .pair h1 h2 => by
    simp [Val.cellToks, Sim.cell h1, Sim.cell h2]
  | v', v, .fn h1 h2 hs hd hv => by
    have ha := (Sim.fn h1 h2 hs hd hv).arity
    cases h1 <;> cases h2 <;> simp only [Val.cellToks] <;> rw [ha]

theorem Sim.refl_lit (l : Lit) : Sim l.toVal l.toVal := by
  cases l <;> simp only [Lit.toVal]
  · exact .int _
  · exact .str _
  · exact .query rfl
  · exact .other _ _

theorem Sim.query_canon {q' q : Query} (h : Sim (.query q') (.query q)) : q'.canon = q.canon := by
  cases h with
  | query hq => exact hq
  | fn f1 _ _ _ _ => cases f1

open B6.Lemmas.Builtins (Lift TransportsBoth Follows)

/-- `Sim` is one of the relations the builtin table carries from arguments to results, in both directions: it is
the identity on numbers and strings, respects pairs, and a query built from related queries has the same canonical form -/
theorem sim_transports : TransportsBoth Sim where
  int_inv h := by cases h with | int => rfl | fn f1 _ _ _ _ => cases f1
  str_inv h := by cases h with | str => rfl | fn f1 _ _ _ _ => cases f1
  query_inv h := by cases h with | query _ => exact ⟨_, rfl⟩ | fn f1 _ _ _ _ => cases f1
  pair_inv h := by cases h with | pair ha hb => exact ⟨_, _, rfl, ha, hb⟩ | fn f1 _ _ _ _ => cases f1
  int_inv' h := by cases h with | int => rfl | fn _ f2 _ _ _ => cases f2
  str_inv' h := by cases h with | str => rfl | fn _ f2 _ _ _ => cases f2
  query_inv' h := let ⟨q', e, _⟩ := h.query_right; ⟨q', e⟩
  pair_inv' h := h.pair_right
  callable := Sim.callable
  arity := Sim.arity
  cell := Sim.cell
  lit := Sim.refl_lit
  builtin := Sim.refl_builtin
  pair := .pair
  typed h := .query (by simp only [Query.canon, h.query_canon])
  inter h1 h2 := .query (by simp only [Query.canon, canonInter, h1.query_canon, h2.query_canon])
  union h1 h2 := .query (by simp only [Query.canon, canonUnion, h1.query_canon, h2.query_canon])

theorem Sims.lift : ∀ {as' as : List Val}, Sims as' as → Lift Sim as' as
  | _, _, .nil => .nil
  | _, _, .cons h hs => .cons h hs.lift

theorem Sims.of_lift : ∀ {as' as : List Val}, Lift Sim as' as → Sims as' as
  | _, _, .nil => .nil
  | _, _, .cons h hs => .cons h (Sims.of_lift hs)

/-- `Follows Sim` (`resSim_iff`), as a function of the two outcomes so that `cases` on them decides it -/
def ResSim : Res Val → Res Val → Prop
  | .ok v', .ok v => Sim v' v
  | .error e', .error e => e' = e
  | _, _ => False

theorem resSim_iff {r' r : Res Val} : ResSim r' r ↔ Follows Sim r' r := by
  cases r' <;> cases r
  · exact ⟨fun h => congrArg _ h.symm, fun h => (Except.error.inj h).symm⟩
  · exact ⟨False.elim, fun h => nomatch h⟩
  · exact ⟨False.elim, fun ⟨_, h, _⟩ => nomatch h⟩
  · exact ⟨fun h => ⟨_, rfl, h⟩, fun ⟨_, h, hv⟩ => Except.ok.inj h ▸ hv⟩

theorem ResSim.follows {r' r : Res Val} (h : ResSim r' r) : Follows Sim r' r := resSim_iff.mp h

theorem ResSim.of_follows {r' r : Res Val} (h : Follows Sim r' r) : ResSim r' r := resSim_iff.mpr h

/-- an outcome that follows another still does after `bind`, as far as the second is not out of fuel -/
theorem follows_bind {α β : Type} {R : α → α → Prop} {S : β → β → Prop} {x' x : Res α} {k' k : α → Res β}
    (hx : x ≠ .error .fuel → Follows R x' x) (hk : ∀ a' a, R a' a → k a ≠ .error .fuel → Follows S (k' a') (k a))
    (h : x.bind k ≠ .error .fuel) : Follows S (x'.bind k') (x.bind k) := by
  obtain ⟨e, rfl, rfl⟩ | ⟨a', a, rfl, rfl, hv⟩ := (hx fun e => h (by rw [e]; rfl)).inv
  · rfl
  · exact hk a' a hv h

theorem ResSim.map_cobs {r' r : Res Val} (h : ResSim r' r) :
    r'.map (fun v => (Simplify.canonVal v).obs) = r.map (fun v => (Simplify.canonVal v).obs) := by
  obtain ⟨e, rfl, rfl⟩ | ⟨v', v, rfl, rfl, hv⟩ := h.follows.inv
  · rfl
  · exact congrArg Except.ok hv.cobs_eq

theorem ResSim.trans {a b c : Res Val} (h1 : ResSim a b) (h2 : ResSim b c) : ResSim a c := by
  cases a <;> cases b <;> cases c <;> simp_all [ResSim]
  exact Sim.trans h1 h2

theorem ResSim.ne_fuel {a b : Res Val} (h : ResSim a b) (hb : b ≠ .error .fuel) : a ≠ .error .fuel := by
  cases a <;> cases b <;> simp_all [ResSim]

end B6.Lemmas.SimplifyFO
