import B6.Model.Merged
import B6.Lemmas.Basic.AssocList
import B6.Lemmas.Basic.List
import B6.Lemmas.Basic.Sorted
import B6.Lemmas.Basic.MapM
/-!
# Lemmas about the merged compact world (C17)

* `mergeAll` (the k-way merge of `b6.MergeFeatures`) of ascending streams is the strictly ascending list of
  the union of their members, by induction on the number of `Next` steps, for any number of streams (the heap-level
  model of the same Go function is `B6.Model.Search.Merged`, C03; no statement connects the two);
* `findIn` / `hasIn` / `loc` are the first answer of a block in merge order (`findIn_eq`, `loc_eq`), hence
  "first hit" over appended block lists, and characterised by the blocks that hold the id; `pathsByPoint`
  adds what each block records against the point, block by block (`pathsByPoint_eq`);
* `each` lists what some block emits; a well-formed block emits exactly the ids it holds.
-/
namespace B6.Lemmas.Merged
open B6.Model.Merged

/-! ## The id order -/

theorem lt_def (a b : ID) : a < b ↔
    (a.typ < b.typ ∨ (a.typ = b.typ ∧ (a.ns < b.ns ∨ (a.ns = b.ns ∧ a.val < b.val)))) := Iff.rfl

theorem eq_iff (a b : ID) : a = b ↔ a.typ = b.typ ∧ a.ns = b.ns ∧ a.val = b.val := by
  cases a; cases b; simp

theorem lt_irrefl (a : ID) : ¬ a < a := by rw [lt_def]; omega

theorem lt_trans {a b c : ID} (h1 : a < b) (h2 : b < c) : a < c :=
  Basic.lex_trans (lt := (· < ·)) Nat.lt_trans (Basic.lex_trans (lt := (· < ·)) Nat.lt_trans Nat.lt_trans) h1 h2

theorem lt_trichotomy (a b : ID) : a < b ∨ a = b ∨ b < a := by
  rw [eq_iff]
  exact Basic.lex_total (lt := (· < ·)) Nat.lt_trichotomy
    (Basic.lex_total (lt := (· < ·)) Nat.lt_trichotomy (Nat.lt_trichotomy a.val b.val))

theorem lt_asymm {a b : ID} (h : a < b) : ¬ b < a := fun h' => lt_irrefl a (lt_trans h h')

/-- `a ≤ b`, `b ≤ c` ⇒ `a ≤ c` -/
theorem not_lt_trans {a b c : ID} (h1 : ¬ b < a) (h2 : ¬ c < b) : ¬ c < a := by
  intro h
  rcases lt_trichotomy a b with h' | h' | h'
  · exact h2 (lt_trans h h')
  · subst h'; exact h2 h
  · exact h1 h'

/-- ascending, repetitions allowed: what a posting-list cursor must yield -/
def Sorted (l : List ID) : Prop := l.Pairwise (fun a b => ¬ b < a)

def StrictSorted (l : List ID) : Prop := l.Pairwise (· < ·)

instance (l : List ID) : Decidable (Sorted l) := by unfold Sorted; infer_instance
instance (l : List ID) : Decidable (StrictSorted l) := by unfold StrictSorted; infer_instance

theorem StrictSorted.sorted {l : List ID} (h : StrictSorted l) : Sorted l :=
  List.Pairwise.imp (fun hab => lt_asymm hab) h

theorem StrictSorted.nodup {l : List ID} (h : StrictSorted l) : l.Nodup :=
  List.Pairwise.nodup_of_irrefl lt_irrefl h

theorem StrictSorted.ext {a b : List ID} (ha : StrictSorted a) (hb : StrictSorted b)
    (h : ∀ x, x ∈ a ↔ x ∈ b) : a = b :=
  List.Pairwise.ext_of_asymm (fun _ _ => lt_asymm) ha hb h

/-! ## The k-way merge -/

theorem minHead_spec (cs : List (List ID)) :
    (minHead cs = none → ∀ c ∈ cs, c = []) ∧
    ∀ m, minHead cs = some m → (∃ t, (m :: t) ∈ cs) ∧ ∀ y t, (y :: t) ∈ cs → ¬ y < m := by
  have hx : ∀ {x m : ID} {tx : List ID} {rest : List (List ID)}, ¬ x < m → (∀ y t, (y :: t) ∈ rest → ¬ y < m) →
      ∀ y t, (y :: t) ∈ (x :: tx) :: rest → ¬ y < m := fun hxm hr y t hy =>
    (List.mem_cons.1 hy).elim (fun e => (List.cons.inj e).1 ▸ hxm) (hr y t)
  fun_induction minHead cs with
  | case1 => exact ⟨fun _ _ h => (nomatch h), fun _ h => nomatch h⟩
  | case2 rest ih =>
    exact ⟨fun h c hc => (List.mem_cons.1 hc).elim id (ih.1 h c), fun m h =>
      ⟨((ih.2 m h).1).imp fun t ht => List.mem_cons_of_mem _ ht,
        fun y t hy => (List.mem_cons.1 hy).elim (fun e => nomatch e) ((ih.2 m h).2 y t)⟩⟩
  | case3 x tx rest h ih =>
    refine ⟨fun e => (nomatch e), fun m e => ?_⟩
    obtain rfl : x = m := Option.some.inj e
    exact ⟨⟨tx, List.mem_cons_self⟩, hx (lt_irrefl x) fun y t hy => nomatch ih.1 h _ hy⟩
  | case4 x tx rest m0 h hlt ih =>
    refine ⟨fun e => (nomatch e), fun m e => ?_⟩
    obtain rfl : m0 = m := Option.some.inj e
    exact ⟨((ih.2 m0 h).1).imp fun t ht => List.mem_cons_of_mem _ ht, hx (lt_asymm hlt) (ih.2 m0 h).2⟩
  | case5 x tx rest m0 h hlt ih =>
    refine ⟨fun e => (nomatch e), fun m e => ?_⟩
    obtain rfl : x = m := Option.some.inj e
    exact ⟨⟨tx, List.mem_cons_self⟩, hx (lt_irrefl x) fun y t hy => not_lt_trans hlt ((ih.2 m0 h).2 y t hy)⟩

theorem mem_dropHead {m x : ID} {c : List ID} (h : x ∈ dropHead m c) : x ∈ c :=
  (List.dropWhile_sublist _).subset h

theorem mem_dropHead_of_ne {m x : ID} {c : List ID} (h : x ∈ c) (hne : x ≠ m) : x ∈ dropHead m c := by
  rw [← List.takeWhile_append_dropWhile (p := (· == m)) (l := c), List.mem_append] at h
  refine h.resolve_left fun ht => hne ?_
  simpa using List.all_eq_true.1 List.all_takeWhile x ht

theorem sorted_dropHead {m : ID} {c : List ID} (h : Sorted c) : Sorted (dropHead m c) :=
  List.Pairwise.sublist (List.dropWhile_sublist _) h

theorem lt_of_mem_dropHead {m x : ID} {c : List ID} (hs : Sorted c) (hge : ∀ y ∈ c, ¬ y < m)
    (h : x ∈ dropHead m c) : m < x := by
  -- in an ascending stream that starts at or above `m` the occurrences of `m` come first: `m ≤ a ≤ b = m`
  rw [dropHead, hs.dropWhile_eq_filter fun a ha b _ hba hb => ?_, List.mem_filter] at h
  · exact (lt_trichotomy m x).resolve_right fun h' => h'.elim (fun e => by simp [e] at h) (hge x h.1)
  · rw [beq_iff_eq] at hb ⊢
    exact ((lt_trichotomy a m).resolve_left (hge a ha)).resolve_right (hb ▸ hba)

theorem totalLength_nil : totalLength [] = 0 := rfl

theorem totalLength_cons (c : List ID) (cs : List (List ID)) :
    totalLength (c :: cs) = c.length + totalLength cs := by
  simp [totalLength]

theorem length_dropHead_le (m : ID) (c : List ID) : (dropHead m c).length ≤ c.length :=
  (List.dropWhile_sublist _).length_le

theorem totalLength_dropHead_le (m : ID) (cs : List (List ID)) :
    totalLength (cs.map (dropHead m)) ≤ totalLength cs := by
  induction cs with
  | nil => exact Nat.le_refl _
  | cons c cs ih =>
    rw [List.map_cons, totalLength_cons, totalLength_cons]
    exact Nat.add_le_add (length_dropHead_le m c) ih

theorem totalLength_dropHead_lt {m : ID} {cs : List (List ID)} {t : List ID} (h : (m :: t) ∈ cs) :
    totalLength (cs.map (dropHead m)) < totalLength cs := by
  induction cs with
  | nil => exact nomatch h
  | cons c cs ih =>
    rw [List.map_cons, totalLength_cons, totalLength_cons]
    rcases List.mem_cons.1 h with e | h'
    · have h1 : (dropHead m c).length < c.length := by
        rw [← e, dropHead, List.dropWhile_cons_of_pos (p := (· == m)) (beq_self_eq_true m)]
        exact Nat.lt_succ_of_le (length_dropHead_le m t)
      exact Nat.add_lt_add_of_lt_of_le h1 (totalLength_dropHead_le m cs)
    · exact Nat.add_lt_add_of_le_of_lt (length_dropHead_le m c) (ih h')

theorem mergeAll_exhausted {cs : List (List ID)} (h : minHead cs = none) :
    StrictSorted [] ∧ ∀ x, x ∈ ([] : List ID) ↔ ∃ c ∈ cs, x ∈ c := by
  refine ⟨List.Pairwise.nil, fun x => ⟨fun hx => (nomatch hx), ?_⟩⟩
  rintro ⟨c, hc, hx⟩
  rw [(minHead_spec cs).1 h c hc] at hx
  exact nomatch hx

theorem mergeAll_spec (fuel : Nat) : ∀ (cs : List (List ID)), (∀ c ∈ cs, Sorted c) →
    totalLength cs ≤ fuel →
    StrictSorted (mergeAll fuel cs) ∧ ∀ x, x ∈ mergeAll fuel cs ↔ ∃ c ∈ cs, x ∈ c := by
  intro cs hs hlen
  fun_induction mergeAll fuel cs with
  | case1 cs =>
    cases h : minHead cs with
    | none => exact mergeAll_exhausted h
    | some m =>
      -- a live stream makes the total length positive
      obtain ⟨⟨t, ht⟩, _⟩ := (minHead_spec cs).2 m h
      have := totalLength_dropHead_lt ht
      omega
  | case2 fuel cs h => exact mergeAll_exhausted h
  | case3 fuel cs m h ih =>
    obtain ⟨⟨t, ht⟩, hle⟩ := (minHead_spec cs).2 m h
    have hge : ∀ c ∈ cs, ∀ y ∈ c, ¬ y < m := by
      intro c hc y hy
      cases c with
      | nil => simp at hy
      | cons z tz =>
        have hz := hle z tz hc
        rcases List.mem_cons.1 hy with e | hy'
        · exact e ▸ hz
        · exact not_lt_trans hz ((List.pairwise_cons.1 (hs _ hc)).1 y hy')
    have hs' : ∀ c ∈ cs.map (dropHead m), Sorted c :=
      List.forall_mem_map.2 fun c hc => sorted_dropHead (hs c hc)
    have hlen' : totalLength (cs.map (dropHead m)) ≤ fuel := by
      have := totalLength_dropHead_lt ht
      omega
    obtain ⟨ihs, ihm⟩ := ih hs' hlen'
    refine ⟨List.pairwise_cons.2 ⟨?_, ihs⟩, fun x => ?_⟩
    · intro y hy
      obtain ⟨c, hc, hyc⟩ := (ihm y).1 hy
      obtain ⟨c0, hc0, rfl⟩ := List.mem_map.1 hc
      exact lt_of_mem_dropHead (hs c0 hc0) (hge c0 hc0) hyc
    · rw [List.mem_cons, ihm]
      constructor
      · rintro (e | ⟨c, hc, hx⟩)
        · exact ⟨m :: t, ht, by simp [e]⟩
        · obtain ⟨c0, hc0, rfl⟩ := List.mem_map.1 hc
          exact ⟨c0, hc0, mem_dropHead hx⟩
      · rintro ⟨c, hc, hx⟩
        by_cases e : x = m
        · exact Or.inl e
        · exact Or.inr ⟨dropHead m c, List.mem_map.2 ⟨c, hc, rfl⟩, mem_dropHead_of_ne hx e⟩

theorem merged_spec (cs : List (List ID)) (hs : ∀ c ∈ cs, Sorted c) :
    StrictSorted (merged cs) ∧ ∀ x, x ∈ merged cs ↔ ∃ c ∈ cs, x ∈ c :=
  mergeAll_spec _ cs hs (Nat.le_refl _)

/-! ## `mapM` over `Option` -/

theorem mem_of_mapM_some {A B : Type} {f : A → Option B} {l : List A} {r : List B}
    (h : l.mapM f = some r) (y : B) : y ∈ r ↔ ∃ x ∈ l, f x = some y :=
  ⟨Basic.mapEq_of_mem_right ((Basic.mapM_some_iff f l r).mp h), fun ⟨x, hx, e⟩ => by
    obtain ⟨y', hy', e'⟩ := Basic.mapEq_of_mem_left ((Basic.mapM_some_iff f l r).mp h) hx
    exact Option.some.inj (e.symm.trans e') ▸ hy'⟩

theorem mem_flatten_mapM {A B : Type} {f : A → Option (List B)} {l : List A} {r : List (List B)}
    (h : l.mapM f = some r) (y : B) : y ∈ r.flatten ↔ ∃ x ∈ l, ∃ ys, f x = some ys ∧ y ∈ ys := by
  simp only [List.mem_flatten, mem_of_mapM_some h]
  constructor
  · rintro ⟨ys, ⟨x, hx, hf⟩, hy⟩; exact ⟨x, hx, ys, hf, hy⟩
  · rintro ⟨x, hx, ys, hf, hy⟩; exact ⟨ys, ⟨x, hx, hf⟩, hy⟩

/-! ## Lookups -/

variable {α β : Type}

theorem matchesAs_iff {b : Block α β} {bt t ns : Nat} : b.matchesAs bt t ns = true ↔
    b.typ = bt ∧ ∃ e, b.nsenc[t]? = some e ∧ maybeEncode b.table ns = some e := by
  rw [Block.matchesAs, Bool.and_eq_true, beq_iff_eq]
  refine and_congr_right fun _ => ?_
  cases b.nsenc[t]? with
  | none => simp
  | some e =>
    cases maybeEncode b.table ns with
    | none => simp
    | some e' =>
      exact beq_iff_eq.trans ⟨fun h => ⟨e, rfl, h ▸ rfl⟩, fun ⟨_, h1, h2⟩ => Option.some.inj (h1.trans h2.symm)⟩

/-- block `b` holds the feature `id` with content `c` -/
def Holds (b : Block α β) (id : ID) (c : α) : Prop :=
  b.matchesID id = true ∧ ∃ e, b.findFirst id.val = some e ∧ e.real = true ∧ e.content = c

/-- what block `b` alone answers to a lookup of `id` -/
def answer (b : Block α β) (id : ID) : Option α :=
  if b.matchesID id then
    match b.findFirst id.val with
    | some e => if e.real then some e.content else none
    | none => none
  else none

theorem answer_eq_some {b : Block α β} {id : ID} {c : α} : answer b id = some c ↔ Holds b id c := by
  unfold answer Holds
  cases b.matchesID id
  · simp
  · cases b.findFirst id.val <;> simp

theorem findIn_cons (b : Block α β) (rest : List (Block α β)) (id : ID) :
    findIn (b :: rest) id = (answer b id).or (findIn rest id) := by
  rw [findIn, answer]
  cases b.matchesID id
  · rfl
  · cases b.findFirst id.val with
    | none => rfl
    | some e => dsimp only; cases e.real <;> rfl

theorem findIn_eq (w : List (Block α β)) (id : ID) : findIn w id = w.findSome? (answer · id) := by
  induction w with
  | nil => rfl
  | cons b rest ih => rw [findIn_cons, ih, List.findSome?_cons]; cases answer b id <;> rfl

theorem findIn_append (w1 w2 : List (Block α β)) (id : ID) :
    findIn (w1 ++ w2) id = (findIn w1 id).or (findIn w2 id) := by
  simp only [findIn_eq, List.findSome?_append]

theorem findIn_sound {w : List (Block α β)} {id : ID} {c : α} (h : findIn w id = some c) :
    ∃ b ∈ w, Holds b id c := by
  rw [findIn_eq] at h
  obtain ⟨b, hb, hc⟩ := List.exists_of_findSome?_eq_some h
  exact ⟨b, hb, answer_eq_some.1 hc⟩

/-- what some block holds is answered, though by the first block that holds the id, so possibly with another
content; `findIn_iff` says when it is this one -/
theorem findIn_complete {w : List (Block α β)} {b : Block α β} {id : ID} {c : α} (hb : b ∈ w)
    (hc : Holds b id c) : ∃ c', findIn w id = some c' := by
  rw [findIn_eq, ← Option.isSome_iff_exists, List.findSome?_isSome_iff]
  exact ⟨b, hb, by rw [answer_eq_some.2 hc]; rfl⟩

/-- the blocks agree about `id`: whatever two of them hold for it is the same (in particular when at most
one block holds it — the id sets of the files are disjoint) -/
def Agree (w : List (Block α β)) (id : ID) : Prop :=
  ∀ b1 ∈ w, ∀ b2 ∈ w, ∀ c1 c2, Holds b1 id c1 → Holds b2 id c2 → c1 = c2

theorem findIn_iff {w : List (Block α β)} {id : ID} (hu : Agree w id) (c : α) :
    findIn w id = some c ↔ ∃ b ∈ w, Holds b id c := by
  constructor
  · exact findIn_sound
  · rintro ⟨b2, hb2, h2⟩
    obtain ⟨c', hc'⟩ := findIn_complete hb2 h2
    obtain ⟨b1, hb1, h1⟩ := findIn_sound hc'
    rw [hc', hu b1 hb1 b2 hb2 c' c h1 h2]

theorem hasIn_eq (w : List (Block α β)) (id : ID) : hasIn w id = (findIn w id).isSome := by
  induction w with
  | nil => rfl
  | cons b rest ih =>
    rw [hasIn, findIn, ih]
    cases b.matchesID id
    · rfl
    · cases b.findFirst id.val with
      | none => rfl
      | some e => dsimp only; cases e.real <;> rfl

/-! ### `find`: the lookup behind the type guard -/

theorem find_eq_some_iff {w : List (Block α β)} {id : ID} {c : α} :
    find w id = some c ↔ id.typ < numTypes ∧ findIn w id = some c := by
  fun_cases find w id with
  | case1 h => exact (and_iff_right h).symm
  | case2 h => exact Iff.intro (fun e => nomatch e) (fun e => absurd e.1 h)

theorem find_append (w1 w2 : List (Block α β)) (id : ID) :
    find (w1 ++ w2) id = (find w1 id).or (find w2 id) := by
  unfold find
  split
  · exact findIn_append w1 w2 id
  · rfl

/-! ## Locations -/

/-- block `b` stores the location `l` for the point `id` -/
def Locates (b : Block α β) (id : ID) (l : β) : Prop :=
  b.matchesAs 0 0 id.ns = true ∧ ∃ e, b.findFirst id.val = some e ∧ e.real = true ∧ e.loc = some l

def located (b : Block α β) (id : ID) : Option β :=
  if b.matchesAs 0 0 id.ns then
    match b.findFirst id.val with
    | some e => if e.real then e.loc else none
    | none => none
  else none

theorem located_eq_some {b : Block α β} {id : ID} {l : β} : located b id = some l ↔ Locates b id l := by
  unfold located Locates
  cases b.matchesAs 0 0 id.ns
  · simp
  · cases b.findFirst id.val <;> simp

theorem loc_cons (b : Block α β) (rest : List (Block α β)) (id : ID) :
    loc (b :: rest) id = (located b id).or (loc rest id) := by
  rw [loc, located]
  cases b.matchesAs 0 0 id.ns
  · rfl
  · cases b.findFirst id.val with
    | none => rfl
    | some e =>
      dsimp only
      cases e.real
      · rfl
      · cases e.loc <;> rfl

theorem loc_eq (w : List (Block α β)) (id : ID) : loc w id = w.findSome? (located · id) := by
  induction w with
  | nil => rfl
  | cons b rest ih => rw [loc_cons, ih, List.findSome?_cons]; cases located b id <;> rfl

theorem loc_append (w1 w2 : List (Block α β)) (id : ID) :
    loc (w1 ++ w2) id = (loc w1 id).or (loc w2 id) := by
  simp only [loc_eq, List.findSome?_append]

theorem loc_complete {w : List (Block α β)} {b : Block α β} {id : ID} {l : β} (hb : b ∈ w)
    (hl : Locates b id l) : ∃ l', loc w id = some l' := by
  rw [loc_eq, ← Option.isSome_iff_exists, List.findSome?_isSome_iff]
  exact ⟨b, hb, by rw [located_eq_some.2 hl]; rfl⟩

theorem loc_eq_none_iff {w : List (Block α β)} {id : ID} :
    loc w id = none ↔ ∀ b ∈ w, ∀ l, ¬ Locates b id l := by
  rw [loc_eq, List.findSome?_eq_none_iff]
  simp only [Option.eq_none_iff_forall_ne_some, ne_eq, located_eq_some]

/-! ## Paths through a point -/

/-- block `b` records path `q` against point `p` -/
def Lists (b : Block α β) (p q : ID) : Prop :=
  b.matchesAs 0 0 p.ns = true ∧ ∃ e, b.findFirst p.val = some e ∧ q ∈ e.paths

def recorded (b : Block α β) (p : ID) : List ID :=
  if b.matchesAs 0 0 p.ns then
    match b.findFirst p.val with
    | some e => e.paths
    | none => []
  else []

theorem mem_recorded {b : Block α β} {p q : ID} : q ∈ recorded b p ↔ Lists b p q := by
  unfold recorded Lists
  cases b.matchesAs 0 0 p.ns
  · simp
  · cases b.findFirst p.val <;> simp

theorem pathsByPoint_cons (b : Block α β) (rest : List (Block α β)) (p : ID) (acc : List ID) :
    pathsByPoint (b :: rest) p acc = pathsByPoint rest p (addPaths acc (recorded b p)) := by
  rw [pathsByPoint, recorded]
  cases b.matchesAs 0 0 p.ns
  · rfl
  · cases b.findFirst p.val <;> rfl

theorem mem_addPaths {q : ID} (ps acc : List ID) : q ∈ addPaths acc ps ↔ q ∈ acc ∨ q ∈ ps := by
  fun_induction addPaths acc ps with
  | case1 acc => rw [List.mem_nil_iff, or_false]
  | case2 acc p ps ih =>
    rw [ih, List.mem_cons, ← or_assoc]
    split
    · rename_i hc
      rw [or_iff_left_of_imp (fun (e : q = p) => e ▸ List.contains_iff_mem.1 hc)]
    · rw [List.mem_append, List.mem_singleton]

theorem nodup_addPaths (ps acc : List ID) (h : acc.Nodup) : (addPaths acc ps).Nodup := by
  fun_induction addPaths acc ps with
  | case1 acc => exact h
  | case2 acc p ps ih =>
    refine ih ?_
    split
    · exact h
    · rename_i hc
      refine List.nodup_append.2 ⟨h, List.pairwise_singleton _ _, ?_⟩
      intro a ha b hb e
      rw [List.mem_singleton.1 hb] at e
      exact hc (List.contains_iff_mem.2 (e ▸ ha))

theorem addPaths_append (acc ps qs : List ID) : addPaths acc (ps ++ qs) = addPaths (addPaths acc ps) qs := by
  induction ps generalizing acc with
  | nil => rfl
  | cons p ps ih => exact ih _

theorem pathsByPoint_eq (w : List (Block α β)) (p : ID) (acc : List ID) :
    pathsByPoint w p acc = addPaths acc (w.flatMap (recorded · p)) := by
  induction w generalizing acc with
  | nil => rfl
  | cons b rest ih => rw [pathsByPoint_cons, ih, List.flatMap_cons, addPaths_append]

theorem mem_pathsByPoint {p q : ID} (w : List (Block α β)) (acc : List ID) :
    q ∈ pathsByPoint w p acc ↔ q ∈ acc ∨ ∃ b ∈ w, Lists b p q := by
  simp only [pathsByPoint_eq, mem_addPaths, List.mem_flatMap, mem_recorded]

theorem nodup_pathsByPoint {p : ID} (w : List (Block α β)) (acc : List ID) (h : acc.Nodup) :
    (pathsByPoint w p acc).Nodup :=
  pathsByPoint_eq w p acc ▸ nodup_addPaths _ _ h

/-! ## EachFeature -/

/-- block `b` emits `id` in `EachFeature` -/
def Emits (b : Block α β) (id : ID) : Prop :=
  id.typ = b.typ ∧ b.ns? = some id.ns ∧ ∃ e ∈ b.entries, e.real = true ∧ e.val = id.val

theorem emits_iff {b : Block α β} {id : ID} : Emits b id ↔ ∃ l, b.eachIDs = some l ∧ id ∈ l := by
  unfold Block.eachIDs Emits
  cases b.ns? with
  | none => simp
  | some ns =>
    cases id
    simp only [Option.map_some, Option.some.injEq, exists_eq_left', List.mem_map, List.mem_filter, ID.mk.injEq]
    constructor
    · rintro ⟨rfl, rfl, e, he, hr, rfl⟩; exact ⟨e, ⟨he, hr⟩, rfl, rfl, rfl⟩
    · rintro ⟨e, ⟨he, hr⟩, rfl, rfl, rfl⟩; exact ⟨rfl, rfl, e, he, hr, rfl⟩

theorem mem_eachType {w : List (Block α β)} {t : Nat} {r : List ID} (h : eachType w t = some r) (id : ID) :
    id ∈ r ↔ ∃ b ∈ w, b.typ = t ∧ Emits b id := by
  obtain ⟨rs, hm, rfl⟩ := Option.map_eq_some_iff.1 h
  simp only [mem_flatten_mapM hm, List.mem_filter, beq_iff_eq, emits_iff, and_assoc]

theorem mem_each {w : List (Block α β)} {ids : List ID} (h : each w = some ids) (id : ID) :
    id ∈ ids ↔ ∃ b ∈ w, b.typ < numTypes ∧ Emits b id := by
  obtain ⟨rs, hm, rfl⟩ := Option.map_eq_some_iff.1 h
  rw [mem_flatten_mapM hm]
  constructor
  · rintro ⟨t, ht, ys, hys, hid⟩
    obtain ⟨b, hb, rfl, he⟩ := (mem_eachType hys id).1 hid
    exact ⟨b, hb, List.mem_range.1 ht, he⟩
  · rintro ⟨b, hb, hlt, he⟩
    have ht := List.mem_range.2 hlt
    obtain ⟨ys, hys⟩ := Basic.exists_of_mapM_some hm ht
    exact ⟨b.typ, ht, ys, hys, (mem_eachType hys id).2 ⟨b, hb, rfl, he⟩⟩

/-! ### `EachFeature` and the lookup agree -/

/-- `encodeFrom` asks the rest of the table first; the same answer comes from walking the table forwards and keeping the last
hit, which is the form `Basic.IsLastIdx` speaks about -/
def encodeWalk (ns : Nat) : List Nat → Nat → Option Nat → Option Nat
  | [], _, acc => acc
  | x :: xs, i, acc => encodeWalk ns xs (i + 1) (if x = ns then some i else acc)

theorem encodeWalk_isLastIdx : Basic.IsLastIdx id encodeWalk := ⟨fun _ _ _ => rfl, fun _ _ _ _ _ => rfl⟩

theorem encodeWalk_eq (ns : Nat) : ∀ (t : List Nat) (i : Nat) (acc : Option Nat),
    encodeWalk ns t i acc = (encodeFrom i t ns).or acc
  | [], _, acc => by rw [encodeFrom]; rfl
  | n :: rest, i, acc => by
    rw [encodeWalk, encodeWalk_eq ns rest, encodeFrom]
    cases encodeFrom (i + 1) rest ns <;> by_cases h : n = ns <;> simp [h]

theorem maybeEncode_eq (t : List Nat) (ns : Nat) : maybeEncode t ns = encodeWalk ns t 0 none := by
  rw [encodeWalk_eq, Option.or_none, maybeEncode]

/-- `Decode (MaybeEncode ns) = ns` -/
theorem getElem_of_maybeEncode {t : List Nat} {ns e : Nat} (h : maybeEncode t ns = some e) : t[e]? = some ns := by
  rw [maybeEncode_eq] at h
  obtain h' | ⟨k, hk, rfl⟩ := encodeWalk_isLastIdx.spec ns t 0 none e h
  · cases h'
  · rwa [id, Nat.zero_add]

/-- in a duplicate-free table `MaybeEncode (Decode e) = e` -/
theorem maybeEncode_of_getElem {ns e : Nat} {t : List Nat} (hnd : t.Nodup) (h : t[e]? = some ns) :
    maybeEncode t ns = some e := by
  rw [maybeEncode_eq, encodeWalk_isLastIdx.of_getElem? hnd h 0, id, Nat.zero_add]

theorem find?_of_unique {v : Nat} {es : List (Entry α β)} {e : Entry α β} (hnd : (es.map (·.val)).Nodup)
    (he : e ∈ es) (hv : e.val = v) : es.find? (·.val == v) = some e :=
  hv ▸ (Basic.isLookup_find?_beq (fun e : Entry α β => e.val)).of_mem hnd he

/-- well-formed block: duplicate-free namespace table, one entry per value (what `FillFromNamespaces`
and `Uint64Map.EachItem` guarantee) -/
def WFBlock (b : Block α β) : Prop := b.table.Nodup ∧ (b.entries.map (·.val)).Nodup

theorem holds_of_emits {b : Block α β} {id : ID} (hwf : WFBlock b) (h : Emits b id) :
    ∃ c, Holds b id c := by
  obtain ⟨ht, hns, e, he, hr, hv⟩ := h
  obtain ⟨code, hc, hdec⟩ := Option.bind_eq_some_iff.1 hns
  exact ⟨e.content, matchesAs_iff.2 ⟨ht.symm, code, ht ▸ hc, maybeEncode_of_getElem hwf.1 hdec⟩,
    e, find?_of_unique hwf.2 he hv, hr, rfl⟩

theorem emits_of_holds {b : Block α β} {id : ID} {c : α} (h : Holds b id c) : Emits b id := by
  obtain ⟨hm, e, he, hr, _⟩ := h
  obtain ⟨ht, code, hc, henc⟩ := matchesAs_iff.1 hm
  have hv : (e.val == id.val) = true := List.find?_some (p := fun x : Entry α β => x.val == id.val) he
  exact ⟨ht.symm, Option.bind_eq_some_iff.2 ⟨code, ht ▸ hc, getElem_of_maybeEncode henc⟩,
    e, List.mem_of_find?_eq_some he, hr, beq_iff_eq.1 hv⟩

end B6.Lemmas.Merged
