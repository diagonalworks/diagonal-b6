import B6.Lemmas.CompactIndexRecords
/-!
# C01 lemmas, part 3: the area record

The writer flattens the polygons of an area and records where each one starts (`bounds`, `refStarts`); the
reader cuts the flat list at those boundaries (`splitAt`).  Three geometry encodings: path references only,
explicit loops only, mixed; `area_geometry_roundtrip` and `area_roundtrip` of `Props/C01.lean` put the cases together.
-/
namespace B6.Model.CompactIndex
open B6.Model.Varint B6.Model.Records B6.Lemmas.Basic B6.Lemmas.Basic.Except

theorem splitAt_bounds {α : Type} : ∀ (ls : List (List α)) (pre : List α), ls ≠ [] →
    splitAt (pre ++ ls.flatten) pre.length (bounds pre.length ls) = ls := by
  intro ls
  induction ls with
  | nil => intro pre h; exact absurd rfl h
  | cons l rest ih =>
    intro pre _
    cases rest with
    | nil => simp [bounds, splitAt]
    | cons l' rest' =>
      have hih := ih (pre ++ l) (by simp)
      simp only [bounds, splitAt, List.flatten_cons]
      congr 1
      · simp
      · simp only [List.length_append, List.flatten_cons, List.append_assoc] at hih
        exact hih

theorem refStarts_pos {α : Type} : ∀ (ls : List (List α)) (s : Nat), 0 < s →
    refStarts s ls = match ls with
      | [] => []
      | _ :: _ => s :: bounds s ls := by
  intro ls s hs
  fun_induction refStarts s ls with
  | case1 s => rfl
  | case2 s l rest ih =>
    rw [if_pos hs, ih (by omega)]
    cases rest <;> rfl

/-- with a non-empty first polygon the recorded starts are exactly the boundaries -/
theorem refStarts_zero {α : Type} (l : List α) (rest : List (List α)) (hl : l ≠ []) :
    refStarts 0 (l :: rest) = bounds 0 (l :: rest) := by
  have hpos : 0 < l.length := List.length_pos_iff.mpr hl
  simp only [refStarts, Nat.lt_irrefl, if_false, List.nil_append, Nat.zero_add]
  rw [refStarts_pos rest l.length hpos]
  cases rest with
  | nil => simp [bounds]
  | cons l' rest' => simp [bounds]

theorem bounds_le {α : Type} : ∀ (ls : List (List α)) (s : Nat), ∀ b ∈ bounds s ls, b ≤ s + ls.flatten.length := by
  intro ls s b hb
  fun_induction bounds s ls with
  | case1 s => cases hb
  | case2 s l => cases hb
  | case3 s l l' rest ih =>
    simp only [List.flatten_cons, List.length_append] at ih ⊢
    rcases List.mem_cons.mp hb with rfl | hb
    · omega
    · have := ih hb
      omega

theorem bounds_length_le {α : Type} : ∀ (ls : List (List α)) (s : Nat), (bounds s ls).length ≤ ls.length := by
  intro ls s
  fun_induction bounds s ls with
  | case1 s => exact Nat.le_refl _
  | case2 s l => exact Nat.zero_le _
  | case3 s l l' rest ih => exact Nat.succ_le_succ ih

theorem refStarts_length_le {α : Type} : ∀ (ls : List (List α)) (s : Nat), (refStarts s ls).length ≤ ls.length := by
  intro ls s
  fun_induction refStarts s ls with
  | case1 s => exact Nat.le_refl _
  | case2 s l rest ih =>
    simp only [List.length_append, List.length_cons]
    split <;> simp <;> omega

theorem map_ofNat_toNat (xs : List Nat) (h : ∀ x ∈ xs, x < 2 ^ 64) :
    (xs.map (BitVec.ofNat 64)).map (·.toNat) = xs := by
  induction xs with
  | nil => rfl
  | cons x xs ih =>
    have hx := h x (by simp)
    simp only [List.map_cons, BitVec.toNat_ofNat, Nat.mod_eq_of_lt hx]
    rw [ih (fun y hy => h y (by simp [hy]))]

/-- an explicit polygon is valid when it has more than two points: the reason `canonPolys` is the canonical form -/
theorem polygonValid_polygonLL (ls : List (List LatLng)) :
    polygonValid (polygonLL ls) = decide (2 < ls.flatten.length) := rfl

theorem canonPolys_loops (ls : List (List LatLng)) (ps : List Poly) : canonPolys (.loops ls :: ps) =
    if polygonValid (polygonLL ls) = true then .loops ls :: canonPolys ps else canonPolys ps := by
  simp only [canonPolys, List.filter_cons, polygonValid_polygonLL]
  rfl

theorem splitLoops_polygonLL (ls : List (List LatLng)) (hsz : ls.flatten.length < 2 ^ 64)
    (hv : polygonValid (polygonLL ls) = true) :
    splitLoops ((polygonLL ls).loops.map (·.toNat)) (polygonLL ls).points = ls := by
  have hne : ls ≠ [] := by
    rintro rfl
    simp [polygonValid_polygonLL] at hv
  simp only [polygonLL, splitLoops]
  rw [map_ofNat_toNat _ (fun b hb => by have := bounds_le ls 0 b hb; omega)]
  simpa using splitAt_bounds ls [] hne

/-! ## the three geometry encodings -/

theorem mem_filterMap_pathsOf (ps : List Poly) (ids : List FID) : ids ∈ ps.filterMap pathsOf ↔ Poly.paths ids ∈ ps := by
  simp only [List.mem_filterMap]
  constructor
  · rintro ⟨p, hp, h⟩
    cases p <;> simp only [pathsOf, Option.some.injEq, reduceCtorEq] at h
    exact h ▸ hp
  · exact fun h => ⟨_, h, rfl⟩

theorem mem_filterMap_loopsOf (ps : List Poly) (ls : List (List LatLng)) : ls ∈ ps.filterMap loopsOf ↔ Poly.loops ls ∈ ps := by
  simp only [List.mem_filterMap]
  constructor
  · rintro ⟨p, hp, h⟩
    cases p <;> simp only [loopsOf, Option.some.injEq, reduceCtorEq] at h
    exact h ▸ hp
  · exact fun h => ⟨_, h, rfl⟩

/-- what the round trip needs of one polygon: a non-empty list of ids whose types fit, or loops of a size a
Go slice can have -/
def polyOK : Poly → Prop
  | .paths ids => ids ≠ [] ∧ ∀ id ∈ ids, id.typ < 8
  | .loops ls => ls.flatten.length < 2 ^ 64

theorem polysOfGeometry_latlngs : ∀ (ps : List Poly), (∀ p ∈ ps, (pathsOf p).isSome = false) → (∀ p ∈ ps, polyOK p) →
    ((((ps.filterMap loopsOf).map polygonLL).filter polygonValid).map fun q =>
      Poly.loops (splitLoops (q.loops.map (·.toNat)) q.points)) = canonPolys ps := by
  intro ps
  induction ps with
  | nil => intro _ _; rfl
  | cons p ps ih =>
    intro hall hok
    have ih' := ih (fun q hq => hall q (by simp [hq])) (fun q hq => hok q (by simp [hq]))
    cases p with
    | paths ids => have := hall (.paths ids) (by simp); simp [pathsOf] at this
    | loops ls =>
      have hsz : ls.flatten.length < 2 ^ 64 := hok (.loops ls) (by simp)
      simp only [List.filterMap_cons, loopsOf, List.map_cons, List.filter_cons, canonPolys_loops]
      by_cases hv : polygonValid (polygonLL ls) = true
      · simp only [hv, if_true, List.map_cons, splitLoops_polygonLL ls hsz hv]
        congr 1
      · simp only [hv, Bool.false_eq_true, if_false]
        exact ih'

theorem paths_only : ∀ (ps : List Poly), (∀ p ∈ ps, (loopsOf p).isSome = false) →
    (ps.filterMap pathsOf).map Poly.paths = ps ∧ canonPolys ps = ps := by
  intro ps
  induction ps with
  | nil => intro _; exact ⟨rfl, rfl⟩
  | cons p ps ih =>
    intro hall
    have ⟨h1, h2⟩ := ih (fun q hq => hall q (by simp [hq]))
    cases p with
    | loops ls => have := hall (.loops ls) (by simp); simp [loopsOf] at this
    | paths ids =>
      refine ⟨by simp [pathsOf, h1], ?_⟩
      have : canonPolys (Poly.paths ids :: ps) = Poly.paths ids :: canonPolys ps := by
        simp [canonPolys]
      rw [this, h2]

theorem polysOfGeometry_refs (c : Ctx) (hsmall : c.nt.length ≤ 8192) (l : List FID) (rest : List (List FID))
    (hlists : ∀ ids ∈ l :: rest, ids ≠ [] ∧ ∀ id ∈ ids, id.typ < 8) (hsize : (l :: rest).flatten.length < 2 ^ 64)
    (rs : List Reference) (hrs : refsOf c (l :: rest).flatten = .ok rs) :
    polysOfGeometry c.nt (.refs ⟨(refStarts 0 (l :: rest)).map (BitVec.ofNat 64), rs⟩) =
      some ((l :: rest).map Poly.paths) := by
  have hback := refsOf_back c hsmall _ (List.forall_mem_flatten.2 fun ids hids => (hlists ids hids).2) rs hrs
  have hsz : ∀ b ∈ bounds 0 (l :: rest), b < 2 ^ 64 := fun b hb => by
    have := bounds_le (l :: rest) 0 b hb
    omega
  have hsplit := splitAt_bounds (l :: rest) [] (by simp)
  simp only [List.nil_append, List.length_nil] at hsplit
  simp only [polysOfGeometry, hback, Option.map_some, refStarts_zero l rest (hlists l (by simp)).1, map_ofNat_toNat _ hsz,
    hsplit]

theorem canonPolys_cons (p : Poly) (ps : List Poly) : canonPolys (p :: ps) = canonPolys [p] ++ canonPolys ps :=
  List.filter_append (l₁ := [p]) ..

theorem mixedF_back (c : Ctx) (hsmall : c.nt.length ≤ 8192) (p : Poly) (hp : polyOK p) (oq : Option PolygonMixed)
    (h : mixedF c p = .ok oq) :
    match (generalizing := false) oq with
    | some q => mixedD c.nt q = some p ∧ canonPolys [p] = [p] ∧ q.canonical = true
    | none => canonPolys [p] = [] := by
  cases p with
  | paths ids =>
    simp only [mixedF, bind_ok_iff, pure_ok_iff] at h
    obtain ⟨rs, hrs, rfl⟩ := h
    have hlen := mapEq_length ((mapM_ok_iff _ _ _).mp hrs)
    have hrne : rs.isEmpty = false := by
      cases rs with
      | nil => exact absurd (List.eq_nil_of_length_eq_zero hlen.symm) hp.1
      | cons r rs => rfl
    simp [mixedD, hrne, polyOfRefs, refsOf_back c hsmall ids hp.2 rs hrs, canonPolys, PolygonMixed.canonical]
  | loops ls =>
    have hsz : ls.flatten.length < 2 ^ 64 := hp
    simp only [mixedF, pure_ok_iff] at h
    rw [canonPolys_loops]
    by_cases hv : polygonValid (polygonLL ls) = true
    · rw [if_pos hv] at h ⊢
      subst h
      exact ⟨by simp only [mixedD, List.isEmpty_nil, if_true, splitLoops_polygonLL ls hsz hv], rfl,
        by simp [PolygonMixed.canonical]⟩
    · rw [if_neg hv] at h ⊢
      subst h
      rfl

theorem polysOfGeometry_mixed (c : Ctx) (hsmall : c.nt.length ≤ 8192) : ∀ (ps : List Poly) (qs : List (Option PolygonMixed)),
    (∀ p ∈ ps, polyOK p) → ps.map (mixedF c) = qs.map .ok →
    (qs.filterMap id).mapM (mixedD c.nt) = some (canonPolys ps) ∧ ∀ q ∈ qs.filterMap id, q.canonical = true := by
  intro ps
  induction ps with
  | nil => intro qs _ h; cases qs <;> simp_all [canonPolys]
  | cons p ps ih =>
    intro qs hok h
    cases qs with
    | nil => simp at h
    | cons oq qs =>
      simp only [List.map_cons, List.cons.injEq] at h
      have ⟨ih1, ih2⟩ := ih qs (fun x hx => hok x (by simp [hx])) h.2
      have hback := mixedF_back c hsmall p (hok p (by simp)) oq h.1
      rw [canonPolys_cons]
      cases oq with
      | some q =>
        obtain ⟨h1, h2, h3⟩ := hback
        refine ⟨by simp [h1, h2, ih1], ?_⟩
        intro q' hq'
        rcases List.mem_cons.mp hq' with rfl | hq'
        · exact h3
        · exact ih2 q' hq'
      | none => exact ⟨by simpa [show canonPolys [p] = [] from hback] using ih1, ih2⟩

/-- the area block header differs from the OSM namespaces in the area entry only, which no field of the area
record is marshalled against -/
theorem area_dec_header (c : Ctx) (n : Nat) : Area.dec (blockHeader c 2 n) = Area.dec c.osm := rfl

end B6.Model.CompactIndex
