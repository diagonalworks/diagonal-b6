import B6.Model.Containers
import B6.Lemmas.Varint
import B6.Lemmas.Bits
import B6.Lemmas.Basic.Sorted
/-!
# Lemmas for the L1 containers of `Model/Containers.lean` (kernel-only: propext, Classical.choice, Quot.sound)

Every reader is proved against what its writer lays down, `header ++ data`, whatever follows.  The `ByteArrays` writer protocol
is an invariant (`Inv`) over `At`, a byte string sitting at an offset and kept by writes elsewhere; once every item is filled the
output starts with `baEncode` of the items, so the reader's theorem applies.  A written `Uint64Map` opens as `mapViewOf`, whose
bucket `k` scans back as `bucketEntries b es k`; the lookups and the iteration are stated about that view, and the `map_*`
theorems open the bytes first.
-/
namespace B6.Lemmas.Containers
open B6.Model.Containers B6.Model.Varint B6.Model.Bits

theorem delta_step (last v : BitVec 64) :
    last + zigzagDecode (BitVec.ofNat 64 (zigzagEncode (v - last)).toNat) = v := by
  rw [BitVec.ofNat_toNat, BitVec.setWidth_eq, zigzagDecode_zigzagEncode]
  rw [BitVec.add_comm, BitVec.sub_add_cancel]

theorem unmarshalDeltaAux_marshal : ∀ (vs : List (BitVec 64)) (last : BitVec 64) (pre rest : Bytes)
    (acc : List (BitVec 64)),
    unmarshalDeltaAux vs.length (pre ++ marshalDeltaAux last vs ++ rest) pre.length last acc
      = some (acc.reverse ++ vs, ((pre.length + (marshalDeltaAux last vs).length : Nat) : Int)) := by
  intro vs last pre rest acc
  fun_induction marshalDeltaAux last vs generalizing pre acc with
  | case1 last => simp [unmarshalDeltaAux]
  | case2 last v vs ih =>
    have hu := fun X => uvarintRaw_putUvarint_append _ (zigzagEncode (v - last)).isLt X
    have e := ih (pre ++ putUvarint (zigzagEncode (v - last)).toNat) (v :: acc)
    simp only [List.length_cons, unmarshalDeltaAux]
    generalize putUvarint (zigzagEncode (v - last)).toNat = P at hu e ⊢
    rw [if_neg (by simp only [List.length_append]; omega), Int.toNat_natCast, List.append_assoc, List.append_assoc,
      List.drop_left, hu]
    simp only [delta_step]
    rw [← Int.natCast_add, ← List.length_append, ← List.append_assoc, ← List.append_assoc, e]
    simp only [List.length_append, Nat.add_assoc, List.reverse_cons, List.append_assoc, List.singleton_append]

theorem delta_roundtrip (vs : List (BitVec 64)) (rest : Bytes) :
    unmarshalDelta vs.length (marshalDelta vs ++ rest) = some (vs, ((marshalDelta vs).length : Int)) := by
  have := unmarshalDeltaAux_marshal vs 0#64 [] rest []
  simpa [unmarshalDelta, marshalDelta] using this

/-! ## ByteArrays: the reader against header ++ data -/

theorem le32_length (n : Nat) : (le32 n).length = 4 := marshalUint64_length _ _

theorem readLe32_le32 (n : Nat) (rest : Bytes) : readLe32 (le32 n ++ rest) = some (n % 2 ^ 32) := by
  obtain ⟨h1, h2⟩ := leValue_take_marshalUint64 4 (n % 2 ^ 32) (Nat.mod_lt _ (Nat.two_pow_pos 32)) rest
  rw [readLe32, le32, if_neg h1, h2]

theorem starts_length (res : List Nat) (a : Nat) : (starts res a).length = res.length + 1 := by
  induction res generalizing a with
  | nil => rfl
  | cons r rs ih => simp [starts, ih]

theorem starts_get : ∀ (res : List Nat) (a k : Nat), k ≤ res.length →
    (starts res a)[k]? = some (a + (res.take k).sum) := by
  intro res a k hk
  fun_induction starts res a generalizing k with
  | case1 a => have : k = 0 := by simpa using hk
               subst this; simp
  | case2 r rs a ih =>
    cases k with
    | zero => simp
    | succ k =>
      simp only [List.getElem?_cons_succ, List.take_succ_cons, List.sum_cons]
      rw [ih k (by simpa using hk)]
      simp [Nat.add_assoc]

theorem sum_take_le (res : List Nat) (k : Nat) : (res.take k).sum ≤ res.sum := by
  induction res generalizing k with
  | nil => simp
  | cons r rs ih =>
    cases k with
    | zero => simp
    | succ k => simp only [List.take_succ_cons, List.sum_cons]; have := ih k; omega

theorem sum_take_mono (res : List Nat) {j i : Nat} (h : j ≤ i) : (res.take j).sum ≤ (res.take i).sum := by
  have := sum_take_le (res.take i) j
  rwa [List.take_take, Nat.min_eq_left h] at this

theorem sum_take_succ (res : List Nat) (k : Nat) (h : k < res.length) :
    (res.take (k + 1)).sum = (res.take k).sum + res[k] := by
  rw [List.take_succ_eq_append_getElem h, List.sum_append_nat, List.sum_singleton]

theorem regions_disjoint (res : List Nat) {i j : Nat} (hi : i < res.length) (hj : j < res.length) (hij : i ≠ j) :
    (res.take j).sum + res[j] ≤ (res.take i).sum ∨ (res.take i).sum + res[i] ≤ (res.take j).sum := by
  rcases Nat.lt_or_gt_of_ne hij with h | h
  · exact Or.inr (sum_take_succ res i hi ▸ sum_take_mono res h)
  · exact Or.inl (sum_take_succ res j hj ▸ sum_take_mono res h)

theorem table_drop (ob : Nat) : ∀ (xs : List Nat) (k : Nat) (h : k < xs.length),
    (xs.flatMap fun p => marshalUint64 p ob).drop (ob * k)
      = marshalUint64 xs[k] ob ++ ((xs.drop (k + 1)).flatMap fun p => marshalUint64 p ob) := by
  intro xs
  induction xs with
  | nil => intro k h; simp at h
  | cons x xs ih =>
    intro k h
    cases k with
    | zero => simp
    | succ k =>
      simp only [List.flatMap_cons, List.getElem_cons_succ, List.drop_succ_cons]
      have hl : (marshalUint64 x ob).length = ob := marshalUint64_length _ _
      have e : ob * (k + 1) = (marshalUint64 x ob).length + ob * k := by rw [hl, Nat.mul_succ]; omega
      rw [e, List.drop_length_add_append]
      exact ih k (by simpa using h)

theorem table_length (ob : Nat) (xs : List Nat) :
    (xs.flatMap fun p => marshalUint64 p ob).length = ob * xs.length := by
  induction xs with
  | nil => simp
  | cons x xs ih => simp [List.flatMap_cons, marshalUint64_length, ih, Nat.mul_succ]; omega

theorem flatten_slice (rest : Bytes) : ∀ (items : List Bytes) (i : Nat) (h : i < items.length),
    ((items.flatten ++ rest).drop ((items.map List.length).take i).sum).take items[i].length = items[i] := by
  intro items
  induction items with
  | nil => intro i h; simp at h
  | cons x xs ih =>
    intro i h
    cases i with
    | zero => simp
    | succ i =>
      simp only [List.flatten_cons, List.map_cons, List.take_succ_cons, List.sum_cons, List.getElem_cons_succ,
        List.append_assoc]
      rw [List.drop_length_add_append]
      exact ih i (by simpa using h)

theorem goFrom_append (A X : Bytes) : goFrom (A ++ X) A.length = some X := by
  unfold goFrom
  rw [if_pos (by rw [List.length_append]; exact Nat.le_add_right _ _), List.drop_left]

theorem baReadLayout_le32 (a b c : Nat) (R : Bytes) :
    baReadLayout (le32 a ++ le32 b ++ le32 c ++ R)
      = some { items := a % 2 ^ 32, offsetBytes := b % 2 ^ 32, maxItemLength := c % 2 ^ 32 } := by
  have g4 := goFrom_append (le32 a) (le32 b ++ (le32 c ++ R))
  have g8 := goFrom_append (le32 a ++ le32 b) (le32 c ++ R)
  rw [le32_length] at g4
  rw [List.length_append, le32_length, le32_length, List.append_assoc] at g8
  unfold baReadLayout
  rw [List.append_assoc, List.append_assoc, readLe32_le32, g4, g8]
  simp only [Option.bind_some, Option.bind_eq_bind, readLe32_le32]
  rfl

theorem table_read (ob : Nat) (xs : List Nat) (k : Nat) (hk : k < xs.length) (A R : Bytes)
    (hx : xs[k] < 2 ^ 64) (hob : uint64Length xs[k] ≤ ob) :
    (goFrom (A ++ (xs.flatMap fun p => marshalUint64 p ob) ++ R) (A.length + ob * k)).bind (unmarshalUint64 ob)
      = some xs[k] := by
  have hle : ob * k ≤ (xs.flatMap fun p => marshalUint64 p ob).length := by
    rw [table_length]; exact Nat.mul_le_mul_left _ (Nat.le_of_lt hk)
  unfold goFrom
  rw [if_pos (by simp only [List.length_append]; omega), Option.bind_some, List.append_assoc, List.drop_length_add_append,
    List.drop_append_of_le_length hle, table_drop ob xs k hk, List.append_assoc]
  exact unmarshal_marshalUint64_append _ _ hx hob _

theorem baHeader_length (res : List Nat) : (baHeader res).length = baDataOffset res := by
  unfold baHeader baDataOffset baLayoutLength
  simp only [List.length_append, le32_length, table_length, starts_length]

theorem read_pointer (res : List Nat) (D : Bytes) (k : Nat) (ht : res.sum < 2 ^ 64) (hk : k ≤ res.length) :
    (goFrom (baHeader res ++ D) (baLayoutLength + uint64Length (total res) * k)).bind
      (unmarshalUint64 (uint64Length (total res))) = some (res.take k).sum := by
  have hk' : k < (starts res 0).length := by rw [starts_length]; omega
  have hget : (starts res 0)[k] = (res.take k).sum := by
    have := starts_get res 0 k hk
    rw [List.getElem?_eq_getElem hk', Nat.zero_add] at this
    exact Option.some.inj this
  have hle : (res.take k).sum ≤ res.sum := sum_take_le res k
  have := table_read (uint64Length (total res)) (starts res 0) k hk'
    (le32 res.length ++ le32 (uint64Length (total res)) ++ le32 (maxItem res)) D
    (by rw [hget]; omega) (by rw [hget]; exact uint64Length_mono hle)
  rw [hget, List.length_append, List.length_append, le32_length, le32_length, le32_length] at this
  exact this

theorem baReadLayout_header (res : List Nat) (D : Bytes) (hn : res.length < 2 ^ 32) (ht : res.sum < 2 ^ 64) :
    baReadLayout (baHeader res ++ D)
      = some { items := res.length, offsetBytes := uint64Length (total res), maxItemLength := maxItem res % 2 ^ 32 } := by
  have hob := uint64Length_spec (total res) ht
  unfold baHeader
  rw [List.append_assoc, baReadLayout_le32, Nat.mod_eq_of_lt hn, Nat.mod_eq_of_lt (by omega)]

theorem bytearrays_read (res : List Nat) (D : Bytes) (i : Nat)
    (hn : res.length < 2 ^ 32) (ht : res.sum < 2 ^ 64) (hi : i < res.length)
    (hD : (res.take (i + 1)).sum ≤ D.length) :
    baItem (baHeader res ++ D) i = some ((D.drop (res.take i).sum).take res[i]) := by
  have hlay := baReadLayout_header res D hn ht
  have hoff : baLayoutLength + uint64Length (total res) * (res.length + 1) = (baHeader res).length :=
    (baHeader_length res).symm
  rw [sum_take_succ res i hi] at hD
  unfold baItem
  simp only [hlay, Option.bind_eq_bind, Option.bind_some, if_neg (Nat.not_le.2 hi),
    read_pointer res D i ht (Nat.le_of_lt hi), read_pointer res D (i + 1) ht hi, sum_take_succ res i hi, hoff]
  unfold goSlice
  rw [if_pos (by rw [List.length_append]; omega), List.drop_length_add_append, Nat.add_sub_add_left,
    Nat.add_sub_cancel_left]

theorem bytearrays_length (res : List Nat) (D : Bytes) (hn : res.length < 2 ^ 32) (ht : res.sum < 2 ^ 64) :
    baLength (baHeader res ++ D) = some ((baHeader res).length + res.sum) := by
  unfold baLength
  simp only [baReadLayout_header res D hn ht, Option.bind_eq_bind, Option.bind_some,
    read_pointer res D res.length ht (Nat.le_refl _), List.take_length, baHeader_length]
  rfl

theorem bytearrays_encode_item (items : List Bytes) (rest : Bytes) (i : Nat) (hi : i < items.length)
    (hn : items.length < 2 ^ 32) (ht : (items.map List.length).sum < 2 ^ 64) :
    baItem (baEncode items ++ rest) i = some items[i] := by
  unfold baEncode
  have hi' : i < (items.map List.length).length := by simpa using hi
  rw [List.append_assoc, bytearrays_read (items.map List.length) _ i (by simpa using hn) ht hi'
    (by rw [List.length_append, List.length_flatten]; exact Nat.le_trans (sum_take_le _ _) (Nat.le_add_right _ _))]
  simp only [List.getElem_map]
  rw [flatten_slice rest items i hi]

theorem bytearrays_encode_length (items : List Bytes) (rest : Bytes)
    (hn : items.length < 2 ^ 32) (ht : (items.map List.length).sum < 2 ^ 64) :
    baLength (baEncode items ++ rest) = some (baEncode items).length := by
  unfold baEncode
  rw [List.append_assoc, bytearrays_length _ _ (by simpa using hn) ht, List.length_append, List.length_flatten]

/-! ## the writer protocol: any order of writes -/

/-- `A` sits in `out` from offset `o` on; `out` may be longer. -/
def At (out : Bytes) (o : Nat) (A : Bytes) : Prop := ∀ k y, A[k]? = some y → out[o + k]? = some y

theorem at_zero {out A : Bytes} : At out 0 A ↔ ∀ (p : Nat) (y : UInt8), A[p]? = some y → out[p]? = some y := by
  simp only [At, Nat.zero_add]

theorem At.append {out A B : Bytes} {o : Nat} (hA : At out o A) (hB : At out (o + A.length) B) :
    At out o (A ++ B) := by
  intro k y h
  rcases Nat.lt_or_ge k A.length with hk | hk
  · rw [List.getElem?_append_left hk] at h; exact hA k y h
  · rw [List.getElem?_append_right hk] at h
    have := hB (k - A.length) y h
    rwa [Nat.add_assoc, Nat.add_sub_cancel' hk] at this

theorem At.isPrefix {out A : Bytes} (h : At out 0 A) : A <+: out :=
  List.prefix_iff_getElem?.2 fun i hi => at_zero.1 h i _ (List.getElem?_eq_getElem hi)

theorem splice_getElem? (B d : Bytes) (o p : Nat) (hB : o + d.length ≤ B.length) :
    (B.take o ++ d ++ B.drop (o + d.length))[p]? =
      if p < o ∨ o + d.length ≤ p then B[p]? else d[p - o]? := by
  have hl : (B.take o).length = o :=
    List.length_take.trans (Nat.min_eq_left (Nat.le_trans (Nat.le_add_right _ _) hB))
  rcases Nat.lt_or_ge p o with h1 | h1
  · rw [if_pos (Or.inl h1), List.append_assoc, List.getElem?_append_left (hl.symm ▸ h1), List.getElem?_take_of_lt h1]
  · rw [List.append_assoc, List.getElem?_append_right (hl.symm ▸ h1), hl]
    rcases Nat.lt_or_ge p (o + d.length) with h2 | h2
    · rw [if_neg fun h => h.elim (Nat.not_lt.2 h1) (Nat.not_le.2 h2),
        List.getElem?_append_left (Nat.sub_lt_left_of_lt_add h1 h2)]
    · rw [if_pos (Or.inr h2), List.getElem?_append_right (Nat.le_sub_of_add_le' h2), List.getElem?_drop,
        Nat.sub_sub, Nat.add_sub_cancel' h2]

theorem writeAt_getElem? (buf : Bytes) (o : Nat) (d : Bytes) (p : Nat) :
    (writeAt buf o d)[p]? =
      if p < o ∨ o + d.length ≤ p then (buf ++ List.replicate (o + d.length - buf.length) (0 : UInt8))[p]?
      else d[p - o]? :=
  splice_getElem? _ d o p (by rw [List.length_append, List.length_replicate]; omega)

/-- frame rule: a write outside the range of `A` leaves it where it is. -/
theorem At.writeAt {buf A : Bytes} {p : Nat} (h : At buf p A) (o : Nat) (d : Bytes)
    (hd : p + A.length ≤ o ∨ o + d.length ≤ p) : At (writeAt buf o d) p A := by
  intro k y hk
  have hk' := (List.getElem?_eq_some_iff.1 hk).1
  rw [writeAt_getElem?, if_pos (by omega), List.getElem?_append_left (List.getElem?_eq_some_iff.1 (h k y hk)).1]
  exact h k y hk

theorem at_writeAt (buf : Bytes) (o : Nat) (d : Bytes) : At (writeAt buf o d) o d := by
  intro j y h
  have hj := (List.getElem?_eq_some_iff.1 h).1
  rw [writeAt_getElem?, if_neg (by omega), Nat.add_sub_cancel_left, h]

/-- the buffer after the inner loop of `baWriteItem`: `bufs` written one behind the other from offset `o` on. -/
def foldWrite (out : Bytes) (o : Nat) (bufs : List Bytes) : Bytes :=
  (bufs.foldl (fun (acc : Bytes × Nat) b => (writeAt acc.1 acc.2 b, acc.2 + b.length)) (out, o)).1

theorem At.foldWrite {A : Bytes} {p : Nat} : ∀ (bufs : List Bytes) {buf : Bytes} (o : Nat), At buf p A →
    (p + A.length ≤ o ∨ o + bufs.flatten.length ≤ p) → At (foldWrite buf o bufs) p A := by
  intro bufs
  induction bufs with
  | nil => intro buf o h _; exact h
  | cons b bs ih =>
    intro buf o h hd
    rw [List.flatten_cons, List.length_append] at hd
    exact ih (o + b.length) (h.writeAt o b (by omega)) (by omega)

theorem at_foldWrite : ∀ (bufs : List Bytes) (buf : Bytes) (o : Nat), At (foldWrite buf o bufs) o bufs.flatten := by
  intro bufs
  induction bufs with
  | nil => intro buf o k y h; exact nomatch h
  | cons b bs ih =>
    intro buf o
    exact ((at_writeAt buf o b).foldWrite bs (o + b.length) (.inl (Nat.le_refl _))).append (ih _ _)

/-- bytes written to item `i` by a list of `WriteItem` calls, in call order. -/
def written (ws : List (Nat × List Bytes)) (i : Nat) : Bytes :=
  (ws.filter fun w => w.1 == i).flatMap fun w => w.2.flatten

theorem written_cons (x : Nat × List Bytes) (ws : List (Nat × List Bytes)) (j : Nat) :
    written (x :: ws) j = (if x.1 = j then x.2.flatten else []) ++ written ws j := by
  unfold written
  by_cases h : x.1 = j
  · simp [h]
  · simp [h]

theorem written_append (a b : List (Nat × List Bytes)) (j : Nat) :
    written (a ++ b) j = written a j ++ written b j := by
  simp only [written, List.filter_append, List.flatMap_append]

/-- the writer invariant: `W i` = what has been written to item `i` so far. -/
structure Inv (res : List Nat) (w : BAWriter) (W : Nat → Bytes) : Prop where
  items : w.items = res.length
  dataOff : w.dataOff = baDataOffset res
  curLen : w.cursor.length = res.length + 1
  cur : ∀ (j : Nat), j < res.length → w.cursor[j]? = some ((res.take j).sum + (W j).length)
  curLast : w.cursor[res.length]? = some res.sum
  fits : ∀ (j : Nat), j < res.length → (W j).length ≤ res[j]?.getD 0
  header : ∀ (p : Nat) (y : UInt8), (baHeader res)[p]? = some y → w.out[p]? = some y
  data : ∀ (j : Nat), j < res.length → ∀ (k : Nat) (y : UInt8), (W j)[k]? = some y →
    w.out[baDataOffset res + (res.take j).sum + k]? = some y

theorem Inv.header_at {res : List Nat} {w : BAWriter} {W : Nat → Bytes} (h : Inv res w W) : At w.out 0 (baHeader res) :=
  at_zero.2 h.header

theorem Inv.data_at {res : List Nat} {w : BAWriter} {W : Nat → Bytes} (h : Inv res w W) {j : Nat} (hj : j < res.length) :
    At w.out (baDataOffset res + (res.take j).sum) (W j) := h.data j hj

theorem inv_start (res : List Nat) : Inv res (baStart res) (fun _ => []) := by
  refine ⟨rfl, rfl, by simp [baStart, starts_length], ?_, ?_, ?_, ?_, ?_⟩
  · intro j hj
    simp only [baStart, List.length_nil, Nat.add_zero]
    have := starts_get res 0 j (by omega)
    simpa using this
  · have := starts_get res 0 res.length (by omega)
    simpa [baStart] using this
  · intro j _; simp
  · intro p y h; exact h
  · intro j _ k y h; simp at h

theorem inv_step (res : List Nat) (w : BAWriter) (W : Nat → Bytes) (hinv : Inv res w W)
    (i : Nat) (bufs : List Bytes) (hi : i < res.length)
    (hfit : (W i).length + bufs.flatten.length ≤ res[i]) :
    ∃ w', baWriteItem w i bufs = some w' ∧
      Inv res w' (fun j => if i = j then W j ++ bufs.flatten else W j) := by
  have hlen : (bufs.map List.length).sum = bufs.flatten.length := by rw [List.length_flatten]
  have hp := hinv.cur i hi
  have hq : ∃ q, w.cursor[i + 1]? = some q ∧ (res.take (i + 1)).sum ≤ q := by
    rcases Nat.lt_or_ge (i + 1) res.length with h1 | h1
    · exact ⟨_, hinv.cur (i + 1) h1, Nat.le_add_right _ _⟩
    · rw [show i + 1 = res.length from Nat.le_antisymm hi h1]
      exact ⟨_, hinv.curLast, by rw [List.take_length]; exact Nat.le_refl _⟩
  obtain ⟨q, hq1, hq2⟩ := hq
  rw [sum_take_succ res i hi] at hq2
  unfold baWriteItem
  have hni : ¬ (i ≥ w.items) := hinv.items ▸ Nat.not_le.2 hi
  rw [if_neg hni, hp, hq1]
  simp only
  rw [hlen]
  have hnp : ¬ ((res.take i).sum + (W i).length + bufs.flatten.length > q) :=
    Nat.not_lt.2 (Nat.le_trans (by rw [Nat.add_assoc]; exact Nat.add_le_add_left hfit _) hq2)
  rw [if_neg hnp]
  refine ⟨_, rfl, ?_⟩
  refine ⟨hinv.items, hinv.dataOff, by simp [hinv.curLen], ?_, ?_, ?_, ?_, ?_⟩
  · intro j hj
    simp only
    by_cases hij : i = j
    · subst hij
      rw [List.getElem?_set_self (by rw [hinv.curLen]; exact Nat.lt_succ_of_lt hi)]
      simp [List.length_append, Nat.add_assoc]
    · rw [List.getElem?_set_ne hij, if_neg hij]
      exact hinv.cur j hj
  · show (w.cursor.set i _)[res.length]? = _
    rw [List.getElem?_set_ne (Nat.ne_of_lt hi)]
    exact hinv.curLast
  · intro j hj
    by_cases hij : i = j
    · subst hij
      rw [if_pos rfl, List.length_append, List.getElem?_eq_getElem hi]
      simpa using hfit
    · rw [if_neg hij]; exact hinv.fits j hj
  · -- the header lies before the data region
    refine at_zero.1 (hinv.header_at.foldWrite bufs _ (.inl ?_))
    rw [Nat.zero_add, baHeader_length, hinv.dataOff]
    exact Nat.le_add_right _ _
  · intro j hj
    show At _ _ _
    have hj' := hinv.data_at hj
    by_cases hij : i = j
    · -- the item written to: what was there stays, `bufs` follows it
      subst hij
      rw [if_pos rfl]
      refine (hj'.foldWrite bufs _ (.inl ?_)).append ?_
      · rw [hinv.dataOff, Nat.add_assoc]; exact Nat.le_refl _
      · rw [hinv.dataOff, ← Nat.add_assoc]; exact at_foldWrite bufs w.out _
    · -- another item: its slot does not meet the slot of `i`
      rw [if_neg hij]
      have hfj := hinv.fits j hj
      rw [List.getElem?_eq_getElem hj, Option.getD_some] at hfj
      refine hj'.foldWrite bufs _ ?_
      rw [hinv.dataOff]
      rcases regions_disjoint res hi hj hij with h | h
      · left; omega
      · right; omega

/-- a sequence of `WriteItem(i, buffers...)` calls after `WriteHeader`; `none` = some call panicked. -/
def runWrites (w : BAWriter) (ws : List (Nat × List Bytes)) : Option BAWriter :=
  ws.foldl (fun acc x => acc.bind fun w => baWriteItem w x.1 x.2) (some w)

theorem runWrites_cons (w : BAWriter) (x : Nat × List Bytes) (ws : List (Nat × List Bytes)) :
    runWrites w (x :: ws) = (baWriteItem w x.1 x.2).bind fun w' => runWrites w' ws := by
  unfold runWrites
  simp only [List.foldl_cons, Option.bind_some]
  cases baWriteItem w x.1 x.2 with
  | some w' => rfl
  -- a `foldl` of `bind`s started at `none` stays `none`
  | none => exact ws.foldlRecOn (motive := (· = none)) _ rfl fun _ h _ _ => by rw [h]; rfl

/-- `pre` = the calls made so far; the space hypothesis speaks of the whole run, so it is the same at every step. -/
theorem run_inv (res : List Nat) : ∀ (ws pre : List (Nat × List Bytes)) (w : BAWriter),
    Inv res w (written pre) → (∀ x ∈ ws, x.1 < res.length) →
    (∀ j (hj : j < res.length), (written (pre ++ ws) j).length ≤ res[j]) →
    ∃ w', runWrites w ws = some w' ∧ Inv res w' (written (pre ++ ws)) := by
  intro ws
  induction ws with
  | nil => intro pre w hinv _ _; exact ⟨w, rfl, by rwa [List.append_nil]⟩
  | cons x ws ih =>
    intro pre w hinv hit hfit
    have hxi : x.1 < res.length := hit x (by simp)
    have e : pre ++ x :: ws = (pre ++ [x]) ++ ws := by simp
    have hf := hfit x.1 hxi
    rw [written_append, written_cons, if_pos rfl] at hf
    simp only [List.length_append] at hf
    obtain ⟨w1, hw1, hinv1⟩ := inv_step res w _ hinv x.1 x.2 hxi (by omega)
    have hW : (fun j => if x.1 = j then written pre j ++ x.2.flatten else written pre j) = written (pre ++ [x]) := by
      funext j
      rw [written_append, written_cons]
      by_cases hij : x.1 = j <;> simp [hij, written]
    rw [hW] at hinv1
    obtain ⟨w2, hw2, hinv2⟩ := ih (pre ++ [x]) w1 hinv1 (fun y hy => hit y (by simp [hy])) (e ▸ hfit)
    exact ⟨w2, by rw [runWrites_cons, hw1]; exact hw2, e ▸ hinv2⟩

/-- with every item exactly filled the output is the one-shot encoding of the items (followed by nothing a reader
looks at). -/
theorem Inv.baEncode_prefix {res : List Nat} {w : BAWriter} {W : Nat → Bytes} (hinv : Inv res w W)
    (hexact : ∀ j (hj : j < res.length), (W j).length = res[j]) :
    (List.map W (List.range res.length)).map List.length = res ∧
      baEncode (List.map W (List.range res.length)) <+: w.out := by
  have hmap : (List.map W (List.range res.length)).map List.length = res := by
    apply List.ext_getElem (by simp)
    intro j h1 h2
    simp only [List.getElem_map, List.getElem_range]
    exact hexact j h2
  refine ⟨hmap, At.isPrefix ?_⟩
  unfold baEncode
  rw [hmap]
  refine hinv.header_at.append ?_
  rw [Nat.zero_add, baHeader_length]
  -- item by item: the first `n` items fill the data region up to the `n`-th running sum
  have key : ∀ n, n ≤ res.length → ((List.map W (List.range n)).flatten.length = (res.take n).sum ∧
      At w.out (baDataOffset res) (List.map W (List.range n)).flatten) := by
    intro n
    induction n with
    | zero => intro _; exact ⟨rfl, fun k y h => nomatch h⟩
    | succ n ih =>
      intro hn
      obtain ⟨hl, ha⟩ := ih (Nat.le_of_lt hn)
      rw [List.range_succ, List.map_append, List.flatten_append, List.map_singleton, List.flatten_singleton]
      refine ⟨by rw [List.length_append, hl, hexact n hn, sum_take_succ res n hn], ha.append ?_⟩
      rw [hl]
      exact hinv.data_at hn
  exact (key res.length (Nat.le_refl _)).2

theorem bytearrays_item (res : List Nat) (ws : List (Nat × List Bytes))
    (hn : res.length < 2 ^ 32) (ht : res.sum < 2 ^ 64)
    (hitems : ∀ x ∈ ws, x.1 < res.length)
    (hexact : ∀ j (hj : j < res.length), (written ws j).length = res[j]) :
    ∃ w, runWrites (baStart res) ws = some w ∧
      ∀ i, i < res.length → baItem w.out i = some (written ws i) := by
  obtain ⟨w, hw, hinv⟩ := run_inv res ws [] (baStart res) (inv_start res) hitems
    (fun j hj => Nat.le_of_eq (hexact j hj))
  refine ⟨w, hw, fun i hi => ?_⟩
  rw [List.nil_append] at hinv
  obtain ⟨hmap, rest, hout⟩ := hinv.baEncode_prefix hexact
  have hl : (List.map (written ws) (List.range res.length)).length = res.length := by simp
  rw [← hout, bytearrays_encode_item _ rest i (by rw [hl]; exact hi) (by rw [hl]; exact hn) (by rw [hmap]; exact ht)]
  simp

/-! ## Uint64Map: scanning a bucket -/

/-- what the map theorems need from the layout for one entry (`Lemmas.Bits.header_roundtrip` proves it for
every layout with `TagBits ≤ BucketBits ≤ 63` and `tag < 2^TagBits`; C10 states that of the generated text). -/
def HeaderOK (b t : BitVec 64) (e : Entry) : Prop :=
  headerUnpackID (bucketForID e.id b) (headerPack e.id e.tag b t) b t = e.id ∧
  headerUnpackTag (headerPack e.id e.tag b t) t = e.tag

theorem entryBytes_length_pos (b t : BitVec 64) (e : Entry) : 2 ≤ (entryBytes b t e).length := by
  unfold entryBytes
  have h1 := putUvarint_length_pos (headerPack e.id e.tag b t).toNat
  have h2 := putUvarint_length_pos e.data.length
  simp only [List.length_append]; omega

theorem scanBucket_entryBytes (b t bucket : BitVec 64) (e : Entry) (R : Bytes) (fuel : Nat)
    (hlen : e.data.length < 2 ^ 63) :
    scanBucket (fuel + 1) (entryBytes b t e ++ R) bucket b t
      = (scanBucket fuel R bucket b t).map fun rest =>
          { id := headerUnpackID bucket (headerPack e.id e.tag b t) b t,
            tag := headerUnpackTag (headerPack e.id e.tag b t) t, data := e.data } :: rest := by
  have e1 : entryBytes b t e ++ R
      = putUvarint (headerPack e.id e.tag b t).toNat ++ (putUvarint e.data.length ++ (e.data ++ R)) := by
    simp only [entryBytes, List.append_assoc]
  have hne : (entryBytes b t e ++ R).isEmpty = false := by
    rw [e1, List.isEmpty_eq_false_iff]
    exact List.append_ne_nil_of_left_ne_nil (putUvarint_ne_nil _) _
  rw [scanBucket, hne, e1, uvarint_putUvarint_append _ (headerPack e.id e.tag b t).isLt]
  simp only [Bool.false_eq_true, if_false, List.drop_left]
  rw [uvarint_putUvarint_append _ (Nat.lt_trans hlen (by decide))]
  simp only
  rw [if_neg (Nat.not_le.2 hlen), if_neg (by simp only [List.length_append]; omega), BitVec.ofNat_toNat, BitVec.setWidth_eq,
    ← List.append_assoc, ← List.length_append, List.drop_left, List.take_left' rfl,
    ← List.append_assoc, ← List.length_append, List.drop_left]
  cases scanBucket fuel R bucket b t <;> rfl

theorem scan_entries (b t bucket : BitVec 64) : ∀ (es : List Entry) (fuel : Nat),
    (∀ e ∈ es, bucketForID e.id b = bucket ∧ HeaderOK b t e ∧ e.data.length < 2 ^ 63) →
    (es.flatMap (entryBytes b t)).length < fuel →
    scanBucket fuel (es.flatMap (entryBytes b t)) bucket b t = some es := by
  intro es
  induction es with
  | nil =>
    intro fuel _ _
    cases fuel <;> rfl
  | cons e es ih =>
    intro fuel h hf
    obtain ⟨⟨hbk, hok, hlen⟩, hes⟩ := List.forall_mem_cons.mp h
    cases fuel with
    | zero => simp at hf
    | succ fuel =>
      have := entryBytes_length_pos b t e
      rw [List.flatMap_cons, List.length_append] at hf
      rw [List.flatMap_cons, scanBucket_entryBytes b t bucket e _ fuel hlen,
        ih fuel hes (by omega), ← hbk, hok.1, hok.2]
      rfl

/-! ## Uint64Map: open, bucket, fill -/

theorem mem_bucketEntries (b : BitVec 64) (es : List Entry) (k : Nat) (e : Entry) :
    e ∈ bucketEntries b es k ↔ e ∈ es ∧ (bucketForID e.id b).toNat = k := by
  rw [bucketEntries, List.mem_filter, beq_iff_eq]

/-- the bucket byte strings of the written map, the items of its `ByteArrays` (`mapEncode` spells them out). -/
def bucketBytes (b t : BitVec 64) (es : List Entry) : List Bytes :=
  (List.range (2 ^ b.toNat)).map fun k => (bucketEntries b es k).flatMap (entryBytes b t)

theorem mapEncode_eq (b t : BitVec 64) (es : List Entry) :
    mapEncode b t es = [UInt8.ofNat b.toNat, UInt8.ofNat t.toNat] ++ baEncode (bucketBytes b t es) := rfl

/-- the well-formedness a written map needs.  `hb`: the `2 ^ b` buckets are the items of a `ByteArrays`, whose count is a
`uint32`; `ht`: the tag bits are stored in one layout byte; every entry's header is invertible (C10), payload lengths are
Go `int`s, and the whole file is addressable. -/
structure MapOK (b t : BitVec 64) (es : List Entry) : Prop where
  hb : b ≤ 31#64
  ht : t ≤ 255#64
  entries : ∀ e ∈ es, HeaderOK b t e ∧ e.data.length < 2 ^ 63
  size : (mapEncode b t es).length < 2 ^ 64

theorem MapOK.sum_lt {b t : BitVec 64} {es : List Entry} (h : MapOK b t es) :
    ((bucketBytes b t es).map List.length).sum < 2 ^ 64 := by
  have hs := h.size
  rw [mapEncode_eq, baEncode] at hs
  simp only [List.length_append, List.length_cons, List.length_nil, List.length_flatten] at hs
  omega

def mapViewOf (b t : BitVec 64) (es : List Entry) : MapView :=
  { b := b, t := t, buckets := baEncode (bucketBytes b t es) }

theorem mapOpen_mapEncode (b t : BitVec 64) (es : List Entry) (h : MapOK b t es) :
    mapOpen (mapEncode b t es) = some (mapViewOf b t es) := by
  have byte (x : BitVec 64) (hx : x.toNat ≤ 255) : BitVec.ofNat 64 (UInt8.ofNat x.toNat).toNat = x := by
    apply BitVec.eq_of_toNat_eq
    rw [BitVec.toNat_ofNat, UInt8.toNat_ofNat', Nat.mod_eq_of_lt (a := x.toNat) (by omega), Nat.mod_eq_of_lt x.isLt]
  have hb : b.toNat ≤ 31 := h.hb
  rw [mapEncode_eq]
  unfold mapOpen mapViewOf
  simp only [List.cons_append, List.nil_append]
  rw [byte b (by omega), byte t h.ht]

theorem mapBucket_mapViewOf (b t : BitVec 64) (es : List Entry) (h : MapOK b t es) (k : Nat) (hk : k < 2 ^ b.toNat) :
    mapBucket (mapViewOf b t es) k = some (bucketEntries b es k) := by
  have hb : b.toNat ≤ 31 := h.hb
  have hpow : 2 ^ b.toNat ≤ 2 ^ 31 := Nat.pow_le_pow_right (by omega) hb
  have hlen : (bucketBytes b t es).length = 2 ^ b.toNat := by rw [bucketBytes, List.length_map, List.length_range]
  unfold mapBucket mapViewOf
  simp only
  rw [← List.append_nil (baEncode _), bytearrays_encode_item _ [] k (by rw [hlen]; exact hk) (by rw [hlen]; omega) h.sum_lt]
  simp only [bind, Option.bind_some, bucketBytes, List.getElem_map, List.getElem_range]
  apply scan_entries
  · intro e he
    obtain ⟨hes, hek⟩ := (mem_bucketEntries b es k e).1 he
    refine ⟨BitVec.eq_of_toNat_eq ?_, h.entries e hes⟩
    rw [hek, BitVec.toNat_ofNat, Nat.mod_eq_of_lt (by omega)]
  · omega

theorem filter_bucket (b : BitVec 64) (es : List Entry) (id : BitVec 64) :
    (bucketEntries b es (bucketForID id b).toNat).filter (fun e => e.id == id) = es.filter (fun e => e.id == id) := by
  unfold bucketEntries
  rw [List.filter_filter]
  apply List.filter_congr
  intro e _
  by_cases hid : e.id = id
  · simp [hid]
  · simp [hid]

theorem mapFillTagged_mapViewOf (b t : BitVec 64) (es : List Entry) (h : MapOK b t es) (id : BitVec 64) :
    mapFillTagged (mapViewOf b t es) id = some (es.filter fun e => e.id == id) := by
  have hb63 : b ≤ 63#64 := by have : b.toNat ≤ 31 := h.hb; show b.toNat ≤ 63; omega
  unfold mapFillTagged
  have hmb : (mapViewOf b t es).b = b := rfl
  rw [hmb, mapBucket_mapViewOf b t es h _ (Bits.bucketForID_lt id b hb63)]
  simp only [bind, Option.bind_some, pure, filter_bucket]

theorem mapFindFirst_mapViewOf (b t : BitVec 64) (es : List Entry) (h : MapOK b t es) (id : BitVec 64) :
    mapFindFirst (mapViewOf b t es) id = some (es.find? fun e => e.id == id) := by
  unfold mapFindFirst
  rw [mapFillTagged_mapViewOf b t es h id]
  simp [List.head?_filter]

theorem mapFindFirstWithTag_mapViewOf (b t : BitVec 64) (es : List Entry) (h : MapOK b t es) (id tag : BitVec 64) :
    mapFindFirstWithTag (mapViewOf b t es) id tag = some (es.find? fun e => e.id == id && e.tag == tag) := by
  unfold mapFindFirstWithTag
  rw [mapFillTagged_mapViewOf b t es h id]
  simp only [bind, Option.bind_some, pure, List.find?_filter, Bool.decide_and, Bool.decide_eq_true]

theorem map_fill_tagged (b t : BitVec 64) (es : List Entry) (h : MapOK b t es) (id : BitVec 64) :
    ∃ mv, mapOpen (mapEncode b t es) = some mv ∧
      mapFillTagged mv id = some (es.filter fun e => e.id == id) :=
  ⟨_, mapOpen_mapEncode b t es h, mapFillTagged_mapViewOf b t es h id⟩

theorem map_find_first (b t : BitVec 64) (es : List Entry) (h : MapOK b t es) (id : BitVec 64) :
    ∃ mv, mapOpen (mapEncode b t es) = some mv ∧
      mapFindFirst mv id = some (es.find? fun e => e.id == id) :=
  ⟨_, mapOpen_mapEncode b t es h, mapFindFirst_mapViewOf b t es h id⟩

theorem map_find_first_with_tag (b t : BitVec 64) (es : List Entry) (h : MapOK b t es) (id tag : BitVec 64) :
    ∃ mv, mapOpen (mapEncode b t es) = some mv ∧
      mapFindFirstWithTag mv id tag = some (es.find? fun e => e.id == id && e.tag == tag) :=
  ⟨_, mapOpen_mapEncode b t es h, mapFindFirstWithTag_mapViewOf b t es h id tag⟩

/-! ## iteration: sort by id, group equal ids -/

theorem sortById_isSort : Basic.IsInsertSort (fun a b : Entry => a.id ≤ b.id) insertById sortById :=
  ⟨fun _ => rfl, fun _ _ _ => rfl, rfl, fun _ _ => rfl⟩

theorem sortById_perm (l : List Entry) : (sortById l).Perm l := sortById_isSort.perm l

theorem sortById_sorted (l : List Entry) : (sortById l).Pairwise fun a b => a.id ≤ b.id :=
  sortById_isSort.pairwise (fun h => BitVec.le_of_lt (BitVec.not_le.mp h)) BitVec.le_trans l

theorem groupById_flatten (l : List Entry) : (groupById l).flatMap (·.2) = l := by
  induction l with
  | nil => rfl
  | cons e es ih =>
    unfold groupById
    split
    · rename_i id g rest heq
      rw [heq] at ih
      split
      · simp only [List.flatMap_cons, List.cons_append] at ih ⊢; rw [ih]
      · simp only [List.flatMap_cons, List.cons_append, List.nil_append] at ih ⊢; rw [ih]
    · rename_i heq
      rw [heq] at ih
      simp at ih
      simp [← ih]

theorem groupById_head (e : Entry) (es : List Entry) : ∃ g gs, groupById (e :: es) = (e.id, g) :: gs := by
  unfold groupById
  split
  · rename_i id g rest _
    split
    · rename_i h; exact ⟨e :: g, rest, by rw [beq_iff_eq.1 h]⟩
    · exact ⟨[e], (id, g) :: rest, rfl⟩
  · exact ⟨[e], [], rfl⟩

theorem groupById_spec : ∀ (l : List Entry), (l.Pairwise fun a b => a.id ≤ b.id) →
    ((groupById l).Pairwise fun a b => a.1 < b.1) ∧
    (∀ p ∈ groupById l, p.2 = l.filter (fun e => e.id == p.1) ∧ p.2 ≠ []) := by
  intro l
  induction l with
  | nil => intro _; simp [groupById]
  | cons e es ih =>
    intro hs
    have hse := List.pairwise_cons.1 hs
    obtain ⟨ih1, ih3⟩ := ih hse.2
    cases es with
    | nil =>
      refine ⟨List.pairwise_singleton _ _, fun p hp => ?_⟩
      cases List.mem_singleton.1 hp
      exact ⟨by rw [List.filter_cons, if_pos (beq_self_eq_true _)]; rfl, List.cons_ne_nil _ _⟩
    | cons e' rest' =>
      -- the groups of the tail start with the label `e'.id ≥ e.id`
      obtain ⟨g, rest, heq⟩ := groupById_head e' rest'
      have hle : e.id ≤ e'.id := hse.1 e' (by simp)
      rw [heq] at ih1 ih3
      have ih1' := List.pairwise_cons.1 ih1
      have hg := ih3 (e'.id, g) (by simp)
      unfold groupById
      rw [heq]
      simp only
      split
      · -- `e` joins the first group; the later labels are larger than `e.id`
        rename_i heqid
        have heqid' : e'.id = e.id := beq_iff_eq.1 heqid
        refine ⟨List.pairwise_cons.2 ih1', ?_⟩
        intro p hp
        rcases List.mem_cons.1 hp with rfl | hp
        · exact ⟨by rw [List.filter_cons, if_pos (by simp [heqid']), ← hg.1], by simp⟩
        · have h3 := ih3 p (by simp [hp])
          have hlt : e.id < p.1 := heqid' ▸ ih1'.1 p hp
          exact ⟨by rw [List.filter_cons, if_neg (by simp [BitVec.ne_of_lt hlt]), ← h3.1], h3.2⟩
      · -- `e` opens a group of its own: everything behind it has a larger id
        rename_i hneid
        have hlt : e.id < e'.id :=
          Nat.lt_of_le_of_ne hle fun hh => hneid (beq_iff_eq.2 (BitVec.eq_of_toNat_eq hh.symm))
        have hlabels : ∀ p ∈ (e'.id, g) :: rest, e.id < p.1 := by
          intro p hp
          rcases List.mem_cons.1 hp with rfl | hp
          · exact hlt
          · exact BitVec.lt_trans hlt (ih1'.1 p hp)
        refine ⟨List.pairwise_cons.2 ⟨hlabels, ih1⟩, ?_⟩
        intro p hp
        rcases List.mem_cons.1 hp with rfl | hp
        · refine ⟨?_, by simp⟩
          have : (e' :: rest').filter (fun x => x.id == e.id) = [] := by
            rw [List.filter_eq_nil_iff]
            intro x hx
            have hxid : e'.id ≤ x.id := by
              rcases List.mem_cons.1 hx with rfl | hx'
              · exact BitVec.le_refl _
              · exact (List.pairwise_cons.1 hse.2).1 x hx'
            have : e.id < x.id := Nat.lt_of_lt_of_le hlt hxid
            intro hh; rw [beq_iff_eq.1 hh] at this; exact BitVec.lt_irrefl _ this
          rw [List.filter_cons, if_pos (by simp), this]
        · have h3 := ih3 p hp
          exact ⟨by rw [List.filter_cons, if_neg (by simp [BitVec.ne_of_lt (hlabels p hp)]), ← h3.1], h3.2⟩

/-! ## iteration over the whole map -/

theorem foldr_buckets (m : MapView) (f : Nat → List Entry) : ∀ (ks : List Nat),
    (∀ k ∈ ks, mapBucket m k = some (f k)) →
    ks.foldr (fun k acc => do
      let es ← mapBucket m k
      let rest ← acc
      pure (groupById (sortById es) ++ rest)) (some [])
    = some (ks.flatMap fun k => groupById (sortById (f k))) := by
  intro ks
  induction ks with
  | nil => intro _; rfl
  | cons k ks ih =>
    intro h
    simp only [List.foldr_cons, List.flatMap_cons]
    obtain ⟨hk, hks⟩ := List.forall_mem_cons.mp h
    rw [ih hks, hk]
    rfl

def bucketGroups (b : BitVec 64) (es : List Entry) (k : Nat) : List (BitVec 64 × List Entry) :=
  groupById (sortById (bucketEntries b es k))

theorem bucketGroups_spec (b : BitVec 64) (es : List Entry) (k : Nat) :
    ((bucketGroups b es k).Pairwise fun p q => p.1 < q.1) ∧
    ∀ p ∈ bucketGroups b es k, p.2 = (sortById (bucketEntries b es k)).filter (fun e => e.id == p.1) ∧ p.2 ≠ [] :=
  groupById_spec _ (sortById_sorted (bucketEntries b es k))

/-- a permutation only: the model sorts stably, the Go sort does not promise that. -/
theorem group_of_bucket (b : BitVec 64) (es : List Entry) (k : Nat)
    (p : BitVec 64 × List Entry) (hp : p ∈ bucketGroups b es k) :
    (bucketForID p.1 b).toNat = k ∧ p.2 ≠ [] ∧ p.2.Perm (es.filter fun e => e.id == p.1) := by
  obtain ⟨hfil, hne⟩ := (bucketGroups_spec b es k).2 p hp
  -- a member of the group carries the label and lies in the bucket
  obtain ⟨e, he⟩ := List.exists_mem_of_ne_nil _ hne
  rw [hfil, List.mem_filter] at he
  have heid : e.id = p.1 := by simpa using he.2
  have hk' : (bucketForID p.1 b).toNat = k :=
    heid ▸ ((mem_bucketEntries b es k e).1 ((sortById_perm _).mem_iff.1 he.1)).2
  refine ⟨hk', hne, ?_⟩
  rw [hfil]
  have := (sortById_perm (bucketEntries b es k)).filter (fun e => e.id == p.1)
  rw [← hk', filter_bucket] at this
  rw [← hk']
  exact this

theorem exists_group_of_mem (b : BitVec 64) (es : List Entry) (e : Entry) (he : e ∈ es) :
    ∃ p ∈ bucketGroups b es (bucketForID e.id b).toNat, p.1 = e.id := by
  have hes : e ∈ sortById (bucketEntries b es (bucketForID e.id b).toNat) :=
    (sortById_perm _).mem_iff.2 ((mem_bucketEntries b es _ e).2 ⟨he, rfl⟩)
  rw [← groupById_flatten (sortById _)] at hes
  obtain ⟨p, hp, hep⟩ := List.mem_flatMap.1 hes
  rw [((bucketGroups_spec b es _).2 p hp).1, List.mem_filter] at hep
  have : e.id = p.1 := by simpa using hep.2
  exact ⟨p, hp, this.symm⟩

theorem mapIterate_mapViewOf (b t : BitVec 64) (es : List Entry) (h : MapOK b t es) :
    mapIterate (mapViewOf b t es) = some ((List.range (2 ^ b.toNat)).flatMap (bucketGroups b es)) := by
  unfold mapIterate
  exact foldr_buckets (mapViewOf b t es) (bucketEntries b es) _
    (fun k hk => mapBucket_mapViewOf b t es h k (by
      have : (mapViewOf b t es).b = b := rfl
      rw [this] at hk; simpa using hk))

theorem map_iterate (b t : BitVec 64) (es : List Entry) (h : MapOK b t es) :
    ∃ mv gs, mapOpen (mapEncode b t es) = some mv ∧ mapIterate mv = some gs ∧
      gs.Pairwise (fun p q => p.1 ≠ q.1) ∧
      (∀ p ∈ gs, p.2 ≠ [] ∧ p.2.Perm (es.filter fun e => e.id == p.1)) ∧
      (∀ e ∈ es, ∃ p ∈ gs, p.1 = e.id) := by
  have hb63 : b ≤ 63#64 := Nat.le_trans (show b.toNat ≤ 31 from h.hb) (by decide)
  refine ⟨_, _, mapOpen_mapEncode b t es h, mapIterate_mapViewOf b t es h, ?_, ?_, ?_⟩
  · rw [List.pairwise_flatMap]
    constructor
    · -- inside a bucket the labels increase
      intro k _
      refine (bucketGroups_spec b es k).1.imp ?_
      intro p q hlt heq
      exact BitVec.lt_irrefl _ (heq ▸ hlt)
    · -- a label determines its bucket
      refine (List.pairwise_lt_range (n := 2 ^ b.toNat)).imp ?_
      intro k1 k2 hlt p hp q hq heq
      exact Nat.ne_of_lt hlt ((heq ▸ (group_of_bucket b es k1 p hp).1).symm.trans (group_of_bucket b es k2 q hq).1)
  · exact List.forall_mem_flatMap.2 fun k _ p hpk => (group_of_bucket b es k p hpk).2
  · intro e he
    obtain ⟨p, hp, hpe⟩ := exists_group_of_mem b es e he
    exact ⟨p, List.mem_flatMap.2 ⟨_, by simpa using Bits.bucketForID_lt e.id b hb63, hp⟩, hpe⟩

end B6.Lemmas.Containers
