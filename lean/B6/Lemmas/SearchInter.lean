import B6.Lemmas.Search
/-!
# `intersection` refines the cursor over the intersection of its children's lists, and its leapfrog loop
terminates (C06)

Invariant after a successful call: all children sit on the same value `v`, which is the spec
cursor's current element.  Inside the leapfrog loop the lead sits on `l`, every other child is at or behind
`l`, and no common element `≥` the target lies below `l`.  Each restart moves the lead strictly forward, so
the loop runs at most (length of the lead's list) + 1 times (the measure is the number of elements of the lead's list
above `l`).
-/
namespace B6.Lemmas.Search
open B6.Spec.Cursor B6.Spec.SearchQuery B6.Model.Search

variable {σ : Type}

def Behind (o : IterOps σ) (l : Nat) (q : σ × List Nat) : Prop :=
  ∃ cq, At o q.1 q.2 cq ∧ ∀ w, cq = some w → w ≤ l

theorem Behind.mono {o : IterOps σ} {l l' : Nat} {q : σ × List Nat} (hll : l ≤ l') (h : Behind o l q) : Behind o l' q :=
  let ⟨cq, hat, hle⟩ := h
  ⟨cq, hat, fun w hw => Nat.le_trans (hle w hw) hll⟩

theorem Behind.of_at {o : IterOps σ} {l w : Nat} {q : σ × List Nat} (hat : At o q.1 q.2 (some w)) (hwl : w ≤ l) :
    Behind o l q :=
  ⟨some w, hat, fun _ hw => Option.some.inj hw ▸ hwl⟩

theorem Behind.advance {o : IterOps σ} {l : Nat} {q : σ × List Nat} (h : Behind o l q) (hl : o.dom l) :
    Lands (At o) (o.advance l q.1) q.2 l :=
  let ⟨_, hat, hle⟩ := h
  hat.advance_of_le hl hle

/-- what `scan` can answer from a lead on `l` over `ls` when every other child (`qs`, paired with their lists, which
never change) is at or behind `l` -/
inductive Scanned (o : IterOps σ) (ls : List Nat) (l : Nat) (qs : List (σ × List Nat)) : ScanRes σ → Prop
  | allEqual (qs' : List (σ × List Nat)) : qs'.map (·.2) = qs.map (·.2) → (∀ q' ∈ qs', At o q'.1 q'.2 (some l)) →
      Scanned o ls l qs (.allEqual (qs'.map (·.1)))
  | exhausted (lead' : σ) (r : List σ) : (∀ x ∈ ls, (∀ q ∈ qs, x ∈ q.2) → x < l) → Scanned o ls l qs (.exhausted lead' r)
  | restart (lead' : σ) (l' : Nat) (qs' : List (σ × List Nat)) : At o lead' ls (some l') → l < l' →
      qs'.map (·.2) = qs.map (·.2) → (∀ q' ∈ qs', Behind o l' q') →
      (∀ x ∈ ls, (∀ q ∈ qs, x ∈ q.2) → l ≤ x → l' ≤ x) → Scanned o ls l qs (.restart lead' (qs'.map (·.1)))

theorem scan_spec (o : IterOps σ) {lead : σ} {ls : List Nat} {l : Nat} (hl : At o lead ls (some l)) (hdl : o.dom l) :
    ∀ qs : List (σ × List Nat), (∀ q ∈ qs, Behind o l q) →
      (∀ q ∈ qs, ∀ x ∈ q.2, o.dom x) → Scanned o ls l qs (Inter.scan o lead l (qs.map (·.1))) := by
  intro qs
  induction qs with
  | nil => exact fun _ _ => .allEqual [] rfl (by simp)
  | cons q qs ih =>
    intro h hd
    obtain ⟨hq, hrest⟩ := List.forall_mem_cons.mp h
    obtain ⟨hdq, hdrest⟩ := List.forall_mem_cons.mp hd
    rw [List.map_cons, Inter.scan]
    obtain ⟨c', ⟨hr, hall⟩ | ⟨w, hr, hw, hat'⟩⟩ := hq.advance hdl
    · rw [hr]
      exact .exhausted lead _ fun x _ hx => hall x (hx q (by simp))
    · rw [hr]
      simp only [hat'.value]
      by_cases hwl : w = l
      · subst hwl
        simp only [↓reduceIte]
        have hs := ih hrest hdrest
        generalize Inter.scan o lead w (qs.map (·.1)) = r at hs
        cases hs with
        | allEqual qs' e2 e3 =>
          exact .allEqual ((c', q.2) :: qs') (by simp [e2]) fun q' hq' => by
            rcases List.mem_cons.1 hq' with rfl | hq'
            · exact hat'
            · exact e3 q' hq'
        | exhausted lead' r e2 =>
          exact .exhausted lead' _ fun x hx hall => e2 x hx (fun q' hq' => hall q' (List.mem_cons_of_mem _ hq'))
        | restart lead' l' qs' e2 e3 e4 e5 e6 =>
          refine .restart lead' l' ((c', q.2) :: qs') e2 e3 (by simp [e4]) (fun q' hq' => ?_)
            fun x hx hall hwx => e6 x hx (fun q' hq' => hall q' (List.mem_cons_of_mem _ hq')) hwx
          rcases List.mem_cons.1 hq' with rfl | hq'
          · exact Behind.of_at hat' (Nat.le_of_lt e3)
          · exact e5 q' hq'
      · simp only [hwl, ↓reduceIte]
        have hlw : l < w := Nat.lt_of_le_of_ne hw.2.1 (Ne.symm hwl)
        -- the child is ahead, on `w`: the lead advances to its least element `≥ w`
        obtain ⟨lead', ⟨hr2, hall2⟩ | ⟨l', hr2, hl', hat2⟩⟩ :=
          hl.advance_of_le (hdq w hw.1) (fun _ hv => Option.some.inj hv ▸ Nat.le_of_lt hlw)
        · rw [hr2]
          exact .exhausted lead' _ fun x hx hxq => Nat.lt_of_not_le fun hlx =>
            Nat.lt_irrefl _ (Nat.lt_of_lt_of_le (hall2 x hx) (hw.2.2 x (hxq q (by simp)) hlx))
        · rw [hr2]
          have hll : l < l' := Nat.lt_of_lt_of_le hlw hl'.2.1
          refine .restart lead' l' ((c', q.2) :: qs) hat2 hll rfl (fun q' hq' => ?_)
            fun x hx hxq hlx => hl'.2.2 x hx (hw.2.2 x (hxq q (by simp)) hlx)
          rcases List.mem_cons.1 hq' with rfl | hq'
          · exact Behind.of_at hat' hl'.2.1
          · exact (hrest q' hq').mono (Nat.le_of_lt hll)

def InterAt (o : IterOps σ) (fuel : Nat) (its : List σ) (M : List Nat) (cu : Option Nat) : Prop :=
  ∃ (lead : σ) (ls : List Nat) (ps : List (σ × List Nat)),
    its = lead :: ps.map (·.1) ∧ At o lead ls cu ∧ ls.length < fuel ∧ (∀ x ∈ ls, o.dom x) ∧
    (∀ p ∈ ps, At o p.1 p.2 cu ∧ ∀ x ∈ p.2, o.dom x) ∧ ∀ x, x ∈ M ↔ x ∈ ls ∧ ∀ p ∈ ps, x ∈ p.2

theorem mem_all_of_map_eq {ps ps' : List (σ × List Nat)} (h : ps'.map (·.2) = ps.map (·.2)) (P : List Nat → Prop) :
    (∀ p ∈ ps', P p.2) ↔ ∀ p ∈ ps, P p.2 := by
  have key (qs : List (σ × List Nat)) : (∀ l ∈ qs.map (·.2), P l) ↔ ∀ p ∈ qs, P p.2 := List.forall_mem_map
  rw [← key, ← key, h]

theorem countP_gt_lt {ls : List Nat} {l l' : Nat} (h : l < l') (hm : l' ∈ ls) :
    ls.countP (fun y => decide (l' < y)) < ls.countP (fun y => decide (l < y)) := by
  induction ls with
  | nil => simp at hm
  | cons a t ih =>
    simp only [List.countP_cons, decide_eq_true_eq]
    rcases List.mem_cons.1 hm with rfl | hm
    · have := List.countP_mono_left (l := t) (p := fun y => decide (l' < y)) (q := fun y => decide (l < y))
        (by intro x _; simp; omega)
      rw [if_neg (Nat.lt_irrefl _), if_pos h]; omega
    · have := ih hm
      by_cases h1 : l' < a
      · rw [if_pos h1, if_pos (Nat.lt_trans h h1)]; omega
      · rw [if_neg h1]; split <;> omega

theorem leapfrog_spec (o : IterOps σ) (fuel : Nat) (M ls : List Nat) (t₀ : Nat) (hfuel : ls.length < fuel)
    (hdls : ∀ x ∈ ls, o.dom x) :
    ∀ (f : Nat) (lead : σ) (l : Nat) (ps : List (σ × List Nat)),
      ls.countP (fun y => decide (l < y)) < f → At o lead ls (some l) → t₀ ≤ l →
      (∀ p ∈ ps, Behind o l p ∧ ∀ x ∈ p.2, o.dom x) →
      (∀ x, x ∈ M ↔ x ∈ ls ∧ ∀ p ∈ ps, x ∈ p.2) → (∀ x ∈ M, t₀ ≤ x → l ≤ x) →
      Lands (InterAt o fuel) (Inter.leapfrog o f lead (ps.map (·.1))) M t₀ := by
  intro f
  induction f with
  | zero => exact fun _ _ _ hf => absurd hf (Nat.not_lt_zero _)
  | succ f ih =>
    intro lead l ps hf hl htl hps hM hsafe
    simp only [Inter.leapfrog, hl.value]
    have hs := scan_spec o hl (hdls l hl.mem) ps (fun p hp => (hps p hp).1) (fun p hp => (hps p hp).2)
    generalize Inter.scan o lead l (ps.map (·.1)) = r at hs
    cases hs with
    | allEqual qs' e2 e3 =>
      have hM' : ∀ x, x ∈ M ↔ x ∈ ls ∧ ∀ p ∈ qs', x ∈ p.2 := fun x => by
        rw [hM, mem_all_of_map_eq e2 (x ∈ ·)]
      refine ⟨lead :: qs'.map (·.1), Or.inr ⟨l, rfl, ⟨(hM' l).2 ⟨hl.mem, fun p hp => (e3 p hp).mem⟩, htl, hsafe⟩,
        lead, ls, qs', rfl, hl, hfuel, hdls, fun p hp => ⟨e3 p hp, ?_⟩, hM'⟩⟩
      exact (mem_all_of_map_eq e2 (fun xs => ∀ x ∈ xs, o.dom x)).2 (fun p hp => (hps p hp).2) p hp
    | exhausted lead' r e2 =>
      refine ⟨lead' :: r, Or.inl ⟨rfl, fun x hx => ?_⟩⟩
      exact Nat.lt_of_not_le fun h => Nat.lt_irrefl _
        (Nat.lt_of_lt_of_le (e2 x ((hM x).1 hx).1 ((hM x).1 hx).2) (hsafe x hx h))
    | restart lead' l' qs' e2 e3 e4 e5 e6 =>
      refine ih lead' l' qs'
        (Nat.lt_of_lt_of_le (countP_gt_lt e3 e2.mem) (Nat.le_of_lt_succ hf)) e2 (Nat.le_trans htl (Nat.le_of_lt e3))
        (fun p hp => ⟨e5 p hp, ?_⟩)
        (fun x => by rw [hM, mem_all_of_map_eq e4 (x ∈ ·)])
        (fun x hx htx => e6 x ((hM x).1 hx).1 ((hM x).1 hx).2 (hsafe x hx htx))
      exact (mem_all_of_map_eq e4 (fun xs => ∀ x ∈ xs, o.dom x)).2 (fun p hp => (hps p hp).2) p hp

/-- the common tail of `Inter.next` and `Inter.advance` (the `match` in the statement is theirs, copied): after the
lead's own call `r`, leapfrog -/
theorem lead_lands (o : IterOps σ) (fuel : Nat) {M ls : List Nat} {cu : Option Nat} {t : Nat} {r : Res σ}
    {ps : List (σ × List Nat)} (hfuel : ls.length < fuel) (hdls : ∀ x ∈ ls, o.dom x)
    (hps : ∀ p ∈ ps, At o p.1 p.2 cu ∧ ∀ x ∈ p.2, o.dom x) (hM : ∀ x, x ∈ M ↔ x ∈ ls ∧ ∀ p ∈ ps, x ∈ p.2)
    (hcu : ∀ w, cu = some w → w ≤ t) (hr : Lands (At o) r ls t) :
    Lands (InterAt o fuel)
      (match (generalizing := false) r with
        | .ok (true, l') => Inter.leapfrog o fuel l' (ps.map (·.1))
        | .ok (false, l') => .ok (false, l' :: ps.map (·.1))
        | .error e => .error e) M t := by
  obtain ⟨lead', ⟨hr, hall⟩ | ⟨l, hr, hl, hat⟩⟩ := hr
  · rw [hr]
    exact ⟨_, Or.inl ⟨rfl, fun x hx => hall x ((hM x).1 hx).1⟩⟩
  · rw [hr]
    exact leapfrog_spec o fuel M ls t hfuel hdls fuel lead' l ps
      (Nat.lt_of_le_of_lt List.countP_le_length hfuel) hat hl.2.1
      (fun p hp => ⟨⟨cu, (hps p hp).1, fun w hw => Nat.le_trans (hcu w hw) hl.2.1⟩, (hps p hp).2⟩) hM
      (fun x hx => hl.2.2 x ((hM x).1 hx).1)

theorem inter_lands (o : IterOps σ) (fuel : Nat) (its : List σ) (M : List Nat) (cu : Option Nat)
    (h : InterAt o fuel its M cu) :
    Lands (InterAt o fuel) (Inter.next o fuel its) M (after cu) ∧
    ∀ k, o.dom k → Lands (InterAt o fuel) (Inter.advance o fuel k its) M (max k (cu.getD 0)) := by
  obtain ⟨lead, ls, ps, rfl, hl, hfuel, hdls, hps, hM⟩ := h
  exact ⟨lead_lands o fuel hfuel hdls hps hM (fun w hw => by subst hw; exact Nat.le_succ w) hl.next,
    fun k hk => lead_lands o fuel hfuel hdls hps hM (fun w hw => by subst hw; exact Nat.le_max_right _ _)
      (hl.advance hk)⟩

/-! ## `newIntersection`: the stable sort by `EstimateLength` only permutes the children -/

theorem sortBy_isSort {α : Type} (est : α → Nat) :
    Basic.IsInsertSort (fun x y => ¬ est y < est x) (Inter.insertBy est) (Inter.sortBy est) :=
  ⟨fun _ => rfl, fun _ _ _ => (ite_not ..).symm, rfl, fun _ _ => rfl⟩

theorem insertBy_map {α β : Type} (f : α → β) (est : β → Nat) (a : α) : ∀ l : List α,
    Inter.insertBy est (f a) (l.map f) = (Inter.insertBy (fun x => est (f x)) a l).map f
  | [] => rfl
  | b :: l => by
    simp only [List.map_cons, Inter.insertBy]
    split
    · simp [insertBy_map f est a l]
    · simp

theorem sortBy_map {α β : Type} (f : α → β) (est : β → Nat) : ∀ l : List α,
    Inter.sortBy est (l.map f) = (Inter.sortBy (fun x => est (f x)) l).map f
  | [] => rfl
  | a :: l => by
    simp only [List.map_cons, Inter.sortBy]
    rw [sortBy_map f est l, insertBy_map]

/-- The intersection theorem, children as a family.  `fuel` only has to exceed the length of every child's list; the
lists' own elements have to be keys `Advance` accepts, because the leapfrog passes them on (and nothing else). -/
theorem inter_refines_fam {α : Type} (o : IterOps σ) (fuel : Nat) (est : σ → Nat) (l : List α) (f : α → σ)
    (g : α → List Nat) (ys : List Nat) (hne : l ≠ [])
    (hch : ∀ a ∈ l, Refines o (f a) (g a) ∧ (g a).length < fuel ∧ ∀ x ∈ g a, o.dom x)
    (hys : StrictSorted ys) (hmem : ∀ x, x ∈ ys ↔ ∀ a ∈ l, x ∈ g a) :
    Refines (Inter.ops o fuel) (Inter.sortBy est (l.map f)) ys := by
  rw [sortBy_map]
  have hmemS : ∀ a, a ∈ Inter.sortBy (fun a => est (f a)) l ↔ a ∈ l := fun _ => (sortBy_isSort _).mem
  -- the sort only permutes: a lead `a0` and the rest, together the members of `l`
  cases hs : Inter.sortBy (fun a => est (f a)) l with
  | nil =>
    obtain ⟨a, _, rfl⟩ := List.exists_cons_of_ne_nil hne
    exact absurd ((hmemS a).2 List.mem_cons_self) (hs ▸ List.not_mem_nil)
  | cons a0 rest =>
    have hin : ∀ a, a ∈ a0 :: rest ↔ a ∈ l := fun a => hs ▸ hmemS a
    have h0 := (hin a0).1 List.mem_cons_self
    have hr : ∀ a ∈ rest, a ∈ l := fun a ha => (hin a).1 (List.mem_cons_of_mem _ ha)
    refine refinesAt_of_lands (V := InterAt o fuel)
      (fun _ _ _ _ ⟨_, _, _, hits, hl, _⟩ => by subst hits; exact hl.value)
      (fun its M cu _ _ hV => inter_lands o fuel its M cu hV) hys
      ⟨f a0, g a0, rest.map fun a => (f a, g a), by rw [List.map_cons, List.map_map]; rfl,
        At.of_refines (hch a0 h0).1, (hch a0 h0).2.1, (hch a0 h0).2.2, fun p hp => ?_, fun x => ?_⟩
    · obtain ⟨a, ha, rfl⟩ := List.mem_map.1 hp
      exact ⟨At.of_refines (hch a (hr a ha)).1, (hch a (hr a ha)).2.2⟩
    · rw [start_xs, hmem]
      simp only [List.mem_map, forall_exists_index, and_imp, forall_apply_eq_imp_iff₂, ← hin, List.mem_cons,
        forall_eq_or_imp]

/-! ## the invariant in cursor form

`InterRel` is `InterAt` with every child paired with a spec cursor instead of its list: the hypothesis of
`C06.intersection_terminates`. -/

def InterRel (o : IterOps σ) (fuel : Nat) (its : List σ) (C : Cursor) : Prop :=
  C.WF ∧ ∃ (lead : σ) (cl : Cursor) (ps : List (σ × Cursor)),
    its = lead :: ps.map (·.1) ∧ RefinesAt o lead cl ∧ cl.xs.length < fuel ∧
    (∀ x ∈ cl.xs, o.dom x) ∧ (∀ p ∈ ps, ∀ x ∈ p.2.xs, o.dom x) ∧
    (∀ p ∈ ps, RefinesAt o p.1 p.2 ∧ p.2.cur = cl.cur) ∧ C.cur = cl.cur ∧
    (∀ x, x ∈ C.xs ↔ x ∈ cl.xs ∧ ∀ p ∈ ps, x ∈ p.2.xs)

theorem InterRel.at {o : IterOps σ} {fuel : Nat} {its : List σ} {C : Cursor} (h : InterRel o fuel its C) :
    InterAt o fuel its C.xs C.cur := by
  obtain ⟨_, lead, cl, ps, rfl, hl, hfuel, hdcl, hdps, hps, hcc, hM⟩ := h
  refine ⟨lead, cl.xs, ps.map (fun p => (p.1, p.2.xs)), by simp [List.map_map], ⟨cl, hl, rfl, hcc.symm⟩, hfuel, hdcl,
    ?_, fun x => (hM x).trans (and_congr_right fun _ => ⟨fun h q hq => by
      obtain ⟨p, hp, rfl⟩ := List.mem_map.1 hq; exact h p hp, fun h p hp => h _ (List.mem_map.2 ⟨p, hp, rfl⟩)⟩)⟩
  intro q hq
  obtain ⟨p, hp, rfl⟩ := List.mem_map.1 hq
  exact ⟨⟨p.2, (hps p hp).1, rfl, by rw [(hps p hp).2, hcc]⟩, hdps p hp⟩

end B6.Lemmas.Search
