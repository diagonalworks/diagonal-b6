import B6.Model.Proto.Service
import B6.Lemmas.Basic.AssocList
import B6.Lemmas.Basic.List
/-!
Invariants of the lock-protocol model of the b6 service (C40): steps as a relation (`Move`), the RWMutex
bookkeeping (`LockInv`), the reference run, the per-client phase discipline and object bounds (`phaseOk`, `WeakInv`).
Each invariant is kept by one frame lemma ("client `i` moves from `c` to `c'`") applied per constructor of `Move`.
-/
namespace B6.Lemmas.ProtoService
open B6.Model.Proto B6.Model.Proto.Service

/-! ## the steps as a relation -/

/-- `clientStep` as a relation, one constructor per line of the model -/
inductive Move (pref : Bool) (s : State) (i : Nat) (c : Client) : State → Prop
  | rlock : c.pc = .rlock → canRLock pref s = true →
      Move pref s i c (setClient { s with readers := s.readers + 1 } i { c with pc := .find })
  | findQuery {wid o : Nat} : c.pc = .find → c.req = .query wid → mfind s.map wid = some o →
      Move pref s i c
        (setClient { s with log := s.log ++ [c.req] } i { c with pc := .eval, obj := some o, logged := true })
  | createQuery {wid : Nat} : c.pc = .find → c.req = .query wid → mfind s.map wid = none →
      Move pref s i c
        (setClient { s with heap := s.heap ++ [s.base], map := s.map ++ [(wid, s.heap.length)], log := s.log ++ [c.req] }
          i { c with pc := .eval, obj := some s.heap.length, logged := true })
  | findChange {wid o : Nat} {rs : List Rule} : c.pc = .find → c.req = .change wid rs → mfind s.map wid = some o →
      Move pref s i c (setClient s i { c with pc := .eval, obj := some o })
  | createChange {wid : Nat} {rs : List Rule} : c.pc = .find → c.req = .change wid rs → mfind s.map wid = none →
      Move pref s i c
        (setClient { s with heap := s.heap ++ [s.base], map := s.map ++ [(wid, s.heap.length)] }
          i { c with pc := .eval, obj := some s.heap.length })
  | evalQuery {wid : Nat} : c.pc = .eval → c.req = .query wid →
      Move pref s i c (setClient s i { c with pc := .finalRUnlock })
  | evalChange {wid o : Nat} {rs : List Rule} {w : World} : c.pc = .eval → c.req = .change wid rs → c.obj = some o →
      s.heap[o]? = some w → Move pref s i c (setClient s i { c with pc := .upRUnlock, change := evalRules w rs })
  | upRUnlock : c.pc = .upRUnlock →
      Move pref s i c (setClient { s with readers := s.readers - 1 } i { c with pc := .wlock })
  | wlock : c.pc = .wlock → canLock s = true →
      Move pref s i c (setClient { s with writer := true } i { c with pc := .apply })
  | apply {o : Nat} {w : World} : c.pc = .apply → c.obj = some o → s.heap[o]? = some w →
      Move pref s i c
        (setClient { s with heap := s.heap.set o (applyWrites w c.change),
                            log := if c.logged then s.log else s.log ++ [c.req] }
          i { c with pc := .wunlock, logged := true })
  | wunlock : c.pc = .wunlock →
      Move pref s i c (setClient { s with writer := false } i { c with pc := .rlock2 })
  | rlock2 : c.pc = .rlock2 → canRLock pref s = true →
      Move pref s i c (setClient { s with readers := s.readers + 1 } i { c with pc := .finalRUnlock })
  | finalRUnlock : c.pc = .finalRUnlock →
      Move pref s i c (setClient { s with readers := s.readers - 1 } i { c with pc := .done })
  | delete {wid o : Nat} : c.pc = .mapop → c.req = .delete wid → mfind s.map wid = some o →
      Move pref s i c
        (setClient { s with map := merase s.map wid, clients := flushHolders s.clients o,
                            log := s.log ++ doomed s.clients o ++ [c.req] }
          i { c with pc := .done, logged := true })
  | deleteAbsent {wid : Nat} : c.pc = .mapop → c.req = .delete wid → mfind s.map wid = none →
      Move pref s i c (setClient { s with log := s.log ++ [c.req] } i { c with pc := .done, logged := true })
  | list : c.pc = .mapop → c.req = .list →
      Move pref s i c (setClient { s with log := s.log ++ [c.req] } i { c with pc := .done, logged := true })

theorem mem_clientStep {pref : Bool} {s s' : State} {i : Nat} {c : Client} :
    s' ∈ clientStep pref s i c ↔ Move pref s i c s' := by
  constructor
  · fun_cases clientStep pref s i c with
    | case1 hpc => exact fun h => (mem_guard.mp h).2 ▸ .rlock hpc (mem_guard.mp h).1
    | case2 hpc wid hreq o ho => exact fun h => List.mem_singleton.mp h ▸ .findQuery hpc hreq ho
    | case3 hpc wid hreq ho => exact fun h => List.mem_singleton.mp h ▸ .createQuery hpc hreq ho
    | case4 hpc wid rs hreq o ho => exact fun h => List.mem_singleton.mp h ▸ .findChange hpc hreq ho
    | case5 hpc wid rs hreq ho => exact fun h => List.mem_singleton.mp h ▸ .createChange hpc hreq ho
    | case7 hpc wid hreq => exact fun h => List.mem_singleton.mp h ▸ .evalQuery hpc hreq
    | case8 hpc wid rs o ho hreq w hw => exact fun h => List.mem_singleton.mp h ▸ .evalChange hpc hreq ho hw
    | case11 hpc => exact fun h => List.mem_singleton.mp h ▸ .upRUnlock hpc
    | case12 hpc => exact fun h => (mem_guard.mp h).2 ▸ .wlock hpc (mem_guard.mp h).1
    | case13 hpc o ho w hw => exact fun h => List.mem_singleton.mp h ▸ .apply hpc ho hw
    | case16 hpc => exact fun h => List.mem_singleton.mp h ▸ .wunlock hpc
    | case17 hpc => exact fun h => (mem_guard.mp h).2 ▸ .rlock2 hpc (mem_guard.mp h).1
    | case18 hpc => exact fun h => List.mem_singleton.mp h ▸ .finalRUnlock hpc
    | case19 hpc wid hreq o ho => exact fun h => List.mem_singleton.mp h ▸ .delete hpc hreq ho
    | case20 hpc wid hreq ho => exact fun h => List.mem_singleton.mp h ▸ .deleteAbsent hpc hreq ho
    | case21 hpc hreq => exact fun h => List.mem_singleton.mp h ▸ .list hpc hreq
    -- a request that does not belong at this pc, a missing object, `done`: no successor
    | case6 | case9 | case10 | case14 | case15 | case22 | case23 => nofun
  · intro h
    cases h <;> simp only [clientStep, *, mem_guard, List.mem_singleton, and_self]

theorem mem_step {pref : Bool} {s s' : State} :
    s' ∈ step pref s ↔ ∃ i c, s.clients[i]? = some c ∧ Move pref s i c s' := by
  simp only [step, mem_forWorkers, mem_clientStep]

/-! ## `flushHolders` client by client -/

def flushElem (o : Nat) (c : Client) : Client :=
  if c.obj = some o ∧ c.logged = false then { c with logged := true } else c

theorem flushHolders_eq (cs : List Client) (o : Nat) : flushHolders cs o = cs.map (flushElem o) := rfl

theorem flushElem_pc (o : Nat) (c : Client) : (flushElem o c).pc = c.pc := by unfold flushElem; split <;> rfl
theorem flushElem_obj (o : Nat) (c : Client) : (flushElem o c).obj = c.obj := by unfold flushElem; split <;> rfl
theorem flushElem_req (o : Nat) (c : Client) : (flushElem o c).req = c.req := by unfold flushElem; split <;> rfl

theorem flush_getElem? {cs : List Client} {i : Nat} {c : Client} (o : Nat) (h : cs[i]? = some c) :
    (flushHolders cs o)[i]? = some (flushElem o c) := by
  rw [flushHolders_eq, List.getElem?_map, h]; rfl

theorem flush_getElem?_of_none {cs : List Client} {i : Nat} {c : Client} (o : Nat) (h : cs[i]? = some c)
    (hn : c.obj = none) : (flushHolders cs o)[i]? = some c := by
  rw [flush_getElem? o h, flushElem, if_neg (fun h => by simp [hn] at h)]

theorem exists_of_flush_getElem? {cs : List Client} {o j : Nat} {cj : Client} (h : (flushHolders cs o)[j]? = some cj) :
    ∃ c0, cs[j]? = some c0 ∧ cj = flushElem o c0 := by
  rw [flushHolders_eq, List.getElem?_map, Option.map_eq_some_iff] at h
  exact h.imp fun c0 h => ⟨h.1, h.2.symm⟩

theorem countP_flushHolders (p : Client → Bool) (hp : ∀ c c' : Client, c'.pc = c.pc → p c' = p c) (cs : List Client)
    (o : Nat) : (flushHolders cs o).countP p = cs.countP p := by
  rw [flushHolders_eq, List.countP_map]
  exact congrArg (List.countP · cs) (funext fun c => hp c _ (flushElem_pc o c))

/-! ## the RWMutex bookkeeping -/

/-- holds the read lock -/
def isReader (c : Client) : Bool :=
  c.pc == Pc.find || c.pc == Pc.eval || c.pc == Pc.upRUnlock || c.pc == Pc.finalRUnlock

/-- holds the write lock -/
def isWriter (c : Client) : Bool := c.pc == Pc.apply || c.pc == Pc.wunlock

structure LockInv (s : State) : Prop where
  readers : s.readers = s.clients.countP isReader
  writers : s.clients.countP isWriter = (if s.writer then 1 else 0)
  excl : s.writer = true → s.readers = 0

theorem LockInv.readers_pos {s : State} (h : LockInv s) {c : Client} (hc : c ∈ s.clients) (hr : isReader c = true) :
    0 < s.readers :=
  h.readers ▸ List.countP_pos_iff.mpr ⟨c, hc, hr⟩

theorem LockInv.writer_iff {s : State} (h : LockInv s) : s.writer = true ↔ ∃ c ∈ s.clients, isWriter c = true := by
  rw [← List.countP_pos_iff, h.writers]
  cases s.writer <;> simp

theorem LockInv.idle {s : State} (h : LockInv s) (hall : ∀ c ∈ s.clients, isReader c = false ∧ isWriter c = false) :
    s.readers = 0 ∧ s.writer = false := by
  refine ⟨h.readers.trans (List.countP_eq_zero.mpr fun c hc => by simp [(hall c hc).1]), ?_⟩
  cases hsw : s.writer
  · rfl
  · obtain ⟨c, hc, hcw⟩ := h.writer_iff.mp hsw
    rw [(hall c hc).2] at hcw; cases hcw

theorem LockInv.exclusive {s : State} (h : LockInv s) {i : Nat} {ci : Client} (hi : s.clients[i]? = some ci)
    (hw : isWriter ci = true) :
    (∀ (j : Nat) (cj : Client), s.clients[j]? = some cj → isReader cj = false) ∧
    (∀ (j : Nat) (cj : Client), s.clients[j]? = some cj → isWriter cj = true → j = i) := by
  have hwr : s.writer = true := h.writer_iff.mpr ⟨ci, List.mem_of_getElem? hi, hw⟩
  constructor
  · intro j cj hj
    have hr0 : s.clients.countP isReader = 0 := h.readers ▸ h.excl hwr
    exact Bool.eq_false_iff.mpr (List.countP_eq_zero.mp hr0 cj (List.mem_of_getElem? hj))
  · intro j cj hj hwj
    by_cases hne : j = i
    · exact hne
    · -- with client `i` taken out of its write phase no writer is left
      have h0 := countP_set_of_getElem? (p := isWriter) (x := { ci with pc := .done }) hi
      rw [hw, h.writers, hwr] at h0
      have hj' : (s.clients.set i { ci with pc := .done })[j]? = some cj := by
        rw [List.getElem?_set_ne (Ne.symm hne)]; exact hj
      exact absurd hwj (List.countP_eq_zero.mp (Nat.add_right_cancel h0) cj (List.mem_of_getElem? hj'))

theorem isReader_congr (c c' : Client) (h : c'.pc = c.pc) : isReader c' = isReader c := by unfold isReader; rw [h]
theorem isWriter_congr (c c' : Client) (h : c'.pc = c.pc) : isWriter c' = isWriter c := by unfold isWriter; rw [h]

theorem lockInv_update {s t : State} (h : LockInv s) {i : Nat} {c c' : Client} (hc : t.clients[i]? = some c)
    (hR : t.clients.countP isReader = s.clients.countP isReader)
    (hW : t.clients.countP isWriter = s.clients.countP isWriter)
    (hr : t.readers + (if isReader c then 1 else 0) = s.readers + (if isReader c' then 1 else 0))
    (hw : (if t.writer then 1 else 0) + (if isWriter c then 1 else 0) =
      (if s.writer then 1 else 0) + (if isWriter c' then 1 else 0))
    (hex : t.writer = true → t.readers = 0) : LockInv (setClient t i c') := by
  have h1 := countP_set_of_getElem? (p := isReader) (x := c') hc
  have h2 := countP_set_of_getElem? (p := isWriter) (x := c') hc
  have hR' := h.readers
  have hW' := h.writers
  exact ⟨Nat.add_right_cancel (hr.trans (by rw [hR', ← hR]; exact h1.symm)),
    Nat.add_right_cancel (h2.trans (by rw [hW, hW']; exact hw.symm)), hex⟩

theorem lockInv_step (pref : Bool) (s s' : State) (h : LockInv s) (hs : s' ∈ step pref s) : LockInv s' := by
  obtain ⟨i, ⟨req, pc, obj, chg, lg⟩, hc, hm⟩ := mem_step.mp hs
  have hmem := List.mem_of_getElem? hc
  cases hm with
  | rlock hpc hg | rlock2 hpc hg =>
    cases hpc
    have hw : s.writer = false := by simp [canRLock] at hg; exact hg.1
    exact lockInv_update h hc rfl rfl rfl rfl (fun e => by cases hw.symm.trans e)
  | upRUnlock hpc | finalRUnlock hpc =>
    cases hpc
    have hpos := h.readers_pos hmem rfl
    exact lockInv_update h hc rfl rfl (by show s.readers - 1 + 1 = s.readers + 0; omega) rfl
      (fun hw => by have := h.excl hw; omega)
  | wlock hpc hg =>
    cases hpc
    simp [canLock] at hg
    exact lockInv_update h hc rfl rfl rfl (by rw [hg.1]; rfl) (fun _ => hg.2)
  | wunlock hpc =>
    cases hpc
    have hw := h.writer_iff.mpr ⟨_, hmem, rfl⟩
    exact lockInv_update h hc rfl rfl rfl (by rw [hw]; rfl) nofun
  | delete hpc hreq ho =>
    cases hpc
    -- the holders of the deleted world only have their ghost flag set
    exact lockInv_update h (flush_getElem? _ hc) (countP_flushHolders _ isReader_congr _ _)
      (countP_flushHolders _ isWriter_congr _ _) (by rw [isReader_congr _ _ (flushElem_pc _ _)]; rfl)
      (by rw [isWriter_congr _ _ (flushElem_pc _ _)]; rfl) h.excl
  | _ =>
    -- the other steps leave the lock alone and stay inside (or outside) the read and write phases
    cases ‹Client.pc _ = _›
    exact lockInv_update h hc rfl rfl rfl rfl h.excl

/-! ## maps, views, the reference run -/

/-! `mfind`, `vfind` and `wget` are one lookup function at three types (so are `vset`/`wset`/`Worlds.mset` and
`merase`/`verase`/`wdel`): the facts about them are instances of the lemmas about any such lookup. -/

theorem mfind_isLookup : Basic.IsLookup (Prod.fst : Nat × Nat → Nat) Prod.snd mfind := ⟨fun _ => rfl, fun _ _ _ => rfl⟩
theorem vfind_isLookup : Basic.IsLookup (Prod.fst : Nat × World → Nat) Prod.snd vfind := ⟨fun _ => rfl, fun _ _ _ => rfl⟩
theorem wget_isLookup : Basic.IsLookup (Prod.fst : Key × Val → Key) Prod.snd wget := ⟨fun _ => rfl, fun _ _ _ => rfl⟩

theorem mfind_append (m : List (Nat × Nat)) (w o wid : Nat) :
    mfind (m ++ [(w, o)]) wid = (mfind m wid).or (if w = wid then some o else none) :=
  (mfind_isLookup.append m [(w, o)] wid).trans (by rw [mfind_isLookup.cons, mfind_isLookup.nil])

theorem mfind_append_eq_some {m : List (Nat × Nat)} {w o wid x : Nat} :
    mfind (m ++ [(w, o)]) wid = some x ↔ mfind m wid = some x ∨ (mfind m wid = none ∧ w = wid ∧ o = x) := by
  rw [mfind_append]
  cases mfind m wid <;> simp

theorem mfind_erase (m : List (Nat × Nat)) (w wid : Nat) :
    mfind (merase m w) wid = if wid = w then none else mfind m wid :=
  mfind_isLookup.filter_ne (fun _ => bne_iff_ne) m wid

theorem mfind_erase_eq_some {m : List (Nat × Nat)} {w wid x : Nat} :
    mfind (merase m w) wid = some x ↔ wid ≠ w ∧ mfind m wid = some x := by
  rw [mfind_erase]
  split <;> simp [*]

theorem vfind_vset (v : View) (wid : Nat) (w : World) (wid' : Nat) :
    vfind (vset v wid w) wid' = if wid' = wid then some w else vfind v wid' :=
  vfind_isLookup.upsert (put := fun v e => vset v e.1 e.2) (upd := fun _ e => e) (fun _ => rfl) (fun _ _ _ => rfl)
    (fun _ _ _ => ⟨rfl, rfl⟩) v (wid, w) wid'

theorem vfind_verase (v : View) (wid wid' : Nat) :
    vfind (verase v wid) wid' = if wid' = wid then none else vfind v wid' :=
  vfind_isLookup.filter_ne (fun _ => bne_iff_ne) v wid'

theorem wget_wset (w : World) (k : Key) (v : Val) (k' : Key) :
    wget (wset w k v) k' = if k' = k then some v else wget w k' :=
  wget_isLookup.upsert (put := fun w e => wset w e.1 e.2) (upd := fun _ e => e) (fun _ => rfl) (fun _ _ _ => rfl)
    (fun _ _ _ => ⟨rfl, rfl⟩) w (k, v) k'

theorem wget_wdel (w : World) (k k' : Key) :
    wget (wdel w k) k' = if k' = k then none else wget w k' :=
  wget_isLookup.filter_ne (fun _ => bne_iff_ne) w k'

def widOf : Req → Option Nat
  | .query w => some w
  | .change w _ => some w
  | .delete w => some w
  | .list => none

theorem serialStep_of_ne (base : World) (A : View) (r : Req) (wid' : Nat) (h : widOf r ≠ some wid') :
    vfind (serialStep base A r) wid' = vfind A wid' := by
  cases r with
  | query w =>
    have : ¬ wid' = w := fun e => h (by simp [widOf, e])
    simp only [serialStep]
    split
    · rfl
    · rw [vfind_vset]; simp [this]
  | change w rs =>
    have : ¬ wid' = w := fun e => h (by simp [widOf, e])
    simp only [serialStep]
    split <;> (rw [vfind_vset]; simp [this])
  | delete w =>
    have : ¬ wid' = w := fun e => h (by simp [widOf, e])
    simp only [serialStep]
    rw [vfind_verase]; simp [this]
  | list => rfl

theorem serialStep_other {base : World} {A : View} {r : Req} {wid wid' : Nat} (hr : widOf r = some wid)
    (hne : wid' ≠ wid) : vfind (serialStep base A r) wid' = vfind A wid' :=
  serialStep_of_ne base A r wid' fun e => hne (Option.some.inj (hr.symm.trans e)).symm

theorem serialStep_query (base : World) (A : View) (wid : Nat) :
    vfind (serialStep base A (.query wid)) wid = some ((vfind A wid).getD base) := by
  simp only [serialStep]
  split
  · rename_i w h; simp [h]
  · rename_i h; rw [vfind_vset]; simp [h]

theorem serialStep_change (base : World) (A : View) (wid : Nat) (rs : List Rule) :
    vfind (serialStep base A (.change wid rs)) wid =
      some (applyWrites ((vfind A wid).getD base) (evalRules ((vfind A wid).getD base) rs)) := by
  simp only [serialStep]
  split
  · rename_i w h; rw [vfind_vset]; simp [h]
  · rename_i h; rw [vfind_vset]; simp [h]

theorem serialStep_delete (base : World) (A : View) (wid wid' : Nat) :
    vfind (serialStep base A (.delete wid)) wid' = if wid' = wid then none else vfind A wid' :=
  vfind_verase A wid wid'

theorem serialRun_append (base : World) (A : View) (l l' : List Req) :
    serialRun base A (l ++ l') = serialRun base (serialRun base A l) l' := by
  simp [serialRun, List.foldl_append]

theorem serialRun_snoc (base : World) (A : View) (l : List Req) (r : Req) :
    serialRun base A (l ++ [r]) = serialStep base (serialRun base A l) r :=
  serialRun_append base A l [r]

theorem serialRun_other (base : World) (l : List Req) : ∀ (A : View) (wid' : Nat),
    (∀ r ∈ l, widOf r ≠ some wid') → vfind (serialRun base A l) wid' = vfind A wid' := fun A wid' h =>
  l.foldlRecOn (motive := fun B => vfind B wid' = vfind A wid') _ rfl fun _ hB r hr =>
    (serialStep_of_ne _ _ _ _ (h r hr)).trans hB

theorem serialRun_doomed (base : World) (A : View) (ds : List Req) (wid wid' : Nat)
    (hds : ∀ r ∈ ds, widOf r = some wid) :
    vfind (serialRun base A (ds ++ [.delete wid])) wid' = if wid' = wid then none else vfind A wid' := by
  rw [serialRun_snoc, serialStep_delete]
  by_cases h : wid' = wid
  · simp [h]
  · simp only [h, ↓reduceIte]
    apply serialRun_other
    intro r hr
    rw [hds r hr]
    intro e
    exact h (Option.some.inj e).symm

/-! ## guards that nobody else writes are stable -/

theorem wget_applyWrite_other (w : World) (wr : Write) (k : Key) (h : wr.key ≠ k) :
    wget (applyWrite w wr) k = wget w k := by
  cases wr with
  | set k0 v =>
    simp [applyWrite, wget_wset, Write.key] at h ⊢
    intro e; exact absurd e.symm h
  | del k0 =>
    simp [applyWrite, wget_wdel, Write.key] at h ⊢
    intro e; exact absurd e.symm h
  | fail k0 => rfl

theorem wget_applyWrites_other (ws : List Write) : ∀ (w : World) (k : Key), (∀ wr ∈ ws, wr.key ≠ k) →
    wget (applyWrites w ws) k = wget w k := by
  intro w k h
  fun_induction applyWrites w ws with
  | case1 w => rfl
  | case2 w k0 rest => rfl
  | case3 w wr rest _ ih =>
    obtain ⟨hwr, hrest⟩ := List.forall_mem_cons.mp h
    rw [ih hrest, wget_applyWrite_other _ _ _ hwr]

theorem evalRules_congr (rs : List Rule) (w w' : World)
    (h : ∀ k ∈ guardKeys rs, wget w' k = wget w k) : evalRules w' rs = evalRules w rs := by
  induction rs with
  | nil => rfl
  | cons r rest ih =>
    have hrest : ∀ k ∈ guardKeys rest, wget w' k = wget w k := by
      intro k hk
      apply h
      simp only [guardKeys, List.filterMap_cons] at hk ⊢
      split
      · exact hk
      · exact List.mem_cons_of_mem _ hk
    have hg : guardHolds w' r.guard = guardHolds w r.guard := by
      cases hgd : r.guard with
      | none => rfl
      | some p =>
        obtain ⟨k, b⟩ := p
        have : wget w' k = wget w k := by
          apply h
          simp [guardKeys, hgd]
        simp [guardHolds, this]
    simp only [evalRules, hg, ih hrest]

theorem evalRules_keys (w : World) (rs : List Rule) : ∀ wr ∈ evalRules w rs, wr.key ∈ writeKeys rs := by
  intro wr h
  fun_induction evalRules w rs with
  | case1 => cases h
  | case2 r rest _ ih =>
    exact (List.mem_cons.mp h).elim (fun e => e ▸ List.mem_cons_self ..) fun h => List.mem_cons_of_mem _ (ih h)
  | case3 r rest _ ih => exact List.mem_cons_of_mem _ (ih h)

theorem conflicts_false {w : Nat} {r1 r2 : List Rule} (h : conflicts (.change w r1) (.change w r2) = false) :
    ∀ k ∈ guardKeys r1, k ∉ writeKeys r2 := by
  intro k hk hw
  simp only [conflicts, beq_self_eq_true, Bool.true_and] at h
  have : (guardKeys r1).any (fun k => (writeKeys r2).contains k) = true :=
    List.any_eq_true.mpr ⟨k, hk, by simpa using hw⟩
  rw [h] at this
  exact absurd this (by simp)

theorem evalRules_stable {wid : Nat} {r1 r2 : List Rule} (h : conflicts (.change wid r1) (.change wid r2) = false)
    (w w2 : World) : evalRules (applyWrites w (evalRules w2 r2)) r1 = evalRules w r1 := by
  apply evalRules_congr
  intro k hk
  apply wget_applyWrites_other
  intro wr hwr e
  exact conflicts_false h k hk (e ▸ evalRules_keys w2 r2 wr hwr)

theorem conflictFree_iff (l : List Req) :
    conflictFree l = true ↔ l.Pairwise fun a b => conflicts a b = false ∧ conflicts b a = false := by
  induction l with
  | nil => simp [conflictFree]
  | cons r rest ih => simp [conflictFree, ih]

theorem conflictFree_get (l : List Req) (h : conflictFree l = true) (i j : Nat) (a b : Req) (hij : i ≠ j)
    (hi : l[i]? = some a) (hj : l[j]? = some b) : conflicts a b = false := by
  obtain ⟨hi', rfl⟩ := List.getElem?_eq_some_iff.mp hi
  obtain ⟨hj', rfl⟩ := List.getElem?_eq_some_iff.mp hj
  have hp := List.pairwise_iff_getElem.mp ((conflictFree_iff l).mp h)
  rcases Nat.lt_or_gt_of_ne hij with lt | lt
  · exact (hp i j hi' hj' lt).1
  · exact (hp j i hj' hi' lt).2

/-! ## phases and object bounds -/

/-- which program counters a request passes through, and what the client knows there -/
def phaseOk (c : Client) : Bool :=
  match c.req, c.pc with
  | .query _, .rlock | .query _, .find => c.obj.isNone && !c.logged
  | .query _, .eval | .query _, .finalRUnlock | .query _, .done => c.obj.isSome && c.logged
  | .change _ _, .rlock | .change _ _, .find => c.obj.isNone && !c.logged
  | .change _ _, .eval | .change _ _, .upRUnlock | .change _ _, .wlock | .change _ _, .apply => c.obj.isSome
  | .change _ _, .wunlock | .change _ _, .rlock2 | .change _ _, .finalRUnlock | .change _ _, .done =>
      c.obj.isSome && c.logged
  | .delete _, .mapop | .list, .mapop => c.obj.isNone && !c.logged
  | .delete _, .done | .list, .done => c.logged
  | _, _ => false

/-- every client is where its request can be, and every world object a client or the map refers to exists; no
hypothesis on the requests -/
structure WeakInv (s : State) : Prop where
  ph : ∀ (j : Nat) (c : Client), s.clients[j]? = some c → phaseOk c = true
  ob : ∀ (j : Nat) (c : Client) (o : Nat), s.clients[j]? = some c → c.obj = some o → o < s.heap.length
  mb : ∀ w o, mfind s.map w = some o → o < s.heap.length

/-- the six steps that only take or release a lock, as pairs (pc before, pc after): `phaseOk` asks the same on both sides -/
theorem phaseOk_next {c : Client} {pc pc' : Pc} (h : phaseOk c = true) (hpc : c.pc = pc)
    (hn : (pc, pc') ∈ [(Pc.rlock, Pc.find), (.upRUnlock, .wlock), (.wlock, .apply), (.wunlock, .rlock2),
      (.rlock2, .finalRUnlock), (.finalRUnlock, .done)]) : phaseOk { c with pc := pc' } = true := by
  obtain ⟨req, _, obj, chg, lg⟩ := c
  cases hpc
  simp only [List.mem_cons, Prod.mk.injEq, List.not_mem_nil, or_false] at hn
  rcases hn with ⟨rfl, rfl⟩ | ⟨rfl, rfl⟩ | ⟨rfl, rfl⟩ | ⟨rfl, rfl⟩ | ⟨rfl, rfl⟩ | ⟨rfl, rfl⟩ <;>
    cases req <;> first | exact h | cases h

theorem phase_start {c : Client} (h : phaseOk c = true) (hpc : c.pc = Pc.find ∨ c.pc = Pc.mapop) :
    c.obj = none ∧ c.logged = false := by
  unfold phaseOk at h
  rcases hpc with hpc | hpc <;> cases hr : c.req <;> simp [hr, hpc] at h <;> simp [h]

theorem phase_apply_req {c : Client} (h : phaseOk c = true) (hpc : c.pc = Pc.apply) :
    ∃ wid rs, c.req = .change wid rs := by
  unfold phaseOk at h
  cases hr : c.req <;> simp [hr, hpc] at h
  exact ⟨_, _, rfl⟩

theorem phase_done {c : Client} (h : phaseOk c = true) (hpc : c.pc = Pc.done) : c.logged = true := by
  unfold phaseOk at h
  cases hr : c.req <;> simp [hr, hpc] at h <;> simp [h]

theorem phaseOk_flushElem {c : Client} (o : Nat) (h : phaseOk c = true) : phaseOk (flushElem o c) = true := by
  unfold flushElem
  split
  · next hf =>
    -- only a change between `eval` and `apply` holds an object without being logged, and `phaseOk` asks nothing of `logged` there
    unfold phaseOk at h
    split at h <;> simp [hf.1, hf.2] at h
    all_goals
      rename_i hr hp
      simp [phaseOk, hr, hp, hf.1]
  · exact h

theorem WeakInv.clients {s : State} (h : WeakInv s) (j : Nat) (cj : Client) (hj : s.clients[j]? = some cj) :
    phaseOk cj = true ∧ ∀ o, cj.obj = some o → o < s.heap.length :=
  ⟨h.ph j cj hj, fun o => h.ob j cj o hj⟩

theorem weakInv_update {s t : State} {i : Nat} {c' : Client}
    (hcs : ∀ (j : Nat) (cj : Client), t.clients[j]? = some cj →
      phaseOk cj = true ∧ ∀ o, cj.obj = some o → o < s.heap.length)
    (hlen : s.heap.length ≤ t.heap.length) (hp : phaseOk c' = true)
    (hb : ∀ o, c'.obj = some o → o < t.heap.length)
    (hmap : ∀ w o, mfind t.map w = some o → o < t.heap.length) : WeakInv (setClient t i c') := by
  refine ⟨Basic.forall_getElem?_set hp fun j cj _ hj => (hcs j cj hj).1, fun j cj o hj => ?_, hmap⟩
  exact Basic.forall_getElem?_set (P := fun _ c => ∀ o, c.obj = some o → o < t.heap.length) hb
    (fun j cj _ hj o ho => Nat.lt_of_lt_of_le ((hcs j cj hj).2 o ho) hlen) j cj hj o

theorem mbound_grow {m : List (Nat × Nat)} {heap : List World} (h : ∀ w o, mfind m w = some o → o < heap.length)
    (wid : Nat) (b : World) : ∀ w o, mfind (m ++ [(wid, heap.length)]) w = some o → o < (heap ++ [b]).length := by
  intro w o hm
  rw [List.length_append, List.length_singleton]
  rcases mfind_append_eq_some.mp hm with hm | ⟨_, _, e⟩
  · exact Nat.lt_succ_of_lt (h w o hm)
  · exact e ▸ Nat.lt_succ_self _

theorem weakInv_step (pref : Bool) (s s' : State) (h : WeakInv s) (hs : s' ∈ step pref s) : WeakInv s' := by
  obtain ⟨i, c, hc, hm⟩ := mem_step.mp hs
  have hph := h.ph i c hc
  have hob := fun o => h.ob i c o hc
  cases hm with
  | rlock hpc _ | wlock hpc _ | rlock2 hpc _ | upRUnlock hpc | wunlock hpc | finalRUnlock hpc =>
    exact weakInv_update h.clients (Nat.le_refl _) (phaseOk_next hph hpc (by decide)) hob h.mb
  | findQuery hpc hreq ho | findChange hpc hreq ho =>
    exact weakInv_update h.clients (Nat.le_refl _) (by simp [phaseOk, hreq])
      (fun o' e => by cases e; exact h.mb _ _ ho) h.mb
  | createQuery hpc hreq ho | createChange hpc hreq ho =>
    exact weakInv_update h.clients (by simp) (by simp [phaseOk, hreq])
      (fun o' e => by cases e; simp) (mbound_grow h.mb _ _)
  | evalQuery hpc hreq | evalChange hpc hreq ho hw =>
    exact weakInv_update h.clients (Nat.le_refl _)
      (by unfold phaseOk at hph ⊢; simp [hreq, hpc] at hph ⊢; exact hph) hob h.mb
  | @apply o w hpc ho hw =>
    obtain ⟨wid, rs, hreq⟩ := phase_apply_req hph hpc
    have hl : (s.heap.set o (applyWrites w c.change)).length = s.heap.length := List.length_set
    exact weakInv_update h.clients (Nat.le_of_eq hl.symm)
      (by unfold phaseOk at hph ⊢; simp [hreq, hpc] at hph ⊢; exact hph) (fun o e => hl ▸ hob o e)
      (fun w o e => hl ▸ h.mb w o e)
  | delete hpc hreq ho =>
    refine weakInv_update ?_ (Nat.le_refl _) (by simp [phaseOk, hreq]) hob ?_
    · intro j cj hj
      obtain ⟨c0, hc0, rfl⟩ := exists_of_flush_getElem? hj
      exact ⟨phaseOk_flushElem _ (h.ph j c0 hc0), fun o e => h.ob j c0 o hc0 (flushElem_obj _ c0 ▸ e)⟩
    · exact fun w o' hm => h.mb w o' (mfind_erase_eq_some.mp hm).2
  | deleteAbsent hpc hreq ho | list hpc hreq =>
    exact weakInv_update h.clients (Nat.le_refl _) (by simp [phaseOk, hreq]) hob h.mb

/-! ## the initial state -/

/-- the object registered for `wid` is the position (counted from `start`) of the first entry of the view for `wid` -/
theorem initMap_spec (v : View) : ∀ (start wid : Nat),
    match mfind (initMap v start) wid with
    | some o => start ≤ o ∧ ∃ w, v[o - start]? = some (wid, w) ∧ vfind v wid = some w
    | none => vfind v wid = none := by
  intro start wid
  fun_induction initMap v start with
  | case1 => rfl
  | case2 i x rest start ih =>
    simp only [mfind, vfind]
    by_cases e : i = wid
    · simp [e]
    · simp only [e, ↓reduceIte]
      split
      · next o ho =>
        rw [ho] at ih
        obtain ⟨hle, w, hw, hv⟩ := ih
        refine ⟨Nat.le_of_succ_le hle, w, ?_, hv⟩
        rw [show o - start = (o - (start + 1)) + 1 by omega]; exact hw
      · next ho => rw [ho] at ih; exact ih

theorem initMap_some {v : View} {start wid o : Nat} (h : mfind (initMap v start) wid = some o) :
    start ≤ o ∧ ∃ w, v[o - start]? = some (wid, w) ∧ vfind v wid = some w := by
  have := initMap_spec v start wid; rw [h] at this; exact this

theorem initMap_none {v : View} {start wid : Nat} (h : mfind (initMap v start) wid = none) : vfind v wid = none := by
  have := initMap_spec v start wid; rw [h] at this; exact this

theorem initMap_range (v : View) (start w o : Nat) (h : mfind (initMap v start) w = some o) :
    start ≤ o ∧ o < start + v.length := by
  obtain ⟨hle, _, hw, _⟩ := initMap_some h
  have := Basic.lt_length_of_getElem? hw
  omega

theorem initMap_inj (v : View) (start w1 w2 o : Nat) (h1 : mfind (initMap v start) w1 = some o)
    (h2 : mfind (initMap v start) w2 = some o) : w1 = w2 := by
  obtain ⟨_, _, e1, _⟩ := initMap_some h1
  obtain ⟨_, _, e2, _⟩ := initMap_some h2
  exact congrArg Prod.fst (Option.some.inj (e1.symm.trans e2))

theorem init_clients {base : World} {v0 : View} {reqs : List Req} {c : Client}
    (h : c ∈ (init base v0 reqs).clients) : ∃ r, c = { req := r, pc := startPc r } := by
  obtain ⟨r, _, e⟩ := List.mem_map.mp h
  exact ⟨r, e.symm⟩

theorem lockInv_init (base : World) (v0 : View) (reqs : List Req) : LockInv (init base v0 reqs) := by
  refine ⟨Eq.symm (List.countP_eq_zero.mpr ?_), List.countP_eq_zero.mpr ?_, nofun⟩ <;>
  · intro c hc
    obtain ⟨r, rfl⟩ := init_clients hc
    cases r <;> exact Bool.false_ne_true

theorem weakInv_init (base : World) (v0 : View) (reqs : List Req) : WeakInv (init base v0 reqs) := by
  refine ⟨?_, ?_, ?_⟩
  · intro j c hj
    obtain ⟨r, rfl⟩ := init_clients (List.mem_of_getElem? hj)
    cases r <;> rfl
  · intro j c o hj ho
    obtain ⟨r, rfl⟩ := init_clients (List.mem_of_getElem? hj)
    cases ho
  · intro w o hm
    have := initMap_range v0 0 w o hm
    simp [init]; omega

theorem reachable_lockInv {pref : Bool} {base : World} {v0 : View} {reqs : List Req} {s : State}
    (h : Reachable (step pref) (init base v0 reqs) s) : LockInv s :=
  Reachable.invariant LockInv (lockInv_init base v0 reqs) (fun s s' => lockInv_step pref s s') s h

theorem reachable_weakInv {pref : Bool} {base : World} {v0 : View} {reqs : List Req} {s : State}
    (h : Reachable (step pref) (init base v0 reqs) s) : WeakInv s :=
  Reachable.invariant WeakInv (weakInv_init base v0 reqs) (fun s s' => weakInv_step pref s s') s h

end B6.Lemmas.ProtoService
