import B6.Lemmas.CompactIndexValues
/-!
# C01 lemmas, part 2: the record writers

When `pathRecord` / `areaRecord` / `relationRecord` succeed and with which bytes: marshalled against `c.osm`, for
relations against the header of the destination block.  The reader is `decodeFeature` with the header of the block the
record was found in.  The primaries agree because the block header differs from the OSM namespaces only in the block's
own type, which no record uses for a field other than a relation's relations.
-/
namespace B6.Model.CompactIndex
open B6.Model.Varint B6.Model.Records B6.Lemmas.Basic B6.Lemmas.Basic.Except
open B6.Model.Bits (combineTypeNs)

@[simp] theorem orPanic_some {α : Type} (w : String) (a : α) : orPanic w (some a) = .ok a := rfl
@[simp] theorem orPanic_none {α : Type} (w : String) : orPanic w (none : Option α) = .error (.panic w) := rfl

theorem orPanic_ok {α : Type} (w : String) (o : Option α) (a : α) : orPanic w o = .ok a ↔ o = some a := by
  cases o <;> simp [orPanic]

/-! ## when the writers succeed -/

theorem pathRecord_ok_iff (c : Ctx) (fs : List Feature) (g : Feature) (d : Bytes) : pathRecord c fs g = .ok d ↔
    ∃ ts, toCompactTags c g = some ts ∧ ∃ areas, refsOf c (areasOfPath fs g.id) = .ok areas ∧
      ∃ rels, refsOf c (relationsOfMember fs g.id) = .ok rels ∧
        Path.ok ⟨ts, areas, rels⟩ = true ∧ Path.enc c.osm ⟨ts, areas, rels⟩ = d := by
  simp only [pathRecord, bind_ok_iff, orPanic_ok, Path.marshal, Option.ite_none_right_eq_some, Option.some.injEq]

theorem areaRecord_ok_iff (c : Ctx) (fs : List Feature) (a : Feature) (d : Bytes) : areaRecord c fs a = .ok d ↔
    ∃ ts, toCompactTags c a = some ts ∧ ∃ g, areaGeometry c a = .ok g ∧
      ∃ rels, refsOf c (relationsOfMember fs a.id) = .ok rels ∧
        Area.ok ⟨ts, g, rels⟩ = true ∧ Area.enc c.osm ⟨ts, g, rels⟩ = d := by
  simp only [areaRecord, bind_ok_iff, orPanic_ok, Area.marshal, Option.ite_none_right_eq_some, Option.some.injEq]

/-- the body of the loop of `relationRecord` (`Relation.FromFeature` on one member) -/
def compactMember (c : Ctx) (m : FMember) : Except BuildError Member := do
  let ref ← orPanic "member namespace" (mkRef c.nt m.id)
  let role ← orPanic "role" (strId c.strs m.role)
  pure ⟨BitVec.ofNat 64 m.id.typ, BitVec.ofNat 64 role, ref⟩

theorem compactMember_ok_iff (c : Ctx) (m : FMember) (y : Member) : compactMember c m = .ok y ↔
    ∃ ref, mkRef c.nt m.id = some ref ∧ ∃ role, strId c.strs m.role = some role ∧
      ⟨BitVec.ofNat 64 m.id.typ, BitVec.ofNat 64 role, ref⟩ = y := by
  simp only [compactMember, bind_ok_iff, orPanic_ok, pure_ok_iff]

/-- the member list of a relation is marshalled with primary = the path namespace of the header -/
theorem memberPrimary_path (n : Namespaces) : memberPrimary n 1#64 = some (tnPath n) := by
  simp [memberPrimary, Namespaces.forType, tnPath]

theorem relationRecord_ok_iff (c : Ctx) (fs : List Feature) (r : Feature) (d : Bytes) : relationRecord c fs r = .ok d ↔
    ∃ ts, toCompactTags c r = some ts ∧ ∃ ms, r.members.map (compactMember c) = ms.map .ok ∧
      ∃ rels, refsOf c (relationsOfMember fs r.id) = .ok rels ∧ ∃ n, nsEncode c.nt r.id.ns = some n ∧
        Relation.ok ⟨ts, ms, rels⟩ = true ∧
        Relation.enc (tnPath (blockHeader c 3 n)) (blockHeader c 3 n) ⟨ts, ms, rels⟩ = d := by
  simp only [relationRecord, bind_ok_iff, orPanic_ok, ← mapM_ok_iff, Relation.marshal, memberPrimary_path,
    Option.ite_none_right_eq_some, Option.some.injEq]
  rfl

theorem refsOf_back (c : Ctx) (hsmall : c.nt.length ≤ 8192) (ids : List FID) (hids : ∀ id ∈ ids, id.typ < 8) (rs : List Reference)
    (h : refsOf c ids = .ok rs) : rs.mapM (unRef c.nt) = some ids :=
  (mapM_some_iff _ _ _).mpr <| mapEq_flip ids rs ((mapM_ok_iff _ _ _).mp h) fun id hid r hr =>
    unRef_mkRef c.nt hsmall id (hids id hid) r ((orPanic_ok _ _ _).mp hr)

/-- every point record starts with the point's tags (`CombinePointAndPath`, `CombinePointAndReferences` copy the
`PointTag` entry first), and that is all `newPhysicalFeatureFromTagged` reads -/
theorem point_record_roundtrip (c : Ctx) (hs : c.strs.length ≤ 2 ^ 64) (f : Feature)
    (hvals : ∀ t ∈ f.tags, t.val.plain = true) (ts : List Tag) (h : toCompactTags c f = some ts)
    (hok : Tags.ok ts = true) (rest : Bytes) (hdr : Namespaces) (id : FID) (hid : id.typ = 0) :
    decodeFeature c.strs c.nt hdr id (Tags.enc 0#16 ts ++ rest) = some { id := id, tags := f.tags } := by
  unfold decodeFeature
  simp only [hid, allTags_roundtrip_plain c hs f hvals ts h hok 0#16 rest, Option.map_some]

/-! ## paths: the primary of the tags -/

/-- the reader's primary for path tags — the point namespace it computes from the namespace table — is the
writer's, the point entry of `c.osm` -/
theorem tnPoint_osm (c : Ctx) (hc : CtxOK c) :
    ∃ n, nsEncode c.nt nsOsmNode = some n ∧ combineTypeNs 0#64 (ns16 n) = tnPoint c.osm := by
  have h := hc.osm
  simp only [osmNamespaces, Option.bind_eq_bind, Option.bind_eq_some_iff, Option.pure_def, Option.some.injEq] at h
  obtain ⟨n, hn, w, _, r, _, h⟩ := h
  exact ⟨n, hn, by rw [← h]; rfl⟩

end B6.Model.CompactIndex
