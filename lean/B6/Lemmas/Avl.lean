import B6.Model.Avl
import B6.Spec.SortedMap
import B6.Lemmas.Basic.AssocList
import B6.Lemmas.Basic.Sorted
/-!
Lemmas about `B6.Model.Avl` against `B6.Spec.SortedMap`, for `B6.Props.C07`.  Two ideas.  A search-tree node is a sorted list
split at its key, so `find?`, `insert`, `erase` by a key go into one side or stop there; the walks, `ins` and `del` are proved
by rewriting with these node equations.  A balanced node has one of three shapes and is built by one of three rules (`BalH`), so
each rotation table of the Go code is checked by naming the rules, and `ins_spec` / `del_spec` use the retrace lemmas without
arithmetic about `max` and the stored balance factors.
-/
namespace B6.Lemmas.Avl
open B6.Spec

variable {α : Type}

namespace SM

section
variable {a k : Nat} {ap p : α} {m : SortedMap.SMap α}

theorem insert_cons_lt (h : a < k) :
    SortedMap.insert ((a, ap) :: m) k p = (a, ap) :: SortedMap.insert m k p := by
  rw [SortedMap.insert, if_pos h]

theorem insert_cons_eq : SortedMap.insert ((k, ap) :: m) k p = (k, p) :: m := by
  rw [SortedMap.insert, if_neg (Nat.lt_irrefl k), if_pos rfl]

theorem insert_cons_gt (h : k < a) :
    SortedMap.insert ((a, ap) :: m) k p = (k, p) :: (a, ap) :: m := by
  rw [SortedMap.insert, if_neg (Nat.lt_asymm h), if_neg (Nat.ne_of_gt h)]

end

theorem insert_append_of_lt {as bs : SortedMap.SMap α} {k : Nat} {p : α} (has : ∀ e ∈ as, e.1 < k) :
    SortedMap.insert (as ++ bs) k p = as ++ SortedMap.insert bs k p := by
  induction as with
  | nil => rfl
  | cons a as ih =>
    obtain ⟨a, ap⟩ := a
    obtain ⟨ha, has⟩ := List.forall_mem_cons.mp has
    rw [List.cons_append, insert_cons_lt ha, ih has]
    rfl

theorem insert_append_left {as bs : SortedMap.SMap α} {x : Nat} {xp : α} {k : Nat} {p : α} (hx : k < x) :
    SortedMap.insert (as ++ (x, xp) :: bs) k p = SortedMap.insert as k p ++ (x, xp) :: bs := by
  induction as with
  | nil => exact insert_cons_gt hx
  | cons a as ih =>
    obtain ⟨a, ap⟩ := a
    rcases Nat.lt_trichotomy a k with h | rfl | h
    · rw [List.cons_append, insert_cons_lt h, ih, insert_cons_lt h]; rfl
    · rw [List.cons_append, insert_cons_eq, insert_cons_eq]; rfl
    · rw [List.cons_append, insert_cons_gt h, insert_cons_gt h]; rfl

/-- `erase` is core's `List.eraseP` by the key test, so its facts are core's -/
theorem erase_eq_eraseP (m : SortedMap.SMap α) (k : Nat) :
    SortedMap.erase m k = m.eraseP (fun e => e.1 == k) := by
  induction m with
  | nil => rfl
  | cons a m ih =>
    rw [SortedMap.erase, List.eraseP_cons, ih]
    by_cases h : a.1 = k
    · rw [if_pos h, beq_iff_eq.2 h]; rfl
    · rw [if_neg h, beq_eq_false_iff_ne.2 h]; rfl

theorem erase_append_left (as bs : SortedMap.SMap α) (k : Nat) (h : ∀ e ∈ bs, e.1 ≠ k) :
    SortedMap.erase (as ++ bs) k = SortedMap.erase as k ++ bs := by
  simp only [erase_eq_eraseP, List.eraseP_append]
  split
  · rfl
  · rename_i hn
    rw [List.eraseP_of_forall_not (fun e he => by simpa using h e he),
      List.eraseP_of_forall_not (fun e he hp => hn (List.any_eq_true.2 ⟨e, he, hp⟩))]

theorem erase_append_right (as bs : SortedMap.SMap α) (k : Nat) (h : ∀ e ∈ as, e.1 ≠ k) :
    SortedMap.erase (as ++ bs) k = as ++ SortedMap.erase bs k := by
  simp only [erase_eq_eraseP]
  exact List.eraseP_append_right _ fun e he => by simpa using h e he

theorem mem_insert {m : SortedMap.SMap α} {k : Nat} {p : α} {e : Nat × α}
    (h : e ∈ SortedMap.insert m k p) : e = (k, p) ∨ e ∈ m := by
  fun_induction SortedMap.insert m k p with
  | case1 k p => exact .inl (List.mem_singleton.1 h)
  | case2 a ap rest k p _ ih =>
    exact (List.mem_cons.1 h).elim (fun h => .inr (h ▸ List.mem_cons_self))
      fun h => (ih h).imp_right (List.mem_cons_of_mem _)
  | case3 ap rest k p _ => exact (List.mem_cons.1 h).imp_right (List.mem_cons_of_mem _)
  | case4 a ap rest k p _ _ => exact List.mem_cons.1 h

theorem mem_keys_insert {m : SortedMap.SMap α} {k : Nat} {p : α} {x : Nat} :
    x ∈ SortedMap.keys (SortedMap.insert m k p) ↔ x = k ∨ x ∈ SortedMap.keys m := by
  fun_induction SortedMap.insert m k p with
  | case1 k p => simp [SortedMap.keys]
  | case2 a ap rest k p _ ih =>
    simp only [SortedMap.keys] at ih
    simp only [SortedMap.keys, List.map_cons, List.mem_cons, ih]
    exact or_left_comm
  | case3 ap rest k p _ => simp [SortedMap.keys]
  | case4 a ap rest k p _ _ => simp [SortedMap.keys]

theorem sorted_insert {m : SortedMap.SMap α} {k : Nat} {p : α} (h : SortedMap.Sorted m) :
    SortedMap.Sorted (SortedMap.insert m k p) := by
  fun_induction SortedMap.insert m k p with
  | case1 k p => exact List.pairwise_singleton _ _
  | case2 a ap rest k p c ih =>
    obtain ⟨h1, h2⟩ := List.pairwise_cons.1 h
    refine List.pairwise_cons.2 ⟨fun x hx => ?_, ih h2⟩
    rcases mem_keys_insert.1 hx with rfl | hx
    · exact c
    · exact h1 x hx
  | case3 ap rest k p _ => exact h
  | case4 a ap rest k p c1 c2 =>
    obtain ⟨h1, h2⟩ := List.pairwise_cons.1 h
    have c : k < a := by omega
    refine List.pairwise_cons.2 ⟨fun x hx => ?_, h⟩
    rcases List.mem_cons.1 hx with rfl | hx
    · exact c
    · exact Nat.lt_trans c (h1 x hx)

theorem mem_keys_erase {m : SortedMap.SMap α} {k x : Nat}
    (h : x ∈ SortedMap.keys m) (hx : x ≠ k) : x ∈ SortedMap.keys (SortedMap.erase m k) := by
  obtain ⟨e, he, rfl⟩ := List.mem_map.1 h
  rw [erase_eq_eraseP]
  exact List.mem_map_of_mem ((List.mem_eraseP_of_neg (by simpa using hx)).2 he)

theorem sorted_erase {m : SortedMap.SMap α} {k : Nat} (h : SortedMap.Sorted m) : SortedMap.Sorted (SortedMap.erase m k) := by
  rw [erase_eq_eraseP]
  exact List.Pairwise.sublist (List.eraseP_sublist.map _) h

theorem length_erase (m : SortedMap.SMap α) (k : Nat) :
    (SortedMap.erase m k).length + (if k ∈ SortedMap.keys m then 1 else 0) = m.length := by
  have e : (m.any fun e => e.1 == k) = decide (k ∈ SortedMap.keys m) := by
    rw [Bool.eq_iff_iff, List.any_eq_true, decide_eq_true_iff, SortedMap.keys, List.mem_map]
    exact exists_congr fun e => and_congr_right fun _ => beq_iff_eq
  rw [erase_eq_eraseP, List.length_eraseP, e]
  by_cases hk : k ∈ SortedMap.keys m
  · obtain ⟨e, he, -⟩ := List.mem_map.1 hk
    have := List.length_pos_of_mem he
    simp only [hk, decide_true, if_true]; omega
  · simp [hk]

theorem lookup_isLookup : Basic.IsLookup Prod.fst Prod.snd (SortedMap.lookup (α := α)) :=
  (Basic.isLookup_find?_beq Prod.fst).map Prod.snd

theorem lookup_insert (m : SortedMap.SMap α) (k k' : Nat) (p : α) :
    SortedMap.lookup (SortedMap.insert m k p) k' = if k' = k then some p else SortedMap.lookup m k' := by
  fun_induction SortedMap.insert m k p with
  | case1 k p => rw [lookup_isLookup.cons]; simp only [eq_comm]
  | case2 a ap rest k p h ih =>
    rw [lookup_isLookup.cons, lookup_isLookup.cons, ih]
    by_cases h1 : a = k'
    · rw [if_pos h1, if_neg (by omega), if_pos h1]
    · rw [if_neg h1, if_neg h1]
  | case3 ap rest k p _ =>
    rw [lookup_isLookup.cons, lookup_isLookup.cons]
    by_cases e : k' = k
    · rw [if_pos e.symm, if_pos e]
    · rw [if_neg (Ne.symm e), if_neg e, if_neg (Ne.symm e)]
  | case4 a ap rest k p _ _ => rw [lookup_isLookup.cons]; simp only [eq_comm]
end SM

open B6.Model.Avl B6.Model.Avl.Tree

theorem keys_eq (t : Tree α) : keys t = (toList t).map (·.1) := by
  induction t with
  | nil => rfl
  | node l k p b r ihl ihr => simp [keys, toList, ihl, ihr]

theorem keys_toList (t : Tree α) : SortedMap.keys (toList t) = keys t := (keys_eq t).symm

theorem mem_keys_of_mem_toList {t : Tree α} {e : Nat × α} (h : e ∈ toList t) : e.1 ∈ keys t := by
  rw [keys_eq]; exact List.mem_map_of_mem h

theorem bst_iff_sorted (t : Tree α) : Bst t ↔ SortedMap.Sorted (toList t) := by
  induction t with
  | nil => simp [Bst, SortedMap.Sorted, SortedMap.keys, toList]
  | node l k p b r ihl ihr =>
    simp only [Bst, SortedMap.Sorted, SortedMap.keys, toList, List.map_append, List.map_cons,
      List.pairwise_append, List.pairwise_cons, ihl, ihr, keys_eq, List.mem_cons]
    constructor
    · rintro ⟨h1, h2, h3, h4⟩
      refine ⟨h1, ⟨h4, h2⟩, ?_⟩
      intro a ha b hb
      rcases hb with rfl | hb
      · exact h3 a ha
      · have := h3 a ha; have := h4 b hb; omega
    · rintro ⟨h1, ⟨h4, h2⟩, h3⟩
      exact ⟨h1, h2, fun a ha => h3 a ha k (Or.inl rfl), h4⟩

/-- the conclusion is `B6.Props.C07.Least t q e.1`, written out -/
theorem find_least {t : Tree α} (hb : Bst t) (q : Nat → Prop) [DecidablePred q] {e : Nat × α}
    (h : (toList t).find? (fun e => decide (q e.1)) = some e) :
    e.1 ∈ keys t ∧ q e.1 ∧ ∀ x ∈ keys t, q x → e.1 ≤ x := by
  have hs := (bst_iff_sorted t).1 hb
  rw [← keys_toList]
  generalize toList t = m at h hs
  -- `m = as ++ e :: bs` with the test false on `as`; the keys of `bs` are above `e.1`
  obtain ⟨hq, as, bs, rfl, has⟩ := List.find?_eq_some_iff_append.1 h
  simp only [SortedMap.Sorted, SortedMap.keys, List.map_append, List.map_cons, List.pairwise_append,
    List.pairwise_cons] at hs
  refine ⟨List.mem_map_of_mem (by simp), of_decide_eq_true hq, fun x hx hqx => ?_⟩
  simp only [SortedMap.keys, List.map_append, List.map_cons, List.mem_append, List.mem_cons, List.mem_map] at hx
  rcases hx with ⟨a, ha, rfl⟩ | rfl | hx
  · exact absurd hqx (by simpa using has a ha)
  · exact Nat.le_refl _
  · exact Nat.le_of_lt (hs.2.1.1 x (List.mem_map.2 hx))

theorem find_none {t : Tree α} (q : Nat → Prop) [DecidablePred q]
    (h : (toList t).find? (fun e => decide (q e.1)) = none) : ∀ x ∈ keys t, ¬ q x := by
  rw [List.find?_eq_none] at h
  intro x hx
  rw [keys_eq, List.mem_map] at hx
  obtain ⟨e, he, rfl⟩ := hx
  simpa using h e he

section
variable {l r : Tree α} {x k : Nat} {xp p : α} {b : Int}

theorem _root_.B6.Model.Avl.Tree.Bst.left (h : Bst (node l x xp b r)) : Bst l := h.1

theorem _root_.B6.Model.Avl.Tree.Bst.right (h : Bst (node l x xp b r)) : Bst r := h.2.1

theorem _root_.B6.Model.Avl.Tree.Bst.lt_left (h : Bst (node l x xp b r)) : ∀ e ∈ toList l, e.1 < x :=
  fun _ he => h.2.2.1 _ (mem_keys_of_mem_toList he)

theorem _root_.B6.Model.Avl.Tree.Bst.gt_right (h : Bst (node l x xp b r)) : ∀ e ∈ toList r, x < e.1 :=
  fun _ he => h.2.2.2 _ (mem_keys_of_mem_toList he)

theorem find_none_of_lt {m : SortedMap.SMap α} {x : Nat} (hl : ∀ e ∈ m, e.1 < x) (q : Nat → Bool)
    (hq : ∀ y, y < x → q y = false) : m.find? (fun e => q e.1) = none := by
  rw [List.find?_eq_none]
  intro e he
  simp [hq e.1 (hl e he)]

theorem find_node_right (hb : Bst (node l x xp b r)) (q : Nat → Bool) (hq : ∀ y, y ≤ x → q y = false) :
    (toList (node l x xp b r)).find? (fun e => q e.1) = (toList r).find? (fun e => q e.1) := by
  rw [toList, List.find?_append, find_none_of_lt hb.lt_left q fun y hy => hq y (Nat.le_of_lt hy), Option.none_or,
    List.find?_cons_of_neg (by simp [hq x (Nat.le_refl x)])]

theorem find_node_left_or_here (q : Nat → Bool) (hq : q x = true) :
    (toList (node l x xp b r)).find? (fun e => q e.1) =
      ((toList l).find? (fun e => q e.1)).or (some (x, xp)) := by
  rw [toList, List.find?_append, List.find?_cons_of_pos (by exact hq)]

theorem find_node_left (hb : Bst (node l x xp b r)) (q : Nat → Bool) (hq : ∀ y, x ≤ y → q y = false) :
    (toList (node l x xp b r)).find? (fun e => q e.1) = (toList l).find? (fun e => q e.1) := by
  have hn : (toList r).find? (fun e => q e.1) = none :=
    List.find?_eq_none.2 fun e he => by simp [hq e.1 (Nat.le_of_lt (hb.gt_right e he))]
  rw [toList, List.find?_append, List.find?_cons_of_neg (by simp [hq x (Nat.le_refl x)]), hn, Option.or_none]

theorem insert_node_right (hb : Bst (node l x xp b r)) (c : x < k) :
    SortedMap.insert (toList (node l x xp b r)) k p = toList l ++ (x, xp) :: SortedMap.insert (toList r) k p :=
  by rw [toList, SM.insert_append_of_lt fun e he => Nat.lt_trans (hb.lt_left e he) c, SM.insert_cons_lt c]

theorem insert_node_left (c : k < x) :
    SortedMap.insert (toList (node l x xp b r)) k p = SortedMap.insert (toList l) k p ++ (x, xp) :: toList r :=
  SM.insert_append_left c

theorem insert_node_eq (hb : Bst (node l x xp b r)) :
    SortedMap.insert (toList (node l x xp b r)) x p = toList l ++ (x, p) :: toList r :=
  by rw [toList, SM.insert_append_of_lt hb.lt_left, SM.insert_cons_eq]

theorem erase_node_right (hb : Bst (node l x xp b r)) (c : x < k) :
    SortedMap.erase (toList (node l x xp b r)) k = toList l ++ (x, xp) :: SortedMap.erase (toList r) k := by
  rw [toList, SM.erase_append_right _ _ _ fun e he => Nat.ne_of_lt (Nat.lt_trans (hb.lt_left e he) c),
    SortedMap.erase, if_neg (Nat.ne_of_lt c)]

theorem erase_node_left (hb : Bst (node l x xp b r)) (c : k < x) :
    SortedMap.erase (toList (node l x xp b r)) k = SortedMap.erase (toList l) k ++ (x, xp) :: toList r := by
  rw [toList, SM.erase_append_left _ _ _ fun e he => ?_]
  rcases List.mem_cons.1 he with rfl | he
  · exact Nat.ne_of_gt c
  · exact Nat.ne_of_gt (Nat.lt_trans c (hb.gt_right e he))

theorem erase_node_eq (hb : Bst (node l x xp b r)) :
    SortedMap.erase (toList (node l x xp b r)) x = toList l ++ toList r := by
  rw [toList, SM.erase_append_right _ _ _ fun e he => Nat.ne_of_lt (hb.lt_left e he), SortedMap.erase,
    if_pos rfl]
end

theorem rotateLeft_toList {l : Tree α} {k p c t} (h : rotateLeft l k p c = some t) :
    toList t = toList l ++ (k, p) :: toList c := by
  revert h
  fun_cases rotateLeft l k p c with
  | case1 => nofun
  | case2 | case3 => rintro ⟨⟩; simp [toList]

theorem rotateRight_toList {c : Tree α} {k p r t} (h : rotateRight c k p r = some t) :
    toList t = toList c ++ (k, p) :: toList r := by
  revert h
  fun_cases rotateRight c k p r with
  | case1 => nofun
  | case2 | case3 => rintro ⟨⟩; simp [toList]

theorem rotateRightLeft_toList {l : Tree α} {k p c t} (h : rotateRightLeft l k p c = some t) :
    toList t = toList l ++ (k, p) :: toList c := by
  revert h
  fun_cases rotateRightLeft l k p c with
  | case1 | case2 | case3 => rintro ⟨⟩; simp [toList]
  | case4 => nofun

theorem rotateLeftRight_toList {c : Tree α} {k p r t} (h : rotateLeftRight c k p r = some t) :
    toList t = toList c ++ (k, p) :: toList r := by
  revert h
  fun_cases rotateLeftRight c k p r with
  | case1 | case2 | case3 => rintro ⟨⟩; simp [toList]
  | case4 => nofun

/-- balanced, of height `h`.  Used through `even`/`rightHeavy`/`leftHeavy` (build a node), `node_inv` (the three
shapes of a node) and `congr`. -/
def BalH (t : Tree α) (h : Nat) : Prop := Bal t ∧ height t = h

namespace BalH
variable {l r l' r' : Tree α} {k k' : Nat} {p p' : α} {b : Int} {m n : Nat}

theorem even (hl : BalH l m) (hr : BalH r m) : BalH (node l k p 0 r) (m + 1) := by
  obtain ⟨bl, rfl⟩ := hl
  obtain ⟨br, e⟩ := hr
  exact ⟨⟨bl, br, by omega, by omega, by omega⟩, by simp [height, e]⟩

theorem rightHeavy (hl : BalH l m) (hr : BalH r (m + 1)) : BalH (node l k p 1 r) (m + 2) := by
  obtain ⟨bl, rfl⟩ := hl
  obtain ⟨br, e⟩ := hr
  exact ⟨⟨bl, br, by omega, by omega, by omega⟩, by simp only [height, e]; omega⟩

theorem leftHeavy (hl : BalH l (m + 1)) (hr : BalH r m) : BalH (node l k p (-1) r) (m + 2) := by
  obtain ⟨br, rfl⟩ := hr
  obtain ⟨bl, e⟩ := hl
  exact ⟨⟨bl, br, by omega, by omega, by omega⟩, by simp only [height, e]; omega⟩

theorem node_inv (h : BalH (node l k p b r) n) :
    (b = 0 ∧ ∃ m, n = m + 1 ∧ BalH l m ∧ BalH r m) ∨
    (b = 1 ∧ ∃ m, n = m + 2 ∧ BalH l m ∧ BalH r (m + 1)) ∨
    (b = -1 ∧ ∃ m, n = m + 2 ∧ BalH l (m + 1) ∧ BalH r m) := by
  obtain ⟨⟨bl, br, hb, h1, h2⟩, rfl⟩ := h
  simp only [height]
  have : b = 0 ∨ b = 1 ∨ b = -1 := by omega
  rcases this with rfl | rfl | rfl
  · have e : height r = height l := by omega
    exact .inl ⟨rfl, height l, by rw [e, Nat.max_self], ⟨bl, rfl⟩, br, e⟩
  · have e : height r = height l + 1 := by omega
    exact .inr (.inl ⟨rfl, height l, by rw [e, Nat.max_eq_right (Nat.le_succ _)], ⟨bl, rfl⟩, br, e⟩)
  · have e : height l = height r + 1 := by omega
    exact .inr (.inr ⟨rfl, height r, by rw [e, Nat.max_eq_left (Nat.le_succ _)], ⟨bl, e⟩, br, rfl⟩)

theorem congr (h : BalH (node l k p b r) n) (hl : BalH l' (height l)) (hr : BalH r' (height r)) :
    BalH (node l' k' p' b r') n := by
  obtain ⟨⟨_, _, hb, h1, h2⟩, rfl⟩ := h
  exact ⟨⟨hl.1, hr.1, by rw [hl.2, hr.2]; exact hb, h1, h2⟩, by simp only [height, hl.2, hr.2]⟩

end BalH

theorem rotateLeft_balH {l c : Tree α} {k : Nat} {p : α} {h : Nat}
    (hl : BalH l h) (hc : BalH c (h + 2)) (hb : 0 ≤ rootBal c) :
    ∃ t, rotateLeft l k p c = some t ∧ BalH t (if rootBal c = 0 then h + 3 else h + 2) := by
  cases c with
  | nil => exact absurd hc.2 (by simp [height])
  | node cl ck cp cb cr =>
    rcases hc.node_inv with ⟨rfl, m, e, hcl, hcr⟩ | ⟨rfl, m, e, hcl, hcr⟩ | ⟨rfl, _⟩
    · obtain rfl : m = h + 1 := by omega
      exact ⟨_, rfl, (hl.rightHeavy hcl).leftHeavy hcr⟩
    · obtain rfl : h = m := by omega
      exact ⟨_, rfl, (hl.even hcl).even hcr⟩
    · simp [rootBal] at hb

theorem rotateRight_balH {c r : Tree α} {k : Nat} {p : α} {h : Nat}
    (hr : BalH r h) (hc : BalH c (h + 2)) (hb : rootBal c ≤ 0) :
    ∃ t, rotateRight c k p r = some t ∧ BalH t (if rootBal c = 0 then h + 3 else h + 2) := by
  cases c with
  | nil => exact absurd hc.2 (by simp [height])
  | node cl ck cp cb cr =>
    rcases hc.node_inv with ⟨rfl, m, e, hcl, hcr⟩ | ⟨rfl, _⟩ | ⟨rfl, m, e, hcl, hcr⟩
    · obtain rfl : m = h + 1 := by omega
      exact ⟨_, rfl, hcl.rightHeavy (hcr.leftHeavy hr)⟩
    · simp [rootBal] at hb
    · obtain rfl : h = m := by omega
      exact ⟨_, rfl, hcl.even (hcr.even hr)⟩

theorem rotateRightLeft_balH {l c : Tree α} {k : Nat} {p : α} {h : Nat}
    (hl : BalH l h) (hc : BalH c (h + 2)) (hb : rootBal c < 0) :
    ∃ t, rotateRightLeft l k p c = some t ∧ BalH t (h + 2) := by
  cases c with
  | nil => exact absurd hc.2 (by simp [height])
  | node cl ck cp cb cr =>
    rcases hc.node_inv with ⟨rfl, _⟩ | ⟨rfl, _⟩ | ⟨rfl, m, e, hcl, hcr⟩
    · simp [rootBal] at hb
    · simp [rootBal] at hb
    · obtain rfl : h = m := by omega
      cases cl with
      | nil => exact absurd hcl.2 (by simp [height])
      | node nl nk np nb nr =>
        rcases hcl.node_inv with ⟨rfl, m, e, hnl, hnr⟩ | ⟨rfl, m, e, hnl, hnr⟩ | ⟨rfl, m, e, hnl, hnr⟩
        · obtain rfl : h = m := by omega
          exact ⟨_, rfl, (hl.even hnl).even (hnr.even hcr)⟩
        · obtain rfl : h = m + 1 := by omega
          exact ⟨_, rfl, (hl.leftHeavy hnl).even (hnr.even hcr)⟩
        · obtain rfl : h = m + 1 := by omega
          exact ⟨_, rfl, (hl.even hnl).even (hnr.rightHeavy hcr)⟩

theorem rotateLeftRight_balH {c r : Tree α} {k : Nat} {p : α} {h : Nat}
    (hr : BalH r h) (hc : BalH c (h + 2)) (hb : 0 < rootBal c) :
    ∃ t, rotateLeftRight c k p r = some t ∧ BalH t (h + 2) := by
  cases c with
  | nil => exact absurd hc.2 (by simp [height])
  | node cl ck cp cb cr =>
    rcases hc.node_inv with ⟨rfl, _⟩ | ⟨rfl, m, e, hcl, hcr⟩ | ⟨rfl, _⟩
    · simp [rootBal] at hb
    · obtain rfl : h = m := by omega
      cases cr with
      | nil => exact absurd hcr.2 (by simp [height])
      | node nl nk np nb nr =>
        rcases hcr.node_inv with ⟨rfl, m, e, hnl, hnr⟩ | ⟨rfl, m, e, hnl, hnr⟩ | ⟨rfl, m, e, hnl, hnr⟩
        · obtain rfl : h = m := by omega
          exact ⟨_, rfl, (hcl.even hnl).even (hnr.even hr)⟩
        · obtain rfl : h = m + 1 := by omega
          exact ⟨_, rfl, (hcl.leftHeavy hnl).even (hnr.even hr)⟩
        · obtain rfl : h = m + 1 := by omega
          exact ⟨_, rfl, (hcl.even hnl).even (hnr.rightHeavy hr)⟩
    · simp [rootBal] at hb

/-- `hnz`: the third clause of `ins_spec` -/
theorem insRetraceRight_spec {l r r' : Tree α} {k : Nat} {p : α} {b : Int} {n : Nat}
    (hn : BalH (node l k p b r) n) (hr' : BalH r' (height r + 1))
    (hnz : 1 ≤ height r → rootBal r' ≠ 0) :
    ∃ t g, insRetraceRight l k p b r' = some (t, g) ∧ BalH t (n + if g then 1 else 0) ∧
      (g = true → rootBal t ≠ 0) ∧ toList t = toList l ++ (k, p) :: toList r' := by
  rcases hn.node_inv with ⟨rfl, m, rfl, hl, hr⟩ | ⟨rfl, m, rfl, hl, hr⟩ | ⟨rfl, m, rfl, hl, hr⟩ <;>
    rw [hr.2] at hr' hnz
  · exact ⟨node l k p 1 r', true, by simp [insRetraceRight], hl.rightHeavy hr', by simp [rootBal], rfl⟩
  · by_cases c : rootBal r' < 0
    · obtain ⟨t, e, bt⟩ := rotateRightLeft_balH (k := k) (p := p) hl hr' c
      exact ⟨t, false, by simp [insRetraceRight, c, e], bt, by simp, rotateRightLeft_toList e⟩
    · obtain ⟨t, e, bt⟩ := rotateLeft_balH (k := k) (p := p) hl hr' (by omega)
      rw [if_neg (hnz (by omega))] at bt
      exact ⟨t, false, by simp [insRetraceRight, c, e], bt, by simp, rotateLeft_toList e⟩
  · exact ⟨node l k p 0 r', false, by simp [insRetraceRight], hl.even hr', by simp, rfl⟩

theorem insRetraceLeft_spec {l l' r : Tree α} {k : Nat} {p : α} {b : Int} {n : Nat}
    (hn : BalH (node l k p b r) n) (hl' : BalH l' (height l + 1))
    (hnz : 1 ≤ height l → rootBal l' ≠ 0) :
    ∃ t g, insRetraceLeft l' k p b r = some (t, g) ∧ BalH t (n + if g then 1 else 0) ∧
      (g = true → rootBal t ≠ 0) ∧ toList t = toList l' ++ (k, p) :: toList r := by
  rcases hn.node_inv with ⟨rfl, m, rfl, hl, hr⟩ | ⟨rfl, m, rfl, hl, hr⟩ | ⟨rfl, m, rfl, hl, hr⟩ <;>
    rw [hl.2] at hl' hnz
  · exact ⟨node l' k p (-1) r, true, by simp [insRetraceLeft], hl'.leftHeavy hr, by simp [rootBal], rfl⟩
  · exact ⟨node l' k p 0 r, false, by simp [insRetraceLeft], hl'.even hr, by simp, rfl⟩
  · by_cases c : rootBal l' > 0
    · obtain ⟨t, e, bt⟩ := rotateLeftRight_balH (k := k) (p := p) hr hl' c
      exact ⟨t, false, by simp [insRetraceLeft, c, e], bt, by simp, rotateLeftRight_toList e⟩
    · obtain ⟨t, e, bt⟩ := rotateRight_balH (k := k) (p := p) hr hl' (by omega)
      rw [if_neg (hnz (by omega))] at bt
      exact ⟨t, false, by simp [insRetraceLeft, c, e], bt, by simp, rotateRight_toList e⟩

theorem delRetraceLeft_spec {l l' r : Tree α} {k : Nat} {p : α} {b : Int} {n m' : Nat}
    (hn : BalH (node l k p b r) n) (hl' : BalH l' m') (e : height l = m' + 1) :
    ∃ t s, delRetraceLeft l' k p b r = some (t, s) ∧ Bal t ∧ height t + (if s then 1 else 0) = n ∧
      toList t = toList l' ++ (k, p) :: toList r := by
  rcases hn.node_inv with ⟨rfl, m, rfl, hl, hr⟩ | ⟨rfl, m, rfl, hl, hr⟩ | ⟨rfl, m, rfl, hl, hr⟩ <;>
    rw [hl.2] at e
  · subst e
    have bt := hl'.rightHeavy (k := k) (p := p) hr
    exact ⟨_, false, by simp [delRetraceLeft], bt.1, by simp [bt.2], rfl⟩
  · subst e
    by_cases c : rootBal r < 0
    · obtain ⟨t, e, bt⟩ := rotateRightLeft_balH (k := k) (p := p) hl' hr c
      exact ⟨t, true, by simp [delRetraceLeft, c, e]; omega, bt.1, by simp [bt.2], rotateRightLeft_toList e⟩
    · obtain ⟨t, e, bt⟩ := rotateLeft_balH (k := k) (p := p) hl' hr (by omega)
      by_cases c0 : rootBal r = 0
      · rw [if_pos c0] at bt
        exact ⟨t, false, by simp [delRetraceLeft, c0, e], bt.1, by simp [bt.2], rotateLeft_toList e⟩
      · rw [if_neg c0] at bt
        exact ⟨t, true, by simp [delRetraceLeft, c, c0, e], bt.1, by simp [bt.2], rotateLeft_toList e⟩
  · obtain rfl : m = m' := by omega
    have bt := hl'.even (k := k) (p := p) hr
    exact ⟨_, true, by simp [delRetraceLeft], bt.1, by simp [bt.2], rfl⟩

theorem delRetraceRight_spec {l r r' : Tree α} {k : Nat} {p : α} {b : Int} {n m' : Nat}
    (hn : BalH (node l k p b r) n) (hr' : BalH r' m') (e : height r = m' + 1) :
    ∃ t s, delRetraceRight l k p b r' = some (t, s) ∧ Bal t ∧ height t + (if s then 1 else 0) = n ∧
      toList t = toList l ++ (k, p) :: toList r' := by
  rcases hn.node_inv with ⟨rfl, m, rfl, hl, hr⟩ | ⟨rfl, m, rfl, hl, hr⟩ | ⟨rfl, m, rfl, hl, hr⟩ <;>
    rw [hr.2] at e
  · subst e
    have bt := hl.leftHeavy (k := k) (p := p) hr'
    exact ⟨_, false, by simp [delRetraceRight], bt.1, by simp [bt.2], rfl⟩
  · obtain rfl : m = m' := by omega
    have bt := hl.even (k := k) (p := p) hr'
    exact ⟨_, true, by simp [delRetraceRight], bt.1, by simp [bt.2], rfl⟩
  · subst e
    by_cases c : rootBal l > 0
    · obtain ⟨t, e, bt⟩ := rotateLeftRight_balH (k := k) (p := p) hr' hl c
      exact ⟨t, true, by simp [delRetraceRight, c, e]; omega, bt.1, by simp [bt.2], rotateLeftRight_toList e⟩
    · obtain ⟨t, e, bt⟩ := rotateRight_balH (k := k) (p := p) hr' hl (by omega)
      by_cases c0 : rootBal l = 0
      · rw [if_pos c0] at bt
        exact ⟨t, false, by simp [delRetraceRight, c0, e], bt.1, by simp [bt.2], rotateRight_toList e⟩
      · rw [if_neg c0] at bt
        exact ⟨t, true, by simp [delRetraceRight, c, c0, e], bt.1, by simp [bt.2], rotateRight_toList e⟩

/-- The third clause is what the retrace above it relies on: a subtree that grew and was not empty before is not evenly
balanced at its root, so the single rotation meets only its `balance ≠ 0` table row. -/
theorem ins_spec (t : Tree α) (k : Nat) (p : α) (hb : Bal t) :
    ∃ t' g a, ins t k p = some (t', g, a) ∧ BalH t' (height t + if g then 1 else 0) ∧
      (g = true → 1 ≤ height t → rootBal t' ≠ 0) ∧
      (toList t').length = (toList t).length + (if a then 1 else 0) ∧
      (Bst t → toList t' = SortedMap.insert (toList t) k p) := by
  induction t with
  | nil => exact ⟨_, _, _, rfl, BalH.even ⟨trivial, rfl⟩ ⟨trivial, rfl⟩, by simp [height], rfl, fun _ => rfl⟩
  | node l x xp b r ihl ihr =>
    have hn : BalH (node l x xp b r) _ := ⟨hb, rfl⟩
    obtain ⟨hl, hr, -⟩ := hb
    by_cases c1 : x < k
    · obtain ⟨r', g, a, e, br', nz, len, tl⟩ := ihr hr
      have len' : (toList l ++ (x, xp) :: toList r').length =
          (toList (node l x xp b r)).length + (if a then 1 else 0) := by
        simp only [toList, List.length_append, List.length_cons, len]; omega
      have tl' : Bst (node l x xp b r) →
          toList l ++ (x, xp) :: toList r' = SortedMap.insert (toList (node l x xp b r)) k p :=
        fun hbst => by rw [tl hbst.right, insert_node_right hbst c1]
      cases g with
      | false =>
        exact ⟨node l x xp b r', false, a, by rw [ins, if_pos c1, e]; rfl, hn.congr ⟨hl, rfl⟩ br',
          nofun, len', tl'⟩
      | true =>
        obtain ⟨t, g2, e2, bt, nz2, tl2⟩ := insRetraceRight_spec hn br' (nz rfl)
        exact ⟨t, g2, a, by rw [ins, if_pos c1, e]; simp only [if_true, e2], bt, fun hg _ => nz2 hg,
          tl2 ▸ len', tl2 ▸ tl'⟩
    · by_cases c2 : k < x
      · obtain ⟨l', g, a, e, bl', nz, len, tl⟩ := ihl hl
        have len' : (toList l' ++ (x, xp) :: toList r).length =
            (toList (node l x xp b r)).length + (if a then 1 else 0) := by
          simp only [toList, List.length_append, List.length_cons, len]; omega
        have tl' : Bst (node l x xp b r) →
            toList l' ++ (x, xp) :: toList r = SortedMap.insert (toList (node l x xp b r)) k p :=
          fun hbst => by rw [tl hbst.left, insert_node_left c2]
        cases g with
        | false =>
          exact ⟨node l' x xp b r, false, a, by rw [ins, if_neg c1, if_pos c2, e]; rfl,
            hn.congr bl' ⟨hr, rfl⟩, nofun, len', tl'⟩
        | true =>
          obtain ⟨t, g2, e2, bt, nz2, tl2⟩ := insRetraceLeft_spec hn bl' (nz rfl)
          exact ⟨t, g2, a, by rw [ins, if_neg c1, if_pos c2, e]; simp only [if_true, e2], bt,
            fun hg _ => nz2 hg, tl2 ▸ len', tl2 ▸ tl'⟩
      · obtain rfl : x = k := by omega
        exact ⟨node l x p b r, false, false, by rw [ins, if_neg c1, if_neg c1], hn.congr ⟨hl, rfl⟩ ⟨hr, rfl⟩,
          nofun, by simp [toList], fun hbst => (insert_node_eq hbst).symm⟩

theorem delMin_spec (t : Tree α) (hb : Bal t) (hne : t ≠ nil) :
    ∃ t' mk mp s, delMin t = some (t', mk, mp, s) ∧ Bal t' ∧
      height t' + (if s then 1 else 0) = height t ∧ toList t = (mk, mp) :: toList t' := by
  induction t with
  | nil => exact absurd rfl hne
  | node l x xp b r ihl _ =>
    have hn : BalH (node l x xp b r) _ := ⟨hb, rfl⟩
    obtain ⟨hl, hr, -⟩ := hb
    cases l with
    | nil => exact ⟨r, x, xp, true, rfl, hr, by simp [height], rfl⟩
    | node ll lk lp lb lr =>
      obtain ⟨l', mk, mp, s, e, bl', hl', tl⟩ := ihl hl (by simp)
      unfold delMin
      simp only [e]
      have tl' : toList (node (node ll lk lp lb lr) x xp b r) = (mk, mp) :: (toList l' ++ (x, xp) :: toList r) := by
        rw [toList, tl]; rfl
      cases s with
      | false =>
        have bt := hn.congr (k' := x) (p' := xp) ⟨bl', by simpa using hl'⟩ ⟨hr, rfl⟩
        exact ⟨_, _, _, _, rfl, bt.1, by simp [bt.2], tl'⟩
      | true =>
        obtain ⟨t, s2, e2, bt, ht, tl2⟩ := delRetraceLeft_spec hn ⟨bl', rfl⟩ (by simpa using hl'.symm)
        exact ⟨t, mk, mp, s2, by simp [e2], bt, ht, tl2 ▸ tl'⟩

theorem del_spec (t : Tree α) (k : Nat) (hbst : Bst t) (hb : Bal t) :
    ∃ t' s f, del t k = some (t', s, f) ∧ Bal t' ∧ height t' + (if s then 1 else 0) = height t ∧
      toList t' = SortedMap.erase (toList t) k ∧
      (toList t').length + (if f then 1 else 0) = (toList t).length := by
  induction t with
  | nil => exact ⟨nil, false, false, rfl, trivial, rfl, rfl, rfl⟩
  | node l x xp b r ihl ihr =>
    have hn : BalH (node l x xp b r) _ := ⟨hb, rfl⟩
    obtain ⟨hl, hr, -⟩ := hb
    by_cases c1 : x < k
    · obtain ⟨r', s, f, e, br', hr', tl, len⟩ := ihr hbst.right hr
      have tl' : toList l ++ (x, xp) :: toList r' = SortedMap.erase (toList (node l x xp b r)) k := by
        rw [erase_node_right hbst c1, tl]
      have len' : (toList l ++ (x, xp) :: toList r').length + (if f then 1 else 0) =
          (toList (node l x xp b r)).length := by
        simp only [toList, List.length_append, List.length_cons]; omega
      cases s with
      | false =>
        have bt := hn.congr (k' := x) (p' := xp) ⟨hl, rfl⟩ ⟨br', hr'⟩
        exact ⟨_, false, f, by unfold del; rw [if_pos c1, e]; rfl, bt.1, bt.2, tl', len'⟩
      | true =>
        obtain ⟨t, s2, e2, bt, ht, tl2⟩ := delRetraceRight_spec hn ⟨br', rfl⟩ hr'.symm
        exact ⟨t, s2, f, by unfold del; rw [if_pos c1, e]; simp only [if_true, e2], bt, ht, tl2 ▸ tl', tl2 ▸ len'⟩
    · by_cases c2 : k < x
      · obtain ⟨l', s, f, e, bl', hl', tl, len⟩ := ihl hbst.left hl
        have tl' : toList l' ++ (x, xp) :: toList r = SortedMap.erase (toList (node l x xp b r)) k := by
          rw [erase_node_left hbst c2, tl]
        have len' : (toList l' ++ (x, xp) :: toList r).length + (if f then 1 else 0) =
            (toList (node l x xp b r)).length := by
          simp only [toList, List.length_append, List.length_cons]; omega
        cases s with
        | false =>
          have bt := hn.congr (k' := x) (p' := xp) ⟨bl', hl'⟩ ⟨hr, rfl⟩
          exact ⟨_, false, f, by unfold del; rw [if_neg c1, if_pos c2, e]; rfl, bt.1, bt.2, tl', len'⟩
        | true =>
          obtain ⟨t, s2, e2, bt, ht, tl2⟩ := delRetraceLeft_spec hn ⟨bl', rfl⟩ hl'.symm
          exact ⟨t, s2, f, by unfold del; rw [if_neg c1, if_pos c2, e]; simp only [if_true, e2], bt, ht,
            tl2 ▸ tl', tl2 ▸ len'⟩
      · obtain rfl : x = k := by omega
        rw [erase_node_eq hbst]
        unfold del
        rw [if_neg c1, if_neg c1]
        have len' : ∀ t' : Tree α, toList t' = toList l ++ toList r →
            (toList t').length + 1 = (toList (node l x xp b r)).length := fun t' h => by
          simp only [h, toList, List.length_append, List.length_cons]; omega
        cases l with
        | nil => exact ⟨r, true, true, rfl, hr, by simp [height], rfl, len' _ rfl⟩
        | node ll lk lp lb lr =>
          cases r with
          | nil => exact ⟨_, true, true, rfl, hl, by simp [height], by simp [toList], len' _ (by simp [toList])⟩
          | node rl rk rp rb rr =>
            obtain ⟨r', mk, mp, s, e, br', hr', tl⟩ := delMin_spec _ hr (by simp)
            simp only [e]
            cases s with
            | false =>
              have bt := hn.congr (k' := mk) (p' := mp) ⟨hl, rfl⟩ ⟨br', hr'⟩
              exact ⟨_, _, _, rfl, bt.1, bt.2, by rw [tl]; rfl, len' _ (by rw [tl]; rfl)⟩
            | true =>
              obtain ⟨t, s2, e2, bt, ht, tl2⟩ := delRetraceRight_spec (k := mk) (p := mp) hn ⟨br', rfl⟩
                hr'.symm
              exact ⟨t, s2, true, by simp [e2], bt, ht, by rw [tl2, tl], len' _ (by rw [tl2, tl])⟩

theorem update_keys (t : Tree α) (k : Nat) (f : α → α) : keys (t.update k f) = keys t := by
  induction t with
  | nil => rfl
  | node l x xp b r ihl ihr =>
    unfold Tree.update
    split
    · simp [keys, ihr]
    · split <;> simp [keys, ihl]

/-- `update` on a present key returns the tree `Insert` of the new payload returns (nothing grows, so no retrace):
on a valid tree everything about it is therefore `ins_spec`. -/
theorem update_eq {t : Tree α} {k : Nat} {v : α} (h : t.lookup k = some v) (f : α → α) :
    ins t k (f v) = some (t.update k f, false, false) := by
  fun_induction Tree.lookup t k with
  | case1 => cases h
  | case2 l x xp b r k c ih => rw [ins, Tree.update, if_pos c, if_pos c, ih h]; rfl
  | case3 l x xp b r k c1 c2 ih => rw [ins, Tree.update, if_neg c1, if_neg c1, if_pos c2, if_pos c2, ih h]; rfl
  | case4 l x xp b r k c1 c2 =>
    obtain rfl : x = k := by omega
    cases h
    rw [ins, Tree.update, if_neg c1, if_neg c1, if_neg c1, if_neg c1]

/-! ## the iterator's walks are the sorted-list cursor functions -/

theorem min_eq (t : Tree α) : t.min = (toList t).head? := by
  induction t with
  | nil => rfl
  | node l k p b r ihl _ =>
    simp only [Tree.min, toList, ihl, List.head?_append]
    cases (toList l).head? <;> simp

theorem lowerBound_eq (t : Tree α) (key : Nat) (hb : Bst t) :
    t.lowerBound key = SortedMap.lowerBound (toList t) key := by
  induction t with
  | nil => rfl
  | node l x xp b r ihl ihr =>
    unfold Tree.lowerBound SortedMap.lowerBound
    by_cases c1 : x < key
    · rw [if_pos c1, find_node_right hb (fun y => decide (key ≤ y)) (fun y hy => by simp; omega)]
      exact ihr hb.right
    · rw [if_neg c1, find_node_left_or_here (fun y => decide (key ≤ y)) (by simp; omega)]
      by_cases c2 : key < x
      · rw [if_pos c2, ihl hb.left]
        unfold SortedMap.lowerBound
        cases (toList l).find? _ <;> rfl
      · rw [if_neg c2, find_none_of_lt hb.lt_left
          (fun y => decide (key ≤ y)) (fun y hy => by simp; omega)]
        rfl

theorem succ_eq (t : Tree α) (c : Nat) (hb : Bst t) :
    t.succ c = SortedMap.succ (toList t) (some c) := by
  induction t with
  | nil => rfl
  | node l x xp b r ihl ihr =>
    unfold Tree.succ
    simp only [SortedMap.succ]
    by_cases c1 : c < x
    · rw [if_pos c1, find_node_left_or_here (fun y => decide (c < y)) (by simp; omega), ihl hb.left]
      simp only [SortedMap.succ]
      cases (toList l).find? _ <;> rfl
    · rw [if_neg c1, find_node_right hb (fun y => decide (c < y)) (fun y hy => by simp; omega)]
      exact ihr hb.right

/-! ## two facts each used by one proof of `B6.Props.C07` (`delete_inv`, `drain_spec`) -/

theorem ite_one_zero_inj {a b : Prop} [Decidable a] [Decidable b]
    (h : (if a then 1 else 0 : Nat) = if b then 1 else 0) : a ↔ b := by
  by_cases ha : a
  · rw [if_pos ha] at h
    by_cases hb : b
    · exact iff_of_true ha hb
    · rw [if_neg hb] at h; cases h
  · rw [if_neg ha] at h
    by_cases hb : b
    · rw [if_pos hb] at h; cases h
    · exact iff_of_false ha hb

theorem filter_ge_sorted (ks : List Nat) (k' : Nat) (hs : ks.Pairwise (· < ·)) (hm : k' ∈ ks) :
    ks.filter (fun x => decide (k' ≤ x)) = k' :: ks.filter (fun x => decide (k' < x)) :=
  -- both sides ascend and have the same members
  List.Pairwise.ext_of_asymm (fun _ _ => Nat.lt_asymm) (hs.filter _)
    (List.pairwise_cons.2 ⟨fun x hx => of_decide_eq_true (List.mem_filter.1 hx).2, hs.filter _⟩) fun x => by
      simp only [List.mem_filter, List.mem_cons, decide_eq_true_eq]
      exact ⟨fun ⟨hx, hle⟩ => (Nat.eq_or_lt_of_le hle).imp Eq.symm fun h => ⟨hx, h⟩,
        fun h => h.elim (fun e => e.symm ▸ ⟨hm, Nat.le_refl _⟩) fun ⟨hx, hlt⟩ => ⟨hx, Nat.le_of_lt hlt⟩⟩

end B6.Lemmas.Avl
