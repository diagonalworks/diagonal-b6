import B6.Lemmas.CompactIndexFind
/-!
# C01 lemmas: why `EachFeature` reports no id twice (`each_no_id_twice` of `Props/C01.lean`)

The namespace table is strictly sorted (so decoding a block header's namespace is injective), the blocks of one
type carry pairwise different header namespaces, and the ids within a block are pairwise different.
-/
namespace B6.Model.CompactIndex
open B6.Lemmas.Basic

/-! ## the namespace table is strictly sorted -/

theorem nsTable_nodup (fs : List Feature) : (nsTable fs).Nodup := by
  unfold nsTable
  refine List.Pairwise.nodup_of_irrefl (lt := fun a b => strLt a b = true)
    (fun a h => List.lt_irrefl a ((strLt_iff a a).mp h)) (insertNs_isSort.pairwise ?_ ?_ _)
  · -- distinct strings are comparable
    intro a b h1 h2
    exact (strLt_iff b a).mpr ((List.le_iff_lt_or_eq.mp (List.not_lt.mp fun hh => h1 ((strLt_iff a b).mpr hh))).resolve_right
      fun e => h2 (beq_iff_eq.mpr e.symm))
  · intro a b c h1 h2
    exact (strLt_iff a c).mpr (List.lt_trans ((strLt_iff a b).mp h1) ((strLt_iff b c).mp h2))

/-! ## ids within a block are distinct -/

theorem pointBlock_distinct (c : Ctx) (fs : List Feature) (scr : List (Str × BitVec 64 × Scratch)) (n : Nat) (ns : Str)
    (b : Block) (h : pointBlock c fs scr n ns = some b) : b.entries.Pairwise fun e e' => e.id ≠ e'.id := by
  obtain ⟨_, rfl⟩ := (pointBlock_eq_some c fs scr n ns b).mp h
  simp only [List.pairwise_map, combine_id]
  exact (dedupVals_spec _).1

theorem featureBlock_distinct (c : Ctx) (fs : List Feature) (hd : idsDistinct fs = true) (t n : Nat) (ns : Str) (b : Block)
    (h : featureBlock c fs t n ns = .ok (some b)) : b.entries.Pairwise fun e e' => e.id ≠ e'.id := by
  have ⟨_, _, hes⟩ := featureBlock_some c fs t n ns b h
  refine mapEq_pairwise hes (R := fun g g' => g.id.val ≠ g'.id.val) ?_ ?_
  · intro g g' e e' hgg he he'
    rw [(entryOf_spec c fs t g e he).1, (entryOf_spec c fs t g' e' he').1]
    exact hgg
  · unfold keptOf
    rw [List.pairwise_map]
    refine List.pairwise_filter.mpr ((idsDistinct_pairwise fs hd).imp ?_)
    intro f f' hne hp hp'
    simp only [Bool.and_eq_true, beq_iff_eq] at hp hp'
    rw [validated_id, validated_id]
    exact fun hv => hne (FID.ext _ _ (hp.1.1.trans hp'.1.1.symm) (hp.1.2.trans hp'.1.2.symm) hv)

theorem blocks_distinct (strs : List Str) (fs : List Feature) (ix : Index) (c : Ctx)
    (scr : List (List (Str × BitVec 64 × Scratch))) (hb : Built strs fs ix c) (hp : BuiltPoints fs ix c scr)
    (hd : idsDistinct fs = true) : ∀ b ∈ ix.blocks, b.entries.Pairwise fun e e' => e.id ≠ e'.id := by
  intro b hbm
  obtain ⟨t, n, ns, hB⟩ := hp.blockOf hb hbm
  rcases hB.made with ⟨_, hpb⟩ | ⟨_, hfk⟩
  · exact pointBlock_distinct c fs _ n ns b hpb
  · exact featureBlock_distinct c fs hd t n ns b hfk

/-! ## blocks of one type carry pairwise different namespaces -/

theorem blockNamespaces_pairwise (nt : List Str) : (blockNamespaces nt).Pairwise fun k k' => k.1 ≠ k'.1 := by
  unfold blockNamespaces
  refine List.Pairwise.of_map Prod.fst (fun a b h => h) ?_
  rw [List.map_fst_zip (by simp)]
  exact List.nodup_range

theorem blockKeys_pairwise (nt : List Str) :
    (blockKeys nt).Pairwise fun k k' => ¬ (k.1 = k'.1 ∧ k.2.1 = k'.2.1) := by
  unfold blockKeys
  rw [List.pairwise_flatMap]
  constructor
  · intro k _
    obtain ⟨n, ns⟩ := k
    simp
  · refine (blockNamespaces_pairwise nt).imp ?_
    intro k k' hne x hx y hy
    obtain ⟨n, ns⟩ := k
    obtain ⟨n', ns'⟩ := k'
    simp only [List.mem_cons, List.not_mem_nil, or_false] at hx hy
    simp only at hne
    rcases hx with rfl | rfl | rfl <;> rcases hy with rfl | rfl | rfl <;> simp [hne]

theorem build_sep (strs : List Str) (fs : List Feature) (ix : Index) (h : build strs fs = .ok ix)
    (hsmall : (nsTable fs).length ≤ 8192) : ix.blocks.Pairwise Sep := by
  obtain ⟨_, osm, hosm, scr, hscr, rest, hrest, rfl⟩ := (build_ok_iff strs fs ix).mp h
  have hpt : ∀ k ∈ blockNamespaces (nsTable fs), ∀ b, pointBlock ⟨nsTable fs, strs, osm⟩ fs scr.flatten k.1 k.2 = some b →
      BlockOf ⟨nsTable fs, strs, osm⟩ fs scr.flatten 0 k.1 k.2 b :=
    fun k hk b hb => ⟨(mem_blockNamespaces _ _ _).mp hk, Or.inl ⟨rfl, hb⟩⟩
  have hft : ∀ k ∈ blockKeys (nsTable fs), ∀ b, featureBlock ⟨nsTable fs, strs, osm⟩ fs k.1 k.2.1 k.2.2 = .ok (some b) →
      (k.1 = 1 ∨ k.1 = 2 ∨ k.1 = 3) ∧ BlockOf ⟨nsTable fs, strs, osm⟩ fs scr.flatten k.1 k.2.1 k.2.2 b :=
    fun k hk b hb => ⟨((mem_blockKeys _ k).mp hk).1, ((mem_blockKeys _ k).mp hk).2, Or.inr ⟨((mem_blockKeys _ k).mp hk).1, hb⟩⟩
  simp only
  rw [List.pairwise_append]
  refine ⟨?_, ?_, ?_⟩
  · -- point blocks
    rw [List.pairwise_filterMap]
    refine (List.Pairwise.and_mem.mp (blockNamespaces_pairwise (nsTable fs))).imp ?_
    intro k k' ⟨hk, hk', hne⟩ b hb b' hb'
    exact (hpt k hk b hb).sep hsmall (hpt k' hk' b' hb') fun hh => hne hh.2
  · -- path / area / relation blocks
    rw [List.pairwise_filterMap]
    refine mapEq_pairwise hrest ?_ (List.Pairwise.and_mem.mp (blockKeys_pairwise (nsTable fs)))
    rintro k k' _ _ ⟨hk, hk', hne⟩ hfk hfk' b rfl b' rfl
    exact (hft k hk b hfk).2.sep hsmall (hft k' hk' b' hfk').2 hne
  · -- a point block and another block have different types
    intro a ha b hb
    simp only [List.mem_filterMap, id] at ha hb
    obtain ⟨k, hk, hpa⟩ := ha
    obtain ⟨_, hob, rfl⟩ := hb
    obtain ⟨k', hk', hfk⟩ := mapEq_of_mem_right hrest hob
    have ⟨h123, hB'⟩ := hft k' hk' b hfk
    exact (hpt k hk a hpa).sep hsmall hB' fun hh => by omega

end B6.Model.CompactIndex
