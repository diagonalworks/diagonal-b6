import B6.Model.OverlayWorld
/-!
Simulation proof for the merge iterator `overlayFeatures` (ingest/overlay.go) — C16: `Abs` holds after the
first `Next` and is kept by every later one; under it the drained output is
`merge overlay (base without the filtered IDs)` (`drain_init`).
-/
namespace B6.Lemmas.OverlayMerge
open B6.Model.OverlayWorld

variable {α : Type}

theorem merge_perm (L1 L2 : List (Id × α)) :
    (merge L1 L2).Perm (L1.map (fun x => (x.1, x.2, true)) ++ L2.map (fun y => (y.1, y.2, false))) := by
  fun_induction merge L1 L2 with
  | case1 ys => exact .refl _
  | case2 x xs => rw [List.map_nil, List.append_nil]
  | case3 x xs y ys hlt ih => exact ih.cons _
  | case4 x xs y ys hlt ih => exact (ih.cons _).trans List.perm_middle.symm

theorem length_merge (L1 L2 : List (Id × α)) : (merge L1 L2).length = L1.length + L2.length := by
  rw [(merge_perm L1 L2).length_eq, List.length_append, List.length_map, List.length_map]

/-- what remains after the current (minimum) element -/
def popMin : List (Id × α) → List (Id × α) → List (Id × α) × List (Id × α)
  | [], [] => ([], [])
  | [], _ :: ys => ([], ys)
  | _ :: xs, [] => (xs, [])
  | x :: xs, y :: ys => if idLt x.1 y.1 then (xs, y :: ys) else (x :: xs, ys)

theorem merge_popMin (ovL baseL : List (Id × α)) :
    merge (popMin ovL baseL).1 (popMin ovL baseL).2 = (merge ovL baseL).tail := by
  fun_cases popMin ovL baseL with
  | case1 => simp [merge]
  | case2 y ys => simp [merge]
  | case3 x xs => cases xs <;> simp [merge]
  | case4 x xs y ys h => simp [merge, h]
  | case5 x xs y ys h => simp [merge, h]

theorem popMin_cases (L1 L2 : List (Id × α)) : popMin L1 L2 = (L1.tail, L2) ∨ popMin L1 L2 = (L1, L2.tail) := by
  fun_cases popMin L1 L2
  · exact .inl rfl
  · exact .inr rfl
  · exact .inl rfl
  · exact .inl rfl
  · exact .inr rfl

theorem popMin_subset (L1 L2 : List (Id × α)) : (popMin L1 L2).1 ⊆ L1 ∧ (popMin L1 L2).2 ⊆ L2 := by
  rcases popMin_cases L1 L2 with e | e
  · rw [e]
    exact ⟨fun _ h => List.mem_of_mem_tail h, List.Subset.refl _⟩
  · rw [e]
    exact ⟨List.Subset.refl _, fun _ h => List.mem_of_mem_tail h⟩

def keepBase (filter : Id → Bool) (l : List (Id × α)) : List (Id × α) := l.filter fun z => !filter z.1

theorem advLoop_spec (filter : Id → Bool) : ∀ (r : List (Id × α)) (old : Id),
    match keepBase filter r with
    | [] => ∃ id, advLoop filter old r = (⟨[], none⟩, false, id)
    | y :: ys => ∃ r', advLoop filter old r = (⟨r', some y⟩, true, y.1) ∧ keepBase filter r' = ys := by
  intro r old
  fun_induction advLoop filter old r with
  | case1 old => exact ⟨old, rfl⟩
  | case2 old x xs hx ih => rwa [show keepBase filter (x :: xs) = keepBase filter xs by simp [keepBase, hx]]
  | case3 old x xs hx =>
    rw [show keepBase filter (x :: xs) = x :: keepBase filter xs by simp [keepBase, hx]]
    exact ⟨xs, rfl, rfl⟩

/-- a started iterator whose current overlay / base elements are the heads of `ovL` / `baseL` -/
structure Abs (filter : Id → Bool) (o : OF α) (ovL baseL : List (Id × α)) : Prop where
  started : o.started = true
  ov : match ovL with
    | [] => o.overlayOK = false
    | x :: xs => o.overlayOK = true ∧ o.overlay.cur = some x ∧ o.overlay.rest = xs ∧ o.overlayID = x.1
  base : match baseL with
    | [] => o.baseOK = false
    | y :: ys => o.baseOK = true ∧ o.base.cur = some y ∧ o.baseID = y.1 ∧ keepBase filter o.base.rest = ys

theorem abs_advanceOverlay {filter : Id → Bool} {o : OF α} {x : Id × α} {xs baseL : List (Id × α)}
    (h : Abs filter o (x :: xs) baseL) : Abs filter o.advanceOverlay xs baseL := by
  obtain ⟨hs, ⟨h1, h2, h3, h4⟩, hb⟩ := h
  unfold OF.advanceOverlay
  rw [h3]
  cases xs with
  | nil => exact ⟨hs, rfl, hb⟩
  | cons x' xs' => exact ⟨hs, ⟨rfl, rfl, rfl, rfl⟩, hb⟩

theorem abs_advanceBase {filter : Id → Bool} {o : OF α} {y : Id × α} {ys ovL : List (Id × α)}
    (h : Abs filter o ovL (y :: ys)) : Abs filter (o.advanceBase filter) ovL ys := by
  obtain ⟨hs, ho, ⟨h1, h2, h3, h4⟩⟩ := h
  unfold OF.advanceBase
  simp only [h1, ↓reduceIte]
  have := advLoop_spec filter o.base.rest o.baseID
  rw [h4] at this
  cases ys with
  | nil =>
    obtain ⟨id, he⟩ := this
    rw [he]
    exact ⟨hs, ho, rfl⟩
  | cons y' ys' =>
    obtain ⟨r', he, hk⟩ := this
    rw [he]
    exact ⟨hs, ho, ⟨rfl, rfl, rfl, hk⟩⟩

theorem abs_advanceBase_nil {filter : Id → Bool} {o : OF α} {ovL : List (Id × α)}
    (h : Abs filter o ovL []) : Abs filter (o.advanceBase filter) ovL [] := by
  obtain ⟨hs, ho, hb⟩ := h
  unfold OF.advanceBase
  simp only at hb
  simp only [hb, Bool.false_eq_true, ↓reduceIte]
  exact ⟨hs, ho, hb⟩

theorem abs_init (filter : Id → Bool) (base ov : List (Id × α)) :
    Abs filter ((OF.init base ov).next filter).1 ov (keepBase filter base) := by
  simp only [OF.next, OF.init, Bool.not_false, ↓reduceIte]
  have hadv := advLoop_spec filter base (0, 0)
  cases hk : keepBase filter base with
  | nil =>
    rw [hk] at hadv
    obtain ⟨id, he⟩ := hadv
    cases ov with
    | nil =>
      simp only [OF.advanceOverlay, OF.advanceBase, ↓reduceIte, he]
      exact ⟨rfl, rfl, rfl⟩
    | cons x xs =>
      simp only [OF.advanceOverlay, OF.advanceBase, ↓reduceIte, he]
      exact ⟨rfl, ⟨rfl, rfl, rfl, rfl⟩, rfl⟩
  | cons y ys =>
    rw [hk] at hadv
    obtain ⟨r', he, hk'⟩ := hadv
    cases ov with
    | nil =>
      simp only [OF.advanceOverlay, OF.advanceBase, ↓reduceIte, he]
      exact ⟨rfl, rfl, ⟨rfl, rfl, rfl, hk'⟩⟩
    | cons x xs =>
      simp only [OF.advanceOverlay, OF.advanceBase, ↓reduceIte, he]
      exact ⟨rfl, ⟨rfl, rfl, rfl, rfl⟩, ⟨rfl, rfl, rfl, hk'⟩⟩

theorem abs_next {filter : Id → Bool} {o : OF α} {L1 L2 : List (Id × α)} (h : Abs filter o L1 L2)
    (hf : ∀ x ∈ L1, filter x.1 = true) (hb : ∀ y ∈ L2, filter y.1 = false) :
    Abs filter (o.next filter).1 (popMin L1 L2).1 (popMin L1 L2).2 := by
  have hs := h.started
  fun_cases popMin L1 L2 with
  | case1 =>
    have ho : o.overlayOK = false := h.ov
    simp only [OF.next, hs, ho, Bool.not_true, Bool.false_eq_true, ↓reduceIte]
    exact abs_advanceBase_nil h
  | case2 y ys =>
    have ho : o.overlayOK = false := h.ov
    simp only [OF.next, hs, ho, Bool.not_true, Bool.false_eq_true, ↓reduceIte]
    exact abs_advanceBase h
  | case3 x xs =>
    have hbk : o.baseOK = false := h.base
    simp only [OF.next, hs, h.ov.1, hbk, Bool.not_true, Bool.false_eq_true, ↓reduceIte]
    exact abs_advanceOverlay h
  | case4 x xs y ys hlt =>
    obtain ⟨ho1, _, _, ho4⟩ := h.ov
    obtain ⟨hb1, _, hb3, _⟩ := h.base
    simp only [OF.next, hs, ho1, hb1, Bool.not_true, Bool.false_eq_true, ↓reduceIte, ho4, hb3, hlt]
    exact abs_advanceOverlay h
  | case5 x xs y ys hlt =>
    have hne : ¬ x.1 = y.1 := by
      intro e
      have h1 := hf x List.mem_cons_self
      have h2 := hb y List.mem_cons_self
      rw [e, h2] at h1; cases h1
    obtain ⟨ho1, _, _, ho4⟩ := h.ov
    obtain ⟨hb1, _, hb3, _⟩ := h.base
    simp only [OF.next, hs, ho1, hb1, Bool.not_true, Bool.false_eq_true, ↓reduceIte, ho4, hb3, hlt, hne]
    exact abs_advanceBase h

theorem abs_head {filter : Id → Bool} {o : OF α} {L1 L2 : List (Id × α)} (h : Abs filter o L1 L2) :
    match merge L1 L2 with
    | [] => (o.overlayOK || o.baseOK) = false
    | e :: _ => (o.overlayOK || o.baseOK) = true ∧
        o.featureID = e.1 ∧ o.feature = some e.2.1 ∧ o.fromOverlay = e.2.2 := by
  cases L1 with
  | nil =>
    have ho : o.overlayOK = false := h.ov
    cases L2 with
    | nil =>
      have hbk : o.baseOK = false := h.base
      simp [merge, ho, hbk]
    | cons y ys =>
      obtain ⟨hb1, hb2, hb3, hb4⟩ := h.base
      simp [merge, OF.featureID, OF.feature, OF.fromOverlay, ho, hb1, hb2, hb3]
  | cons x xs =>
    obtain ⟨ho1, ho2, ho3, ho4⟩ := h.ov
    cases L2 with
    | nil =>
      have hbk : o.baseOK = false := h.base
      simp [merge, OF.featureID, OF.feature, OF.fromOverlay, ho1, hbk, ho2, ho4]
    | cons y ys =>
      obtain ⟨hb1, hb2, hb3, hb4⟩ := h.base
      rw [merge]
      by_cases hlt : idLt x.1 y.1 = true
      · simp [OF.featureID, OF.feature, OF.fromOverlay, ho1, hb1, ho2, ho4, hb3, hlt]
      · simp [OF.featureID, OF.feature, OF.fromOverlay, ho1, hb1, hb2, ho4, hb3, hlt]

theorem drain_succ {filter : Id → Bool} {o : OF α} {L1 L2 : List (Id × α)} (fuel : Nat)
    (h : Abs filter (o.next filter).1 L1 L2)
    (ih : merge L1 L2 ≠ [] → OF.drain filter fuel (o.next filter).1 = some (merge L1 L2).tail) :
    OF.drain filter (fuel + 1) o = some (merge L1 L2) := by
  have hh := abs_head h
  have hd : OF.drain filter (fuel + 1) o =
      if ((o.next filter).1.overlayOK || (o.next filter).1.baseOK) = true then
        match (o.next filter).1.feature, OF.drain filter fuel (o.next filter).1 with
        | some f, some rest => some (((o.next filter).1.featureID, f, (o.next filter).1.fromOverlay) :: rest)
        | _, _ => none
      else some [] := rfl
  rw [hd]
  cases hm : merge L1 L2 with
  | nil =>
    rw [hm] at hh
    rw [hh]; rfl
  | cons e rest =>
    rw [hm] at hh ih
    obtain ⟨h0, h1, h2, h3⟩ := hh
    rw [h0, h1, h2, h3, ih (List.cons_ne_nil _ _)]; rfl

/-- `o` came out of a `next`, and its current element, the head of `merge L1 L2`, has been yielded already:
what a further `drain` yields is the tail -/
theorem drain_abs (filter : Id → Bool) : ∀ (fuel : Nat) (o : OF α) (L1 L2 : List (Id × α)),
    Abs filter o L1 L2 → (∀ x ∈ L1, filter x.1 = true) → (∀ y ∈ L2, filter y.1 = false) →
    L1.length + L2.length < fuel → OF.drain filter fuel o = some (merge L1 L2).tail := by
  intro fuel
  induction fuel with
  | zero => intro o L1 L2 _ _ _ h; omega
  | succ fuel ih =>
    intro o L1 L2 h hf hb hlen
    rw [← merge_popMin]
    refine drain_succ fuel (abs_next h hf hb) fun hne =>
      ih _ _ _ (abs_next h hf hb) (fun x hx => hf x ((popMin_subset L1 L2).1 hx))
        (fun y hy => hb y ((popMin_subset L1 L2).2 hy)) ?_
    have hl := length_merge (popMin L1 L2).1 (popMin L1 L2).2
    have hpos := List.length_pos_iff.2 hne
    rw [merge_popMin, List.length_tail, length_merge] at hl
    rw [merge_popMin, List.length_tail, length_merge] at hpos
    omega

theorem drain_init (filter : Id → Bool) (base ov : List (Id × α)) (hf : ∀ x ∈ ov, filter x.1 = true) {fuel : Nat}
    (h : base.length + ov.length < fuel) :
    OF.drain filter (fuel + 1) (OF.init base ov) = some (merge ov (keepBase filter base)) := by
  have hb : ∀ y ∈ keepBase filter base, filter y.1 = false := fun y hy => by
    simpa using (List.mem_filter.mp hy).2
  have hlen : (keepBase filter base).length ≤ base.length := List.length_filter_le _ _
  exact drain_succ fuel (abs_init filter base ov) fun _ =>
    drain_abs filter _ _ _ _ (abs_init filter base ov) hf hb (by omega)

end B6.Lemmas.OverlayMerge
